/-
  Prtpy.Model.CKKF — `complete_karmarkar_karp_sy.optimal` as it is after fix F11.

  Before F11 the search tree of `optimal` depended on the bins-manager: `all_combinations` of the sums-only manager
  de-duplicates on the vector of sums, that of the contents manager on the tuple of contents, so the two managers
  explored different trees and stopped at different optimal leaves (`Prtpy.ckk`, Model/KK.lean, is that code; it is
  kept because the refutations in PrtpyProofs/CKKDedupe.lean are about it, and because `ckkGen` — the generator used
  by snp and rnp, which F11 does not touch — shares its step function).

  F11 adds, in `optimal` only, a filter on the combinations:

      sums_seen = set()
      for new_bins in binner.all_combinations(bins1, bins2):
          new_sums = tuple(sorted(binner.sums(new_bins)))
          if new_sums in sums_seen: continue
          sums_seen.add(new_sums)
          ...

  With the sums-only manager the filter changes nothing; with the contents manager it keeps the first combination of
  every vector of sums, which is the combination the sums-only manager would have produced.
-/
import Prtpy.Model.KK
namespace Prtpy
variable {α : Type}

/-- the `sums_seen` filter: keep the first bins-array of every (sorted) vector of sums, in order -/
def dedupSumsAux : List (Bins α) → List (List Nat) → List (Bins α)
  | [], _ => []
  | b :: rest, seen =>
    let key := sortAsc id b.sums
    if seen.contains key then dedupSumsAux rest seen else b :: dedupSumsAux rest (key :: seen)

def dedupSums (l : List (Bins α)) : List (Bins α) := dedupSumsAux l []

/-- one iteration of the `while stack` loop of `optimal` (no generator mode: the incumbent is always updated) -/
def ckkStepF (nm : α → Nat) [BEq α] (k : Nat) (contents : Bool) (s : CkkState α) : CkkState α :=
  match s.stack with
  | [] => { s with done := true }
  | h :: stack =>
    let s := { s with stack := stack }
    let pruned : Bool := match ckkBound h k with
      | none => false
      | some lb => EInt.le (.fin lb) s.best
    if pruned then s else
    if h.length == 1 then
      let d : Int := -((topDiffOf h : Nat) : Int)
      if EInt.lt s.best (.fin d) then
        let bp := (htop h).map (·.bins)
        let s := { s with best := .fin d, bestP := bp,
                          yields := match bp with | some b => b :: s.yields | none => s.yields }
        if d == 0 then { s with done := true } else s
      else s
    else
      match hpop h with
      | none => s
      | some (e1, h1) =>
        match hpop h1 with
        | none => s
        | some (e2, h2) =>
          let combs := dedupSums (allComb nm contents e1.bins e2.bins)
          let r := combs.foldl (fun (acc : List (Heap α) × Nat) nb =>
                      let p := hpush h2 acc.2 nb; (acc.1 ++ [p.1], p.2)) ([], s.cnt)
          let ext := sortDesc topDiffOf r.1
          { s with stack := ext.reverse ++ s.stack, cnt := r.2 }

def ckkRunF (nm : α → Nat) [BEq α] (k : Nat) (contents : Bool) : Nat → CkkState α → CkkState α
  | 0, s => s
  | fuel + 1, s => if s.done then s else ckkRunF nm k contents fuel (ckkStepF nm k contents s)

/-- `complete_karmarkar_karp_sy.optimal(binner, numbins, items)` after F11 -/
def ckkF (v nm : α → Nat) [BEq α] (k : Nat) (contents : Bool) (items : List α) (fuel : Nat) : Except Err (Bins α) :=
  let s := ckkRunF nm k contents fuel (ckkInit v k items .negInf)
  if !s.done then .error .fuel else
  match s.bestP with
  | none => .error .indexError
  | some b => .ok b.sortAsc

end Prtpy

/-! ### the search of `optimal` with its trace

`ckkRunFT` is `ckkRunF` carrying one more accumulator: for every heap popped from the stack, its number of bins-arrays,
the sorted list of all their sums, and the value `_possible_partition_difference_lower_bound` computes for it — what the
harness records on the implementation by wrapping that function.  `CKKF.ckkRunFT_fst` (PrtpyProofs/Traces.lean)
proves that dropping the trace gives `ckkRunF`. -/
namespace Prtpy
variable {α : Type}

abbrev CkkTrace := List (Nat × List Nat × Option Int)

def ckkTraceEntry (h : Heap α) (k : Nat) : Nat × List Nat × Option Int :=
  (h.length, sortAsc id (h.flatMap (·.bins.sums)), ckkBound h k)

def ckkRunFT (nm : α → Nat) [BEq α] (k : Nat) (contents : Bool) : Nat → CkkState α → CkkTrace → CkkState α × CkkTrace
  | 0, s, tr => (s, tr)
  | fuel + 1, s, tr =>
    if s.done then (s, tr)
    else
      let tr' := match s.stack with
        | [] => tr
        | h :: _ => tr ++ [ckkTraceEntry h k]
      ckkRunFT nm k contents fuel (ckkStepF nm k contents s) tr'

/-- `optimal` after F11 together with the trace of its search -/
def ckkFT (v nm : α → Nat) [BEq α] (k : Nat) (contents : Bool) (items : List α) (fuel : Nat) :
    Except Err (Bins α) × CkkTrace :=
  let r := ckkRunFT nm k contents fuel (ckkInit v k items .negInf) []
  let s := r.1
  (if !s.done then .error .fuel else
   match s.bestP with
   | none => .error .indexError
   | some b => .ok b.sortAsc, r.2)

end Prtpy
