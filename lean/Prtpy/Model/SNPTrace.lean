/-
  Prtpy.Model.SNPTrace — the two recursive partitioners `snp` (Model/SNP.lean) and `rnp` after F8–F10 (Model/RNP.lean)
  with the trace of their search: the same functions returning, next to their result, the list of the calls of the
  two-way solvers in the order the code makes them,

    * `ckk_optimal(binner=…, numbins=2, items=items)`                                        → `SEvent.optimal vals`
    * `ckk_generator(binner=ckk_binner, numbins=2, items=items, best_difference_so_far=-d0)`  → `SEvent.generator vals d0`

  (`vals` = the values of `items` in the order passed).  The harness records the same calls on the implementation by
  wrapping the module-level names `ckk_optimal` / `ckk_generator` from outside, and compares.  An event is emitted
  whenever the code reaches the call expression, also when the call then raises (empty `items`: `max([])` inside
  `optimal`, or at the first `next` of the generator) and the model short-circuits in `ckk2` / on `items.isEmpty`.
  The result is a pair: when the result is an error, the second component is the trace up to the error.

  The order of `items`.  `find_diff(l1, l2)` is `list((Counter(l1) - Counter(l2)).elements())`: it *groups equal items
  together* (in the order of their first occurrences in `l1`).  The untraced model uses the order-preserving `findDiff`,
  which no output can tell from the real thing (every consumer first sorts by value, stably, and equal items are the
  same object; for distinct names the two coincide), but a trace of the `items` passed can.  The traced functions
  therefore carry one more argument, `shown`: the list `items` exactly as Python holds it (`findDiffC` instead of
  `findDiff`); it is only ever used to fill the events.

  `PrtpyProofs/Traces.lean` proves that dropping the trace gives `snp` / `rnpF`.
-/
import Prtpy.Model.RNP
namespace Prtpy

variable {α : Type}

/-- a call of one of the two 2-way solvers: the values of the items passed, in the order passed, and for the
    generator the bound `d0` (the code passes `best_difference_so_far = -d0`) -/
inductive SEvent where
  | optimal (vals : List Nat)
  | generator (vals : List Nat) (bound : Nat)
  deriving Repr, DecidableEq, Inhabited

abbrev STrace := List SEvent

/-- the distinct elements of a list in the order of their first occurrences (the keys of `Counter(l)`) -/
def firstOccs [BEq α] : List α → List α → List α
  | [], _ => []
  | x :: xs, seen => if seen.contains x then firstOccs xs seen else x :: firstOccs xs (x :: seen)

/-- `find_diff(l1, l2)` literally: `list((Counter(l1) - Counter(l2)).elements())` -/
def findDiffC [BEq α] (l1 l2 : List α) : List α :=
  (firstOccs l1 []).flatMap (fun x => List.replicate (l1.count x - l2.count x) x)

/-- `treeFold` whose body also returns a trace -/
def treeFoldT {σ : Type} (v : α → Nat) (den : Nat) (ub : Int) (lbOf : σ → Int)
    (body : σ → List α → Except Err σ × STrace) : σ → List α → List α → Except Err σ × STrace
  | st, cur, [] => if inexPrune v den (lbOf st) ub cur [] then (.ok st, []) else body st cur
  | st, cur, x :: xs =>
    if inexPrune v den (lbOf st) ub cur (x :: xs) then (.ok st, [])
    else
      match treeFoldT v den ub lbOf body st (cur ++ [x]) xs with
      | (.error e, tr) => (.error e, tr)
      | (.ok st1, tr) =>
        let r := treeFoldT v den ub lbOf body st1 cur xs
        (r.1, tr ++ r.2)

/-- `foldE` whose step also returns a trace -/
def foldET {σ β : Type} (f : σ → β → Except Err σ × STrace) : σ → List β → Except Err σ × STrace
  | s, [] => (.ok s, [])
  | s, x :: xs =>
    match f s x with
    | (.error e, tr) => (.error e, tr)
    | (.ok s', tr) =>
      let r := foldET f s' xs
      (r.1, tr ++ r.2)

/-- `snpRec` with its trace; `shown` is `items` in Python's order -/
def snpRecT (v nm : α → Nat) [BEq α] (contents : Bool) (fuel : Nat) :
    Nat → Bins α → Bins α → List α → List α → Except Err (Bins α) × STrace
  | 0, _, best, _, _ => (.ok best, [])
  | 1, _, best, _, _ => (.ok best, [])
  | 2, prior, best, items, shown =>
    (match ckk2 v nm contents items fuel with
     | .error e => .error e
     | .ok two =>
       if spread (two.sums ++ prior.sums) < spread best.sums then .ok (two.concat prior) else .ok best,
     [.optimal (shown.map v)])
  | cur + 3, prior, best, items, shown =>
    let c := cur + 3
    let t : Int := (binSum v items : Nat)
    treeFoldT v c t (fun (b : Bins α) => t - ((c : Int) - 1) * (spread b.sums : Nat))
      (fun b sub =>
        let prior' : Bins α := ⟨prior.sums ++ [binSum v sub], prior.lists ++ [sub]⟩
        snpRecT v nm contents fuel (cur + 2) prior' b (findDiff items sub) (findDiffC shown sub))
      best [] (sortDesc v items)

/-- `snp(binner, numbins, items)` with the trace of its `ckk_optimal` calls (empty when KK's start is perfect) -/
def snpT (v nm : α → Nat) [BEq α] (k : Nat) (contents : Bool) (items : List α) (fuel : Nat) :
    Except Err (Bins α) × STrace :=
  match kk v k items with
  | .error e => (.error e, [])
  | .ok best =>
    if spread best.sums = 0 then (.ok best, [])
    else snpRecT v nm contents fuel k ⟨[], []⟩ best items items

/-- `rnpRecF` with its trace; `shown` is `items` in Python's order -/
def rnpRecFT (v nm : α → Nat) [BEq α] (contents : Bool) (fuel : Nat) :
    Nat → Nat → Bins α → Bins α → List α → List α → Except Err (Bins α) × STrace
  | 0, _, _, _, _, _ => (.error .fuel, [])
  | rf + 1, cur, prior, best, items, shown =>
    if cur == 2 then (ckk2 v nm contents items fuel, [.optimal (shown.map v)])
    else if cur % 2 == 1 then
      let t : Int := (binSum v items : Nat)
      let d0 := spread best.sums
      let subs := genTree v cur (t - ((cur : Int) - 1) * (d0 : Nat)) t items
      foldET (fun (best : Bins α) sub =>
          let prior2 : Bins α := ⟨prior.sums ++ [binSum v sub], prior.lists ++ [sub]⟩
          match rnpRecFT v nm contents fuel rf (cur - 1) prior2 best (findDiff items sub) (findDiffC shown sub) with
          | (.error e, tr) => (.error e, tr)
          | (.ok nb, tr) =>
            (if spread (nb.sums ++ prior2.sums) < spread best.sums then .ok (prior2.concat nb) else .ok best, tr))
        best subs
    else
      let d0 := spread best.sums
      let ev : SEvent := .generator (shown.map v) d0
      match (if items.isEmpty then .error .valueError else ckkGen v nm 2 true items (some d0) fuel) with
      | .error e => (.error e, [ev])
      | .ok tops =>
        let r := foldET (fun (st : Bins α × Nat) top =>
            let i1 := top.lists.getD 0 []
            let i2 := top.lists.getD 1 []
            match rnpRecFT v nm contents fuel rf (cur / 2) prior st.1 i1 i1 with
            | (.error e, tr1) => (.error e, tr1)
            | (.ok nb1, tr1) =>
              match rnpRecFT v nm contents fuel rf (cur / 2) prior st.1 i2 i2 with
              | (.error e, tr2) => (.error e, tr1 ++ tr2)
              | (.ok nb2, tr2) =>
                let d := spread (nb1.sums ++ nb2.sums ++ prior.sums)
                (if d < st.2 then .ok (nb1.concat nb2, d) else .ok st, tr1 ++ tr2))
          (best, d0) tops
        (r.1.map (·.1), ev :: r.2)

/-- `rnp(binner, numbins, items)` (after F10, `numbins ≤ 5`) with the trace of its `ckk_optimal` / `ckk_generator`
    calls (empty when KK's start is perfect, and for `numbins ≥ 6`, which is not modelled) -/
def rnpFT (v nm : α → Nat) [BEq α] (k : Nat) (contents : Bool) (items : List α) (fuel : Nat) :
    Except Err (Bins α) × STrace :=
  match kk v k items with
  | .error e => (.error e, [])
  | .ok best =>
    if spread best.sums = 0 then (.ok best, [])
    else if k ≥ 6 then (.error .notImplemented, [])
    else rnpRecFT v nm contents fuel (k + 1) k ⟨[], []⟩ best items items

end Prtpy
