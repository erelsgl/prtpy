/-
  Prtpy.Model.BCTrace — bin completion with the trace of its search: the same functions as in Model/BinCompletion.lean
  carrying one more accumulator, the list of the calls `find_bin_completions(x, items, binsize)` in the order the code
  makes them.  The harness records the same calls on the implementation (by wrapping the function from outside) and
  compares: a change of any pruning rule or of the order of the search shows as a different trace long before it shows
  as a different packing.  `PrtpyProofs/Traces.lean` proves that dropping the trace gives `BC.binCompletion`.
-/
import Prtpy.Model.BinCompletion
namespace Prtpy
namespace BC

abbrev Trace := List (Nat × List Nat)

def runBranchT (B : Nat) (bestLen : Nat) : Nat → Branch → List Branch → Trace → (Branch × List Branch) × Trace
  | 0, cb, spawned, tr => ((cb, spawned), tr)
  | fuel + 1, cb, spawned, tr =>
    match cb.items with
    | [] => ((cb, spawned), tr)
    | x :: upd =>
      let tr := tr ++ [(x, upd)]
      let bins := cb.bins ++ [[x]]
      let comps := completions x upd B
      let r : List (List Nat) × List Nat × List Branch :=
        match comps with
        | [] => (bins, upd, spawned)
        | c0 :: others =>
          let sp := others.foldl (fun (acc : List Branch) comp =>
              let ni := lwi upd comp
              let nb := bins.modify cb.idx (· ++ comp)
              if decide (bestLen * B ≤ nb.length * B + sumL ni) then acc else acc ++ [⟨ni, nb, cb.idx + 1⟩]) spawned
          (bins.modify cb.idx (· ++ c0), lwi upd c0, sp)
      let cb' : Branch := ⟨r.2.1, r.1, cb.idx + 1⟩
      if decide (bestLen * B ≤ cb'.bins.length * B + sumL cb'.items) then ((cb', r.2.2), tr)
      else if cb'.items.isEmpty then ((cb', r.2.2), tr)
      else runBranchT B bestLen fuel cb' r.2.2 tr

def searchT (B lb : Nat) : Nat → List Branch → List (List Nat) → Trace → List (List Nat) × Trace
  | 0, _, best, tr => (best, tr)
  | _ + 1, [], best, tr => (best, tr)
  | fuel + 1, cb :: queue, best, tr =>
    let rt := runBranchT B best.length (cb.items.length + 1) cb [] tr
    let r := rt.1
    let best' := if r.1.items.isEmpty && decide (r.1.bins.length < best.length) then r.1.bins else best
    if best'.length = lb then (best', rt.2) else searchT B lb fuel (queue ++ r.2) best' rt.2

/-- `bin_completion` with the trace of its `find_bin_completions` calls (empty when the search is not entered) -/
def binCompletionT (B : Nat) (items : List Nat) (fuel : Nat) : Except Err (List (List Nat) × Trace) :=
  if items.any (fun x => decide (B < x)) then .error .valueError
  else
    let items := items.filter (· != 0)
    match bfDecreasing id B items with
    | .error e => .error e
    | .ok bfd =>
      let lb := lowerBound B items
      if bfd.lists.length = lb then .ok (bfd.lists, [])
      else .ok (searchT B lb fuel [⟨sortDesc id items, [], 0⟩] bfd.lists [])

end BC
end Prtpy
