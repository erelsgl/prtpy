/-
  First fit / best fit, absolute bound `#bins ≤ ⌊1.7 · OPT⌋`: further cases, for runs whose output has no
  *half singleton*, a bin holding a single item `x` with `5/12 · B < v x ≤ B/2`
  (`HalfSingleton v B b.lists`, defined in FF17Abs.lean; a decidable property of the output, `halfSingletonB`).

  `k = nBig v B items` is the number of items above `B/2` (`k ≤ m` by `FF17Abs.nBig_le`).  For a non-empty
  input, a successful run `b` of `ffOnline` / `bfOnline`, and `Packable B m (items.map v)`:

      inv2_bound5                                 :  ¬ HalfSingleton v B b.lists → 10 · #bins ≤ 17 · m + 5
      ff_seventeen_tenths_plus_3_partial / bf_…   :  ¬ HalfSingleton v B b.lists → 10 · #bins ≤ 17 · m + 3
      ff_fifteen_tenths_big_j / bf_…              :  ¬ HalfSingleton … → 1 ≤ j ≤ 3 → j ≤ k →
                                                       10 · #bins + j ≤ 15 · m + 2 · k + 6
      ff_seventeen_tenths_abs_partial2 / bf_…     :  ¬ HalfSingleton … → 10 · #bins ≤ 17 · m   provided
                                                       k + 2 ≤ m  ∨  (k + 1 ≤ m ∧ m % 10 ≠ 7)  ∨  m ≡ 2, 5, 8 (mod 10)

  All are arithmetic over `FF17Abs.inv2_grid`, which rests on `bins_loss` (FF17Abs.lean).
-/
import PrtpyProofs.FF17Abs
open Prtpy

namespace Prtpy.FF17AbsB

open Prtpy.FF17 Prtpy.FF17Abs

variable {α : Type}

/-! ## The bound `+ 0.5` when no bin holds a single item between `5/12` and `1/2` -/

theorem inv2_bound5 {v : α → Nat} {B m : Nat} {items : List α} {b : Bins α} (h : Inv2 v B items b)
    (hne : items ≠ []) (hm : Packable B m (items.map v)) (hs : ¬ HalfSingleton v B b.lists) :
    10 * b.lists.length ≤ 17 * m + 5 ∧
    (1 ≤ nBig v B items → 10 * b.lists.length ≤ 15 * m + 2 * nBig v B items + 5) := by
  have h := inv2_grid h hne hm
  have := h.2.2.1 hs
  omega

/-! ## Without a half singleton: `(6 − j)/10` with `j ≤ 3` items above `B/2`, `+ 0.3`, the absolute bound -/

theorem inv2_bound_j {v : α → Nat} {B m : Nat} {items : List α} {b : Bins α} (h : Inv2 v B items b)
    (hne : items ≠ []) (hm : Packable B m (items.map v)) (hs : ¬ HalfSingleton v B b.lists)
    (j : Nat) (hj1 : 1 ≤ j) (hj3 : j ≤ 3) (hjk : j ≤ nBig v B items) :
    10 * b.lists.length + j ≤ 15 * m + 2 * nBig v B items + 6 := by
  have h := inv2_grid h hne hm
  have := h.2.2.1 hs
  omega

theorem inv2_abs_partial2 {v : α → Nat} {B m : Nat} {items : List α} {b : Bins α} (h : Inv2 v B items b)
    (hne : items ≠ []) (hm : Packable B m (items.map v)) (hs : ¬ HalfSingleton v B b.lists)
    (hside : nBig v B items + 2 ≤ m ∨ (nBig v B items + 1 ≤ m ∧ m % 10 ≠ 7) ∨
      m % 10 = 2 ∨ m % 10 = 5 ∨ m % 10 = 8) :
    10 * b.lists.length ≤ 17 * m := by
  have h := inv2_grid h hne hm
  have := h.2.2.1 hs
  omega

theorem inv2_bound3 {v : α → Nat} {B m : Nat} {items : List α} {b : Bins α} (h : Inv2 v B items b)
    (hne : items ≠ []) (hm : Packable B m (items.map v)) (hs : ¬ HalfSingleton v B b.lists) :
    10 * b.lists.length ≤ 17 * m + 3 := by
  have h := inv2_grid h hne hm
  have := h.2.2.1 hs
  omega

/-- the decidable form of `HalfSingleton` -/
def halfSingletonB (v : α → Nat) (B : Nat) (Ls : List (List α)) : Bool :=
  Ls.any (fun L => match L with
    | [x] => decide (5 * B < 12 * v x) && decide (2 * v x ≤ B)
    | _ => false)

theorem halfSingleton_iff (v : α → Nat) (B : Nat) (Ls : List (List α)) :
    HalfSingleton v B Ls ↔ halfSingletonB v B Ls = true := by
  constructor
  · rintro ⟨x, hx, h1, h2⟩
    exact List.any_eq_true.2 ⟨[x], hx, by simp [h1, h2]⟩
  · intro h
    obtain ⟨L, hL, hP⟩ := List.any_eq_true.1 h
    match L, hL, hP with
    | [x], hL, hP =>
      simp only [Bool.and_eq_true, decide_eq_true_eq] at hP
      exact ⟨x, hL, hP.1, hP.2⟩

theorem not_halfSingleton {v : α → Nat} {B : Nat} {Ls : List (List α)} (h : halfSingletonB v B Ls = false) :
    ¬ HalfSingleton v B Ls := by
  rw [halfSingleton_iff, h]; simp

variable {v : α → Nat} {B m : Nat} {items : List α} {b : Bins α}

/-! ## The theorems -/

/-- C09, first fit, no half singleton in the output: `1.7 · OPT + 0.3` -/
theorem ff_seventeen_tenths_plus_3_partial (hne : items ≠ []) (hok : ffOnline v B items = .ok b)
    (hm : Packable B m (items.map v)) (hs : ¬ HalfSingleton v B b.lists) :
    10 * b.lists.length ≤ 17 * m + 3 :=
  inv2_bound3 (ffOnline_inv2 hok) hne hm hs

theorem bf_seventeen_tenths_plus_3_partial (hne : items ≠ []) (hok : bfOnline v B items = .ok b)
    (hm : Packable B m (items.map v)) (hs : ¬ HalfSingleton v B b.lists) :
    10 * b.lists.length ≤ 17 * m + 3 :=
  inv2_bound3 (bfOnline_inv2 hok) hne hm hs

/-- first fit, no half singleton, at least `j ≤ 3` items above `B/2`: `1.5 · OPT + 0.2 · k + (6 − j)/10` -/
theorem ff_fifteen_tenths_big_j (hne : items ≠ []) (hok : ffOnline v B items = .ok b)
    (hm : Packable B m (items.map v)) (hs : ¬ HalfSingleton v B b.lists)
    (j : Nat) (hj1 : 1 ≤ j) (hj3 : j ≤ 3) (hjk : j ≤ nBig v B items) :
    10 * b.lists.length + j ≤ 15 * m + 2 * nBig v B items + 6 :=
  inv2_bound_j (ffOnline_inv2 hok) hne hm hs j hj1 hj3 hjk

theorem bf_fifteen_tenths_big_j (hne : items ≠ []) (hok : bfOnline v B items = .ok b)
    (hm : Packable B m (items.map v)) (hs : ¬ HalfSingleton v B b.lists)
    (j : Nat) (hj1 : 1 ≤ j) (hj3 : j ≤ 3) (hjk : j ≤ nBig v B items) :
    10 * b.lists.length + j ≤ 15 * m + 2 * nBig v B items + 6 :=
  inv2_bound_j (bfOnline_inv2 hok) hne hm hs j hj1 hj3 hjk

/-- C09, the absolute bound for first fit when the output has no half singleton, under the side conditions on `m`
    and `k = nBig v B items` -/
theorem ff_seventeen_tenths_abs_partial2 (hne : items ≠ []) (hok : ffOnline v B items = .ok b)
    (hm : Packable B m (items.map v)) (hs : ¬ HalfSingleton v B b.lists)
    (hside : nBig v B items + 2 ≤ m ∨ (nBig v B items + 1 ≤ m ∧ m % 10 ≠ 7) ∨
      m % 10 = 2 ∨ m % 10 = 5 ∨ m % 10 = 8) :
    10 * b.lists.length ≤ 17 * m :=
  inv2_abs_partial2 (ffOnline_inv2 hok) hne hm hs hside

theorem bf_seventeen_tenths_abs_partial2 (hne : items ≠ []) (hok : bfOnline v B items = .ok b)
    (hm : Packable B m (items.map v)) (hs : ¬ HalfSingleton v B b.lists)
    (hside : nBig v B items + 2 ≤ m ∨ (nBig v B items + 1 ≤ m ∧ m % 10 ≠ 7) ∨
      m % 10 = 2 ∨ m % 10 = 5 ∨ m % 10 = 8) :
    10 * b.lists.length ≤ 17 * m :=
  inv2_abs_partial2 (bfOnline_inv2 hok) hne hm hs hside

/-! ## Non-vacuity -/

attribute [local instance] decEqBins decEqExcept

/-- five items of size 5 then five of size 7, `B = 12`: `OPT = 5 = k` (a case left open by FF17Abs: `m ≡ 5`,
    every optimal bin holds an item above `B/2`), first fit and best fit use 7 bins, no half singleton -/
def ex57 : List Nat := [5, 5, 5, 5, 5, 7, 7, 7, 7, 7]
theorem ex57_ff : ffOnline id 12 ex57 = .ok ⟨[10, 10, 12, 7, 7, 7, 7], [[5, 5], [5, 5], [5, 7], [7], [7], [7], [7]]⟩ := by decide +kernel
theorem ex57_bf : bfOnline id 12 ex57 = .ok ⟨[10, 10, 12, 7, 7, 7, 7], [[5, 5], [5, 5], [5, 7], [7], [7], [7], [7]]⟩ := by decide +kernel
theorem ex57_packable : Packable 12 5 (ex57.map id) := ⟨[0, 1, 2, 3, 4, 0, 1, 2, 3, 4], ⟨rfl, by decide⟩, by decide⟩
theorem ex57_nhs : ¬ HalfSingleton id 12 [[5, 5], [5, 5], [5, 7], [7], [7], [7], [7]] := not_halfSingleton (by decide)

example : nBig id 12 ex57 = 5 := by decide
example : 10 * 7 ≤ 17 * 5 := ff_seventeen_tenths_abs_partial2 (by decide) ex57_ff ex57_packable ex57_nhs (by decide)
example : 10 * 7 ≤ 17 * 5 := bf_seventeen_tenths_abs_partial2 (by decide) ex57_bf ex57_packable ex57_nhs (by decide)
example : 10 * 7 ≤ 17 * 5 + 3 := ff_seventeen_tenths_plus_3_partial (by decide) ex57_ff ex57_packable ex57_nhs
example : 10 * 7 ≤ 17 * 5 + 3 := bf_seventeen_tenths_plus_3_partial (by decide) ex57_bf ex57_packable ex57_nhs
example : 10 * 7 + 3 ≤ 15 * 5 + 2 * nBig id 12 ex57 + 6 :=
  ff_fifteen_tenths_big_j (by decide) ex57_ff ex57_packable ex57_nhs 3 (by decide) (by decide) (by decide)
example : 10 * 7 + 2 ≤ 15 * 5 + 2 * nBig id 12 ex57 + 6 :=
  bf_fifteen_tenths_big_j (by decide) ex57_bf ex57_packable ex57_nhs 2 (by decide) (by decide) (by decide)

/-- the classical bad instance has no half singleton either (`51 > 100/2`) -/
example : 10 * 10 ≤ 17 * 6 + 3 :=
  ff_seventeen_tenths_plus_3_partial (by decide) bad_ff bad_packable (not_halfSingleton (by decide))

/-- a half singleton: `[6]` with `B = 12` -/
example : HalfSingleton id 12 [[5, 5], [6]] := ⟨6, by simp, by decide, by decide⟩
example : ffOnline id 12 [5, 5, 6] = .ok ⟨[10, 6], [[5, 5], [6]]⟩ := rfl

/-- `bins_weight5`, `bins_loss` on the bins of `ex57` -/
example := bins_weight5 (v := id) (B := 12) (ffOnline_inv2 ex57_ff).pairwise (by decide) (by decide)
example := bins_loss (v := id) (B := 12) (ffOnline_inv2 ex57_ff).pairwise (by decide) (by decide)
example := nBig_le_bigbins (v := id) (B := 12) [[5, 5], [5, 5], [5, 7], [7], [7], [7], [7]] (by decide)


end Prtpy.FF17AbsB
