/-
  PrtpyProofs.KK43Aux — structural lemmas for the proof of the 4/3 − 1/(3k) bound of the
  Karmarkar–Karp differencing method (`PrtpyProofs/KK43.lean`, where the plan of the proof is described).

  Tuples are `Bins Nat`: every item is its own value.  The combination and the pushed tuple are described by the
  `kkCombine`/`sortAsc` lemmas and `CKKValid.EOK`, `eok_sortAsc` of Part.lean; the counting arguments are
  `LPT43.large_fits`, `LPT43.two_per_bin_count` (Feasible.lean).
-/
import Mathlib.Tactic.Linarith
import PrtpyProofs.Part
import PrtpyProofs.Feasible
open Prtpy

namespace Prtpy.KK43

/-! ## Lists of bins -/

theorem zipWith_mem_split {β γ δ : Type} {f : β → γ → δ} {A : List β} {B : List γ} {c : δ}
    (h : c ∈ List.zipWith f A B) :
    ∃ A1 a A2 B1 b B2, A = A1 ++ a :: A2 ∧ B = B1 ++ b :: B2 ∧ A1.length = B1.length ∧ c = f a b := by
  induction A generalizing B with
  | nil => simp at h
  | cons x xs ih =>
    cases B with
    | nil => simp at h
    | cons y ys =>
      simp only [List.zipWith_cons_cons, List.mem_cons] at h
      rcases h with rfl | h
      · exact ⟨[], x, xs, [], y, ys, rfl, rfl, rfl, rfl⟩
      · obtain ⟨A1, a, A2, B1, b, B2, e1, e2, e3, e4⟩ := ih h
        exact ⟨x :: A1, a, A2, y :: B1, b, B2, by rw [e1]; rfl, by rw [e2]; rfl, by simp [e3], e4⟩

theorem zipWith_mem_pair {β γ δ : Type} {f : β → γ → δ} {A : List β} {B : List γ} {c : δ}
    (h : c ∈ List.zipWith f A B) : ∃ a ∈ A, ∃ b ∈ B, c = f a b := by
  obtain ⟨A1, a, A2, B1, b, B2, rfl, rfl, _, e⟩ := zipWith_mem_split h
  exact ⟨a, by simp, b, by simp, e⟩

/-- split of a member of `zipWith f A B.reverse`, stated for `B` itself -/
theorem zipWith_reverse_mem_split {β γ δ : Type} {f : β → γ → δ} {A : List β} {B : List γ} {c : δ}
    (h : c ∈ List.zipWith f A B.reverse) :
    ∃ A1 a A2 B2 b B1, A = A1 ++ a :: A2 ∧ B = B2 ++ b :: B1 ∧ A1.length = B1.length ∧ c = f a b := by
  obtain ⟨A1, a, A2, B1, b, B2, e1, e2, e3, e4⟩ := zipWith_mem_split h
  refine ⟨A1, a, A2, B2.reverse, b, B1.reverse, e1, ?_, by simp [e3], e4⟩
  have := congrArg List.reverse e2
  simpa using this

theorem sumL_eq_zero_of_nil {l : List Nat} (h : l = []) : sumL l = 0 := by subst h; rfl

theorem le1_cases {l : List Nat} (h : l.length ≤ 1) : l = [] ∨ l = [sumL l] := by
  match l, h with
  | [], _ => exact Or.inl rfl
  | [x], _ => right; simp [sumL]
  | _ :: _ :: _, h => simp at h

theorem sorted_split {R : Nat → Nat → Prop} {L1 L2 : List (List Nat)} {l : List Nat}
    (h : ((L1 ++ l :: L2).map sumL).Pairwise R) :
    (∀ a ∈ L1, R (sumL a) (sumL l)) ∧ (∀ c ∈ L2, R (sumL l) (sumL c)) := by
  rw [List.map_append, List.map_cons, List.pairwise_append, List.pairwise_cons] at h
  obtain ⟨_, ⟨h2, _⟩, h3⟩ := h
  exact ⟨fun a ha => h3 _ (List.mem_map_of_mem ha) _ List.mem_cons_self,
    fun c hc => h2 _ (List.mem_map_of_mem hc)⟩

/-- The differencing step fits when a full tuple `A` dominates a tuple `B` of at most one item per bin, each above
    `T / 3` (`B` is united in reverse, as `kkCombine` does).
    If the bin `l1 ++ [w]` overflowed, `LPT43.large_fits` applied to `w` and the distribution
    `zipWith (· ++ ·) A1 B1 ++ l1 :: A2` (the bins before it already united, the rest of `A` as it is; all its
    items are at least `w`) would place `w` in some bin, and each kind of bin is excluded by the sorting. -/
theorem combine_fits_of_dom {T k : Nat} {A B : List (List Nat)} (hA : A.length = k)
    (ascA : (A.map sumL).Pairwise (· ≤ ·)) (ascB : (B.map sumL).Pairwise (· ≤ ·))
    (fullA : ∀ l ∈ A, l ≠ []) (le1B : ∀ l ∈ B, l.length ≤ 1)
    (dom : ∀ x ∈ A.flatten, ∀ y ∈ B.flatten, y ≤ x)
    (large : ∀ y ∈ B.flatten, T < 3 * y)
    (feas : Packable T k (A.flatten ++ B.flatten))
    (hCA : ∀ l ∈ A, sumL l ≤ T) :
    ∀ l ∈ List.zipWith (· ++ ·) A B.reverse, sumL l ≤ T := by
  intro l hl
  obtain ⟨A1, l1, A2, B2, l2, B1, rfl, rfl, hlen, rfl⟩ := zipWith_reverse_mem_split hl
  have hl1 : l1 ∈ A1 ++ l1 :: A2 := List.mem_append_right _ List.mem_cons_self
  have hl2 : l2 ∈ B2 ++ l2 :: B1 := List.mem_append_right _ List.mem_cons_self
  rcases le1_cases (le1B l2 hl2) with h0 | h1
  · rw [h0, List.append_nil]; exact hCA l1 hl1
  · -- `l2 = [w]`
    apply Nat.le_of_not_lt
    intro hbad
    rw [Part.sumL_append] at hbad
    have hw : sumL l2 ∈ (B2 ++ l2 :: B1).flatten :=
      List.mem_flatten.2 ⟨l2, hl2, by rw [h1]; simp [sumL]⟩
    have hT := large _ hw
    obtain ⟨_, hB1⟩ := sorted_split ascB
    obtain ⟨_, hA2⟩ := sorted_split ascA
    have hz := Part.zipWith_append_flatten_perm A1 B1 hlen
    have hLLlen : (List.zipWith (· ++ ·) A1 B1 ++ l1 :: A2).length = k := by
      rw [← hA, List.length_append, List.length_append, List.length_zipWith, ← hlen, Nat.min_self]
    have hm : ∀ y ∈ (List.zipWith (· ++ ·) A1 B1 ++ l1 :: A2).flatten, sumL l2 ≤ y := by
      intro y hy
      rw [List.flatten_append, List.mem_append] at hy
      rcases hy with hy | hy
      · rcases List.mem_append.1 (hz.mem_iff.1 hy) with hy | hy
        · exact dom y (by rw [List.flatten_append]; exact List.mem_append_left _ hy) _ hw
        · obtain ⟨lb, hlb, hylb⟩ := List.mem_flatten.1 hy
          rcases le1_cases (le1B lb (List.mem_append_right _ (List.mem_cons_of_mem _ hlb))) with e | e
          · rw [e] at hylb; cases hylb
          · rw [e] at hylb; rw [List.mem_singleton.1 hylb]; exact hB1 lb hlb
      · exact dom y (by
          rw [List.flatten_append, List.mem_append]; exact Or.inr hy) _ hw
    have hfeas : Packable T k ((List.zipWith (· ++ ·) A1 B1 ++ l1 :: A2).flatten ++ [sumL l2]) := by
      apply LPT43.packable_prefix B2.flatten
      refine LPT43.packable_perm ?_ feas
      rw [List.perm_iff_count]
      intro c
      have hc := hz.count_eq c
      have e2 : List.count c [sumL l2] = List.count c l2 := by rw [← h1]
      simp only [List.flatten_append, List.count_append, List.flatten_cons] at hc ⊢
      clear * - hc e2
      omega
    obtain ⟨l', hl', hfit⟩ := LPT43.large_fits (T := T) (k := k) (m := sumL l2)
      (List.zipWith (· ++ ·) A1 B1 ++ l1 :: A2) hLLlen (List.Perm.refl _) hfeas hm hT
    rcases List.mem_append.1 hl' with hl' | hl'
    · obtain ⟨la, hla, lb, hlb, rfl⟩ := zipWith_mem_pair hl'
      rw [Part.sumL_append] at hfit
      have h3 := hB1 lb hlb
      have hne := fullA la (List.mem_append_left _ hla)
      obtain ⟨x, hx⟩ := List.exists_mem_of_ne_nil la hne
      have h4 : sumL l2 ≤ x := dom x (List.mem_flatten.2 ⟨la, List.mem_append_left _ hla, hx⟩) _ hw
      have h5 := Nat.le_trans h4 (Part.le_sumL_of_mem hx)
      clear * - hfit h3 h5 hT
      omega
    · rcases List.mem_cons.1 hl' with rfl | hl'
      · exact absurd hfit (Nat.not_le.2 hbad)
      · exact absurd (Nat.le_trans (Nat.add_le_add_right (hA2 l' hl') _) hfit) (Nat.not_le.2 hbad)

/-- if the union of an ascending tuple with the reverse of another puts two non-empty bins together, the two
    tuples hold more than `k` non-empty bins (hence more than `k` items) -/
theorem overlap_count {A1 A2 B1 B2 : List (List Nat)} {l1 l2 : List Nat}
    (ascA : ((A1 ++ l1 :: A2).map sumL).Pairwise (· ≤ ·))
    (ascB : ((B2 ++ l2 :: B1).map sumL).Pairwise (· ≤ ·))
    (hlen : A1.length = B1.length)
    (hpos : ∀ x ∈ (A1 ++ l1 :: A2).flatten ++ (B2 ++ l2 :: B1).flatten, 0 < x)
    (h1 : l1 ≠ []) (h2 : l2 ≠ []) :
    (A1 ++ l1 :: A2).length + 1 ≤ (A1 ++ l1 :: A2).flatten.length + (B2 ++ l2 :: B1).flatten.length := by
  obtain ⟨_, hB1⟩ := sorted_split ascB
  obtain ⟨_, hA2⟩ := sorted_split ascA
  have p1 : 0 < sumL l1 := Part.sumL_pos_of_ne_nil h1 (fun x hx => hpos x
    (List.mem_append_left _ (List.mem_flatten.2 ⟨l1, List.mem_append_right _ List.mem_cons_self, hx⟩)))
  have p2 : 0 < sumL l2 := Part.sumL_pos_of_ne_nil h2 (fun x hx => hpos x
    (List.mem_append_right _ (List.mem_flatten.2 ⟨l2, List.mem_append_right _ List.mem_cons_self, hx⟩)))
  have key : ∀ {l : List Nat} {L : List (List Nat)}, l ≠ [] → 0 < sumL l → (∀ c ∈ L, sumL l ≤ sumL c) →
      (l :: L).length ≤ (l :: L).flatten.length := fun {l L} hne p hL =>
    LPT43.length_le_flatten_length (l :: L) (by
      intro c hc
      rcases List.mem_cons.1 hc with rfl | hc
      · exact hne
      · exact Part.ne_nil_of_sumL_pos (Nat.lt_of_lt_of_le p (hL c hc)))
  have a2 := key h1 p1 hA2
  have b1 := key h2 p2 hB1
  simp only [List.flatten_append, List.length_append, List.flatten_cons, List.length_cons] at a2 b1 ⊢
  omega

/-- a bin of the union of an ascending tuple with the reverse of another is a bin of one of them, if the tuples
    hold at most `k` items together -/
theorem noverlap_core {k : Nat} {A B : List (List Nat)} (hA : A.length = k)
    (ascA : (A.map sumL).Pairwise (· ≤ ·)) (ascB : (B.map sumL).Pairwise (· ≤ ·))
    (hpos : ∀ x ∈ A.flatten ++ B.flatten, 0 < x)
    (hcnt : A.flatten.length + B.flatten.length ≤ k) :
    ∀ l ∈ List.zipWith (· ++ ·) A B.reverse, l ∈ A ∨ l ∈ B := by
  intro l hl
  obtain ⟨A1, l1, A2, B2, l2, B1, rfl, rfl, hlen, rfl⟩ := zipWith_reverse_mem_split hl
  by_cases h1 : l1 = []
  · right; rw [h1, List.nil_append]; exact List.mem_append_right _ List.mem_cons_self
  · by_cases h2 : l2 = []
    · left; rw [h2, List.append_nil]; exact List.mem_append_right _ List.mem_cons_self
    · exfalso
      have := overlap_count ascA ascB hlen hpos h1 h2
      omega

/-- a position-wise union with an empty bin comes from two tuples with fewer than `k` items together
    (both with at most one item per bin) -/
theorem nonfull_count {k : Nat} {A B : List (List Nat)} (hA : A.length = k)
    (ascA : (A.map sumL).Pairwise (· ≤ ·)) (ascB : (B.map sumL).Pairwise (· ≤ ·))
    (le1A : ∀ l ∈ A, l.length ≤ 1) (le1B : ∀ l ∈ B, l.length ≤ 1)
    (hpos : ∀ x ∈ A.flatten ++ B.flatten, 0 < x)
    (h : [] ∈ List.zipWith (· ++ ·) A B.reverse) :
    A.flatten.length + B.flatten.length + 1 ≤ k := by
  obtain ⟨A1, l1, A2, B2, l2, B1, rfl, rfl, hlen, e⟩ := zipWith_reverse_mem_split h
  have e1 : l1 = [] := (List.append_eq_nil_iff.1 e.symm).1
  have e2 : l2 = [] := (List.append_eq_nil_iff.1 e.symm).2
  subst e1 e2
  obtain ⟨hB2, _⟩ := sorted_split ascB
  obtain ⟨hA1, _⟩ := sorted_split ascA
  have nil_of : ∀ L : List (List Nat), (∀ l ∈ L, sumL l ≤ sumL []) → (∀ l ∈ L, ∀ x ∈ l, 0 < x) → L.flatten = [] := by
    intro L h0 hp
    rw [List.flatten_eq_nil_iff]
    intro l hl
    apply Classical.byContradiction
    intro hne
    have := Part.sumL_pos_of_ne_nil hne (hp l hl)
    have : sumL l ≤ 0 := h0 l hl
    omega
  have hA1nil := nil_of A1 hA1 (fun l hl x hx => hpos x (by
    simp only [List.flatten_append, List.mem_append]
    exact Or.inl (Or.inl (List.mem_flatten.2 ⟨l, hl, hx⟩))))
  have hB2nil := nil_of B2 hB2 (fun l hl x hx => hpos x (by
    simp only [List.flatten_append, List.mem_append]
    exact Or.inr (Or.inl (List.mem_flatten.2 ⟨l, hl, hx⟩))))
  have a2 := LPT43.flatten_length_le A2 (fun l hl =>
    le1A l (List.mem_append_right _ (List.mem_cons_of_mem _ hl)))
  have b1 := LPT43.flatten_length_le B1 (fun l hl =>
    le1B l (List.mem_append_right _ (List.mem_cons_of_mem _ hl)))
  simp only [List.flatten_append, List.length_append, List.flatten_cons, List.length_cons,
    List.length_nil, hA1nil, hB2nil] at a2 b1 hA ⊢
  omega

/-- all items have the same value `μ > T / 3`, at most one per bin: the position-wise union stays within `T` -/
theorem eq_core {T k μ : Nat} {A B : List (List Nat)} (hA : A.length = k)
    (ascA : (A.map sumL).Pairwise (· ≤ ·)) (ascB : (B.map sumL).Pairwise (· ≤ ·))
    (le1A : ∀ l ∈ A, l.length ≤ 1) (le1B : ∀ l ∈ B, l.length ≤ 1)
    (heq : ∀ x ∈ A.flatten ++ B.flatten, x = μ) (hμ : T < 3 * μ)
    (feas : Packable T k (A.flatten ++ B.flatten))
    (hCA : ∀ l ∈ A, sumL l ≤ T) (hCB : ∀ l ∈ B, sumL l ≤ T) :
    ∀ l ∈ List.zipWith (· ++ ·) A B.reverse, sumL l ≤ T := by
  intro l hl
  obtain ⟨A1, l1, A2, B2, l2, B1, rfl, rfl, hlen, rfl⟩ := zipWith_reverse_mem_split hl
  by_cases h1 : l1 = []
  · rw [h1, List.nil_append]; exact hCB l2 (List.mem_append_right _ List.mem_cons_self)
  · by_cases h2 : l2 = []
    · rw [h2, List.append_nil]; exact hCA l1 (List.mem_append_right _ List.mem_cons_self)
    · have hpos : ∀ x ∈ (A1 ++ l1 :: A2).flatten ++ (B2 ++ l2 :: B1).flatten, 0 < x := by
        intro x hx; rw [heq x hx]; omega
      have hc := overlap_count ascA ascB hlen hpos h1 h2
      have h3 := LPT43.two_per_bin_count feas (m := μ) (fun y hy => by rw [heq y hy]) hμ
      rcases le1_cases (le1A l1 (List.mem_append_right _ List.mem_cons_self)) with e | e1
      · exact absurd e h1
      · rcases le1_cases (le1B l2 (List.mem_append_right _ List.mem_cons_self)) with e | e2
        · exact absurd e h2
        · have m1 : sumL l1 = μ := heq _ (by
            rw [List.mem_append]; left
            exact List.mem_flatten.2 ⟨l1, List.mem_append_right _ List.mem_cons_self, by rw [e1]; simp [sumL]⟩)
          have m2 : sumL l2 = μ := heq _ (by
            rw [List.mem_append]; right
            exact List.mem_flatten.2 ⟨l2, List.mem_append_right _ List.mem_cons_self, by rw [e2]; simp [sumL]⟩)
          rw [Part.sumL_append, m1, m2]
          apply Nat.le_of_not_lt
          intro hbad
          have h4 := Part.length_mul_le 2 (((A1 ++ l1 :: A2).flatten ++ (B2 ++ l2 :: B1).flatten).map (LPT43.mw T μ))
            (fun s hs => by
              obtain ⟨y, hy, rfl⟩ := List.mem_map.1 hs
              rw [heq y hy]; unfold LPT43.mw; rw [if_pos hbad])
          rw [List.length_map, List.length_append] at h4
          unfold binSum at h3
          -- every item weighs `2` under `mw T μ` (as `2μ > T`), so `2 · #items ≤ 2k` (`h3`, `h4`), while `overlap_count`
          -- (`hc`) gives `#items ≥ k + 1`
          omega

/-! ## Tuples of bins (items are natural numbers, their own values) -/

/-- all items of a tuple (not the input list, which the theorems at the end of KK43.lean also call `items`) -/
def items (b : Bins Nat) : List Nat := b.lists.flatten
/-- every bin holds an item -/
def Full (b : Bins Nat) : Prop := ∀ l ∈ b.lists, l ≠ []
/-- every bin holds at most one item -/
def Le1 (b : Bins Nat) : Prop := ∀ l ∈ b.lists, l.length ≤ 1
/-- at least two items -/
def Compound (b : Bins Nat) : Prop := 2 ≤ (items b).length
instance : DecidablePred Compound := fun b => inferInstanceAs (Decidable (2 ≤ (items b).length))
/-- every item exceeds `T / 3` -/
def AllLarge (T : Nat) (b : Bins Nat) : Prop := ∀ x ∈ items b, T < 3 * x
/-- every item of `s` is at least every item of `t` -/
def Dom (s t : Bins Nat) : Prop := ∀ x ∈ items s, ∀ y ∈ items t, y ≤ x
/-- all items of `s` and `t` have the same value -/
def AllEq (s t : Bins Nat) : Prop := ∀ x ∈ items s ++ items t, ∀ y ∈ items s ++ items t, x = y
/-- every sum is at most `T` -/
def Fits (T : Nat) (b : Bins Nat) : Prop := ∀ s ∈ b.sums, s ≤ T

/-- a well-formed heap tuple: `k` bins, sums consistent and ascending, at least one item: what `CKKValid.EOK id k` (the
    entry part of the heap invariant of `kk`, Part.lean) says of the tuple, and non-emptiness (`KK43.base_of_eok`) -/
structure WF (k : Nat) (b : Bins Nat) : Prop where
  len : b.lists.length = k
  cons : b.sums = b.lists.map sumL
  sorted : b.sums.Pairwise (· ≤ ·)
  ne : items b ≠ []

theorem consistent_iff (b : Bins Nat) : b.Consistent id ↔ b.sums = b.lists.map sumL := by
  unfold Bins.Consistent
  have : b.lists.map (binSum id) = b.lists.map sumL :=
    List.map_congr_left (fun l _ => Part.binSum_id l)
  rw [this]

theorem WF.slen {k : Nat} {b : Bins Nat} (h : WF k b) : b.sums.length = k := by
  rw [h.cons, List.length_map, h.len]

theorem WF.asc {k : Nat} {b : Bins Nat} (h : WF k b) : (b.lists.map sumL).Pairwise (· ≤ ·) := by
  rw [← h.cons]; exact h.sorted

theorem WF.fits_iff {k T : Nat} {b : Bins Nat} (h : WF k b) : Fits T b ↔ ∀ l ∈ b.lists, sumL l ≤ T := by
  simp [Fits, h.cons]

-- `comb_*`: the unsorted combination `kkCombine a b`; `push_*`: the tuple pushed on the heap, `(kkCombine a b).sortAsc`
theorem comb_sums {k : Nat} {a b : Bins Nat} (ha : WF k a) (hb : WF k b) :
    (kkCombine a b).sums = (kkCombine a b).lists.map sumL :=
  (consistent_iff _).1
    (Part.kkCombine_consistent id a b ((consistent_iff a).2 ha.cons) ((consistent_iff b).2 hb.cons))

theorem comb_len {k : Nat} {a b : Bins Nat} (ha : WF k a) (hb : WF k b) :
    (kkCombine a b).lists.length = k := Part.kkCombine_lists_length a b k ha.len hb.len

theorem comb_slen {k : Nat} {a b : Bins Nat} (ha : WF k a) (hb : WF k b) :
    (kkCombine a b).sums.length = (kkCombine a b).lists.length := by
  rw [comb_sums ha hb, List.length_map]

theorem push_lists_perm {k : Nat} {a b : Bins Nat} (ha : WF k a) (hb : WF k b) :
    (kkCombine a b).sortAsc.lists.Perm (kkCombine a b).lists :=
  Part.sortAsc_lists_perm _ (comb_slen ha hb)

theorem push_sums_perm {k : Nat} {a b : Bins Nat} (ha : WF k a) (hb : WF k b) :
    (kkCombine a b).sortAsc.sums.Perm (kkCombine a b).sums :=
  Part.sortAsc_sums_perm _ (comb_slen ha hb)

theorem push_items_perm {k : Nat} {a b : Bins Nat} (ha : WF k a) (hb : WF k b) :
    (items (kkCombine a b).sortAsc).Perm (items a ++ items b) :=
  (push_lists_perm ha hb).flatten.trans (Part.kkCombine_flat_perm a b (by rw [ha.len, hb.len]))

theorem push_wf {k : Nat} {a b : Bins Nat} (ha : WF k a) (hb : WF k b) :
    WF k (kkCombine a b).sortAsc := by
  -- the pushed tuple is an entry of the heap invariant (`0`: the push counter plays no role here)
  obtain ⟨h1, h2, h3, -⟩ := CKKValid.eok_sortAsc 0 (comb_len ha hb) ((consistent_iff _).2 (comb_sums ha hb))
  refine ⟨h1, (consistent_iff _).1 h2, h3, fun h => ?_⟩
  have := (push_items_perm ha hb).length_eq
  rw [h] at this
  have hne := ha.ne
  simp only [List.length_nil, List.length_append] at this
  exact hne (List.length_eq_zero_iff.1 (by omega))

theorem mem_comb_lists {a b : Bins Nat} {l : List Nat} (h : l ∈ (kkCombine a b).lists) :
    ∃ l1 ∈ a.lists, ∃ l2 ∈ b.lists, l = l1 ++ l2 := by
  obtain ⟨l1, h1, l2, h2, e⟩ := zipWith_mem_pair h
  exact ⟨l1, h1, l2, List.mem_reverse.1 h2, e⟩

theorem fits_push {k T : Nat} {a b : Bins Nat} (ha : WF k a) (hb : WF k b) (h : Fits T (kkCombine a b)) :
    Fits T (kkCombine a b).sortAsc :=
  fun s hs => h s ((push_sums_perm ha hb).mem_iff.1 hs)

theorem push_forall_lists {k : Nat} {a b : Bins Nat} (ha : WF k a) (hb : WF k b) (P : List Nat → Prop) :
    (∀ l ∈ (kkCombine a b).sortAsc.lists, P l) ↔ ∀ l ∈ (kkCombine a b).lists, P l :=
  ⟨fun h l hl => h l ((push_lists_perm ha hb).mem_iff.2 hl), fun h l hl => h l ((push_lists_perm ha hb).mem_iff.1 hl)⟩

theorem full_push {k : Nat} {a b : Bins Nat} (ha : WF k a) (hb : WF k b) :
    Full (kkCombine a b).sortAsc ↔ Full (kkCombine a b) := push_forall_lists ha hb _

theorem full_comb_left {a b : Bins Nat} (h : Full a) : Full (kkCombine a b) := by
  intro l hl
  obtain ⟨l1, h1, l2, _, rfl⟩ := mem_comb_lists hl
  intro e
  exact h l1 h1 (List.append_eq_nil_iff.1 e).1

theorem full_comb_right {a b : Bins Nat} (h : Full b) : Full (kkCombine a b) := by
  intro l hl
  obtain ⟨l1, _, l2, h2, rfl⟩ := mem_comb_lists hl
  intro e
  exact h l2 h2 (List.append_eq_nil_iff.1 e).2

theorem comb_sums_comm {k : Nat} {a b : Bins Nat} (ha : WF k a) (hb : WF k b) (s : Nat) :
    s ∈ (kkCombine a b).sums ↔ s ∈ (kkCombine b a).sums := by
  have e : (kkCombine a b).sums = (kkCombine b a).sums.reverse := by
    simp only [kkCombine]
    rw [List.reverse_zipWith (by rw [List.length_reverse, ha.slen, hb.slen]), List.reverse_reverse,
      List.zipWith_comm]
    congr 1
    funext x y; exact Nat.add_comm _ _
  rw [e, List.mem_reverse]


/-! ## When does the combination of two tuples stay within the capacity? -/

theorem fits_dom_left {k T : Nat} {a b : Bins Nat} (ha : WF k a) (hb : WF k b)
    (hfa : Full a) (hlb : Le1 b) (hd : Dom a b) (hL : AllLarge T b)
    (feas : Packable T k (items a ++ items b)) (hCa : Fits T a) : Fits T (kkCombine a b) := by
  intro s hs
  rw [comb_sums ha hb] at hs
  obtain ⟨l, hl, rfl⟩ := List.mem_map.1 hs
  exact combine_fits_of_dom ha.len ha.asc hb.asc hfa hlb hd hL feas (ha.fits_iff.1 hCa) l hl

theorem fits_dom_right {k T : Nat} {a b : Bins Nat} (ha : WF k a) (hb : WF k b)
    (hfb : Full b) (hla : Le1 a) (hd : Dom b a) (hL : AllLarge T a)
    (feas : Packable T k (items a ++ items b)) (hCb : Fits T b) : Fits T (kkCombine a b) := by
  intro s hs
  exact fits_dom_left hb ha hfb hla hd hL (LPT43.packable_perm List.perm_append_comm feas) hCb s
    ((comb_sums_comm ha hb s).1 hs)

theorem fits_eq {k T : Nat} {a b : Bins Nat} (ha : WF k a) (hb : WF k b)
    (hla : Le1 a) (hlb : Le1 b) (he : AllEq a b) (hL : AllLarge T a)
    (feas : Packable T k (items a ++ items b)) (hCa : Fits T a) (hCb : Fits T b) :
    Fits T (kkCombine a b) := by
  obtain ⟨μ, hμ⟩ := List.exists_mem_of_ne_nil _ ha.ne
  intro s hs
  rw [comb_sums ha hb] at hs
  obtain ⟨l, hl, rfl⟩ := List.mem_map.1 hs
  exact eq_core ha.len ha.asc hb.asc hla hlb (fun x hx => he x hx μ (List.mem_append_left _ hμ)) (hL μ hμ)
    feas (ha.fits_iff.1 hCa) (hb.fits_iff.1 hCb) l hl

theorem fits_noverlap {k T : Nat} {a b : Bins Nat} (ha : WF k a) (hb : WF k b)
    (hpos : ∀ x ∈ items a ++ items b, 0 < x)
    (hcnt : (items a).length + (items b).length ≤ k) (hCa : Fits T a) (hCb : Fits T b) :
    Fits T (kkCombine a b) := by
  intro s hs
  rw [comb_sums ha hb] at hs
  obtain ⟨l, hl, rfl⟩ := List.mem_map.1 hs
  rcases noverlap_core ha.len ha.asc hb.asc hpos hcnt l hl with h | h
  · exact hCa _ (by rw [ha.cons]; exact List.mem_map_of_mem h)
  · exact hCb _ (by rw [hb.cons]; exact List.mem_map_of_mem h)

theorem le1_of_nonfull {k : Nat} {a b : Bins Nat} (ha : WF k a) (hb : WF k b)
    (hla : ¬ Full a → Le1 a) (hlb : ¬ Full b → Le1 b) (hpos : ∀ x ∈ items a ++ items b, 0 < x)
    (hnf : ¬ Full (kkCombine a b)) : Le1 (kkCombine a b) := by
  have hnfa : ¬ Full a := fun h => hnf (full_comb_left h)
  have hnfb : ¬ Full b := fun h => hnf (full_comb_right h)
  have hnil : [] ∈ (kkCombine a b).lists := by
    unfold Full at hnf
    simp only [ne_eq, not_forall, Decidable.not_not] at hnf
    obtain ⟨l, hl, rfl⟩ := hnf
    exact hl
  have hc := nonfull_count (k := k) ha.len ha.asc hb.asc (hla hnfa) (hlb hnfb) hpos hnil
  intro l hl
  rcases noverlap_core ha.len ha.asc hb.asc hpos (Nat.le_of_succ_le hc) l hl with h | h
  · exact hla hnfa l h
  · exact hlb hnfb l h

/-! ## Kinds of tuples: singles, partial (an empty bin), full -/

/-- largest minus smallest sum -/
def gapOf (b : Bins Nat) : Nat := maxL b.sums - minL b.sums

theorem full_length {k : Nat} {b : Bins Nat} (h : WF k b) (hf : Full b) : k ≤ (items b).length := by
  rw [← h.len]; exact LPT43.length_le_flatten_length _ hf

theorem full_le1_of_length {k : Nat} {b : Bins Nat} (h : WF k b) (hf : Full b)
    (hl : (items b).length ≤ k) : Le1 b :=
  LPT43.le1_of_flatten_le b.lists hf (by rw [h.len]; exact hl)

theorem single_items {k : Nat} {b : Bins Nat} (h : WF k b) (hc : ¬ Compound b) : ∃ x, items b = [x] := by
  unfold Compound at hc
  have hne := h.ne
  match hi : items b, hne, hc with
  | [], hne, _ => exact absurd rfl hne
  | [x], _, _ => exact ⟨x, rfl⟩
  | _ :: _ :: _, _, hc => simp at hc

theorem single_nonfull {k : Nat} (hk : 2 ≤ k) {b : Bins Nat} (h : WF k b) (hc : ¬ Compound b) : ¬ Full b := by
  intro hf
  have := full_length h hf
  unfold Compound at hc
  omega

theorem full_compound {k : Nat} (hk : 2 ≤ k) {b : Bins Nat} (h : WF k b) (hf : Full b) : Compound b := by
  have := full_length h hf
  unfold Compound; omega

theorem nonfull_facts {k : Nat} {b : Bins Nat} (h : WF k b) (hl : Le1 b) (hnf : ¬ Full b) :
    minL b.sums = 0 ∧ (∀ x ∈ items b, x ≤ maxL b.sums) ∧ (maxL b.sums = 0 ∨ maxL b.sums ∈ items b) ∧
      (items b).length + 1 ≤ k := by
  have hnil : [] ∈ b.lists := by
    unfold Full at hnf
    simp only [ne_eq, not_forall, Decidable.not_not] at hnf
    obtain ⟨l, hl, rfl⟩ := hnf
    exact hl
  have h0 : 0 ∈ b.sums := by rw [h.cons]; exact List.mem_map.2 ⟨[], hnil, rfl⟩
  refine ⟨by have := Part.minL_le h0; omega, ?_, ?_, ?_⟩
  · intro x hx
    obtain ⟨l, hl', hxl⟩ := List.mem_flatten.1 hx
    rcases le1_cases (hl l hl') with e | e
    · rw [e] at hxl; cases hxl
    · rw [e] at hxl; simp at hxl
      apply Part.le_maxL
      rw [h.cons, hxl]; exact List.mem_map_of_mem hl'
  · have hne : b.sums ≠ [] := by intro e; rw [e] at h0; cases h0
    have hm := Part.maxL_mem hne
    rw [h.cons] at hm
    obtain ⟨l, hl', e⟩ := List.mem_map.1 hm
    rcases le1_cases (hl l hl') with e' | e'
    · left; rw [h.cons, ← e, e']; rfl
    · right
      rw [h.cons, ← e]
      exact List.mem_flatten.2 ⟨l, hl', by rw [e']; simp [sumL]⟩
  · obtain ⟨L1, L2, e⟩ := List.append_of_mem hnil
    have hlen := h.len
    have := LPT43.flatten_length_le b.lists hl
    unfold items
    rw [e] at hlen this ⊢
    have a1 := LPT43.flatten_length_le L1 (fun l hl' => hl l (by rw [e]; simp [hl']))
    have a2 := LPT43.flatten_length_le L2 (fun l hl' => hl l (by rw [e]; simp [hl']))
    simp only [List.flatten_append, List.flatten_cons, List.length_append, List.length_cons,
      List.nil_append] at hlen this a1 a2 ⊢
    omega

theorem gapOf_nonfull {k : Nat} {b : Bins Nat} (h : WF k b) (hl : Le1 b) (hnf : ¬ Full b) :
    gapOf b = maxL b.sums := by
  unfold gapOf; rw [(nonfull_facts h hl hnf).1]; rfl

theorem gapOf_single {k : Nat} {b : Bins Nat} (h : WF k b) (hl : Le1 b) (hnf : ¬ Full b) {x : Nat}
    (hx : items b = [x]) : gapOf b = x := by
  rw [gapOf_nonfull h hl hnf]
  obtain ⟨_, h2, h3, _⟩ := nonfull_facts h hl hnf
  have := h2 x (by rw [hx]; simp)
  rcases h3 with h3 | h3
  · omega
  · rw [hx] at h3; simpa using h3

/-- at most `2k` items exceed a third of a feasible capacity -/
theorem count_large {T k : Nat} {L rest : List Nat} (h : Packable T k (L ++ rest))
    (hL : ∀ x ∈ L, T < 3 * x) : L.length ≤ 2 * k := by
  have := LPT43.item_count_le (c := 2) (a := T / 3 + 1) (by omega) (fun y hy => by have := hL y hy; omega)
    (LPT43.packable_prefix rest h)
  omega


/-! ## The invariant of the large-item phase -/

/-- per-tuple invariant: well-formed, within the capacity `T`, and at most one item per bin as long as a bin
    is empty -/
structure TInv (k T : Nat) (b : Bins Nat) : Prop where
  wf : WF k b
  fits : Fits T b
  le1 : ¬ Full b → Le1 b

/-- the (symmetric) relation between two tuples of the heap:
    * a compound tuple dominates every single;
    * two full tuples: one dominates the other;
    * a full tuple dominates a partial one;
    * two partial compound tuples consist of items of one and the same value. -/
def Rel (s t : Bins Nat) : Prop :=
  (Compound s → ¬ Compound t → Dom s t) ∧ (¬ Compound s → Compound t → Dom t s) ∧
  (Compound s → Compound t →
    (Full s → Full t → Dom s t ∨ Dom t s) ∧ (Full s → ¬ Full t → Dom s t) ∧
    (¬ Full s → Full t → Dom t s) ∧ (¬ Full s → ¬ Full t → AllEq s t))

theorem allEq_symm {s t : Bins Nat} (h : AllEq s t) : AllEq t s := by
  intro x hx y hy
  exact h x (by rw [List.mem_append] at hx ⊢; exact hx.symm) y
    (by rw [List.mem_append] at hy ⊢; exact hy.symm)

theorem rel_symm {s t : Bins Nat} (h : Rel s t) : Rel t s := by
  obtain ⟨h1, h2, h3⟩ := h
  refine ⟨fun a b => h2 b a, fun a b => h1 b a, fun a b => ?_⟩
  obtain ⟨g1, g2, g3, g4⟩ := h3 b a
  exact ⟨fun x y => (g1 y x).symm, fun x y => g3 y x, fun x y => g2 y x, fun x y => allEq_symm (g4 y x)⟩

theorem pos_of_large {T x : Nat} (h : T < 3 * x) : 0 < x := by omega

theorem allEq_dom {s t : Bins Nat} (h : AllEq s t) : Dom s t := by
  intro x hx y hy
  have := h x (List.mem_append_left _ hx) y (List.mem_append_right _ hy)
  omega

/-- a full tuple dominates every tuple with an empty bin -/
theorem parent_dom_full {k T : Nat} {p s : Bins Nat} (hk : 2 ≤ k) (hs : TInv k T s) (r : Rel p s)
    (hfs : Full s) (hfp : ¬ Full p) : Dom s p := by
  have hcs := full_compound hk hs.wf hfs
  by_cases hcp : Compound p
  · exact (r.2.2 hcp hcs).2.2.1 hfp hfs
  · exact r.2.1 hcp hcs

/-- the combination of the two popped tuples stays within the capacity -/
theorem pure_fits {k T : Nat} (hk : 2 ≤ k) {a b : Bins Nat} {rest : List Nat}
    (ha : TInv k T a) (hb : TInv k T b) (hLa : AllLarge T a) (hLb : AllLarge T b) (hr : Rel a b)
    (feas : Packable T k (items a ++ items b ++ rest)) : Fits T (kkCombine a b) := by
  have feas' : Packable T k (items a ++ items b) := LPT43.packable_prefix rest feas
  have hL : ∀ x ∈ items a ++ items b, T < 3 * x := fun x hx =>
    (List.mem_append.1 hx).elim (hLa x) (hLb x)
  by_cases hfa : Full a
  · by_cases hfb : Full b
    · -- two full tuples hold at most `2k` items, so one item per bin; one of them dominates
      have hcount := count_large (rest := []) (by simpa using feas') hL
      have l1 := full_length ha.wf hfa
      have l2 := full_length hb.wf hfb
      rw [List.length_append] at hcount
      rcases (hr.2.2 (full_compound hk ha.wf hfa) (full_compound hk hb.wf hfb)).1 hfa hfb with hd | hd
      · exact fits_dom_left ha.wf hb.wf hfa (full_le1_of_length hb.wf hfb (by omega)) hd hLb feas' ha.fits
      · exact fits_dom_right ha.wf hb.wf hfb (full_le1_of_length ha.wf hfa (by omega)) hd hLa feas' hb.fits
    · exact fits_dom_left ha.wf hb.wf hfa (hb.le1 hfb) (parent_dom_full hk ha (rel_symm hr) hfa hfb) hLb feas'
        ha.fits
  · by_cases hfb : Full b
    · exact fits_dom_right ha.wf hb.wf hfb (ha.le1 hfa) (parent_dom_full hk hb hr hfb hfa) hLa feas' hb.fits
    · -- two tuples with an empty bin: all items equal, or one of them is a single and nothing overlaps
      have la := ha.le1 hfa
      have lb := hb.le1 hfb
      have na := (nonfull_facts ha.wf la hfa).2.2.2
      have nb := (nonfull_facts hb.wf lb hfb).2.2.2
      have hpos : ∀ x ∈ items a ++ items b, 0 < x := fun x hx => pos_of_large (hL x hx)
      by_cases hca : Compound a
      · by_cases hcb : Compound b
        · exact fits_eq ha.wf hb.wf la lb ((hr.2.2 hca hcb).2.2.2 hfa hfb) hLa feas' ha.fits hb.fits
        · obtain ⟨x, hx⟩ := single_items hb.wf hcb
          exact fits_noverlap ha.wf hb.wf hpos (by rw [hx]; simp; omega) ha.fits hb.fits
      · obtain ⟨x, hx⟩ := single_items ha.wf hca
        exact fits_noverlap ha.wf hb.wf hpos (by rw [hx]; simp; omega) ha.fits hb.fits


/-! ### a popped tuple `p` against a tuple `s` that stays in the heap -/

section Parent
variable {k T : Nat} {p s : Bins Nat}

theorem parent_allEq (hp : TInv k T p) (hs : TInv k T s) (r : Rel p s)
    (g : gapOf s ≤ gapOf p) (hfp : ¬ Full p) (hcs : Compound s) (hfs : ¬ Full s) : AllEq p s := by
  by_cases hcp : Compound p
  · exact (r.2.2 hcp hcs).2.2.2 hfp hfs
  · obtain ⟨x, hx⟩ := single_items hp.wf hcp
    have hd := r.2.1 hcp hcs
    rw [gapOf_single hp.wf (hp.le1 hfp) hfp hx, gapOf_nonfull hs.wf (hs.le1 hfs) hfs] at g
    have hle := (nonfull_facts hs.wf (hs.le1 hfs) hfs).2.1
    have key : ∀ y ∈ items p ++ items s, y = x := by
      intro y hy
      rcases List.mem_append.1 hy with hy | hy
      · rw [hx] at hy; simpa using hy
      · have h1 := hd y hy x (by rw [hx]; simp)
        have h2 := hle y hy
        omega
    intro y hy z hz
    rw [key y hy, key z hz]

theorem parent_dom (hk : 2 ≤ k) (hp : TInv k T p) (hs : TInv k T s) (r : Rel p s)
    (g : gapOf s ≤ gapOf p) (hcs : Compound s) (hfs : ¬ Full s) : Dom p s := by
  by_cases hfp : Full p
  · exact (r.2.2 (full_compound hk hp.wf hfp) hcs).2.1 hfp hfs
  · exact allEq_dom (parent_allEq hp hs r g hfp hcs hfs)

theorem parent_dom_single (hk : 2 ≤ k) (hp : TInv k T p) (hs : TInv k T s) (r : Rel p s)
    (g : gapOf s ≤ gapOf p) (hcs : ¬ Compound s) : Dom p s := by
  by_cases hcp : Compound p
  · exact r.1 hcp hcs
  · obtain ⟨x, hx⟩ := single_items hp.wf hcp
    obtain ⟨z, hz⟩ := single_items hs.wf hcs
    have nfp := single_nonfull hk hp.wf hcp
    have nfs := single_nonfull hk hs.wf hcs
    rw [gapOf_single hp.wf (hp.le1 nfp) nfp hx, gapOf_single hs.wf (hs.le1 nfs) nfs hz] at g
    intro x' hx' z' hz'
    rw [hx] at hx'; rw [hz] at hz'
    simp at hx' hz'
    omega

end Parent

theorem push_forall_items {k : Nat} {a b : Bins Nat} (ha : WF k a) (hb : WF k b) {P : Nat → Prop}
    (h1 : ∀ x ∈ items a, P x) (h2 : ∀ x ∈ items b, P x) : ∀ x ∈ items (kkCombine a b).sortAsc, P x :=
  fun x hx => (List.mem_append.1 ((push_items_perm ha hb).mem_iff.1 hx)).elim (h1 x) (h2 x)

theorem dom_push_left {k : Nat} {a b s : Bins Nat} (ha : WF k a) (hb : WF k b) (h1 : Dom a s) (h2 : Dom b s) :
    Dom (kkCombine a b).sortAsc s := push_forall_items ha hb h1 h2

theorem dom_push_right {k : Nat} {a b s : Bins Nat} (ha : WF k a) (hb : WF k b) (h1 : Dom s a) (h2 : Dom s b) :
    Dom s (kkCombine a b).sortAsc := fun x hx => push_forall_items ha hb (h1 x hx) (h2 x hx)

theorem push_compound {k : Nat} {a b : Bins Nat} (ha : WF k a) (hb : WF k b) :
    Compound (kkCombine a b).sortAsc := by
  unfold Compound
  rw [(push_items_perm ha hb).length_eq, List.length_append]
  have h1 : 0 < (items a).length := List.length_pos_iff.2 ha.ne
  have h2 : 0 < (items b).length := List.length_pos_iff.2 hb.ne
  omega

/-- the new tuple is related to every tuple that stays in the heap -/
theorem pure_rel {k T : Nat} (hk : 2 ≤ k) {a b s : Bins Nat} {rest : List Nat}
    (ha : TInv k T a) (hb : TInv k T b) (hs : TInv k T s)
    (hLa : AllLarge T a) (hLb : AllLarge T b) (hLs : Compound s → AllLarge T s)
    (ras : Rel a s) (rbs : Rel b s) (ga : gapOf s ≤ gapOf a) (gb : gapOf s ≤ gapOf b)
    (feas : Packable T k (items a ++ items b ++ items s ++ rest)) :
    Rel (kkCombine a b).sortAsc s := by
  have hct := push_compound ha.wf hb.wf
  by_cases hcs : Compound s
  · -- a full `s` leaves room for fewer than `k` items in `a` and in `b`: `s` dominates both
    have hfull : Full s → Dom s (kkCombine a b).sortAsc := by
      intro hfs
      have hcount := count_large (L := items a ++ items b ++ items s) feas (fun x hx =>
        (List.mem_append.1 hx).elim (fun hx => (List.mem_append.1 hx).elim (hLa x) (hLb x)) (hLs hcs x))
      have l3 := full_length hs.wf hfs
      have h1 : 0 < (items a).length := List.length_pos_iff.2 ha.wf.ne
      have h2 : 0 < (items b).length := List.length_pos_iff.2 hb.wf.ne
      simp only [List.length_append] at hcount
      have nfa : ¬ Full a := fun h => by have := full_length ha.wf h; omega
      have nfb : ¬ Full b := fun h => by have := full_length hb.wf h; omega
      exact dom_push_right ha.wf hb.wf (parent_dom_full hk hs ras hfs nfa) (parent_dom_full hk hs rbs hfs nfb)
    refine ⟨fun _ h => absurd hcs h, fun h _ => absurd hct h,
      fun _ _ => ⟨fun _ hfs => Or.inr (hfull hfs), ?_, fun _ hfs => hfull hfs, ?_⟩⟩
    · intro _ hfs
      exact dom_push_left ha.wf hb.wf (parent_dom hk ha hs ras ga hcs hfs) (parent_dom hk hb hs rbs gb hcs hfs)
    · intro hft hfs
      rw [full_push ha.wf hb.wf] at hft
      have e1 := parent_allEq ha hs ras ga (fun h => hft (full_comb_left h)) hcs hfs
      have e2 := parent_allEq hb hs rbs gb (fun h => hft (full_comb_right h)) hcs hfs
      obtain ⟨z, hz⟩ := List.exists_mem_of_ne_nil _ hs.wf.ne
      have key : ∀ y ∈ items (kkCombine a b).sortAsc ++ items s, y = z := fun y hy =>
        (List.mem_append.1 hy).elim
          (push_forall_items ha.wf hb.wf
            (fun y hy => e1 y (List.mem_append_left _ hy) z (List.mem_append_right _ hz))
            (fun y hy => e2 y (List.mem_append_left _ hy) z (List.mem_append_right _ hz)) y)
          (fun hy => e1 y (List.mem_append_right _ hy) z (List.mem_append_right _ hz))
      intro y hy y' hy'
      rw [key y hy, key y' hy']
  · refine ⟨fun _ _ => ?_, fun h _ => absurd hct h, fun _ h => absurd h hcs⟩
    exact dom_push_left ha.wf hb.wf (parent_dom_single hk ha hs ras ga hcs) (parent_dom_single hk hb hs rbs gb hcs)


/-- the invariant of a heap (as a list of tuples) all of whose compound tuples consist of large items -/
def PhaseA (k T : Nat) (L : List (Bins Nat)) : Prop :=
  (∀ t ∈ L, TInv k T t ∧ (Compound t → AllLarge T t)) ∧ L.Pairwise Rel ∧ Packable T k (L.flatMap items)

theorem flatMap_items_split {R : List (Bins Nat)} {s : Bins Nat} (hs : s ∈ R) :
    ∃ rest, (R.flatMap items).Perm (items s ++ rest) := by
  obtain ⟨R1, R2, rfl⟩ := List.append_of_mem hs
  refine ⟨R1.flatMap items ++ R2.flatMap items, ?_⟩
  simp only [List.flatMap_append, List.flatMap_cons]
  exact List.perm_append_comm_assoc _ _ _

/-- One differencing step on two tuples of large items keeps the invariant `PhaseA`; `hg`: the two popped tuples
    have the largest spreads. -/
theorem pure_step {k T : Nat} (hk : 2 ≤ k) {a b : Bins Nat} {R : List (Bins Nat)}
    (h : PhaseA k T (a :: b :: R)) (hLa : AllLarge T a) (hLb : AllLarge T b)
    (hg : ∀ s ∈ R, gapOf s ≤ gapOf a ∧ gapOf s ≤ gapOf b) :
    PhaseA k T ((kkCombine a b).sortAsc :: R) := by
  obtain ⟨h1, h2, h3⟩ := h
  obtain ⟨⟨ha, -⟩, h1'⟩ := List.forall_mem_cons.1 h1
  obtain ⟨⟨hb, -⟩, hR⟩ := List.forall_mem_cons.1 h1'
  rw [List.pairwise_cons, List.pairwise_cons] at h2
  obtain ⟨ra, rb, rR⟩ := h2
  simp only [List.flatMap_cons] at h3
  have hpos : ∀ x ∈ items a ++ items b, 0 < x := fun x hx =>
    (List.mem_append.1 hx).elim (fun h => pos_of_large (hLa x h)) (fun h => pos_of_large (hLb x h))
  have hLt : AllLarge T (kkCombine a b).sortAsc := push_forall_items ha.wf hb.wf hLa hLb
  have hT : TInv k T (kkCombine a b).sortAsc := by
    refine ⟨push_wf ha.wf hb.wf, fits_push ha.wf hb.wf ?_, ?_⟩
    · exact pure_fits hk ha hb hLa hLb (ra b List.mem_cons_self) (rest := R.flatMap items)
        (by rw [List.append_assoc]; exact h3)
    · intro hnf
      rw [full_push ha.wf hb.wf] at hnf
      exact (push_forall_lists ha.wf hb.wf _).2 (le1_of_nonfull ha.wf hb.wf ha.le1 hb.le1 hpos hnf)
  refine ⟨?_, ?_, ?_⟩
  · intro t ht
    rcases List.mem_cons.1 ht with rfl | ht
    · exact ⟨hT, fun _ => hLt⟩
    · exact hR t ht
  · rw [List.pairwise_cons]
    refine ⟨?_, rR⟩
    intro s hs
    obtain ⟨rest, hrest⟩ := flatMap_items_split hs
    have hs' := hR s hs
    refine pure_rel hk ha hb hs'.1 hLa hLb hs'.2 (ra s (List.mem_cons_of_mem _ hs)) (rb s hs) (hg s hs).1 (hg s hs).2
      (rest := rest) ?_
    refine LPT43.packable_perm ?_ h3
    rw [List.append_assoc, List.append_assoc]
    exact List.Perm.append_left _ (List.Perm.append_left _ hrest)
  · simp only [List.flatMap_cons]
    refine LPT43.packable_perm ?_ h3
    rw [← List.append_assoc]
    exact List.Perm.append_right _ (push_items_perm ha.wf hb.wf).symm


/-! ## Sum vectors: small increments do not disturb the high part -/

theorem sorted_filter_split (c : Nat) (l : List Nat) (h : l.Pairwise (· ≤ ·)) :
    l = l.filter (fun u => decide (u ≤ c)) ++ l.filter (fun u => decide (c < u)) := by
  have e : l.filter (fun u => decide (c < u)) = l.filter (fun u => !decide (u ≤ c)) :=
    List.filter_congr fun u _ => by simp only [← Nat.not_le, decide_not]
  refine List.Perm.eq_of_pairwise (le := (· ≤ ·)) (fun a b _ _ h1 h2 => Nat.le_antisymm h1 h2) h ?_ ?_
  · rw [List.pairwise_append]
    refine ⟨h.filter _, h.filter _, fun a ha b hb => ?_⟩
    have := of_decide_eq_true (List.mem_filter.1 ha).2
    have := of_decide_eq_true (List.mem_filter.1 hb).2
    omega
  · rw [e]
    exact (List.filter_append_perm _ l).symm

/-- `y'` arises from `y` by small increments on low entries: above `min y' + σ` the two vectors agree -/
def SameAbove (σ : Nat) (y y' : List Nat) : Prop :=
  y.length = y'.length ∧
    (y.filter (fun u => decide (minL y' + σ < u))).Perm (y'.filter (fun u => decide (minL y' + σ < u)))

theorem sameAbove_refl (σ : Nat) (y : List Nat) : SameAbove σ y y := ⟨rfl, List.Perm.refl _⟩

theorem filter_gt_mono {c c' : Nat} (h : c ≤ c') (l : List Nat) :
    l.filter (fun u => decide (c' < u)) = (l.filter (fun u => decide (c < u))).filter (fun u => decide (c' < u)) := by
  rw [List.filter_filter]
  apply List.filter_congr
  intro u _
  by_cases hu : c' < u
  · have : c < u := by omega
    simp [hu, this]
  · simp [hu]

/-- adding `x ≤ σ` to the smallest entry keeps the relation -/
theorem sameAbove_step {σ x m : Nat} {y tl y'' : List Nat} (h : SameAbove σ y (m :: tl)) (hm : ∀ u ∈ tl, m ≤ u)
    (hx : x ≤ σ) (hp : y''.Perm ((m + x) :: tl)) : SameAbove σ y y'' := by
  obtain ⟨h1, h2⟩ := h
  have hmin' : m ≤ minL y'' := by
    rw [Part.minL_eq_of_perm hp]
    exact Part.le_minL (List.cons_ne_nil _ _) (List.forall_mem_cons.2 ⟨Nat.le_add_right _ _, hm⟩)
  rw [Part.minL_cons_of_le hm] at h2
  refine ⟨by rw [h1, hp.length_eq]; simp, ?_⟩
  have hc : m + σ ≤ minL y'' + σ := by omega
  rw [filter_gt_mono hc y]
  refine (h2.filter _).trans ?_
  rw [← filter_gt_mono hc (m :: tl)]
  refine List.Perm.trans ?_ (hp.filter _).symm
  rw [List.filter_cons_of_neg (by simp; omega), List.filter_cons_of_neg (by simp; omega)]

/-- if the spread of `y'` exceeds `σ`, its largest entry is an entry of `y` -/
theorem sameAbove_top {σ : Nat} {y y' : List Nat} (h : SameAbove σ y y') (hg : minL y' + σ < maxL y') :
    maxL y' ≤ maxL y := by
  have hne : y' ≠ [] := by rintro rfl; simp [maxL] at hg
  have h1 : maxL y' ∈ y'.filter (fun u => decide (minL y' + σ < u)) :=
    List.mem_filter.2 ⟨Part.maxL_mem hne, by simpa using hg⟩
  exact Part.le_maxL (List.mem_filter.1 (h.2.mem_iff.2 h1)).1

/-- for sorted vectors the relation is a common suffix -/
theorem sameAbove_split {σ : Nat} {y y' : List Nat} (h : SameAbove σ y y') (hy : y.Pairwise (· ≤ ·))
    (hy' : y'.Pairwise (· ≤ ·)) :
    ∃ lo lo' hi, y = lo ++ hi ∧ y' = lo' ++ hi ∧ lo.length = lo'.length ∧ ∀ u ∈ lo', u ≤ minL y' + σ := by
  have e1 := sorted_filter_split (minL y' + σ) y hy
  have e2 := sorted_filter_split (minL y' + σ) y' hy'
  have e3 : y.filter (fun u => decide (minL y' + σ < u)) = y'.filter (fun u => decide (minL y' + σ < u)) :=
    List.Perm.eq_of_pairwise (le := (· ≤ ·)) (fun a b _ _ h1 h2 => Nat.le_antisymm h1 h2)
      (hy.filter _) (hy'.filter _) h.2
  refine ⟨_, _, _, e1, by rw [← e3] at e2; exact e2, ?_, ?_⟩
  · have l1 := congrArg List.length e1
    have l2 := congrArg List.length e2
    rw [List.length_append] at l1 l2
    rw [e3] at l1
    have := h.1
    omega
  · intro u hu
    have := (List.mem_filter.1 hu).2
    simpa using this

/-- position-wise sums of an ascending and a descending vector whose spread is at most `σ`: a sum whose
    first summand is within `σ` of the least first summand is within `σ` of every sum -/
theorem low_pair_gap {σ m α β : Nat} {a1 a2 d1 d2 : List Nat} (ha : (a1 ++ α :: a2).Pairwise (· ≤ ·))
    (hd : (d1 ++ β :: d2).Pairwise (· ≥ ·)) (hm : ∀ u ∈ a1, m ≤ u)
    (hg : ∀ w ∈ d2, β ≤ w + σ) (hlen : a1.length = d1.length) (hα : α ≤ m + σ) :
    ∀ Q ∈ List.zipWith (· + ·) (a1 ++ α :: a2) (d1 ++ β :: d2), α + β ≤ Q + σ := by
  intro Q hQ
  rw [List.zipWith_append hlen, List.zipWith_cons_cons, List.mem_append, List.mem_cons] at hQ
  rw [List.pairwise_append] at ha hd
  rcases hQ with hQ | rfl | hQ
  · -- before the position of `(α, β)`: the second summand is at least `β`
    obtain ⟨u, hu, w, hw, rfl⟩ := zipWith_mem_pair hQ
    have := hm u hu
    have := hd.2.2 w hw β List.mem_cons_self
    omega
  · omega
  · -- after it: the first summand is at least `α`
    obtain ⟨u, hu, w, hw, rfl⟩ := zipWith_mem_pair hQ
    have := (List.pairwise_cons.1 ha.2.1).1 u hu
    have := hg w hw
    omega


theorem zipWith_mem_of_split {β γ δ : Type} (f : β → γ → δ) {A1 A2 : List β} {B1 B2 : List γ} {a : β} {b : γ}
    (h : A1.length = B1.length) : f a b ∈ List.zipWith f (A1 ++ a :: A2) (B1 ++ b :: B2) := by
  rw [List.zipWith_append h]; simp

/-- `y'` is `y` after small increments on low entries, `z` has spread at most `σ`.  If the
    combination `y' ⊕ z` has spread more than `σ`, its largest sum is a sum of `y ⊕ z`. -/
theorem combine_max_of_sameAbove {σ : Nat} {y y' z : List Nat} (h : SameAbove σ y y') (hy : y.Pairwise (· ≤ ·))
    (hy' : y'.Pairwise (· ≤ ·)) (hz : z.Pairwise (· ≤ ·)) (hzg : ∀ u ∈ z, ∀ w ∈ z, u ≤ w + σ)
    (hbig : ¬ ∀ P ∈ List.zipWith (· + ·) y' z.reverse, ∀ Q ∈ List.zipWith (· + ·) y' z.reverse, P ≤ Q + σ) :
    ∀ P ∈ List.zipWith (· + ·) y' z.reverse, P ≤ maxL (List.zipWith (· + ·) y z.reverse) := by
  intro P hP
  have hne : List.zipWith (· + ·) y' z.reverse ≠ [] := by intro e; rw [e] at hP; cases hP
  have hP0 := Part.maxL_mem hne
  refine Nat.le_trans (Part.le_maxL hP) ?_
  obtain ⟨A1, α, A2, B1, β, B2, e1, e2, hlen, e⟩ := zipWith_mem_split hP0
  rw [e]
  by_cases hα : α ≤ minL y' + σ
  · -- the maximal pair sits in the low part: then all sums are within `σ` of each other (`low_pair_gap`), against `hbig`
    exfalso
    apply hbig
    intro P' hP' Q hQ
    have hzr : ∀ u ∈ z.reverse, ∀ w ∈ z.reverse, u ≤ w + σ := fun u hu w hw =>
      hzg u (List.mem_reverse.1 hu) w (List.mem_reverse.1 hw)
    have hzd := List.pairwise_reverse.2 hz
    have hmin : ∀ u ∈ A1, minL y' ≤ u := fun u hu =>
      Part.minL_le (by rw [e1]; exact List.mem_append_left _ hu)
    rw [e1] at hy' hQ
    rw [e2] at hzr hzd hQ
    have h1 := low_pair_gap hy' hzd hmin
      (fun w hw => hzr β (by simp) w (by simp [hw])) hlen hα Q hQ
    have h2 := Part.le_maxL hP'
    omega
  · -- it sits in the common upper part `hi`: the same pair occurs among the sums of `y` and `z`
    obtain ⟨lo, lo', hi, f1, f2, f3, f4⟩ := sameAbove_split h hy hy'
    apply Part.le_maxL
    rw [f2] at e1
    rcases List.append_eq_append_iff.1 e1 with ⟨as, g1, g2⟩ | ⟨bs, g1, g2⟩
    · rw [f1, g2, e2, ← List.append_assoc]
      exact zipWith_mem_of_split _ (by rw [List.length_append, f3, ← hlen, g1, List.length_append])
    · cases bs with
      | nil =>
        rw [List.nil_append] at g2
        rw [List.append_nil] at g1
        rw [f1, ← g2, e2]
        exact zipWith_mem_of_split _ (by rw [f3, g1, hlen])
      | cons b bs =>
        exfalso
        rw [List.cons_append, List.cons.injEq] at g2
        have := f4 α (by rw [g1, g2.1]; simp)
        exact hα this

/-! ### the sums of a single -/

theorem lists_of_flatten_single {β : Type} {x : β} : ∀ (L : List (List β)), L.flatten = [x] →
    ∃ i j, L = List.replicate i [] ++ [x] :: List.replicate j []
  | [], h => by simp at h
  | l :: L, h => by
    rw [List.flatten_cons] at h
    rcases List.append_eq_cons_iff.1 h with ⟨e1, e2⟩ | ⟨l', e1, e2⟩
    · obtain ⟨i, j, rfl⟩ := lists_of_flatten_single L e2
      exact ⟨i + 1, j, by rw [e1]; rfl⟩
    · have hl' : l' = [] := (List.append_eq_nil_iff.1 e2.symm).1
      have hL : L.flatten = [] := (List.append_eq_nil_iff.1 e2.symm).2
      refine ⟨0, L.length, ?_⟩
      rw [e1, hl']
      simp only [List.replicate_zero, List.nil_append, List.cons.injEq, true_and]
      rw [List.eq_replicate_iff]
      exact ⟨rfl, fun b hb => List.flatten_eq_nil_iff.1 hL b hb⟩

theorem single_sums {k : Nat} {b : Bins Nat} (h : WF k b) {x : Nat} (hx : items b = [x]) :
    b.sums.reverse = x :: List.replicate (k - 1) 0 := by
  obtain ⟨i, j, e⟩ := lists_of_flatten_single b.lists hx
  have hlen : i + j = k - 1 := by
    have := h.len
    rw [e, List.length_append, List.length_replicate, List.length_cons, List.length_replicate] at this
    omega
  -- both sides are descending, and they have the same entries
  have hp : b.sums.reverse.Perm (x :: List.replicate (k - 1) 0) := by
    rw [h.cons, e, List.map_append, List.map_cons, List.map_replicate, List.map_replicate, ← hlen,
      ← List.replicate_append_replicate]
    exact (List.reverse_perm _).trans List.perm_middle
  refine List.Perm.eq_of_pairwise (le := (· ≥ ·)) (fun a b _ _ h1 h2 => Nat.le_antisymm h2 h1)
    (List.pairwise_reverse.2 h.sorted) ?_ hp
  rw [List.pairwise_cons]
  exact ⟨fun y hy => by rw [(List.mem_replicate.1 hy).2]; exact Nat.zero_le x,
    List.pairwise_replicate.2 (Or.inr (Nat.le_refl 0))⟩

/-- absorbing a single with item `x` adds `x` to the smallest sum -/
theorem comb_single_sums {k : Nat} {a b : Bins Nat} (ha : WF k a) (hb : WF k b) {x : Nat}
    (hx : items b = [x]) : ∃ m tl, a.sums = m :: tl ∧ (∀ u ∈ tl, m ≤ u) ∧ (kkCombine a b).sums = (m + x) :: tl := by
  have hk : 0 < k := by
    rw [← hb.len]
    apply List.length_pos_iff.2
    intro e; unfold items at hx; rw [e] at hx; simp at hx
  have hl := ha.slen
  match hs : a.sums, hl with
  | [], hl => simp at hl; omega
  | m :: tl, hl =>
    refine ⟨m, tl, rfl, ?_, ?_⟩
    · have := ha.sorted; rw [hs] at this; exact (List.pairwise_cons.1 this).1
    · simp only [kkCombine]
      rw [hs, single_sums hb hx, List.zipWith_cons_cons]
      have : k - 1 = tl.length := by simp at hl; omega
      rw [this, Part.zipWith_add_replicate_zero]


/-! ## `PhaseA` on sub-collections; spreads; absorbing a single -/

theorem phaseA_perm {k T : Nat} {L1 L2 : List (Bins Nat)} (hp : L1.Perm L2) (h : PhaseA k T L1) : PhaseA k T L2 := by
  obtain ⟨h1, h2, h3⟩ := h
  refine ⟨fun t ht => h1 t (hp.mem_iff.2 ht), (hp.pairwise_iff (fun h => rel_symm h)).1 h2, ?_⟩
  exact LPT43.packable_perm (hp.flatMap_right items) h3

theorem phaseA_append_left {k T : Nat} {L1 L2 : List (Bins Nat)} (h : PhaseA k T (L1 ++ L2)) : PhaseA k T L1 := by
  obtain ⟨h1, h2, h3⟩ := h
  refine ⟨fun t ht => h1 t (List.mem_append_left _ ht), (List.pairwise_append.1 h2).1, ?_⟩
  rw [List.flatMap_append] at h3
  exact LPT43.packable_prefix _ h3

theorem phaseA_sublist {k T : Nat} {L1 L2 : List (Bins Nat)} (hs : L1.Sublist L2) (h : PhaseA k T L2) : PhaseA k T L1 := by
  obtain ⟨R, hp⟩ := hs.exists_perm_append
  exact phaseA_append_left (phaseA_perm hp h)

/-- phase A cannot hold a tuple of large items beside two full tuples of large items: together more than `2k` items
    above a third of the capacity (`count_large`) -/
theorem phaseA_two_full {k T : Nat} {g b z : Bins Nat} (h : PhaseA k T [g, b, z]) (hLg : AllLarge T g)
    (hLb : AllLarge T b) (hfb : Full b) (hLz : AllLarge T z) (hfz : Full z) : False := by
  obtain ⟨h1, -, h3⟩ := h
  have hg := (h1 g (by simp)).1.wf
  have hb := (h1 b (by simp)).1.wf
  have hz := (h1 z (by simp)).1.wf
  have hcount := count_large (L := items g ++ items b ++ items z) (rest := [])
    (by simpa [List.flatMap_cons] using h3)
    (fun x hx => (List.mem_append.1 hx).elim (fun hx => (List.mem_append.1 hx).elim (hLg x) (hLb x)) (hLz x))
  have l1 : 0 < (items g).length := List.length_pos_iff.2 hg.ne
  have l2 := full_length hb hfb
  have l3 := full_length hz hfz
  simp only [List.length_append] at hcount
  omega

/-- the spread of a combination is at most the larger of the two spreads -/
theorem comb_gap {k M : Nat} {a b : Bins Nat} (ha : WF k a) (hb : WF k b)
    (ga : gapOf a ≤ M) (gb : gapOf b ≤ M) : gapOf (kkCombine a b).sortAsc ≤ M := by
  unfold gapOf at *
  rw [Part.gap_le_iff] at ga gb ⊢
  have := (Part.zipWith_add_gap M a.sums b.sums.reverse ha.sorted (List.pairwise_reverse.2 hb.sorted) ga
    (fun x hx y hy => gb x (List.mem_reverse.1 hx) y (List.mem_reverse.1 hy))).2
  intro x hx y hy
  exact this x ((push_sums_perm ha hb).mem_iff.1 hx) y ((push_sums_perm ha hb).mem_iff.1 hy)

theorem fits_iff_maxL {T : Nat} {b : Bins Nat} : Fits T b ↔ maxL b.sums ≤ T :=
  ⟨fun h => Part.maxL_le h, fun h _ hs => Nat.le_trans (Part.le_maxL hs) h⟩

/-- a tuple of large items whose spread is at most `T / 3` has no empty bin -/
theorem full_of_small_gap {k T : Nat} {b : Bins Nat} (h : TInv k T b) (hL : AllLarge T b)
    (hg : 3 * gapOf b ≤ T) : Full b := by
  apply Classical.byContradiction
  intro hnf
  have hl := h.le1 hnf
  rw [gapOf_nonfull h.wf hl hnf] at hg
  obtain ⟨x, hx⟩ := List.exists_mem_of_ne_nil _ h.wf.ne
  have h1 := (nonfull_facts h.wf hl hnf).2.1 x hx
  have h2 := hL x hx
  omega

/-- absorbing a single whose item is at most the spread of `a` does not raise the largest sum -/
theorem fits_absorb_single {k T : Nat} {a b : Bins Nat} (ha : WF k a) (hb : WF k b) {x : Nat}
    (hx : items b = [x]) (hg : x ≤ gapOf a) (hCa : Fits T a) : Fits T (kkCombine a b) := by
  obtain ⟨m, tl, e1, e2, e3⟩ := comb_single_sums ha hb hx
  have hmax := fits_iff_maxL.1 hCa
  unfold gapOf at hg
  have hmin : minL a.sums = m := by rw [e1]; exact Part.minL_cons_of_le e2
  intro s hs
  rw [e3] at hs
  rcases List.mem_cons.1 hs with rfl | hs
  · have : m ≤ maxL a.sums := by rw [e1]; exact Part.le_maxL List.mem_cons_self
    omega
  · exact hCa s (by rw [e1]; exact List.mem_cons_of_mem _ hs)

theorem sameAbove_absorb_single {k σ : Nat} {g : List Nat} {a b : Bins Nat} (ha : WF k a) (hb : WF k b) {x : Nat}
    (hx : items b = [x]) (hxs : x ≤ σ) (h : SameAbove σ g a.sums) : SameAbove σ g (kkCombine a b).sortAsc.sums := by
  obtain ⟨m, tl, e1, e2, e3⟩ := comb_single_sums ha hb hx
  rw [e1] at h
  exact sameAbove_step h e2 hxs (by rw [← e3]; exact push_sums_perm ha hb)

/-- `combine_max_of_sameAbove` for tuples: `a` the lineage, `g` the tuple it was at the end of phase A, `z` the full tuple it
    absorbs (see the head of `KK43.lean`). -/
theorem fits_combine_of_sameAbove {k T σ : Nat} {g a z : Bins Nat} (hg : WF k g) (ha : WF k a) (hz : WF k z)
    (h : SameAbove σ g.sums a.sums) (hzg : gapOf z ≤ σ) (hbig : σ < gapOf (kkCombine a z).sortAsc)
    (hpure : Fits T (kkCombine g z)) : Fits T (kkCombine a z) := by
  unfold gapOf at hzg
  rw [Part.gap_le_iff] at hzg
  have hb : ¬ ∀ P ∈ List.zipWith (· + ·) a.sums z.sums.reverse,
      ∀ Q ∈ List.zipWith (· + ·) a.sums z.sums.reverse, P ≤ Q + σ := by
    intro hc
    have : gapOf (kkCombine a z).sortAsc ≤ σ := by
      unfold gapOf
      rw [Part.gap_le_iff]
      intro x hx y hy
      exact hc x ((push_sums_perm ha hz).mem_iff.1 hx) y ((push_sums_perm ha hz).mem_iff.1 hy)
    omega
  intro s hs
  have := combine_max_of_sameAbove h hg.sorted ha.sorted hz.sorted hzg hb s hs
  exact Nat.le_trans this (fits_iff_maxL.1 hpure)

end Prtpy.KK43
