/-
  PrtpyProofs.CGOpt — property C02 for the anytime "complete greedy" branch-and-bound (`Prtpy.cg`):
  for EVERY configuration (five objectives x use_lower_bound x use_fast_lower_bound x use_heuristic_3 x
  use_set_of_seen_states) a run to completion returns an optimal partition.

  A completed run never returns `none`, its value is `IsOptimalValue`, and `(k + 2) ^ n` iterations always suffice.

  Proof.  `Compl s ws t`: the sum-vector `t` is, up to the order of the bins, reachable from the bin sums `s`
  by distributing the values `ws` ("`t` is a completion of `s`").  `CovD bestV L m t`: `t` is no better than the
  incumbent, or dominated by a completion of a vertex of `L` of depth `≥ m`.  The invariant `CInv`:
  every leaf of the full tree is covered by the stack (depth `≥ 0`), and every completion of a seen state
  `(d, sums)` is covered by the stack vertices of depth `≥ d` (the depth bound breaks the circularity
  "covered by the very vertex that is being popped").  The prunes of an expansion are discharged in
  `expand_cover`: some bin with the same sum as the chosen one is `CGValid.Settled` (symmetry), and each way of
  being settled (child pushed, fast bound, admissible bound, seen state, key of a pushed child) covers the
  completions; heuristic 3 in `h3_cover`.
  No sortedness of the sums or of the items is needed anywhere.
  ("Covered", `CovD`, `expand_cover` here mean: dominated by a vertex of the stack; nothing to do with bin covering,
  `Prtpy.Cover`.  Likewise `Compl` is a completion of a sum vector, not a bin completion of `Prtpy.BC`.)
  Fuel (last section): `Iter.run_stops` with the potential `binSum (wt k n)` of the stack.
  The order on `EInt` (`CGOpt.ele_refl`, `ele_trans`, `ele_of_lt`, `posInf_le_false`, …) stands at the end of Obj.lean,
  because CGValid.lean needs it before this file.
-/
import PrtpyProofs.CGValid
import PrtpyProofs.Obj
import PrtpyProofs.Oracle
open Prtpy

namespace Prtpy.CGOpt

variable {α : Type}

attribute [local instance] decEqBins decEqExcept

/-! ## completions -/

/-- `Compl s ws t`: distributing the values `ws`, one after the other, over the bins with sums `s` can
    produce the sums `t`, up to the order of the bins. -/
inductive Compl : List Nat → List Nat → List Nat → Prop
  | nil {s t : List Nat} : t.Perm s → Compl s [] t
  | cons {s : List Nat} {w : Nat} {ws t : List Nat} (i : Nat) :
      i < s.length → Compl (s.modify i (· + w)) ws t → Compl s (w :: ws) t

theorem compl_nil_iff {s t : List Nat} : Compl s [] t ↔ t.Perm s :=
  ⟨fun h => by cases h; assumption, Compl.nil⟩

theorem compl_cons_iff {s t ws : List Nat} {w : Nat} :
    Compl s (w :: ws) t ↔ ∃ i, i < s.length ∧ Compl (s.modify i (· + w)) ws t :=
  ⟨fun h => by cases h with | cons i hi h => exact ⟨i, hi, h⟩, fun ⟨i, hi, h⟩ => Compl.cons i hi h⟩

theorem compl_self (s : List Nat) : Compl s [] s := Compl.nil (List.Perm.refl _)

theorem compl_perm_left {s s' ws t : List Nat} (h : Compl s ws t) (hp : s.Perm s') : Compl s' ws t := by
  induction h generalizing s' with
  | nil ht => exact Compl.nil (ht.trans hp)
  | cons i hi _ ih =>
    obtain ⟨j, hj, hq⟩ := Part.exists_modify_perm _ hp i hi
    exact Compl.cons j hj (ih hq)

theorem compl_perm_right {s ws t t' : List Nat} (h : Compl s ws t) (hp : t.Perm t') : Compl s ws t' := by
  induction h with
  | nil ht => exact Compl.nil (hp.symm.trans ht)
  | cons i hi _ ih => exact Compl.cons i hi (ih hp)

theorem compl_perm_vals {s ws ws' t : List Nat} (hp : ws.Perm ws') (h : Compl s ws t) : Compl s ws' t := by
  induction hp generalizing s with
  | nil => exact h
  | cons w _ ih =>
    obtain ⟨i, hi, h⟩ := compl_cons_iff.1 h
    exact Compl.cons i hi (ih h)
  | swap a b l =>
    obtain ⟨i, hi, h⟩ := compl_cons_iff.1 h
    obtain ⟨j, hj, h⟩ := compl_cons_iff.1 h
    rw [List.length_modify] at hj
    rw [Part.modify_comm_add] at h
    exact Compl.cons j hj (Compl.cons i (by simpa using hi) h)
  | trans _ _ ih₁ ih₂ => exact ih₂ (ih₁ h)

theorem compl_length {s ws t : List Nat} (h : Compl s ws t) : t.length = s.length := by
  induction h with
  | nil ht => exact ht.length_eq
  | cons i hi _ ih => simpa using ih

/-- a completion adds non-negative amounts, totalling `sumL ws`, to the bins -/
theorem compl_adds {s ws t : List Nat} (h : Compl s ws t) :
    ∃ adds : List Nat, adds.length = s.length ∧ sumL adds = sumL ws ∧
      t.Perm (List.zipWith (· + ·) s adds) := by
  induction h with
  | @nil s t ht =>
    exact ⟨List.replicate s.length 0, by simp, by simp [Part.sumL_replicate],
      by rw [Part.zipWith_add_replicate_zero]; exact ht⟩
  | @cons s w ws t i hi _ ih =>
    obtain ⟨adds, h1, h2, h3⟩ := ih
    rw [List.length_modify] at h1
    refine ⟨adds.modify i (· + w), by simpa using h1, ?_, ?_⟩
    · rw [Part.sumL_modify _ _ _ (by omega), h2, Obj.sumL_cons]; omega
    · rw [← Obj.zipWith_modify_add]; exact h3

theorem compl_maxL {s ws t : List Nat} (h : Compl s ws t) : maxL s ≤ maxL t := by
  obtain ⟨adds, h1, _, h3⟩ := compl_adds h
  rw [Part.maxL_eq_of_perm h3]
  exact Obj.maxL_le_maxL_zipWith h1

theorem compl_minL {s ws t : List Nat} (h : Compl s ws t) : minL t ≤ minL s + sumL ws := by
  obtain ⟨adds, h1, h2, h3⟩ := compl_adds h
  rw [Part.minL_eq_of_perm h3, ← h2]
  exact Obj.minL_zipWith_le s adds h1

/-- every assignment produces a completion -/
theorem compl_sumsFrom (s ws asg : List Nat) (hl : asg.length = ws.length) (hb : ∀ a ∈ asg, a < s.length) :
    Compl s ws (Oracle.sumsFrom s ws asg) := by
  induction ws generalizing s asg with
  | nil => simpa using compl_self s
  | cons w ws ih =>
    cases asg with
    | nil => simp at hl
    | cons i asg =>
      rw [Oracle.sumsFrom_cons]
      refine Compl.cons i (hb i (by simp)) (ih _ asg (by simpa using hl) ?_)
      intro a ha
      rw [List.length_modify]
      exact hb a (List.mem_cons_of_mem _ ha)

theorem compl_sumsOf {k : Nat} {ws asg : List Nat} (h : IsAssignment k ws.length asg) :
    Compl (List.replicate k 0) ws (sumsOf k ws asg) := by
  rw [Oracle.sumsOf_eq]
  exact compl_sumsFrom _ _ _ h.1 (by simpa using h.2)

/-- admissible lower bounds bound every completion -/
theorem compl_lb (o : Objective) {s ws t : List Nat} (h : Compl s ws t) (hs : s ≠ []) (flag : Bool) :
    EInt.le (o.lowerBound s (sumL ws) flag) (.fin (o.value t false)) = true := by
  obtain ⟨adds, h1, h2, h3⟩ := compl_adds h
  rw [Obj.value_perm h3]
  exact Obj.lb_admissible_gen o h1 h2 hs flag

theorem ite_mem_modify_add (cs : List Nat) (b x j : Nat) (hj : j < cs.length) :
    (if b = j then cs.getD j 0 + x else cs.getD j 0) ∈ cs.modify b (· + x) := by
  have := List.getElem_mem (l := cs.modify b (· + x)) (n := j) (by rw [List.length_modify]; exact hj)
  rwa [List.getElem_modify, ← Part.getD_eq_getElem hj] at this

/-- the fast lower bound, computed before the child `cs.modify b (· + x)` is created, bounds every completion
    of that child (no sortedness of `cs` is needed) -/
theorem cgFast_sound (o : Objective) {k : Nat} {cs rest t : List Nat} {b x : Nat} (hk : cs.length = k)
    (hb : b < k) (h : Compl (cs.modify b (· + x)) rest t) :
    EInt.le (cgFast o k cs b x (sumL rest)) (.fin (o.value t false)) = true := by
  have hb' : b < cs.length := by omega
  cases o with
  -- for these three objectives `cgFast` is `.negInf`: the fast bound prunes nothing
  | maxKSmallest j => rfl
  | minKLargest j => rfl
  | minDiff => rfl
  | minLargest =>
    simp only [cgFast, Objective.value, Bool.false_eq_true, if_false, ele_fin]
    have h1 := compl_maxL (Compl.cons b hb' h)
    have h2 := Obj.lastD_le_maxL cs
    have h3 := compl_maxL h
    have h4 := Obj.le_maxL (ite_mem_modify_add cs b x b hb')
    rw [if_pos rfl] at h4
    omega
  | maxSmallest =>
    -- the new smallest sum is an entry (or the minimum of two entries) of the child's sums
    simp only [cgFast, Objective.value, Bool.false_eq_true, if_false, ele_fin]
    have h1 := compl_minL h
    have h0 := Obj.minL_le (ite_mem_modify_add cs b x 0 (by omega))
    by_cases hb0 : b = 0
    · rw [if_pos hb0] at h0 ⊢
      by_cases hk1 : k = 1
      · rw [if_pos hk1]; omega
      · have h2 := Obj.minL_le (ite_mem_modify_add cs b x 1 (by omega))
        rw [if_neg (by omega)] at h2
        rw [if_neg hk1]; omega
    · rw [if_neg hb0] at h0 ⊢
      omega

/-! ## coverage -/

section Cover
variable (v : α → Nat) (o : Objective) (sorted : List α)

/-- the values of the items that are still to be placed at depth `d` -/
def remVals (d : Nat) : List Nat := (sorted.drop d).map v

theorem remFrom_eq (d : Nat) : remFrom v sorted d = sumL (remVals v sorted d) := rfl

theorem remVals_end : remVals v sorted sorted.length = [] := by
  simp [remVals]

theorem remVals_cons {v : α → Nat} {sorted : List α} {d : Nat} {x : α} (hx : sorted[d]? = some x) :
    remVals v sorted d = v x :: remVals v sorted (d + 1) := by
  obtain ⟨hd, hxe⟩ := List.getElem?_eq_some_iff.1 hx
  simp only [remVals, List.drop_eq_getElem_cons hd, List.map_cons, hxe]

/-- `t` is *covered*: it is no better than the incumbent, or some vertex of `L` of depth at least `m` has a
    completion that is at least as good as `t` -/
def CovD (bestV : EInt) (L : List (Bins α × Nat)) (m : Nat) (t : List Nat) : Prop :=
  EInt.le bestV (.fin (o.value t false)) = true ∨
  ∃ p ∈ L, m ≤ p.2 ∧ ∃ t', Compl p.1.sums (remVals v sorted p.2) t' ∧ o.value t' false ≤ o.value t false

variable {v o sorted}

theorem covD_mono {bestV bestV' : EInt} {L L' : List (Bins α × Nat)} {m m' : Nat} {t : List Nat}
    (hb : EInt.le bestV' bestV = true) (hL : ∀ p ∈ L, p ∈ L') (hm : m' ≤ m)
    (h : CovD v o sorted bestV L m t) : CovD v o sorted bestV' L' m' t := by
  rcases h with h | ⟨p, hp, hpm, t', ht', hv⟩
  · exact Or.inl (ele_trans hb h)
  · exact Or.inr ⟨p, hL p hp, by omega, t', ht', hv⟩

theorem covD_of_value_le {bestV : EInt} {L : List (Bins α × Nat)} {m : Nat} {t u : List Nat}
    (hv : o.value t false ≤ o.value u false) (h : CovD v o sorted bestV L m t) :
    CovD v o sorted bestV L m u := by
  rcases h with h | ⟨p, hp, hpm, t', ht', hv'⟩
  · exact Or.inl (ele_trans h (ele_fin.2 hv))
  · exact Or.inr ⟨p, hp, hpm, t', ht', by omega⟩

theorem covD_self {bestV : EInt} {L : List (Bins α × Nat)} {m : Nat} {t : List Nat} (p : Bins α × Nat)
    (hp : p ∈ L) (hm : m ≤ p.2) (h : Compl p.1.sums (remVals v sorted p.2) t) :
    CovD v o sorted bestV L m t :=
  Or.inr ⟨p, hp, hm, t, h, Int.le_refl _⟩

end Cover

/-! ## heuristic 3 -/

section H3
variable (v : α → Nat)

theorem fold0_sums (xs : List α) (b : Bins α) :
    (xs.foldl (fun b x => b.add v x 0) b).sums = b.sums.modify 0 (· + binSum v xs) := by
  induction xs generalizing b with
  | nil => rw [List.foldl_nil, Part.binSum_nil, Part.modify_add_zero]
  | cons x xs ih =>
    rw [List.foldl_cons, ih, Part.add_sums, Part.binSum_cons]
    cases b.sums with
    | nil => simp
    | cons a l => simp only [List.modify_zero_cons]; congr 1; omega

/-- adding to the first entry no more than the gap between it and the last leaves the largest entry as it is -/
theorem maxL_modify_zero (s : List Nat) (w : Nat) (h : w + s.headD 0 ≤ lastD s 0) :
    maxL (s.modify 0 (· + w)) = maxL s := by
  have h2 := Obj.lastD_le_maxL s
  cases s with
  | nil => rfl
  | cons a l =>
    simp only [List.modify_zero_cons, Obj.maxL_cons, List.headD_cons] at *
    omega

variable {v}

/-- heuristic 3 puts all remaining items into the first bin; when it applies this does not raise the largest sum -/
theorem h3Vertex_maxL {cfg : CgCfg} {k : Nat} (hk : 0 < k) {sorted : List α} {cur : Bins α} {d : Nat}
    (hv : CGValid.VInv v k sorted (cur, d)) (hc : CGValid.h3Cond v cfg sorted cur d = true) :
    maxL (CGValid.h3Vertex v sorted cur d).sums = maxL cur.sums := by
  have hc := CGValid.h3Cond_eq_true_iff.1 hc
  have hval := CGValid.valid_fold0 v hk (sorted.drop d) cur _ hv.2
  rw [CGValid.h3Vertex, Part.maxL_eq_of_perm (Part.sortAsc_sums_perm _ (Part.consistent_length v hval.2.2)), fold0_sums]
  exact maxL_modify_zero cur.sums _ hc.2

/-- the leaf that heuristic 3 jumps to is at least as good as every completion of the vertex -/
theorem h3_cover {cfg : CgCfg} {k : Nat} (hk : 0 < k) {sorted : List α} {cur : Bins α} {d : Nat}
    (hv : CGValid.VInv v k sorted (cur, d)) (hc : CGValid.h3Cond v cfg sorted cur d = true) {t : List Nat}
    (ht : Compl cur.sums (remVals v sorted d) t) :
    cfg.obj.value (CGValid.h3Vertex v sorted cur d).sums false ≤ cfg.obj.value t false := by
  have hmax := h3Vertex_maxL hk hv hc
  have h3 := compl_maxL ht
  rw [(CGValid.h3Cond_eq_true_iff.1 hc).1.2]
  simp only [Objective.value, Bool.false_eq_true, if_false]
  omega

end H3

/-! ## the invariant of the search -/

section Invariant
variable (v : α → Nat) (cfg : CgCfg) (k : Nat) (sorted : List α)

/-- the leaves of the full search tree: the sum-vectors (up to the order of the bins) of all assignments -/
def Leaf (t : List Nat) : Prop := Compl (List.replicate k 0) (remVals v sorted 0) t

/-- The search loses nothing.
    `cov1`: every leaf is no better than the incumbent or dominated by a completion of a stack vertex;
    `cov2`: the same for every completion of a seen state `(d, sums)`, with stack vertices of depth `≥ d`;
    `dn`:   once the machine has stopped, every leaf is no better than the incumbent. -/
structure CInv (s : CgState α) : Prop where
  cov1 : ∀ t, Leaf v k sorted t → CovD v cfg.obj sorted s.bestV s.stack 0 t
  cov2 : ∀ e ∈ s.seen, ∀ t, Compl e.2 (remVals v sorted e.1) t →
    CovD v cfg.obj sorted s.bestV s.stack e.1 t
  dn : s.done = true → ∀ t, Leaf v k sorted t → EInt.le s.bestV (.fin (cfg.obj.value t false)) = true

variable {v cfg k sorted}

/-- on an empty stack nothing covers a leaf but the incumbent: it is at least as good as every leaf -/
theorem CInv.bound_of_nil {s : CgState α} (h : CInv v cfg k sorted s) (hs : s.stack = []) (t : List Nat)
    (ht : Leaf v k sorted t) : EInt.le s.bestV (.fin (cfg.obj.value t false)) = true := by
  rcases h.cov1 t ht with hc | ⟨p, hp, _⟩
  · exact hc
  · rw [hs] at hp; cases hp

/-- what a step has to establish for the popped vertex `(cur, d)` -/
theorem cinv_of_step {s s' : CgState α} {cur : Bins α} {d : Nat} {rest : List (Bins α × Nat)}
    (h : CInv v cfg k sorted s) (hs : s.stack = (cur, d) :: rest)
    (hP : EInt.le s'.bestV s.bestV = true)
    (hQ : ∀ p ∈ rest, p ∈ s'.stack)
    (hS : ∀ t, Compl cur.sums (remVals v sorted d) t → CovD v cfg.obj sorted s'.bestV s'.stack (d + 1) t)
    (hseen : ∀ e ∈ s'.seen, e ∈ s.seen ∨ ∃ p ∈ s'.stack, e = (p.2, p.1.sums))
    (hdn : s'.done = true → s.done = true ∨
      ∀ t, Leaf v k sorted t → EInt.le s'.bestV (.fin (cfg.obj.value t false)) = true) :
    CInv v cfg k sorted s' := by
  have persist : ∀ m t, CovD v cfg.obj sorted s.bestV s.stack m t →
      CovD v cfg.obj sorted s'.bestV s'.stack m t := by
    intro m t hc
    rcases hc with hc | ⟨p, hp, hpm, t', ht', hv⟩
    · exact Or.inl (ele_trans hP hc)
    · rw [hs] at hp
      rcases List.mem_cons.1 hp with rfl | hp
      · exact covD_of_value_le hv
          (covD_mono (ele_refl _) (fun _ hq => hq) (Nat.le_succ_of_le hpm) (hS t' ht'))
      · exact Or.inr ⟨p, hQ p hp, hpm, t', ht', hv⟩
  refine ⟨fun t ht => persist 0 t (h.cov1 t ht), ?_, ?_⟩
  · intro e he t ht
    rcases hseen e he with he | ⟨p, hp, rfl⟩
    · exact persist _ t (h.cov2 e he t ht)
    · exact covD_self p hp (Nat.le_refl _) ht
  · intro hd t ht
    rcases hdn hd with hd | hd
    · exact ele_trans hP (h.dn hd t ht)
    · exact hd t ht

/-- Expansion loses nothing: every completion of the popped vertex is covered at depth `d + 1`.  Whichever bin `i`
    the next item goes to, a bin `j` with the same sum is `Settled`, and (symmetry) the children of `i` and `j` have
    the same completions; each way of being settled covers them. -/
theorem expand_cover {s : CgState α} {cur : Bins α} {d : Nat} {rest : List (Bins α × Nat)} {x : α}
    {kept : List Nat} (hvi : CGValid.VInv v k sorted (cur, d)) (hx : sorted[d]? = some x)
    (hk : CGValid.Kept v cfg k sorted s cur d x kept) (hs : s.stack = (cur, d) :: rest)
    (hcov2 : ∀ e ∈ s.seen, ∀ t, Compl e.2 (remVals v sorted e.1) t → CovD v cfg.obj sorted s.bestV s.stack e.1 t)
    (t : List Nat) (ht : Compl cur.sums (remVals v sorted d) t) :
    CovD v cfg.obj sorted s.bestV ((kept.map (CGValid.cgChild v cur d x)).reverse ++ rest) (d + 1) t := by
  have hlen : cur.sums.length = k := CGValid.valid_sums_length v hvi.2
  have hnb := CGValid.cgChild_sums_perm v cur (Part.consistent_length v hvi.2.2.2) x
  have hmem : ∀ b ∈ kept, CGValid.cgChild v cur d x b ∈ (kept.map (CGValid.cgChild v cur d x)).reverse ++ rest :=
    fun b hb => List.mem_append_left _ (List.mem_reverse.2 (List.mem_map_of_mem hb))
  rw [remVals_cons hx, compl_cons_iff] at ht
  obtain ⟨i, hi, ht⟩ := ht
  obtain ⟨j, hj, hji, hset⟩ := hk.settled i (by omega)
  have hj' : j < cur.sums.length := by omega
  have htj : Compl (cur.sums.modify j (· + v x)) (remVals v sorted (d + 1)) t :=
    compl_perm_left ht (Part.modify_perm_modify (List.Perm.refl _) hi hj'
      (by rw [← Part.getD_eq_getElem hi, ← Part.getD_eq_getElem hj']; exact hji.symm) _)
  have htc := compl_perm_left htj (hnb j).symm
  cases hset with
  | kept hin => exact covD_self _ (hmem j hin) (Nat.le_refl _) htc
  | fast _ hf =>
    refine Or.inl (ele_trans hf ?_)
    rw [remFrom_eq]
    exact cgFast_sound cfg.obj hlen hj htj
  | bound _ hl =>
    refine Or.inl (ele_trans hl ?_)
    rw [remFrom_eq]
    refine compl_lb cfg.obj htc (fun h0 => ?_) true
    have := (hnb j).length_eq
    rw [h0, List.length_modify] at this
    simp only [List.length_nil] at this
    omega
  | seen hse =>
    -- covered by the old stack at depth `≥ d + 1`, hence not by the popped vertex
    rcases hcov2 _ hse t htc with hc | ⟨p, hp, hpm, hr⟩
    · exact Or.inl hc
    · rw [hs] at hp
      rcases List.mem_cons.1 hp with rfl | hp
      · exact absurd hpm (Nat.not_succ_le_self d)
      · exact Or.inr ⟨p, List.mem_append_right _ hp, hpm, hr⟩
  | dup j' hj' e => exact covD_self _ (hmem j' hj') (Nat.le_refl _) (by rw [e]; exact htc)

/-- One iteration of the loop preserves `CInv`.  `glb` may be any bound that is below every leaf. -/
theorem cgStep_cinv (hk : 0 < k) {glb : EInt}
    (hglb : ∀ t, Leaf v k sorted t → EInt.le glb (.fin (cfg.obj.value t false)) = true)
    (s : CgState α) (hsi : CGValid.SInv v k sorted s) (h : CInv v cfg k sorted s) :
    CInv v cfg k sorted (cgStep v cfg k sorted glb s) := by
  apply CGValid.cgStep_ind
  · -- empty stack
    intro hs
    exact ⟨h.cov1, h.cov2, fun _ => h.bound_of_nil hs⟩
  · -- a better leaf
    intro cur rest hs hlt
    refine cinv_of_step h hs (ele_of_lt hlt) (fun _ hp => hp) ?_ (fun e he => Or.inl he) ?_
    · intro t ht
      rw [remVals_end, compl_nil_iff] at ht
      exact Or.inl (by rw [Obj.value_perm ht]; exact ele_refl _)
    · intro hd
      simp only [Bool.or_eq_true] at hd
      rcases hd with hd | hd
      · exact Or.inr (fun t ht => ele_trans hd (hglb t ht))
      · exact Or.inl hd
  · -- a leaf that is no better
    intro cur rest hs hlt
    refine cinv_of_step h hs (ele_refl _) (fun _ hp => hp) ?_ (fun e he => Or.inl he) (fun hd => Or.inl hd)
    intro t ht
    rw [remVals_end, compl_nil_iff] at ht
    exact Or.inl (by rw [Obj.value_perm ht]; exact ele_of_not_lt hlt)
  · -- heuristic 3
    intro cur d rest hs hd hc
    have hvi : CGValid.VInv v k sorted (cur, d) := hsi.top hs
    refine cinv_of_step h hs (ele_refl _) (fun _ hp => List.mem_cons_of_mem _ hp) ?_
      (fun e he => Or.inl he) (fun hd => Or.inl hd)
    intro t ht
    refine Or.inr ⟨(CGValid.h3Vertex v sorted cur d, sorted.length), List.mem_cons_self .., ?_,
      (CGValid.h3Vertex v sorted cur d).sums, ?_, h3_cover hk hvi hc ht⟩
    · have := hvi.1
      simp only at this ⊢
      omega
    · rw [remVals_end]; exact compl_self _
  · -- expansion
    intro cur d rest x kept hs hx _ hK
    have hvi : CGValid.VInv v k sorted (cur, d) := hsi.top hs
    refine cinv_of_step h hs (ele_refl _) (fun _ hp => List.mem_append_right _ hp)
      (expand_cover (s := s) hvi hx hK hs h.cov2) ?_ (fun hd => Or.inl hd)
    intro e he
    rcases CGValid.mem_seenAfter he with h | ⟨b, hb, rfl⟩
    · exact Or.inl h
    · exact Or.inr ⟨_, List.mem_append_left _ (List.mem_reverse.2 (List.mem_map_of_mem hb)), rfl⟩
  · -- out of bounds: impossible
    intro cur d rest hs hd hx
    have hvi : CGValid.VInv v k sorted (cur, d) := hsi.top hs
    have h1 := hvi.1
    simp only at h1
    rw [List.getElem?_eq_none_iff] at hx
    omega

end Invariant

/-! ## the run -/

section Run
variable {v : α → Nat} {cfg : CgCfg} {k : Nat} {sorted : List α}

/-- safety, "`bestV` is the value of the incumbent", and "the search loses nothing" hold along every run -/
theorem cgRun_finv (hk : 0 < k) {glb : EInt}
    (hglb : ∀ t, Leaf v k sorted t → EInt.le glb (.fin (cfg.obj.value t false)) = true) (t : Nat) :
    CGValid.SInv v k sorted (cgRun v cfg k sorted glb t (cgInit k)) ∧
      CGValid.BInv cfg (cgRun v cfg k sorted glb t (cgInit k)) ∧
      CInv v cfg k sorted (cgRun v cfg k sorted glb t (cgInit k)) := by
  refine CGValid.cgRun_inv v cfg k sorted glb
    (fun s => CGValid.SInv v k sorted s ∧ CGValid.BInv cfg s ∧ CInv v cfg k sorted s) ?_ t _
    ⟨CGValid.cgInit_sinv v k sorted, rfl, ?_, nofun, nofun⟩
  · exact fun s h => ⟨CGValid.cgStep_sinv v hk cfg sorted glb s h.1, CGValid.cgStep_binv v cfg k sorted glb s h.2.1,
      cgStep_cinv hk hglb s h.1 h.2.2⟩
  · exact fun t ht => covD_self (Bins.new k, 0) (List.mem_singleton.2 rfl) (Nat.le_refl _) ht

theorem leaf_of_assignment {items : List α} (hp : sorted.Perm items) {asg : List Nat}
    (h : IsAssignment k (items.map v).length asg) : Leaf v k sorted (sumsOf k (items.map v) asg) := by
  have h1 := compl_sumsOf h
  have h2 : (items.map v).Perm (remVals v sorted 0) := by
    simp only [remVals, List.drop_zero]
    exact (hp.map v).symm
  exact compl_perm_vals h2 h1

/-- the global lower bound, computed at the root, is below every leaf -/
theorem glb_le_leaf (hk : 0 < k) (t : List Nat) (ht : Leaf v k sorted t) :
    EInt.le (cfg.obj.lowerBound (List.replicate k 0) (remFrom v sorted 0) true)
      (.fin (cfg.obj.value t false)) = true := by
  rw [remFrom_eq]
  exact compl_lb cfg.obj ht (fun h0 => by simpa [Nat.ne_of_gt hk] using congrArg List.length h0) true

/-- a completed run: when the machine has stopped, no leaf beats the incumbent -/
theorem cg_run_facts {items : List α} {fuel : Nat} (hk : 0 < k) {r : Option (Bins α)}
    (h : cg v cfg k items none fuel = .ok r) :
    ∃ s : CgState α, s.best = r ∧ CGValid.BInv cfg s ∧
      ∀ t, Leaf v k (sortDesc v items) t → EInt.le s.bestV (.fin (cfg.obj.value t false)) = true := by
  simp only [cg] at h
  split at h
  · rename_i hstop
    simp only [Except.ok.injEq] at h
    obtain ⟨_, hb, hc⟩ := cgRun_finv (v := v) (cfg := cfg) (sorted := sortDesc v items) hk (glb_le_leaf hk) fuel
    refine ⟨_, h, hb, fun t ht => ?_⟩
    simp only [Bool.or_eq_true, List.isEmpty_iff] at hstop
    rcases hstop with hd | he
    · exact hc.dn hd t ht
    · exact hc.bound_of_nil he t ht
  · cases h

end Run

/-! ## the main theorems -/

/-- a run without time limit (`cut = none`) that completes never returns `None` (used for C02: `cg_total_optimal`) -/
theorem cg_some_of_no_limit {v : α → Nat} {cfg : CgCfg} {k : Nat} {items : List α} {fuel : Nat} (hk : 0 < k)
    {r : Option (Bins α)} (h : cg v cfg k items none fuel = .ok r) : r ≠ none := by
  obtain ⟨s, hbest, hb, hall⟩ := cg_run_facts hk h
  intro hr
  subst hr
  have := hall _ (leaf_of_assignment (List.Perm.refl _) (Oracle.isAssignment_replicate hk _))
  rw [hb, hbest] at this
  -- no incumbent means value `+inf`, which is below no leaf
  rw [show CGValid.valOf cfg (none : Option (Bins α)) = .posInf from rfl, not_posInf_le_fin] at this
  cases this

/-- non-vacuity: the hypothesis holds for a concrete run with every prune switched on -/
example : (some ⟨[15, 15], [[6, 5, 4], [8, 7]]⟩ : Option (Bins Nat)) ≠ none :=
  cg_some_of_no_limit (v := id) (cfg := ⟨.minLargest, true, true, true, true⟩) (k := 2) (items := [4, 5, 6, 7, 8])
    (fuel := 100) (by decide) (by decide +kernel)

/-- **C02 for complete greedy.**  For every configuration — every objective, every combination of the
    lower-bound prune, the fast lower bound, heuristic 3 and the set of seen states — a run to completion
    returns a partition whose objective value is optimal among all assignments of the items to `k` bins. -/
theorem cg_optimal {v : α → Nat} {cfg : CgCfg} {k : Nat} {items : List α} {fuel : Nat} {b : Bins α} (hk : 0 < k)
    (h : cg v cfg k items none fuel = .ok (some b)) :
    IsOptimalValue cfg.obj k (items.map v) (cfg.obj.value b.sums false) := by
  obtain ⟨s, hbest, hb, hall⟩ := cg_run_facts hk h
  refine Oracle.isOptimalValue_of_partition (CGValid.cg_result hk h) fun asg hasg => ?_
  have := hall _ (leaf_of_assignment (Part.sortDesc_perm v items) (by simpa using hasg))
  rw [hb, hbest] at this
  exact ele_fin.1 this

/-- non-vacuity: three completed runs (all prunes on / max-min with the seen-set / nothing on) -/
example : IsOptimalValue .minLargest 2 [4, 5, 6, 7, 8] 15 :=
  cg_optimal (v := id) (cfg := ⟨.minLargest, true, true, true, true⟩) (items := [4, 5, 6, 7, 8]) (fuel := 100)
    (b := ⟨[15, 15], [[6, 5, 4], [8, 7]]⟩) (by decide) (by decide +kernel)

example : IsOptimalValue .maxSmallest 3 [4, 5, 6, 7, 8] (-8) :=
  cg_optimal (v := id) (cfg := ⟨.maxSmallest, true, true, false, true⟩) (items := [4, 5, 6, 7, 8]) (fuel := 1000)
    (b := ⟨[8, 11, 11], [[8], [7, 4], [6, 5]]⟩) (by decide) (by decide +kernel)

example : IsOptimalValue .minDiff 3 [4, 5, 6, 7, 8] 3 :=
  cg_optimal (v := id) (cfg := ⟨.minDiff, false, false, false, false⟩) (items := [4, 5, 6, 7, 8]) (fuel := 1000)
    (b := ⟨[8, 11, 11], [[8], [7, 4], [6, 5]]⟩) (by decide) (by decide +kernel)

/-! ## termination: explicit fuel -/

section Fuel
variable (v : α → Nat) (cfg : CgCfg) (k : Nat) (sorted : List α) (glb : EInt)

/-- the weight of a vertex of depth `p.2`; the potential of a stack `L` is `binSum (wt k n) L` -/
def wt (k n : Nat) (p : Bins α × Nat) : Nat := (k + 2) ^ (n - p.2)

/-- every stack vertex has depth at most `n` (holds without `0 < k`) -/
def DInv (s : CgState α) : Prop := ∀ p ∈ s.stack, p.2 ≤ sorted.length

variable {v cfg k sorted glb}

theorem cgStep_dinv (s : CgState α) (h : DInv sorted s) : DInv sorted (cgStep v cfg k sorted glb s) :=
  CGValid.cgStep_stack v (fun p => p.2 ≤ sorted.length) (fun _ _ _ _ _ hx _ => (List.getElem?_eq_some_iff.1 hx).1)
    (fun _ _ _ _ _ => Nat.le_refl _) h

/-- replacing the top vertex, of depth `d`, by vertices that weigh less than `(k + 2) ^ (n - d)` lowers the
    potential -/
theorem pot_replace (n d : Nat) (cur : Bins α) (L rest : List (Bins α × Nat))
    (h : binSum (wt k n) L + 1 ≤ (k + 2) ^ (n - d)) : binSum (wt k n) (L ++ rest) + 1 ≤ binSum (wt k n) ((cur, d) :: rest) := by
  rw [Part.binSum_append, Part.binSum_cons, wt]; dsimp only; omega

/-- a vertex of depth `d < n` outweighs `k` vertices of depth `d + 1`, and a leaf -/
theorem pow_step {n d c : Nat} (hd : d < n) (hc : c ≤ k) :
    c * (k + 2) ^ (n - (d + 1)) + 1 ≤ (k + 2) ^ (n - d) ∧ 1 + 1 ≤ (k + 2) ^ (n - d) := by
  have e : n - d = (n - (d + 1)) + 1 := by omega
  rw [e, Nat.pow_succ]
  have : 0 < (k + 2) ^ (n - (d + 1)) := Nat.pow_pos (Nat.succ_pos _)
  generalize (k + 2) ^ (n - (d + 1)) = W at *
  have h1 : c * W ≤ k * W := Nat.mul_le_mul_right _ hc
  have h2 : W * (k + 2) = k * W + 2 * W := by rw [Nat.mul_comm, Nat.add_mul]
  omega

/-- every iteration on a non-empty stack lowers the potential -/
theorem cgStep_pot (s : CgState α) (h : DInv sorted s) (hne : s.stack ≠ []) :
    binSum (wt k sorted.length) (cgStep v cfg k sorted glb s).stack + 1 ≤ binSum (wt k sorted.length) s.stack := by
  have pop : ∀ cur d rest, s.stack = (cur, d) :: rest →
      binSum (wt k sorted.length) rest + 1 ≤ binSum (wt k sorted.length) s.stack := fun cur d rest hs => by
    rw [hs]; exact pot_replace _ d cur [] rest (Nat.pow_pos (Nat.succ_pos _))
  apply CGValid.cgStep_ind v cfg k sorted glb
    (fun s' => binSum (wt k sorted.length) s'.stack + 1 ≤ binSum (wt k sorted.length) s.stack)
  · intro hs; exact absurd hs hne
  · intro cur rest hs _; exact pop cur _ rest hs
  · intro cur rest hs _; exact pop cur _ rest hs
  · intro cur d rest hs hd _
    have hle : d ≤ sorted.length := h (cur, d) (by rw [hs]; exact List.mem_cons_self ..)
    rw [hs]
    refine pot_replace _ d cur [(CGValid.h3Vertex v sorted cur d, sorted.length)] rest ?_
    rw [Part.binSum_cons, Part.binSum_nil, wt, Nat.sub_self, Nat.pow_zero]
    exact (pow_step (c := 0) (Nat.lt_of_le_of_ne hle hd) (Nat.zero_le k)).2
  · intro cur d rest x kept hs hx _ hk
    rw [hs]
    refine pot_replace _ d cur _ rest ?_
    rw [Part.binSum_perm _ (List.reverse_perm _), Part.binSum_congr (g := fun _ => (k + 2) ^ (sorted.length - (d + 1)))
      (fun p hp => by obtain ⟨b, _, rfl⟩ := List.mem_map.1 hp; rfl), Part.binSum_const, List.length_map]
    exact (pow_step (List.getElem?_eq_some_iff.1 hx).1 hk.length_le).1
  · intro cur d rest hs _ _; exact pop cur d rest hs

/-- with fuel at least the potential of the stack, the loop runs until it stops -/
theorem cgRun_stops (fuel : Nat) (s : CgState α) (h : DInv sorted s) (hp : binSum (wt k sorted.length) s.stack ≤ fuel) :
    (cgRun v cfg k sorted glb fuel s).done = true ∨ (cgRun v cfg k sorted glb fuel s).stack = [] := by
  rw [Iter.cgRun_eq]
  refine (Iter.run_stops (DInv sorted) cgStep_dinv (fun s => binSum (wt k sorted.length) s.stack) ?_ fuel s h hp).imp_right ?_
  · intro s hs _
    by_cases hne : s.stack = []
    · left; rw [Iter.cgStep_nil hne]
    · right; exact cgStep_pot s hs hne
  · generalize Iter.run _ _ fuel s = s'
    cases s'.stack with
    | nil => intro _; rfl
    | cons p L =>
      intro h0
      have : 0 < (k + 2) ^ (sorted.length - p.2) := Nat.pow_pos (Nat.succ_pos _)
      rw [Part.binSum_cons, wt] at h0; omega

end Fuel

/-- C02, termination with explicit fuel: `(k + 2) ^ n` iterations always suffice (for every `k`, also `k = 0`);
    more fuel does no harm. -/
theorem cg_fuel_sufficient {v : α → Nat} {cfg : CgCfg} {k : Nat} {items : List α} {fuel : Nat}
    (hf : (k + 2) ^ items.length ≤ fuel) : ∃ r, cg v cfg k items none fuel = .ok r := by
  have hstop := cgRun_stops (v := v) (cfg := cfg) (k := k) (sorted := sortDesc v items)
    (glb := cfg.obj.lowerBound (List.replicate k 0) (remFrom v (sortDesc v items) 0) true) fuel (cgInit k)
    (by intro p hp; simp only [cgInit, List.mem_singleton] at hp; subst hp; exact Nat.zero_le _)
    (by simpa only [cgInit, Part.binSum_singleton, wt, Nat.sub_zero, Part.sortDesc_length] using hf)
  simp only [cg]
  rw [if_pos (by simpa [List.isEmpty_iff] using hstop)]
  exact ⟨_, rfl⟩

/-- non-vacuity: `4 ^ 5 = 1024` iterations suffice for five items and two bins -/
example : ∃ r, cg id ⟨.minLargest, false, false, false, false⟩ 2 [4, 5, 6, 7, 8] none 1024 = .ok r :=
  cg_fuel_sufficient (by decide)

/-- C01 and C02 together: with that fuel the result is an optimal partition -/
theorem cg_total_optimal {v : α → Nat} {cfg : CgCfg} {k : Nat} {items : List α} (hk : 0 < k) :
    ∃ b, cg v cfg k items none ((k + 2) ^ items.length) = .ok (some b) ∧ IsPartition v items k b ∧
      IsOptimalValue cfg.obj k (items.map v) (cfg.obj.value b.sums false) := by
  obtain ⟨r, hr⟩ := cg_fuel_sufficient (v := v) (cfg := cfg) (k := k) (items := items) (Nat.le_refl _)
  cases r with
  | none => exact absurd rfl (cg_some_of_no_limit hk hr)
  | some b => exact ⟨b, hr, CGValid.cg_result hk hr, cg_optimal hk hr⟩

example : ∃ b, cg id ⟨.minDiff, true, true, true, true⟩ 3 [4, 5, 6, 7, 8] none (5 ^ 5) = .ok (some b) ∧
    IsPartition id [4, 5, 6, 7, 8] 3 b ∧
    IsOptimalValue .minDiff 3 ([4, 5, 6, 7, 8].map id) (Objective.minDiff.value b.sums false) :=
  cg_total_optimal (by decide)

end Prtpy.CGOpt
