/-
  PrtpyProofs.CBLDM — the complete balanced largest-differencing method (`Prtpy.cbldm`): the step equations and
  the induction principle of `cbPart`; validity and the cardinality bound of the result, with or without a time
  limit (C01/C11/C12); the invariant of the search state (`sum_delta` is the incumbent's difference and only
  decreases, for every clock), on which optimality (CBLDMOpt) and the behaviour under a counting clock (Anytime2) rest.
  Two namespaces: `Prtpy.CBLDMProofs` (the run), then `Prtpy.Anytime2` (the state invariant: `sdLE`, `Coh`, `OptOK`,
  `cbPart_mono`; the head of that section says why).
-/
import PrtpyProofs.Basic
open Prtpy

namespace Prtpy.CBLDMProofs

variable {α : Type}

/-! ## The step function of `cbPart`, named piece by piece -/

/-- the time-limit test of the call that brings the tick to `t` -/
def timeUp (cut : Option Nat) (t : Nat) : Bool :=
  match cut with | none => false | some c => decide (c ≤ t)

/-- count one call -/
def tickSt (st : CbState α) : CbState α := { st with tick := st.tick + 1 }

/-- what a leaf does to the state -/
def cbLeaf (d : Nat) (st : CbState α) (p : Bins α) : CbState α :=
  if decide (lenDiff p ≤ d) && ltInf (sumDiff p) st.sd then
    { st with best := some p, sd := some (sumDiff p), opt := decide (sumDiff p = 0) }
  else st

/-- the sum prune `2 * max_x - sum_xi >= sum_delta` -/
def sumPrune (sd : Option Nat) (subs : List (Bins α)) : Bool :=
  match sd with
  | none => false
  | some s => decide (s + sumL (subs.map sumDiff) ≤ 2 * maxL (subs.map sumDiff))

/-- the cardinality prune `2 * max_m - sum_mi > len_delta` -/
def cardPrune (d : Nat) (subs : List (Bins α)) : Bool :=
  decide (sumL (subs.map lenDiff) + d < 2 * maxL (subs.map lenDiff))

/-- the optional re-sorting of a short list -/
def cbOrder (n : Nat) (subs : List (Bins α)) : List (Bins α) :=
  if decide (subs.length ≤ (n + 1) / 2) then sortDesc sumDiff subs else subs

/-- the two tests that end a call at once -/
def stopNow (cut : Option Nat) (st : CbState α) : Bool := timeUp cut (st.tick + 1) || st.opt

/-- with a time limit `c`: the call that would bring the tick to `st.tick + 1` is past the limit, or the optimum
    is reached -/
theorem stopNow_some_iff {c : Nat} {st : CbState α} :
    stopNow (some c) st = true ↔ c ≤ st.tick + 1 ∨ st.opt = true := by
  simp only [stopNow, timeUp, Bool.or_eq_true, decide_eq_true_eq]

theorem stopNow_none_eq (st : CbState α) : stopNow none st = st.opt := Bool.false_or _

theorem stopNow_of_opt (cut : Option Nat) {st : CbState α} (h : st.opt = true) : stopNow cut st = true := by
  rw [stopNow, h, Bool.or_true]

theorem cbOrder_perm (n : Nat) (subs : List (Bins α)) : (cbOrder n subs).Perm subs := by
  unfold cbOrder
  split
  · exact Part.sortDesc_perm _ _
  · exact List.Perm.refl _

theorem cbPart_zero (n d : Nat) (cut : Option Nat) (st : CbState α) (subs : List (Bins α)) :
    cbPart n d cut 0 st subs = st := rfl

theorem cbPart_succ (n d : Nat) (cut : Option Nat) (fuel : Nat) (st : CbState α) (subs : List (Bins α)) :
    cbPart n d cut (fuel + 1) st subs =
      if stopNow cut st then tickSt st else
      match subs with
      | [] => tickSt st
      | [p] => cbLeaf d (tickSt st) p
      | _ =>
        if sumPrune st.sd subs then tickSt st else
        if cardPrune d subs then tickSt st else
        match cbOrder n subs with
        | a :: b :: rest =>
          cbPart n d cut fuel (cbPart n d cut fuel (tickSt st) (rest ++ [cbSplit a b])) (rest ++ [cbCombine a b])
        | _ => tickSt st := by
  rfl

theorem cbPart_stop {n d : Nat} {cut : Option Nat} {fuel : Nat} {st : CbState α} {subs : List (Bins α)}
    (h : stopNow cut st = true) : cbPart n d cut (fuel + 1) st subs = tickSt st := by
  rw [cbPart_succ, if_pos h]

theorem cbPart_nil {n d : Nat} {cut : Option Nat} {fuel : Nat} {st : CbState α}
    (h : stopNow cut st = false) : cbPart n d cut (fuel + 1) st [] = tickSt st := by
  rw [cbPart_succ]; simp only [h, Bool.false_eq_true, if_false]

theorem cbPart_leaf {n d : Nat} {cut : Option Nat} {fuel : Nat} {st : CbState α} {p : Bins α}
    (h : stopNow cut st = false) : cbPart n d cut (fuel + 1) st [p] = cbLeaf d (tickSt st) p := by
  rw [cbPart_succ]; simp only [h, Bool.false_eq_true, if_false]

theorem exists_cons_cons {β : Type} {l : List β} (h : 2 ≤ l.length) : ∃ a b rest, l = a :: b :: rest :=
  match l, h with
  | a :: b :: rest, _ => ⟨a, b, rest, rfl⟩

theorem cbPart_pruned {n d : Nat} {cut : Option Nat} {fuel : Nat} {st : CbState α} {subs : List (Bins α)}
    (h : stopNow cut st = false) (h2 : 2 ≤ subs.length)
    (hp : (sumPrune st.sd subs || cardPrune d subs) = true) :
    cbPart n d cut (fuel + 1) st subs = tickSt st := by
  obtain ⟨a, b, rest, rfl⟩ := exists_cons_cons h2
  rw [cbPart_succ, if_neg (ne_true_of_eq_false h)]
  dsimp only
  rcases Bool.or_eq_true_iff.1 hp with hp | hp
  · rw [if_pos hp]
  · rw [if_pos hp, ite_self]

theorem cbPart_node {n d : Nat} {cut : Option Nat} {fuel : Nat} {st : CbState α} {subs : List (Bins α)}
    {a b : Bins α} {rest : List (Bins α)}
    (h : stopNow cut st = false) (hs : sumPrune st.sd subs = false) (hc : cardPrune d subs = false)
    (ho : cbOrder n subs = a :: b :: rest) :
    cbPart n d cut (fuel + 1) st subs =
      cbPart n d cut fuel (cbPart n d cut fuel (tickSt st) (rest ++ [cbSplit a b])) (rest ++ [cbCombine a b]) := by
  obtain ⟨a', b', rest', rfl⟩ : ∃ a' b' rest', subs = a' :: b' :: rest' := by
    apply exists_cons_cons
    rw [← (cbOrder_perm n subs).length_eq, ho]
    exact Nat.le_add_left 2 _
  rw [cbPart_succ, if_neg (ne_true_of_eq_false h)]
  dsimp only
  rw [if_neg (ne_true_of_eq_false hs), if_neg (ne_true_of_eq_false hc), ho]

/-- Induction principle for one run of `cbPart`: the motive relates fuel, input state, node and output state. -/
theorem cbPart_induct (n d : Nat) (cut : Option Nat)
    (motive : Nat → CbState α → List (Bins α) → CbState α → Prop)
    (zero : ∀ st subs, motive 0 st subs st)
    (stop : ∀ fuel st subs, stopNow cut st = true → motive (fuel + 1) st subs (tickSt st))
    (nil : ∀ fuel st, stopNow cut st = false → motive (fuel + 1) st [] (tickSt st))
    (leaf : ∀ fuel st p, stopNow cut st = false → motive (fuel + 1) st [p] (cbLeaf d (tickSt st) p))
    (pruned : ∀ fuel st subs, stopNow cut st = false → 2 ≤ subs.length →
      (sumPrune st.sd subs || cardPrune d subs) = true → motive (fuel + 1) st subs (tickSt st))
    (node : ∀ fuel st subs a b rest st1 st2, stopNow cut st = false → sumPrune st.sd subs = false →
      cardPrune d subs = false → cbOrder n subs = a :: b :: rest →
      st1 = cbPart n d cut fuel (tickSt st) (rest ++ [cbSplit a b]) →
      st2 = cbPart n d cut fuel st1 (rest ++ [cbCombine a b]) →
      motive fuel (tickSt st) (rest ++ [cbSplit a b]) st1 →
      motive fuel st1 (rest ++ [cbCombine a b]) st2 → motive (fuel + 1) st subs st2) :
    ∀ fuel st subs, motive fuel st subs (cbPart n d cut fuel st subs) := by
  intro fuel
  induction fuel with
  | zero => intro st subs; exact zero st subs
  | succ fuel ih =>
    intro st subs
    cases h : stopNow cut st with
    | true => rw [cbPart_stop h]; exact stop fuel st subs h
    | false =>
      match subs with
      | [] => rw [cbPart_nil h]; exact nil fuel st h
      | [p] => rw [cbPart_leaf h]; exact leaf fuel st p h
      | a' :: b' :: rest' =>
        have h2 : 2 ≤ (a' :: b' :: rest').length := by simp only [List.length_cons]; omega
        cases hp : (sumPrune st.sd (a' :: b' :: rest') || cardPrune d (a' :: b' :: rest')) with
        | true => rw [cbPart_pruned h h2 hp]; exact pruned fuel st _ h h2 hp
        | false =>
          obtain ⟨hs, hc⟩ := Bool.or_eq_false_iff.1 hp
          obtain ⟨a, b, rest, ho⟩ :=
            exists_cons_cons (l := cbOrder n _) (by rw [(cbOrder_perm n _).length_eq]; exact h2)
          rw [cbPart_node h hs hc ho]
          exact node fuel st _ a b rest _ _ h hs hc ho rfl rfl (ih _ _) (ih _ _)

/-! ## Validity (C01 / C12): the result is a partition and obeys the cardinality bound -/

theorem sortAsc_two (s0 s1 : Nat) (l0 l1 : List α) :
    (Bins.mk [s0, s1] [l0, l1]).sortAsc =
      if s0 ≤ s1 then Bins.mk [s0, s1] [l0, l1] else Bins.mk [s1, s0] [l1, l0] := by
  simp only [Bins.sortAsc, List.zip_cons_cons, List.zip_nil_right, Prtpy.sortAsc, insertAsc]
  split <;> rfl

theorem perm4 (a b c d : List α) : ((a ++ b) ++ (c ++ d)).Perm ((a ++ c) ++ (b ++ d)) := by
  rw [List.append_assoc, List.append_assoc]
  refine List.Perm.append_left a ?_
  rw [← List.append_assoc, ← List.append_assoc]
  exact List.Perm.append_right d List.perm_append_comm

/-- a sub-partition: exactly two bins, and the sums describe them -/
def WF (v : α → Nat) (p : Bins α) : Prop :=
  ∃ l0 l1, p = Bins.mk [binSum v l0, binSum v l1] [l0, l1]

theorem flat_two (s : List Nat) (l0 l1 : List α) : (Bins.mk s [l0, l1]).flat = l0 ++ l1 := by
  simp only [Bins.flat, List.flatten_cons, List.flatten_nil, List.append_nil]

theorem sortAsc_two_spec (v : α → Nat) (l0 l1 : List α) :
    WF v (Bins.mk [binSum v l0, binSum v l1] [l0, l1]).sortAsc ∧
    ((Bins.mk [binSum v l0, binSum v l1] [l0, l1]).sortAsc).flat.Perm (l0 ++ l1) := by
  rw [sortAsc_two]
  split
  · exact ⟨⟨l0, l1, rfl⟩, by rw [flat_two]⟩
  · exact ⟨⟨l1, l0, rfl⟩, by rw [flat_two]; exact List.perm_append_comm⟩

theorem WF.combine {v : α → Nat} {a b : Bins α} (ha : WF v a) (hb : WF v b) :
    WF v (cbCombine a b) ∧ (cbCombine a b).flat.Perm (a.flat ++ b.flat) := by
  obtain ⟨a0, a1, rfl⟩ := ha
  obtain ⟨b0, b1, rfl⟩ := hb
  simp only [cbCombine, List.getD_cons_zero, List.getD_cons_succ, ← Part.binSum_append, flat_two]
  obtain ⟨h1, h2⟩ := sortAsc_two_spec v (a0 ++ b0) (a1 ++ b1)
  exact ⟨h1, h2.trans (perm4 a0 b0 a1 b1)⟩

theorem WF.split {v : α → Nat} {a b : Bins α} (ha : WF v a) (hb : WF v b) :
    WF v (cbSplit a b) ∧ (cbSplit a b).flat.Perm (a.flat ++ b.flat) := by
  obtain ⟨a0, a1, rfl⟩ := ha
  obtain ⟨b0, b1, rfl⟩ := hb
  simp only [cbSplit, List.getD_cons_zero, List.getD_cons_succ, ← Part.binSum_append, flat_two]
  obtain ⟨h1, h2⟩ := sortAsc_two_spec v (a1 ++ b0) (a0 ++ b1)
  refine ⟨h1, h2.trans ?_⟩
  exact (List.perm_append_comm).trans ((perm4 a0 b1 a1 b0).trans
    (List.Perm.append_left (a0 ++ a1) List.perm_append_comm))

/-- the node invariant: all sub-partitions are well-formed and jointly hold the items -/
def NodeOK (v : α → Nat) (items : List α) (subs : List (Bins α)) : Prop :=
  (∀ p ∈ subs, WF v p) ∧ (subs.flatMap Bins.flat).Perm items

theorem NodeOK.child {v : α → Nat} {items : List α} {subs : List (Bins α)} {n : Nat}
    {a b c : Bins α} {rest : List (Bins α)} (h : NodeOK v items subs) (ho : cbOrder n subs = a :: b :: rest)
    (hc : WF v a → WF v b → WF v c ∧ c.flat.Perm (a.flat ++ b.flat)) :
    NodeOK v items (rest ++ [c]) := by
  have hperm : (a :: b :: rest).Perm subs := ho ▸ cbOrder_perm n subs
  have hwf : ∀ p ∈ a :: b :: rest, WF v p := fun p hp => h.1 p (hperm.mem_iff.1 hp)
  obtain ⟨hc1, hc2⟩ := hc (hwf a (by simp)) (hwf b (by simp))
  refine ⟨?_, ?_⟩
  · intro p hp
    rcases List.mem_append.1 hp with hp | hp
    · exact hwf p (by simp [hp])
    · rw [List.mem_singleton.1 hp]; exact hc1
  · refine ((List.perm_append_singleton c rest).flatMap_right Bins.flat).trans ?_
    refine List.Perm.trans ?_ ((hperm.flatMap_right Bins.flat).trans h.2)
    simp only [List.flatMap_cons, ← List.append_assoc]
    exact List.Perm.append_right _ hc2

theorem NodeOK.leaf {v : α → Nat} {items : List α} {p : Bins α} (h : NodeOK v items [p]) :
    IsPartition v items 2 p := by
  obtain ⟨l0, l1, rfl⟩ := h.1 p (by simp)
  have h2 := h.2
  simp only [List.flatMap_cons, List.flatMap_nil, List.append_nil, Bins.flat] at h2
  exact ⟨h2, rfl, rfl⟩

/-- the incumbent is always the placeholder or a leaf of the tree that passed the cardinality test: a partition of
    the items within the bound -/
theorem cbPart_best (v : α → Nat) (items : List α) (n d : Nat) (cut : Option Nat) :
    ∀ fuel (st : CbState α) subs, (∀ b, st.best = some b → IsPartition v items 2 b ∧ lenDiff b ≤ d) →
      NodeOK v items subs → ∀ b, (cbPart n d cut fuel st subs).best = some b → IsPartition v items 2 b ∧ lenDiff b ≤ d := by
  refine cbPart_induct n d cut
    (fun _ st subs out => (∀ b, st.best = some b → IsPartition v items 2 b ∧ lenDiff b ≤ d) → NodeOK v items subs →
      ∀ b, out.best = some b → IsPartition v items 2 b ∧ lenDiff b ≤ d) ?_ ?_ ?_ ?_ ?_ ?_
  · intro st subs h _; exact h
  · intro _ st subs _ h _; exact h
  · intro _ st _ h _; exact h
  · intro _ st p _ h hn b
    unfold cbLeaf
    split
    · rename_i hc
      intro hb; simp only [Option.some.injEq] at hb; subst hb
      simp only [Bool.and_eq_true, decide_eq_true_eq] at hc
      exact ⟨hn.leaf, hc.1⟩
    · exact h b
  · intro _ st subs _ _ _ h _; exact h
  · intro _ st subs a b rest st1 st2 _ _ _ ho _ _ ih1 ih2 h hn
    exact ih2 (ih1 h (hn.child ho WF.split)) (hn.child ho WF.combine)

theorem init_sub (v : α → Nat) (x : α) :
    (Bins.new 2).add v x 1 = Bins.mk [binSum v [], binSum v [x]] [[], [x]] := by
  simp [Bins.new, Bins.add, binSum, sumL, List.replicate]

theorem init_nodeOK (v : α → Nat) (l : List α) :
    NodeOK v l (l.map fun x => (Bins.new 2).add v x 1) := by
  refine ⟨?_, ?_⟩
  · intro p hp
    obtain ⟨x, _, rfl⟩ := List.mem_map.1 hp
    exact ⟨[], [x], init_sub v x⟩
  · induction l with
    | nil => exact List.Perm.refl _
    | cons x xs ih =>
      simp only [List.map_cons, List.flatMap_cons, init_sub, flat_two, List.nil_append,
        List.singleton_append]
      exact List.Perm.cons x (by simpa only [init_sub] using ih)

theorem cbldm_best (v : α → Nat) (items : List α) (d : Option Nat) (cut : Option Nat) (b : Bins α)
    (h : cbldm v items d cut = some b) :
    IsPartition v items 2 b ∧ lenDiff b ≤ d.getD ((sortDesc v items).length + 1) := by
  have hn : NodeOK v items ((sortDesc v items).map fun x => (Bins.new 2).add v x 1) := by
    obtain ⟨h1, h2⟩ := init_nodeOK v (sortDesc v items)
    exact ⟨h1, h2.trans (Part.sortDesc_perm v items)⟩
  exact cbPart_best v items _ _ cut _ _ _ (by intro b hb; cases hb) hn b h

/-- **Validity** (C01/C11/C12): whatever the bound and whenever the search is interrupted, a result that is
    not the placeholder is a 2-partition of the items whose sums describe its bins. -/
theorem cbldm_isPartition (v : α → Nat) (items : List α) (d : Option Nat) (cut : Option Nat) (b : Bins α)
    (h : cbldm v items d cut = some b) : IsPartition v items 2 b :=
  (cbldm_best v items d cut b h).1

/-- **Cardinality bound** (C11/C12): the result obeys `partition_difference`, also when interrupted. -/
theorem cbldm_card (v : α → Nat) (items : List α) (d : Option Nat) (cut : Option Nat) (b : Bins α)
    (h : cbldm v items d cut = some b) :
    match d with | none => True | some dd => lenDiff b ≤ dd := by
  cases d with
  | none => trivial
  | some dd => exact (cbldm_best v items (some dd) cut b h).2

end Prtpy.CBLDMProofs

/-! ## The state along a run: `sum_delta` is the incumbent's sum difference and only decreases

  One invariant and one monotonicity theorem for every clock; optimality (CBLDMOpt) and the anytime
  behaviour (Anytime2) both rest on them.  `sdLE` is in `Prtpy.Anytime2` because the statement of
  `Anytime2.cbldm_cut_monotone_val` mentions `Anytime2.sdLE`; the invariant stated with it (`Coh`, `OptOK`,
  `cbPart_mono` and their lemmas) stands beside it. -/
namespace Prtpy.Anytime2
open Prtpy.CBLDMProofs
variable {α : Type}

/-- `a ≤ b` on sum differences, `none` = `+∞` -/
def sdLE (a b : Option Nat) : Prop := ∀ y, b = some y → ∃ x, a = some x ∧ x ≤ y

theorem sdLE_refl (a : Option Nat) : sdLE a a := fun y h => ⟨y, h, Nat.le_refl _⟩

theorem sdLE_trans {a b c : Option Nat} (h1 : sdLE a b) (h2 : sdLE b c) : sdLE a c := by
  intro z hz
  obtain ⟨y, hy, hyz⟩ := h2 z hz
  obtain ⟨x, hx, hxy⟩ := h1 y hy
  exact ⟨x, hx, Nat.le_trans hxy hyz⟩

/-- coherence of the state: `sum_delta` is the sum difference of the incumbent (`+∞` for the placeholder) -/
def Coh (st : CbState α) : Prop := st.sd = st.best.map sumDiff

/-- the optimality flag is raised only at `sum_delta = 0` -/
def OptOK (st : CbState α) : Prop := st.opt = true → st.sd = some 0

theorem Coh.best_of_sd {st : CbState α} (h : Coh st) {t : Nat} (ht : st.sd = some t) :
    ∃ b, st.best = some b ∧ sumDiff b = t := by
  unfold Coh at h
  rw [ht] at h
  cases hb : st.best with
  | none => rw [hb] at h; cases h
  | some b => rw [hb] at h; exact ⟨b, rfl, (Option.some.inj h).symm⟩

/-- what a leaf does: coherence and the flag are kept, `sd` does not grow, and a leaf within the cardinality
    bound leaves `sd` at most its own sum difference -/
theorem leaf_coh_mono (d : Nat) (st : CbState α) (p : Bins α) (h : Coh st) :
    Coh (cbLeaf d st p) ∧ sdLE (cbLeaf d st p).sd st.sd ∧ (OptOK st → OptOK (cbLeaf d st p)) ∧
      (lenDiff p ≤ d → sdLE (cbLeaf d st p).sd (some (sumDiff p))) := by
  unfold cbLeaf
  split
  · rename_i hc
    simp only [Bool.and_eq_true, decide_eq_true_eq] at hc
    refine ⟨rfl, ?_, fun _ ho => ?_, fun _ y hy => ⟨sumDiff p, rfl, Nat.le_of_eq (Option.some.inj hy)⟩⟩
    · intro y hy
      have h2 := hc.2
      rw [hy] at h2
      simp only [ltInf, decide_eq_true_eq] at h2
      exact ⟨sumDiff p, rfl, Nat.le_of_lt h2⟩
    · exact congrArg some (of_decide_eq_true ho)
  · rename_i hc
    refine ⟨h, sdLE_refl _, id, ?_⟩
    intro hl y hy
    cases Option.some.inj hy
    cases hsd : st.sd with
    | none => exact absurd (by simp only [hsd, ltInf, Bool.and_true, decide_eq_true_eq]; exact hl) hc
    | some t =>
      simp only [hsd, ltInf, Bool.and_eq_true, decide_eq_true_eq, not_and] at hc
      exact ⟨t, rfl, by have := hc hl; omega⟩

/-- `sd` only decreases along any run, with any cut, and stays the sum difference of the incumbent -/
theorem cbPart_mono (n d : Nat) (cut : Option Nat) :
    ∀ fuel (st : CbState α) subs, Coh st →
      Coh (cbPart n d cut fuel st subs) ∧ sdLE (cbPart n d cut fuel st subs).sd st.sd ∧
      (OptOK st → OptOK (cbPart n d cut fuel st subs)) := by
  refine cbPart_induct n d cut
    (fun _ st _ out => Coh st → Coh out ∧ sdLE out.sd st.sd ∧ (OptOK st → OptOK out)) ?_ ?_ ?_ ?_ ?_ ?_
  · intro st _ h; exact ⟨h, sdLE_refl _, id⟩
  · intro _ st _ _ h; exact ⟨h, sdLE_refl _, id⟩
  · intro _ st _ h; exact ⟨h, sdLE_refl _, id⟩
  · intro _ st p _ h
    obtain ⟨h1, h2, h3, _⟩ := leaf_coh_mono d (tickSt st) p h
    exact ⟨h1, h2, h3⟩
  · intro _ st _ _ _ _ h; exact ⟨h, sdLE_refl _, id⟩
  · intro _ st _ a b rest st1 st2 _ _ _ _ _ _ ih1 ih2 h
    obtain ⟨c1, m1, o1⟩ := ih1 h
    obtain ⟨c2, m2, o2⟩ := ih2 c1
    exact ⟨c2, sdLE_trans m2 m1, fun ho => o2 (o1 ho)⟩

end Prtpy.Anytime2
#print axioms Prtpy.CBLDMProofs.cbldm_isPartition
#print axioms Prtpy.CBLDMProofs.cbldm_card
