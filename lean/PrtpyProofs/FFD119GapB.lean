/-
  PrtpyProofs.FFD119GapB — property C09: facts about the normal forms with `2B/11 < a ≤ B/4` toward the open
  statement `∀ m, GapCount B m c` of `PrtpyProofs.FFD119Gap` (notation as there).
  `GapCount` follows from the two sub-ranges `5a ≤ B` and `B < 5a` (`gapCount_of_subranges`; the ratio `5/4` gives
  both for `m ≤ 100`), and from a weighting in units of `1/u` (`gapCount_of_weights`): bins of the run weigh `≥ 9u` up
  to a total deficit `D`, one-bin collections weigh `≤ 11u`; then `9·(k'+1) ≤ 11·m + c` if `D + 9u ≤ c·u`.
  The run's side: every item `x ≤ B` has a size class `t` (`size_class`; in the gap `t ∈ {1,…,5}`), a bin of class `1`
  is never irregular, at most four bins are irregular, the other bins hold `t` items above `B/(t+1)`.  Then the
  optimum's side, and what the greedy property says about two bins of a normal form.  The family `[57, 23]ⁿ, 21²ⁿ`
  (`B = 100`; `FFD = 6`, `OPT = 5` for `n = 4`, last bin opened by `21 ∈ (B/5, B/4]`) shows that a weighting that
  bounds every bin of the optimum separately cannot prove a ratio below `6/5`.
-/
import PrtpyProofs.FFD119Gap
open Prtpy

namespace Prtpy.FFD119GapB

open Prtpy.FFD119 Prtpy.FFD119Gap

/-! ## `GapCount` from sub-ranges, and from a weighting -/

/-- the counting statement on the lower sub-range `2B/11 < a ≤ B/5` -/
def GapCountLow (B m c : Nat) : Prop :=
  ∀ (a : Nat) (Ls : List (List Nat)), 2 * B < 11 * a → 5 * a ≤ B → NF B a Ls →
    Packable B m (Ls.flatten ++ [a]) → 9 * (Ls.length + 1) ≤ 11 * m + c

/-- the counting statement on the upper sub-range `B/5 < a ≤ B/4` -/
def GapCountHigh (B m c : Nat) : Prop :=
  ∀ (a : Nat) (Ls : List (List Nat)), B < 5 * a → 4 * a ≤ B → NF B a Ls →
    Packable B m (Ls.flatten ++ [a]) → 9 * (Ls.length + 1) ≤ 11 * m + c

theorem gapCount_of_subranges {B m c : Nat} (hlow : GapCountLow B m c) (hhigh : GapCountHigh B m c) :
    GapCount B m c := by
  intro a Ls h1 h2 hnf hpk
  by_cases h5 : B < 5 * a
  · exact hhigh a Ls h5 h2 hnf hpk
  · exact hlow a Ls h1 (by omega) hnf hpk

/-- lower sub-range, from the volume bound `5/4` -/
theorem gapCountLow_of_le_108 (B : Nat) {m : Nat} (hm : m ≤ 108) : GapCountLow B m 36 := by
  intro a Ls _ h5 hnf hpk
  have := five_fourths_arith (nf_volume hnf (by omega) hpk) h5
  omega

/-- upper sub-range, from `FFD119.count_fifth_quarter` -/
theorem gapCountHigh_of_le_100 (B : Nat) {m : Nat} (hm : m ≤ 100) : GapCountHigh B m 36 := by
  intro a Ls h5 h4 hnf hpk
  have := count_fifth_quarter hnf h5 h4 hpk
  omega

/-- `GapCount` from a weighting, in units of `1/u`: a rule `wts`, the weight `wa` for `a`, deficits `defc`;
    every bin of the run weighs at least `9u − defc`, every duplicate-free collection of decorated items that fits
    into one bin weighs at most `11u`.  Then `9u·k' ≤ 11u·m + Σ defc`, which is `9·(k' + 1) ≤ 11·m + c` as soon as
    `Σ defc + 9u ≤ c·u`. -/
theorem gapCount_of_weights {B a m u wa c : Nat} {Ls : List (List Nat)} (hu : 0 < u) (wts : List Nat → List Nat)
    (defc : List Nat → Nat) (hrun : ∀ L ∈ Ls, 9 * u ≤ binWt wts L + defc L)
    (hdef : sumL (Ls.map defc) + 9 * u ≤ c * u)
    (hopt : ∀ T : List DItem, T.Nodup → (∀ e ∈ T, e ∈ decoNF wts a wa Ls) → binSum DItem.val T ≤ B →
      binSum DItem.wt T ≤ 11 * u)
    (hm : Packable B m (Ls.flatten ++ [a])) : 9 * (Ls.length + 1) ≤ 11 * m + c := by
  have h := count_of_weights (lo := 9 * u) (hi := 11 * u) (wa := wa) wts defc hrun
    (fun T hnd _ hT hs => hopt T hnd hT hs) hm
  have e0 : binSum defc Ls = sumL (Ls.map defc) := rfl
  have e1 : u * (9 * (Ls.length + 1)) = 9 * u * Ls.length + 9 * u := by
    rw [← Nat.mul_assoc, Nat.mul_comm u 9, Nat.mul_add, Nat.mul_one]
  have e2 : u * (11 * m + c) = 11 * u * m + c * u := by
    rw [Nat.mul_add, ← Nat.mul_assoc, Nat.mul_comm u 11, Nat.mul_comm u c]
  apply Nat.le_of_mul_le_mul_left _ hu
  omega

/-! ## The run's side: size classes of the bins, at most four irregular bins -/

/-- an item `x ≤ B` with `B < (n+1)·x` has a size class `t ∈ {1, …, n}`: `B/(t+1) < x ≤ B/t` -/
theorem size_class {B x n : Nat} (hx : 0 < x) (hxB : x ≤ B) (hn : B < (n + 1) * x) :
    ∃ t, 1 ≤ t ∧ t ≤ n ∧ B < (t + 1) * x ∧ t * x ≤ B := by
  have h1 : B / x * x ≤ B := Nat.div_mul_le_self B x
  have h2 : B < (B / x + 1) * x := by
    rw [Nat.mul_comm]; exact Nat.lt_mul_div_succ B hx
  refine ⟨B / x, Nat.div_pos hxB hx, ?_, h2, h1⟩
  exact Nat.le_of_lt_succ (Nat.lt_of_mul_lt_mul_right (Nat.lt_of_le_of_lt h1 hn))

/-- a bin whose first item exceeds `B/2` is never irregular -/
theorem irr_one (B : Nat) (L : List Nat) : irr B 1 L = false := by
  match L with
  | [] => rfl
  | x :: r =>
    by_cases h : B < 2 * x
    · have hb : big B 1 x = true := by simpa [big] using h
      have : 1 ≤ (x :: r).countP (big B 1) := by
        rw [List.countP_cons_of_pos hb]; omega
      simp only [irr, Bool.and_eq_false_imp, Bool.and_eq_true, decide_eq_true_eq, decide_eq_false_iff_not]
      intro _
      omega
    · simp only [irr, Bool.and_eq_false_imp, Bool.and_eq_true, decide_eq_true_eq, decide_eq_false_iff_not]
      intro h'
      omega

/-- irregular of one of the classes `2, 3, 4, 5` -/
def irrAny (B : Nat) (L : List Nat) : Bool := irr B 2 L || irr B 3 L || irr B 4 L || irr B 5 L

/-- at most four bins of a normal form are irregular (one per class `2, …, 5`) -/
theorem nf_irregular_le_four {B a : Nat} {Ls : List (List Nat)} (hnf : NF B a Ls) :
    Ls.countP (irrAny B) ≤ 4 := by
  have h2 := nf_irr_count (t := 2) hnf
  have h3 := nf_irr_count (t := 3) hnf
  have h4 := nf_irr_count (t := 4) hnf
  have h5 := nf_irr_count (t := 5) hnf
  have e1 := Part.countP_or_le (fun L => irr B 2 L || irr B 3 L || irr B 4 L) (irr B 5) Ls
  have e2 := Part.countP_or_le (fun L => irr B 2 L || irr B 3 L) (irr B 4) Ls
  have e3 := Part.countP_or_le (irr B 2) (irr B 3) Ls
  have : Ls.countP (irrAny B) = Ls.countP (fun L => (irr B 2 L || irr B 3 L || irr B 4 L) || irr B 5 L) := rfl
  omega

/-- a bin of a normal form with `a > B/(n+1)` that is not irregular of any class `2, …, n`: its first item has a
    class `t ≤ n` and the bin holds at least `t` items above `B/(t+1)` -/
theorem regular_bin_of {B a n : Nat} {Ls : List (List Nat)} (hnf : NF B a Ls) (hn : B < (n + 1) * a)
    (haB : a ≤ B) {L : List Nat} (hL : L ∈ Ls) (hreg : ∀ t, 2 ≤ t → t ≤ n → irr B t L = false) :
    ∃ x r t, L = x :: r ∧ 1 ≤ t ∧ t ≤ n ∧ B < (t + 1) * x ∧ t * x ≤ B ∧ t ≤ L.countP (big B t) := by
  match L, nf_bin_ne_nil hnf haB hL, hL, hreg with
  | x :: r, _, hL, hreg =>
    have hx := hnf.ge _ hL x (by simp)
    have hle := hnf.le _ hL
    simp only [sumL] at hle
    have ha : 0 < a := Nat.pos_of_ne_zero (fun h => by rw [h] at hn; simp at hn)
    obtain ⟨t, t1, tn, c1, c2⟩ := size_class (x := x) (n := n) (by omega) (by omega)
      (Nat.lt_of_lt_of_le hn (Nat.mul_le_mul_left _ hx))
    have hirr : irr B t (x :: r) = false := by
      rcases Nat.lt_or_ge t 2 with h | h
      · have h1 : t = 1 := by omega
        rw [h1]
        exact irr_one B _
      · exact hreg t h tn
    exact ⟨x, r, t, rfl, t1, tn, c1, c2, regular_of_not_irr c1 c2 hirr⟩

/-- `regular_bin_of` in the gap (`n = 5`) -/
theorem regular_bin {B a : Nat} {Ls : List (List Nat)} (hnf : NF B a Ls) (hgap : 2 * B < 11 * a) (haB : a ≤ B)
    {L : List Nat} (hL : L ∈ Ls) (hreg : irrAny B L = false) :
    ∃ x r t, L = x :: r ∧ 1 ≤ t ∧ t ≤ 5 ∧ B < (t + 1) * x ∧ t * x ≤ B ∧ t ≤ L.countP (big B t) := by
  refine regular_bin_of hnf (by omega) haB hL (fun t h2 h5 => ?_)
  simp only [irrAny, Bool.or_eq_false_iff] at hreg
  have ht : t = 2 ∨ t = 3 ∨ t = 4 ∨ t = 5 := by omega
  rcases ht with rfl | rfl | rfl | rfl
  · exact hreg.1.1.1
  · exact hreg.1.1.2
  · exact hreg.1.2
  · exact hreg.2

/-- if only the irregular bins have a deficit (`d` each), the total deficit is at most `4·d` -/
theorem run_side_deficit {B a : Nat} {Ls : List (List Nat)} (hnf : NF B a Ls) (d : Nat) :
    sumL (Ls.map fun L => if irrAny B L then d else 0) ≤ 4 * d :=
  Part.binSum_ite_le (irrAny B) d (nf_irregular_le_four hnf)

/-! ## The optimum's side: elementary facts about a group that fits into one bin -/

/-- an item that does not fit together with `a` is alone in every group of items `≥ a` that fits into one bin -/
theorem single_alone {B a x : Nat} {T : List Nat} (hx : B < x + a) (hge : ∀ y ∈ T, a ≤ y)
    (hfit : sumL (x :: T) ≤ B) : T = [] := by
  match T, hge, hfit with
  | [], _, _ => rfl
  | y :: T', hge, hfit =>
    have := hge y (by simp)
    simp only [sumL] at hfit
    omega

theorem two_big_apart {B x y : Nat} {T : List Nat} (hx : B < 2 * x) (hy : B < 2 * y) :
    ¬ sumL (x :: y :: T) ≤ B := by
  simp only [sumL]
  omega

theorem five_group_small {B a : Nat} {T : List Nat} (hge : ∀ y ∈ T, a ≤ y) (hfit : sumL T ≤ B)
    (h5 : 5 ≤ T.length) : ∀ y ∈ T, y + 4 * a ≤ B := by
  intro y hy
  obtain ⟨l1, l2, rfl⟩ := List.append_of_mem hy
  have h1 := Part.length_mul_le a l1 (fun z hz => hge z (by simp [hz]))
  have h2 := Part.length_mul_le a l2 (fun z hz => hge z (by simp [hz]))
  rw [Part.sumL_append] at hfit
  simp only [sumL, List.length_append, List.length_cons] at hfit h5
  have h3 : 4 * a ≤ (l1.length + l2.length) * a := Nat.mul_le_mul_right a (by omega)
  rw [Nat.add_mul] at h3
  omega

/-! ## The greedy property on the normal form, pairwise

What distinguishes the run from an arbitrary packing with bins filled above `B − a`: the item `z` that opened a later
bin did not fit into an earlier bin, so the part of the earlier bin that arrived before `z` is "closed" for `z`.
(A weighting that ignores this cannot beat the volume bound `B/(B − a)`, which is `5/4` at `a = B/5`: a bin `[x, a]`
with `x ≈ 0.6·B` would meet the group `{x, B − x}` of the optimum; `nf_partner_ge` excludes it when `B − x` opened a
bin.) -/

/-- for an earlier bin `L = p ++ q` and a later bin opened by `z`: if `z` fits on top of `p`, then `q` starts with an
    item `≥ z` -/
theorem nf_next_ge {B a : Nat} {Ls : List (List Nat)} (hnf : NF B a Ls) :
    Ls.Pairwise (fun L L' => ∀ z r' p q, L' = z :: r' → L = p ++ q → sumL p + z ≤ B →
      ∃ y q', q = y :: q' ∧ z ≤ y) :=
  hnf.rel.imp (fun hr z r' p q h1 h2 hfit => by
    subst h1
    exact vrel_next_ge hr h2 hfit)

/-- the partner of a first item: if `z` opened a later bin and `x + z ≤ B`, the bin `x :: r` has a second item `≥ z` -/
theorem nf_partner_ge {B a : Nat} {Ls : List (List Nat)} (hnf : NF B a Ls) :
    Ls.Pairwise (fun L L' => ∀ x r z r', L = x :: r → L' = z :: r' → x + z ≤ B →
      ∃ y r₂, r = y :: r₂ ∧ z ≤ y) :=
  hnf.rel.imp (fun hr x r z r' h1 h2 hfit => by
    subst h1; subst h2
    exact vrel_second_ge hr hfit)

/-- a bin with a single item `x` of a normal form: every later bin was opened by an item that does not fit with `x` -/
theorem nf_single_later {B a : Nat} {Ls : List (List Nat)} (hnf : NF B a Ls) :
    Ls.Pairwise (fun L L' => ∀ x z r', L = [x] → L' = z :: r' → B < x + z) :=
  (nf_partner_ge hnf).imp (fun h x z r' h1 h2 => by
    apply Nat.lt_of_not_le
    intro hle
    obtain ⟨y, r₂, h3, _⟩ := h x [] z r' h1 h2 hle
    cases h3)

/-! ## A lower bound above `B/5`: the ratio `6/5`

`B = 100`, `n` bins `[57, 23]` (`57 + 23 + 21 > 100`), then the items `21` four to a bin; the optimum packs
`{57, 21, 21}` and `{23, 23, 23, 23}`.  With `n = 4`: `FFD = 6`, `OPT = 5`.  For a weighting that bounds every bin
of the optimum separately this family forces the ratio `≥ 6/5` on `B/5 < a ≤ B/4`:
`w(57) + w(23) ≥ 1`, `4·w(21) ≥ 1`, `w(57) + 2·w(21) ≤ ρ`, `4·w(23) ≤ ρ` give `ρ ≥ 6/5` (which is below `11/9`). -/

def ex65 : List Nat := [57, 57, 57, 57, 23, 23, 23, 23, 21, 21, 21, 21, 21, 21, 21, 21]

theorem ex65_ffd : ffDecreasing id 100 ex65 =
    .ok ⟨[80, 80, 80, 80, 84, 84],
      [[57, 23], [57, 23], [57, 23], [57, 23], [21, 21, 21, 21], [21, 21, 21, 21]]⟩ := rfl

theorem ex65_packable : Packable 100 5 (ex65.map id) :=
  ⟨[0, 1, 2, 3, 4, 4, 4, 4, 0, 0, 1, 1, 2, 2, 3, 3], ⟨rfl, by decide⟩, by decide⟩

/-! ## Examples -/

/-- the counting statement for `m = 3`, assembled from the two sub-ranges -/
example : GapCount 100 3 36 :=
  gapCount_of_subranges (gapCountLow_of_le_108 100 (by decide)) (gapCountHigh_of_le_100 100 (by decide))

example : 9 * (2 + 1) ≤ 11 * 3 + 36 :=
  gapCountHigh_of_le_100 100 (by decide) 23 _ (by decide) (by decide) ex_nf ex_nf_packable

theorem wt_le_val : ∀ T : List DItem, (∀ e ∈ T, e.wt ≤ e.val) → binSum DItem.wt T ≤ binSum DItem.val T :=
  fun _ h => Part.binSum_le_binSum h

/-- `gapCount_of_weights` on the normal form `[[51, 27], [26, 23, 23, 23]]`, `a = 23`, with the rule `wts2` of
    `FFD119` and `u = 10` (the bins weigh `72` and `78`, at least `90 − 18`; every item weighs less than its value,
    so a collection that fits weighs at most `100 ≤ 110`) -/
example : 9 * (2 + 1) ≤ 11 * 3 + 13 := by
  have hD : decoNF (wts2 100 23) 23 18 [[51, 27], [26, 23, 23, 23]] =
      [⟨51, 48, 0, 0⟩, ⟨27, 24, 0, 1⟩, ⟨26, 24, 1, 0⟩, ⟨23, 18, 1, 1⟩, ⟨23, 18, 1, 2⟩, ⟨23, 18, 1, 3⟩,
        ⟨23, 18, 2, 0⟩] := by decide
  refine gapCount_of_weights (B := 100) (a := 23) (m := 3) (u := 10) (wa := 18) (c := 13)
    (Ls := [[51, 27], [26, 23, 23, 23]]) (by decide) (wts2 100 23) (fun _ => 18) ?_ (by decide) ?_ ex_nf_packable
  · intro L hL
    simp only [List.mem_cons, List.not_mem_nil, or_false] at hL
    rcases hL with rfl | rfl <;> decide
  · intro T _ hTD hTs
    have hw : ∀ e ∈ T, e.wt ≤ e.val := by
      intro e he
      have := hTD e he
      rw [hD] at this
      simp only [List.mem_cons, List.not_mem_nil, or_false] at this
      rcases this with rfl | rfl | rfl | rfl | rfl | rfl | rfl <;> decide
    have := wt_le_val T hw
    omega

example : ∃ t, 1 ≤ t ∧ t ≤ 5 ∧ 100 < (t + 1) * 26 ∧ t * 26 ≤ 100 :=
  size_class (by decide) (by decide) (by decide)

example : [[51, 27], [26, 23, 23, 23]].countP (irrAny 100) ≤ 4 := nf_irregular_le_four ex_nf

/-- the first bin is regular (class `1`), the second one is irregular of class `3` -/
example : irrAny 100 [51, 27] = false := by decide
example : irrAny 100 [26, 23, 23, 23] = true := by decide

example : ∃ x r t, [51, 27] = x :: r ∧ 1 ≤ t ∧ t ≤ 5 ∧ 100 < (t + 1) * x ∧ t * x ≤ 100 ∧
    t ≤ [51, 27].countP (big 100 t) :=
  regular_bin ex_nf (by decide) (by decide) (by simp) (by decide)

example : sumL ([[51, 27], [26, 23, 23, 23]].map fun L => if irrAny 100 L then 18 else 0) ≤ 4 * 18 :=
  run_side_deficit ex_nf 18

example : ([] : List Nat) = [] := single_alone (B := 100) (a := 23) (x := 80) (by decide) (by simp) (by decide)
example : ¬ sumL (51 :: 52 :: []) ≤ 100 := two_big_apart (by decide) (by decide)
example : ∀ y ∈ [20, 20, 20, 20, 20], y + 4 * 19 ≤ 100 :=
  five_group_small (a := 19) (by decide) (by decide) (by decide)

example : [[51, 27], [26, 23, 23, 23]].Pairwise (fun L L' => ∀ x r z r', L = x :: r → L' = z :: r' → x + z ≤ 100 →
    ∃ y r₂, r = y :: r₂ ∧ z ≤ y) := nf_partner_ge ex_nf

/-- the family `ex65`: `6` bins against `5`, last bin opened by `21 ∈ (20, 25]`; the bound `5/4` of `FFD119` and the
    reduction of `FFD119Gap` (with `m = 5 ≤ 100`) apply -/
example : 9 * 6 ≤ 11 * 5 + 36 :=
  ffd_eleven_ninths_partial_opt_le_100 (by decide) ex65_ffd ex65_packable (by decide)

end Prtpy.FFD119GapB
