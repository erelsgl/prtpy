/-
  PrtpyProofs.KK43 — the worst-case ratio of the Karmarkar–Karp largest differencing method (`kk`):

      largest sum of KK  ≤  (4/3 − 1/(3k)) · optimal largest sum        (`kk_four_thirds`)

  (upper bound of Michiels, Korst, Aarts, van Leeuwen, J. Comb. Optim. 2007; for `k = 2` the 7/6 bound of
  Fischetti and Martello 1987: `kk_two_seven_sixths`).  Together with `LPT43.greedy_four_thirds` this is
  property C08 for `greedy` and `kk`.

  The argument does not follow the paper.
  Let `T` be a feasible capacity (e.g. the optimum), `D` the final spread (largest − smallest sum), `C` the
  final largest sum.
  * (i)  `kk_critical`: `k·C ≤ total + (k−1)·x` for every `x ≥ D` (averaging); `kk_critical_item` picks for
         `x` the least item value that is at least `D` (the *critical item*).
  * (ii) if `3·D ≤ T` the bound follows as for LPT (`LPT43.four_thirds_of_small`, in `kk_bound_of_packable`).
  * (iii) `kk_large_dichotomy`: `3·D ≤ T` or `C ≤ T`.  Call an item *large* if it exceeds `T/3`, *small*
         otherwise.  The heap invariant `Psi` distinguishes four situations:
         - `AllSmall`: every difference on the heap is at most `T/3` (absorbing; ends with `3·D ≤ T`);
         - phase A (`PhaseA`): no small single has been popped yet.  All compound tuples consist of large items,
           have sums `≤ T`, a tuple with an empty bin has at most one item per bin, and any two tuples are
           related by `Rel`: compound tuples dominate singles, a full tuple dominates a partial one, two full
           tuples are comparable, two partial compound tuples consist of items of a single value.  These
           relations are maintained because the two popped entries have the largest differences and the
           difference of a partial tuple is its largest item (`pure_rel`); they make the counting argument of
           LPT (`LPT43.large_fits`) applicable to the position-wise union (`combine_fits_of_dom`, `pure_fits`).
         - phase B (`PhaseB`): the second popped entry was a small single.  From then on at most one entry (the
           *lineage*) has a difference above `T/3`; it is popped every time and absorbs the other entries in
           turn: small singles and (at most one, by counting) full tuple `Z` of large items with spread
           `≤ T/3`.  Small singles never raise the largest sum.  The sums of the lineage are related by `SameAbove`
           to the tuple `g` it was at the end of phase A (above `min + T/3` the two sum vectors agree), and
           `combine_max_of_sameAbove` shows that the largest sum of `lineage ⊕ Z` is a sum of `g ⊕ Z`, which is `≤ T` by the
           phase-A argument — unless the spread drops to `≤ T/3` (`AllSmall`).
         - phase C (`PhaseC`): only small singles are left; the largest sum stays `≤ T`.
  * (iv) `kk_four_thirds`: `3·D ≤ T` gives the bound by (ii); `C ≤ T` gives it trivially.  (`k = 1`: `D = 0`.)
  In particular `kk_optimal_of_large_spread`: if the final spread exceeds a third of the optimum, KK is optimal.

  The proof works with the values of the items (`kk id k vals`, transferred by `Natural.kk_natural`) and uses
  of the heap discipline only that the popped entry has a largest difference (`Part.hpop_max`); ties are harmless.
  The loop is entered through `Part.kk_induction`: an invariant `Φ` of the pushes of the single items, an invariant `Ψ`
  (here `Psi`) of the heap that each differencing step keeps (`Part.KKStepKeeps Ψ`, proved in `psi_kkStep`); the entries are
  described by `CKKValid.EOK` (Part.lean), of which `KK43.WF` is the part about the tuple.
  The vocabulary of tuples (`WF`, `items`, `Fits`, `Full`, `Le1`, `Compound`, `AllLarge`, `gapOf`), phase A (`PhaseA`) with its
  relations (`Rel`, `Dom`, `SameAbove`) and the lemmas on `kkCombine` are in KK43Aux.lean (same namespace); this file has the
  phases B and C, the step, and the theorems.
-/
import Mathlib.Tactic.Linarith
import PrtpyProofs.Fit
import PrtpyProofs.Oracle
import PrtpyProofs.Part
import PrtpyProofs.Feasible
import PrtpyProofs.KK43Aux
import PrtpyProofs.LPT43
import PrtpyProofs.Natural
open Prtpy

namespace Prtpy.KK43

/-! ## The invariant of the differencing process -/

/-- every tuple is well formed, and the key of its entry is its spread -/
def Base (k : Nat) (H : Heap Nat) : Prop := ∀ e ∈ H, WF k e.bins ∧ e.diff = gapOf e.bins

/-- `Base` is what the entries' part of the heap invariant of `kk` (`CKKValid.EOK`, Part.lean) says of a heap without
    empty tuples -/
theorem base_of_eok {k : Nat} {H : Heap Nat} (h : ∀ e ∈ H, CKKValid.EOK id k e ∧ items e.bins ≠ []) : Base k H := by
  intro e he
  obtain ⟨⟨h1, h2, h3, h4⟩, hne⟩ := h e he
  refine ⟨⟨h1, (consistent_iff _).1 h2, h3, hne⟩, ?_⟩
  unfold gapOf
  rw [h4, Obj.lastD_eq_maxL h3, Obj.headD_eq_minL h3]

def tuples (H : Heap Nat) : List (Bins Nat) := H.map (·.bins)

/-- every difference is at most `T / 3` (absorbing) -/
def AllSmall (T : Nat) (H : Heap Nat) : Prop := ∀ e ∈ H, 3 * e.diff ≤ T

/-- phase B: one entry `e` (the lineage) has a difference above `T / 3`; it has absorbed small singles only
    and is related by `SameAbove` to the tuple `g` of large items it was when the first small single was popped;
    the other entries are full tuples of large items (`Zs`) and small singles (`tin`), all of difference at
    most `T / 3`. -/
def PhaseB (k T : Nat) (H : Heap Nat) : Prop :=
  ∃ e g Zs tin, H.Perm (e :: (Zs ++ tin)) ∧ T < 3 * e.diff ∧ SameAbove (T / 3) g.sums e.bins.sums ∧
    PhaseA k T (g :: tuples Zs) ∧ AllLarge T g ∧ (∀ z ∈ Zs, 3 * z.diff ≤ T ∧ Compound z.bins) ∧
    (∀ t ∈ tin, 3 * t.diff ≤ T ∧ ¬ Compound t.bins)

/-- phase C: the lineage has absorbed all tuples of large items, stays within `T`; only small singles are
    left -/
def PhaseC (T : Nat) (H : Heap Nat) : Prop :=
  ∃ e tin, H.Perm (e :: tin) ∧ T < 3 * e.diff ∧ Fits T e.bins ∧ ∀ t ∈ tin, 3 * t.diff ≤ T ∧ ¬ Compound t.bins

/-- the four situations -/
def Phase (k T : Nat) (H : Heap Nat) : Prop := AllSmall T H ∨ PhaseA k T (tuples H) ∨ PhaseB k T H ∨ PhaseC T H

/-- of `CKKValid.HInv` only the entries' part: after the initial phase what is needed of the items is in `PhaseA` -/
def Psi (k T : Nat) (H : Heap Nat) : Prop :=
  (∀ e ∈ H, CKKValid.EOK id k e ∧ items e.bins ≠ []) ∧ Phase k T H

theorem phase_perm {k T : Nat} {H H' : Heap Nat} (hp : H.Perm H') (h : Phase k T H) : Phase k T H' := by
  rcases h with h | h | h | h
  · exact Or.inl fun e he => h e (hp.mem_iff.2 he)
  · exact Or.inr (Or.inl (phaseA_perm (hp.map _) h))
  · obtain ⟨e, g, Zs, tin, h1, h2⟩ := h
    exact Or.inr (Or.inr (Or.inl ⟨e, g, Zs, tin, hp.symm.trans h1, h2⟩))
  · obtain ⟨e, tin, h1, h2⟩ := h
    exact Or.inr (Or.inr (Or.inr ⟨e, tin, hp.symm.trans h1, h2⟩))

theorem psi_perm {k T : Nat} {H H' : Heap Nat} (hp : H.Perm H') (h : Psi k T H) : Psi k T H' :=
  ⟨fun e he => h.1 e (hp.mem_iff.2 he), phase_perm hp h.2⟩

/-- the popped entry of a heap with exactly one large difference -/
theorem pop_lineage {T : Nat} {H1 rest : Heap Nat} {e e1 : HEntry Nat} (hp : (e1 :: H1).Perm (e :: rest))
    (he : T < 3 * e.diff) (hr : ∀ r ∈ rest, 3 * r.diff ≤ T) (hm1 : ∀ x ∈ H1, x.diff ≤ e1.diff) :
    e1 = e ∧ H1.Perm rest := by
  have h1 : e.diff ≤ e1.diff := by
    rcases List.mem_cons.1 (hp.mem_iff.2 List.mem_cons_self) with h | h
    · rw [h]
    · exact hm1 e h
  have h3 : e1 = e := by
    rcases List.mem_cons.1 (hp.mem_iff.1 List.mem_cons_self) with h | h
    · exact h
    · have := hr e1 h; omega
  subst h3
  exact ⟨rfl, hp.cons_inv⟩

theorem single_facts {k : Nat} (hk : 2 ≤ k) {b : Bins Nat} (h : WF k b) (hc : ¬ Compound b) :
    ∃ x, items b = [x] ∧ gapOf b = x ∧ Le1 b := by
  obtain ⟨x, hx⟩ := single_items h hc
  have hl : Le1 b := by
    intro l hl
    have := (List.sublist_flatten_of_mem hl).length_le
    unfold items at hx
    rw [hx] at this
    simpa using this
  exact ⟨x, hx, gapOf_single h hl (single_nonfull hk h hc) hx, hl⟩

section Step
variable {k T : Nat} {H2 : Heap Nat} {e1 e2 en : HEntry Nat}

/-- the entry pushed after combining `e1` and `e2` -/
def IsNew (e1 e2 en : HEntry Nat) : Prop :=
  en.bins = (kkCombine e1.bins e2.bins).sortAsc ∧ en.diff = gapOf (kkCombine e1.bins e2.bins).sortAsc

/-! One iteration on a heap `e1 :: e2 :: H2` whose first two entries are the popped ones (the invariant does
    not depend on the order of the heap, `psi_perm`). -/

theorem step_small (hb : Base k (e1 :: e2 :: H2)) (hs : AllSmall T (e1 :: e2 :: H2)) (hn : IsNew e1 e2 en) :
    AllSmall T (en :: H2) := by
  obtain ⟨s1, hs⟩ := List.forall_mem_cons.1 hs
  obtain ⟨s2, hs⟩ := List.forall_mem_cons.1 hs
  obtain ⟨b1, hb⟩ := List.forall_mem_cons.1 hb
  obtain ⟨b2, -⟩ := List.forall_mem_cons.1 hb
  have h3 : ∀ x, x ≤ T / 3 ↔ 3 * x ≤ T := fun x => by rw [Nat.le_div_iff_mul_le (by decide), Nat.mul_comm]
  -- the new key is the spread of the combination, small if both popped keys are (`comb_gap`)
  refine List.forall_mem_cons.2 ⟨?_, hs⟩
  rw [hn.2, ← h3]
  exact comb_gap b1.1 b2.1 (by rw [← b1.2, h3]; exact s1) (by rw [← b2.2, h3]; exact s2)

theorem step_C (hk : 2 ≤ k) (hb : Base k (e1 :: e2 :: H2)) (hc : PhaseC T (e1 :: e2 :: H2))
    (hm1 : ∀ x ∈ e2 :: H2, x.diff ≤ e1.diff) (hn : IsNew e1 e2 en) :
    AllSmall T (en :: H2) ∨ PhaseC T (en :: H2) := by
  obtain ⟨e, tin, q1, q2, q3, q4⟩ := hc
  obtain ⟨rfl, q5⟩ := pop_lineage q1 q2 (fun r hr => (q4 r hr).1) hm1
  obtain ⟨b1, hb⟩ := List.forall_mem_cons.1 hb
  obtain ⟨b2, -⟩ := List.forall_mem_cons.1 hb
  have hH2 : ∀ x ∈ H2, 3 * x.diff ≤ T ∧ ¬ Compound x.bins := fun x hx =>
    q4 x (q5.mem_iff.1 (List.mem_cons_of_mem _ hx))
  obtain ⟨x, hx, gx, _⟩ := single_facts hk b2.1 (q4 e2 (q5.mem_iff.1 List.mem_cons_self)).2
  have hfit : Fits T en.bins := by
    rw [hn.1]
    refine fits_push b1.1 b2.1 (fits_absorb_single b1.1 b2.1 hx ?_ q3)
    rw [← gx, ← b2.2, ← b1.2]
    exact hm1 e2 List.mem_cons_self
  by_cases hen : 3 * en.diff ≤ T
  · exact Or.inl (List.forall_mem_cons.2 ⟨hen, fun y hy => (hH2 y hy).1⟩)
  · exact Or.inr ⟨en, H2, List.Perm.refl _, by omega, hfit, hH2⟩

theorem step_B (hk : 2 ≤ k) (hb : Base k (e1 :: e2 :: H2)) (hB : PhaseB k T (e1 :: e2 :: H2))
    (hm1 : ∀ x ∈ e2 :: H2, x.diff ≤ e1.diff) (hn : IsNew e1 e2 en) :
    AllSmall T (en :: H2) ∨ PhaseB k T (en :: H2) ∨ PhaseC T (en :: H2) := by
  obtain ⟨e, g, Zs, tin, q1, q2, q3, q4, q5, q6, q7⟩ := hB
  have hrest : ∀ r ∈ Zs ++ tin, 3 * r.diff ≤ T := fun r hr =>
    (List.mem_append.1 hr).elim (fun h => (q6 r h).1) (fun h => (q7 r h).1)
  obtain ⟨rfl, p5⟩ := pop_lineage q1 q2 hrest hm1
  obtain ⟨b1, hb⟩ := List.forall_mem_cons.1 hb
  obtain ⟨b2, -⟩ := List.forall_mem_cons.1 hb
  by_cases hen : 3 * en.diff ≤ T
  · exact Or.inl (List.forall_mem_cons.2 ⟨hen, fun y hy => hrest y (p5.mem_iff.1 (List.mem_cons_of_mem _ hy))⟩)
  · right
    have hen' : T < 3 * en.diff := by omega
    rcases List.mem_append.1 (p5.mem_iff.1 List.mem_cons_self) with hz | ht
    · -- a full tuple of large items is absorbed
      right
      obtain ⟨z1, z2, rfl⟩ := List.append_of_mem hz
      have hperm : (tuples (z1 ++ e2 :: z2)).Perm (e2.bins :: tuples (z1 ++ z2)) := by
        unfold tuples
        simp only [List.map_append, List.map_cons]
        exact List.perm_middle
      have hA3 : PhaseA k T (g :: e2.bins :: tuples (z1 ++ z2)) := phaseA_perm (List.Perm.cons g hperm) q4
      have ⟨a1, a2, a3⟩ := hA3
      have hg := (a1 g List.mem_cons_self).1
      have hbT := a1 e2.bins (List.mem_cons_of_mem _ List.mem_cons_self)
      have hLb := hbT.2 (q6 e2 hz).2
      rw [List.pairwise_cons] at a2
      simp only [List.flatMap_cons] at a3
      have hfullb : Full e2.bins := full_of_small_gap hbT.1 hLb (by rw [← b2.2]; exact (q6 e2 hz).1)
      have hpure : Fits T (kkCombine g e2.bins) :=
        pure_fits hk hg hbT.1 q5 hLb (a2.1 e2.bins List.mem_cons_self) (rest := (tuples (z1 ++ z2)).flatMap items)
          (by rw [List.append_assoc]; exact a3)
      have hfit : Fits T en.bins := by
        rw [hn.1]
        refine fits_push b1.1 b2.1 (fits_combine_of_sameAbove (σ := T / 3) hg.wf b1.1 b2.1 q3 ?_ ?_ hpure)
        · rw [← b2.2]; have := (q6 e2 hz).1; omega
        · rw [← hn.2]; omega
      -- no other tuple of large items can be left (`phaseA_two_full`)
      have hz12 : z1 ++ z2 = [] := by
        refine List.eq_nil_iff_forall_not_mem.2 fun z' hz' => ?_
        have hzZ : z' ∈ z1 ++ e2 :: z2 := Part.mem_append_cons_of_mem hz'
        have hz'T := a1 z'.bins (List.mem_cons_of_mem _ (List.mem_cons_of_mem _ (List.mem_map_of_mem hz')))
        have hLz := hz'T.2 (q6 z' hzZ).2
        have hfullz : Full z'.bins := full_of_small_gap hz'T.1 hLz (by
          rw [← (hb z' (p5.mem_iff.2 (List.mem_append_left _ hzZ))).2]; exact (q6 z' hzZ).1)
        exact phaseA_two_full (g := g) (b := e2.bins) (z := z'.bins)
          (phaseA_sublist (((List.singleton_sublist.2 (List.mem_map_of_mem hz')).cons_cons _).cons_cons _) hA3)
          q5 hLb hfullb hLz hfullz
      have hH2tin : H2.Perm tin := by
        have h1 : (e2 :: H2).Perm (e2 :: ((z1 ++ z2) ++ tin)) := by
          refine p5.trans ?_
          rw [List.append_assoc, List.append_assoc]
          exact List.perm_middle
        have := h1.cons_inv
        rwa [hz12, List.nil_append] at this
      exact ⟨en, H2, List.Perm.refl _, hen', hfit, fun t ht => q7 t (hH2tin.mem_iff.1 ht)⟩
    · -- a small single is absorbed
      left
      obtain ⟨t1, t2, rfl⟩ := List.append_of_mem ht
      obtain ⟨x, hx, gx, _⟩ := single_facts hk b2.1 (q7 e2 ht).2
      have hxs : x ≤ T / 3 := by
        have := (q7 e2 ht).1
        rw [b2.2, gx] at this
        omega
      have hH2' : H2.Perm (Zs ++ (t1 ++ t2)) := by
        have h1 : (e2 :: H2).Perm (e2 :: (Zs ++ (t1 ++ t2))) := by
          refine p5.trans ?_
          rw [← List.append_assoc, ← List.append_assoc]
          exact List.perm_middle
        exact h1.cons_inv
      refine ⟨en, g, Zs, t1 ++ t2, List.Perm.cons en hH2', hen', ?_, q4, q5, q6, ?_⟩
      · rw [hn.1]
        exact sameAbove_absorb_single b1.1 b2.1 hx hxs q3
      · intro t ht'
        apply q7
        rcases List.mem_append.1 ht' with h | h
        · exact List.mem_append_left _ h
        · exact List.mem_append_right _ (List.mem_cons_of_mem _ h)

theorem not_large_single {T x : Nat} {b : Bins Nat} (hx : items b = [x]) (h : ¬ AllLarge T b) : 3 * x ≤ T := by
  apply Nat.le_of_not_lt
  intro hlt
  apply h
  intro y hy
  rw [hx] at hy
  rw [List.mem_singleton.1 hy]; exact hlt

theorem step_A (hk : 2 ≤ k) (hb : Base k (e1 :: e2 :: H2)) (hA : PhaseA k T (tuples (e1 :: e2 :: H2)))
    (hm1 : ∀ x ∈ e2 :: H2, x.diff ≤ e1.diff) (hm2 : ∀ x ∈ H2, x.diff ≤ e2.diff) (hn : IsNew e1 e2 en) :
    AllSmall T (en :: H2) ∨ PhaseA k T (tuples (en :: H2)) ∨ PhaseB k T (en :: H2) := by
  have hA' : PhaseA k T (e1.bins :: e2.bins :: tuples H2) := hA
  obtain ⟨b1, hb'⟩ := List.forall_mem_cons.1 hb
  obtain ⟨b2, hb2⟩ := List.forall_mem_cons.1 hb'
  have hTa := hA'.1 e1.bins List.mem_cons_self
  have hTb := hA'.1 e2.bins (List.mem_cons_of_mem _ List.mem_cons_self)
  by_cases hLa : AllLarge T e1.bins
  · by_cases hLb : AllLarge T e2.bins
    · right; left
      have := pure_step hk hA' hLa hLb (by
        intro s hs
        obtain ⟨x, hx, rfl⟩ := List.mem_map.1 hs
        rw [← (hb2 x hx).2, ← b1.2, ← b2.2]
        exact ⟨hm1 x (List.mem_cons_of_mem _ hx), hm2 x hx⟩)
      unfold tuples
      rw [List.map_cons, hn.1]
      exact this
    · -- the second popped entry is a small single: the large-item phase ends
      have hcb : ¬ Compound e2.bins := fun h => hLb (hTb.2 h)
      obtain ⟨x, hx, gx, _⟩ := single_facts hk b2.1 hcb
      have hx3 := not_large_single hx hLb
      have hd2 : e2.diff = x := by rw [b2.2, gx]
      have hsmall : ∀ y ∈ H2, 3 * y.diff ≤ T := fun y hy => by
        have := hm2 y hy; omega
      by_cases hen : 3 * en.diff ≤ T
      · exact Or.inl (List.forall_mem_cons.2 ⟨hen, hsmall⟩)
      · right; right
        refine ⟨en, e1.bins, H2.filter (fun e => decide (Compound e.bins)),
          H2.filter (fun e => !decide (Compound e.bins)),
          List.Perm.cons en (List.filter_append_perm _ H2).symm, by omega, ?_, ?_, hLa, ?_, ?_⟩
        · rw [hn.1]
          exact sameAbove_absorb_single b1.1 b2.1 hx (by omega) (sameAbove_refl _ _)
        · -- `g = e1.bins` with the compound tuples of `H2`: a sub-collection of the heap
          exact phaseA_sublist (((List.filter_sublist.map _).cons _).cons_cons _) hA'
        · intro z hz
          obtain ⟨h1, h2⟩ := List.mem_filter.1 hz
          exact ⟨hsmall z h1, of_decide_eq_true h2⟩
        · intro t ht
          obtain ⟨h1, h2⟩ := List.mem_filter.1 ht
          refine ⟨hsmall t h1, ?_⟩
          intro hc
          rw [decide_eq_true hc] at h2
          cases h2
  · -- the first popped entry is a small single: every difference is small
    left
    have hca : ¬ Compound e1.bins := fun h => hLa (hTa.2 h)
    obtain ⟨x, hx, gx, _⟩ := single_facts hk b1.1 hca
    have hx3 := not_large_single hx hLa
    have hd1 : e1.diff = x := by rw [b1.2, gx]
    exact step_small hb (List.forall_mem_cons.2 ⟨by omega, fun y hy => by have := hm1 y hy; omega⟩) hn

/-- One iteration of the differencing loop keeps the invariant. -/
theorem step_phase (hk : 2 ≤ k) (hb : Base k (e1 :: e2 :: H2)) (h : Phase k T (e1 :: e2 :: H2))
    (hm1 : ∀ x ∈ e2 :: H2, x.diff ≤ e1.diff) (hm2 : ∀ x ∈ H2, x.diff ≤ e2.diff) (hn : IsNew e1 e2 en) :
    Phase k T (en :: H2) := by
  rcases h with h | h | h | h
  · exact Or.inl (step_small hb h hn)
  · rcases step_A hk hb h hm1 hm2 hn with h | h | h
    · exact Or.inl h
    · exact Or.inr (Or.inl h)
    · exact Or.inr (Or.inr (Or.inl h))
  · rcases step_B hk hb h hm1 hn with h | h | h
    · exact Or.inl h
    · exact Or.inr (Or.inr (Or.inl h))
    · exact Or.inr (Or.inr (Or.inr h))
  · rcases step_C hk hb h hm1 hn with h | h
    · exact Or.inl h
    · exact Or.inr (Or.inr (Or.inr h))

end Step


/-! ## The loop, the initial heap, the final tuple -/

theorem psi_kkStep {k T : Nat} (hk : 2 ≤ k) : Part.KKStepKeeps (Psi k T) := by
  intro e1 e2 H2 c ⟨hall, hph⟩ hm1 hm2
  have hb := base_of_eok hall
  have b1 := (hb e1 List.mem_cons_self).1
  have b2 := (hb e2 (List.mem_cons_of_mem _ List.mem_cons_self)).1
  have hall' : ∀ e ∈ (hpush H2 c (kkCombine e1.bins e2.bins)).1, CKKValid.EOK id k e ∧ items e.bins ≠ [] := by
    intro e he
    simp only [hpush, List.mem_append, List.mem_singleton] at he
    rcases he with he | rfl
    · exact hall e (List.mem_cons_of_mem _ (List.mem_cons_of_mem _ he))
    · exact ⟨CKKValid.eok_sortAsc c (comb_len b1 b2) ((consistent_iff _).2 (comb_sums b1 b2)), (push_wf b1 b2).ne⟩
  exact ⟨hall', phase_perm (List.perm_append_singleton _ _).symm
    (step_phase hk hb hph hm1 hm2 ⟨rfl, (base_of_eok hall' _ (by simp [hpush])).2⟩)⟩

theorem fits_single {k T : Nat} {b : Bins Nat} (h : WF k b) {x : Nat} (hit : items b = [x]) (hx : x ≤ T) :
    Fits T b := by
  intro s hs
  rw [h.cons] at hs
  obtain ⟨l, hl', rfl⟩ := List.mem_map.1 hs
  have := Part.sumL_le_flatten hl'
  unfold items at hit
  rw [hit] at this
  simp [sumL] at this
  omega

/-- what `pushAll` puts on the heap for one item -/
theorem items_single {k : Nat} (hk : 0 < k) (x : Nat) : items (single id k x).sortAsc = [x] := by
  obtain ⟨_, s2, s3, _⟩ := Part.single_spec id hk x
  exact List.perm_singleton.1 ((Part.sortAsc_flat_perm _ (Part.consistent_length id s2)).trans s3)

/-- the heap after the initial phase: only singles -/
theorem init_psi {k T : Nat} (hk : 2 ≤ k) {H : Heap Nat} {vals : List Nat} (hh : CKKValid.HInv id k vals H)
    (hs : ∀ e ∈ H, ∃ x, items e.bins = [x]) (hf : Packable T k vals) : Psi k T H := by
  have hall : ∀ e ∈ H, CKKValid.EOK id k e ∧ items e.bins ≠ [] := fun e he =>
    ⟨hh.2 e he, by obtain ⟨x, hx⟩ := hs e he; rw [hx]; simp⟩
  have hb := base_of_eok hall
  have hc : ∀ e ∈ H, ¬ Compound e.bins := fun e he => by
    obtain ⟨x, hx⟩ := hs e he; unfold Compound; rw [hx]; simp
  refine ⟨hall, Or.inr (Or.inl ⟨?_, ?_, ?_⟩)⟩
  · intro t ht
    obtain ⟨e, he, rfl⟩ := List.mem_map.1 ht
    obtain ⟨x, hx, _, hl⟩ := single_facts hk (hb e he).1 (hc e he)
    have hxv : x ∈ vals := hh.1.mem_iff.1 (List.mem_flatMap.2 ⟨e, he, by
      have : x ∈ items e.bins := by rw [hx]; simp
      exact this⟩)
    exact ⟨⟨(hb e he).1, fits_single (hb e he).1 hx (LPT43.packable_item_le hf hxv), fun _ => hl⟩,
      fun h => absurd h (hc e he)⟩
  · apply List.pairwise_of_forall_mem_list
    intro s hs' t ht
    obtain ⟨e, he, rfl⟩ := List.mem_map.1 hs'
    obtain ⟨e', he', rfl⟩ := List.mem_map.1 ht
    exact ⟨fun h _ => absurd h (hc e he), fun _ h => absurd h (hc e' he'), fun h _ => absurd h (hc e he)⟩
  · unfold tuples
    rw [List.flatMap_map]
    exact LPT43.packable_perm hh.1.symm hf

/-- at the end: the spread is at most `T / 3`, or the largest sum is at most `T` -/
theorem psi_final {k T : Nat} {e : HEntry Nat} (h : Psi k T [e]) :
    3 * gapOf e.bins ≤ T ∨ maxL e.bins.sums ≤ T := by
  obtain ⟨hall, h⟩ := h
  have hd := (base_of_eok hall e List.mem_cons_self).2
  rcases h with h | h | h | h
  · left; rw [← hd]; exact h e List.mem_cons_self
  · right
    exact fits_iff_maxL.1 (h.1 e.bins List.mem_cons_self).1.fits
  · right
    obtain ⟨e', g, Zs, tin, q1, q2, q3, q4, _⟩ := h
    obtain ⟨rfl, -⟩ := List.cons.inj (List.perm_singleton.1 q1.symm)
    have hgf := (q4.1 g List.mem_cons_self).1.fits
    refine Nat.le_trans (sameAbove_top q3 ?_) (fits_iff_maxL.1 hgf)
    unfold gapOf at hd
    omega
  · right
    obtain ⟨e', tin, q1, _, q3, _⟩ := h
    obtain ⟨rfl, -⟩ := List.cons.inj (List.perm_singleton.1 q1.symm)
    exact fits_iff_maxL.1 q3

/-- (iii) on values (`v = id`); `kk_large_dichotomy` transfers it to items. -/
theorem kk_dichotomy {k T : Nat} (hk : 2 ≤ k) {vals : List Nat} (hne : vals ≠ []) {b : Bins Nat}
    (hf : Packable T k vals) (hb : kk id k vals = .ok b) :
    3 * (maxL b.sums - minL b.sums) ≤ T ∨ maxL b.sums ≤ T := by
  obtain ⟨e, he, hΨ⟩ := Part.kk_induction (v := id) (k := k) hne
    (Φ := fun done H => CKKValid.HInv id k done H ∧ ∀ e ∈ H, ∃ x, items e.bins = [x]) (Ψ := Psi k T)
    (h0 := ⟨⟨by simp, by simp⟩, fun e he => (by cases he)⟩)
    (hΦ := fun _ x H c _ h => ⟨CKKValid.hpush_single (by omega) c x h.1, fun e he => by
      simp only [hpush, List.mem_append, List.mem_singleton] at he
      rcases he with he | rfl
      · exact h.2 e he
      · exact ⟨x, items_single (by omega) x⟩⟩)
    (hΦΨ := fun H h => init_psi hk ⟨h.1.1.trans (Part.sortDesc_perm id vals), h.1.2⟩ h.2 hf)
    (hperm := fun _ _ hp h => psi_perm hp h) (hstep := psi_kkStep hk)
  rw [he] at hb
  cases hb
  exact psi_final hΨ


/-! ## The theorems -/

section Main
variable {α : Type}

theorem kk_facts {v : α → Nat} {k : Nat} {items : List α} (hk : 0 < k) (hne : items ≠ []) {b : Bins α}
    (hb : kk v k items = .ok b) :
    IsPartition v items k b ∧ sumL b.sums = binSum v items ∧ b.sums.length = k ∧ b.sums ≠ [] ∧
      kk id k (items.map v) = .ok (b.mapItems v) := by
  obtain ⟨b', h1, h2⟩ := Part.kk_isPartition (v := v) (k := k) (items := items) hk hne
  rw [hb] at h1; cases h1
  obtain ⟨h3, h4⟩ := Part.isPartition_sumL h2
  refine ⟨h2, h3, h4, ?_, ?_⟩
  · intro e; rw [e] at h4; simp at h4; omega
  · rw [Natural.kk_natural v v id (fun _ => rfl), hb]; rfl

/-- (i) The critical inequality of the differencing method (part of C08 for `kk`).  For every bound `x` on the final spread
    (largest minus smallest sum): `k · C ≤ total + (k − 1) · x`, written without subtraction. -/
theorem kk_critical {v : α → Nat} {k : Nat} {items : List α} (hk : 0 < k) (hne : items ≠ []) {b : Bins α}
    (hb : kk v k items = .ok b) {x : Nat} (hx : maxL b.sums - minL b.sums ≤ x) :
    k * maxL b.sums + x ≤ binSum v items + k * x := by
  obtain ⟨_, h3, h4, h5, _⟩ := kk_facts hk hne hb
  rw [Part.gap_le_iff] at hx
  have := Part.length_mul_le_sumL' b.sums (maxL b.sums) x
    (fun a ha => hx _ (Part.maxL_mem h5) a ha) (Part.maxL_mem h5)
  rw [h3, h4] at this
  exact this

/-- the same with `x` the value of an item: the *critical item* is a least item whose value is at least the
    final spread (it exists because the spread is at most the largest item, `Part.kk_gap`) -/
theorem kk_critical_item {v : α → Nat} {k : Nat} {items : List α} (hk : 0 < k) (hne : items ≠ []) {b : Bins α}
    (hb : kk v k items = .ok b) :
    ∃ y ∈ items, maxL b.sums - minL b.sums ≤ v y ∧
      (∀ z ∈ items, maxL b.sums - minL b.sums ≤ v z → v y ≤ v z) ∧
      k * maxL b.sums + v y ≤ binSum v items + k * v y := by
  have hg := Part.kk_gap hk hne hb
  have hvne : items.map v ≠ [] := by simpa using hne
  obtain ⟨y0, hy0, e0⟩ := List.mem_map.1 (Part.maxL_mem hvne)
  have hne' : ((items.filter fun z => decide (maxL b.sums - minL b.sums ≤ v z)).map v) ≠ [] := by
    intro e
    have : v y0 ∈ (items.filter fun z => decide (maxL b.sums - minL b.sums ≤ v z)).map v :=
      List.mem_map_of_mem (List.mem_filter.2 ⟨hy0, by rw [e0]; simpa using hg⟩)
    rw [e] at this; cases this
  obtain ⟨y, hy, ey⟩ := List.mem_map.1 (Part.minL_mem hne')
  obtain ⟨hy1, hy2⟩ := List.mem_filter.1 hy
  have hy2' : maxL b.sums - minL b.sums ≤ v y := by simpa using hy2
  refine ⟨y, hy1, hy2', ?_, kk_critical hk hne hb hy2'⟩
  intro z hz hz'
  rw [ey]
  exact Part.minL_le (List.mem_map_of_mem (List.mem_filter.2 ⟨hz, by simpa using hz'⟩))

/-- (iii) The large case.  For `k ≥ 2` bins and every feasible capacity `T`: the final spread is at most
    `T / 3`, or the largest sum is at most `T`. -/
theorem kk_large_dichotomy {v : α → Nat} {k T : Nat} {items : List α} (hk : 2 ≤ k) (hne : items ≠ [])
    {b : Bins α} (hb : kk v k items = .ok b) (hf : Packable T k (items.map v)) :
    3 * (maxL b.sums - minL b.sums) ≤ T ∨ maxL b.sums ≤ T := by
  obtain ⟨_, _, _, _, h5⟩ := kk_facts (by omega) hne hb
  exact kk_dichotomy hk (by simpa using hne) hf h5

/-- in particular: if the final spread exceeds a third of the optimum, the differencing method is optimal -/
theorem kk_optimal_of_large_spread {v : α → Nat} {k : Nat} {items : List α} (hk : 2 ≤ k) (hne : items ≠ [])
    {b : Bins α} {opt : Int} (hb : kk v k items = .ok b)
    (hopt : IsOptimalValue .minLargest k (items.map v) opt)
    (hbig : opt < 3 * ((maxL b.sums - minL b.sums : Nat) : Int)) : (maxL b.sums : Int) = opt := by
  obtain ⟨T, hT, hp⟩ := LPT43.packable_of_opt hopt
  obtain ⟨h1, _⟩ := kk_facts (by omega) hne hb
  have h2 := Oracle.optimal_le_partition hopt h1
  simp only [Objective.value, Bool.false_eq_true, if_false] at h2
  rcases kk_large_dichotomy hk hne hb hp with h | h
  · omega
  · omega

/-- the bound against every feasible capacity `T`, not only the optimum: `3k·C + T ≤ 4k·T` -/
theorem kk_bound_of_packable {v : α → Nat} {k T : Nat} {items : List α} (hk : 0 < k) (hne : items ≠ [])
    {b : Bins α} (hb : kk v k items = .ok b) (hp : Packable T k (items.map v)) :
    3 * k * maxL b.sums + T ≤ 4 * k * T := by
  by_cases hk1 : k = 1
  · -- one bin: the spread is zero
    obtain ⟨_, _, h4, _, _⟩ := kk_facts hk hne hb
    refine LPT43.four_thirds_of_small (x := 0) hk (kk_critical hk hne hb ?_) (Fit.packing_lower_bound hp) (Nat.zero_le _)
    subst hk1
    obtain ⟨s, hs⟩ := List.length_eq_one_iff.1 h4
    rw [hs]
    simp [maxL, minL]
  · rcases kk_large_dichotomy (by omega) hne hb hp with h | h
    · exact LPT43.four_thirds_of_small hk (kk_critical hk hne hb (Nat.le_refl _)) (Fit.packing_lower_bound hp) h
    · exact LPT43.four_thirds_of_le hk h

/-- **(iv) C08 for `kk`: Michiels–Korst–Aarts–van Leeuwen 2007 (upper bound).**  For `k ≥ 1` bins the largest
    sum of prtpy's Karmarkar–Karp differencing method (`kk`) is at most `4/3 − 1/(3k)` times the optimal largest sum. -/
theorem kk_four_thirds {v : α → Nat} {k : Nat} {items : List α} (hk : 0 < k) (hne : items ≠ []) {b : Bins α}
    {opt : Int} (hb : kk v k items = .ok b) (hopt : IsOptimalValue .minLargest k (items.map v) opt) :
    3 * k * (maxL b.sums : Int) ≤ (4 * k - 1) * opt := by
  obtain ⟨T, hT, hp⟩ := LPT43.packable_of_opt hopt
  exact LPT43.four_thirds_cast hT (kk_bound_of_packable hk hne hb hp)

/-- Fischetti–Martello 1987: for two bins the ratio is at most `7/6` -/
theorem kk_two_seven_sixths {v : α → Nat} {items : List α} (hne : items ≠ []) {b : Bins α} {opt : Int}
    (hb : kk v 2 items = .ok b) (hopt : IsOptimalValue .minLargest 2 (items.map v) opt) :
    6 * (maxL b.sums : Int) ≤ 7 * opt := by
  have := kk_four_thirds (by decide) hne hb hopt
  push_cast at this
  linarith

end Main

/-! ## Non-vacuity -/

/-- `[5, 5, 4, 4, 3, 3, 3]` on three bins: the optimum is `9` (`5+4 | 5+4 | 3+3+3`) -/
theorem opt_5544333 : IsOptimalValue .minLargest 3 ([5, 5, 4, 4, 3, 3, 3].map id) 9 :=
  LPT43.isOptimal_of_total (asg := [0, 1, 0, 1, 2, 2, 2]) (T := 9) ⟨rfl, by decide⟩ (by decide) (by decide)

/-- `[2, 2, 1]` on three bins: the optimum is `2` -/
theorem opt_221 : IsOptimalValue .minLargest 3 ([2, 2, 1].map id) 2 :=
  LPT43.isOptimal_of_total (asg := [0, 1, 2]) (T := 2) ⟨rfl, by decide⟩ (by decide) (by decide)

attribute [local instance] decEqBins

/-! the outputs of `kk` on the three instances of this section, each evaluated once by the kernel -/
theorem kk_33222 : kk id 2 [3, 3, 2, 2, 2] = .ok ⟨[5, 7], [[3, 2], [2, 3, 2]]⟩ := by decide +kernel
theorem kk_5544333 : kk id 3 [5, 5, 4, 4, 3, 3, 3] = .ok ⟨[8, 9, 10], [[5, 3], [5, 4], [3, 4, 3]]⟩ := by
  decide +kernel
theorem kk_221 : kk id 3 [2, 2, 1] = .ok ⟨[1, 2, 2], [[1], [2], [2]]⟩ := by decide +kernel

-- (i) the critical inequality on Graham's instance: the final tuple is `(5, 7)`, spread `2`: `2·7 + 2 ≤ 12 + 2·2`
example : ∃ b, kk id 2 [3, 3, 2, 2, 2] = .ok b ∧ 2 * maxL b.sums + 2 ≤ binSum id [3, 3, 2, 2, 2] + 2 * 2 :=
  ⟨_, kk_33222, kk_critical (v := id) (x := 2) (by decide) (by decide) kk_33222 (by decide)⟩

example : ∃ b, kk id 2 [3, 3, 2, 2, 2] = .ok b ∧ ∃ y ∈ [3, 3, 2, 2, 2], maxL b.sums - minL b.sums ≤ id y ∧
    (∀ z ∈ [3, 3, 2, 2, 2], maxL b.sums - minL b.sums ≤ id z → id y ≤ id z) ∧
    2 * maxL b.sums + id y ≤ binSum id [3, 3, 2, 2, 2] + 2 * id y :=
  ⟨_, kk_33222, kk_critical_item (v := id) (by decide) (by decide) kk_33222⟩

-- spread `2`, optimum `6`: the small case (ii) of the proof
example : ∃ b, kk id 2 [3, 3, 2, 2, 2] = .ok b ∧ 3 * (2 : Nat) * (maxL b.sums : Int) ≤ (4 * (2 : Nat) - 1) * 6 :=
  ⟨_, kk_33222, kk_four_thirds (v := id) (by decide) (by decide) kk_33222 LPT43.opt_33222⟩

-- (iii) the dichotomy with the feasible capacity `9` on three bins; here the first alternative holds
example : ∃ b, kk id 3 [5, 5, 4, 4, 3, 3, 3] = .ok b ∧
    (3 * (maxL b.sums - minL b.sums) ≤ 9 ∨ maxL b.sums ≤ 9) :=
  ⟨_, kk_5544333, kk_large_dichotomy (v := id) (k := 3) (T := 9) (items := [5, 5, 4, 4, 3, 3, 3]) (by decide)
    (by decide) kk_5544333 ⟨[0, 1, 0, 1, 2, 2, 2], ⟨rfl, by decide⟩, by decide⟩⟩

-- ... and an instance in which the spread exceeds a third of the optimum, so that the output is optimal
example : ∃ b, kk id 3 [2, 2, 1] = .ok b ∧ (maxL b.sums : Int) = 2 :=
  ⟨_, kk_221, kk_optimal_of_large_spread (v := id) (by decide) (by decide) kk_221 opt_221 (by decide)⟩

-- (iv) the theorem; tight for `k = 2` on Graham's instance (`7 / 6 = 4/3 − 1/6`), strict for the `k = 3` instance
example : ∃ b, kk id 2 [3, 3, 2, 2, 2] = .ok b ∧ 3 * (2 : Nat) * (maxL b.sums : Int) ≤ (4 * (2 : Nat) - 1) * 6 :=
  ⟨_, kk_33222, kk_four_thirds (v := id) (by decide) (by decide) kk_33222 LPT43.opt_33222⟩
example : ∃ b, kk id 2 [3, 3, 2, 2, 2] = .ok b ∧ 3 * (2 : Nat) * (maxL b.sums : Int) = (4 * (2 : Nat) - 1) * 6 :=
  ⟨_, kk_33222, by decide⟩
example : ∃ b, kk id 3 [5, 5, 4, 4, 3, 3, 3] = .ok b ∧ 3 * (3 : Nat) * (maxL b.sums : Int) ≤ (4 * (3 : Nat) - 1) * 9 :=
  ⟨_, kk_5544333, kk_four_thirds (v := id) (by decide) (by decide) kk_5544333 opt_5544333⟩
example : ∃ b, kk id 3 [5, 5, 4, 4, 3, 3, 3] = .ok b ∧ maxL b.sums = 10 := ⟨_, kk_5544333, by decide⟩
example : ∃ b, kk id 2 [3, 3, 2, 2, 2] = .ok b ∧ 6 * (maxL b.sums : Int) ≤ 7 * 6 :=
  ⟨_, kk_33222, kk_two_seven_sixths (v := id) (by decide) kk_33222 LPT43.opt_33222⟩

end Prtpy.KK43
