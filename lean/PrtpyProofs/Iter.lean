/-
  PrtpyProofs.Iter — the loop `while not done: step`, run for at most `n` iterations (`Iter.run`).  The three search
  loops of the model that are state machines (`cgRun`, `ckkRun`, `ckkRunF`) are instances; what holds of all of them
  (the run cut at `n` is a prefix of every longer run, invariants of the step, enough fuel, two machines in step)
  is proved here.
-/
import Prtpy
namespace Prtpy.Iter

variable {σ τ : Type}

/-- one iteration, none once `done` -/
def tick (done : σ → Bool) (step : σ → σ) (s : σ) : σ := if done s then s else step s

/-- at most `n` iterations -/
def run (done : σ → Bool) (step : σ → σ) : Nat → σ → σ
  | 0, s => s
  | n + 1, s => if done s then s else run done step n (step s)

variable {done : σ → Bool} {step : σ → σ}

theorem run_of_done (n : Nat) {s : σ} (h : done s = true) : run done step n s = s := by
  cases n with
  | zero => rfl
  | succ n => simp only [run, h, if_true]

theorem run_succ_first (n : Nat) (s : σ) : run done step (n + 1) s = run done step n (tick done step s) := by
  simp only [run, tick]
  split
  · rename_i h; rw [run_of_done n h]
  · rfl

theorem run_add (a j : Nat) (s : σ) : run done step (a + j) s = run done step j (run done step a s) := by
  induction a generalizing s with
  | zero => rw [Nat.zero_add]; rfl
  | succ a ih => rw [show a + 1 + j = (a + j) + 1 by omega, run_succ_first, ih, ← run_succ_first]

/-- the run cut at `n` is a prefix of the run cut at `n + 1` -/
theorem run_succ_last (n : Nat) (s : σ) : run done step (n + 1) s = tick done step (run done step n s) :=
  run_add n 1 s

theorem run_succ_of_not_done {n : Nat} {s : σ} (h : done (run done step n s) = false) :
    run done step (n + 1) s = step (run done step n s) := by
  rw [run_succ_last, tick, h]; rfl

/-- once `done`, more fuel changes nothing -/
theorem run_eq_of_done_le {n n' : Nat} (hn : n ≤ n') (s : σ) (hd : done (run done step n s) = true) :
    run done step n' s = run done step n s := by
  obtain ⟨j, rfl⟩ := Nat.exists_eq_add_of_le hn
  rw [run_add, run_of_done j hd]

theorem run_inv (P : σ → Prop) (hstep : ∀ s, P s → P (step s)) (n : Nat) (s : σ) (h : P s) :
    P (run done step n s) := by
  induction n generalizing s with
  | zero => exact h
  | succ n ih =>
    simp only [run]
    split
    · exact h
    · exact ih _ (hstep s h)

/-- for a preorder `r`: if no step leaves `r (step s) s` (under an invariant), the end of a run stands in `r` to its
    start (`CGValid.cgRun_le`: the incumbent of complete greedy never gets worse) -/
theorem run_rel_start (P : σ → Prop) (hstep : ∀ s, P s → P (step s)) (r : σ → σ → Prop) (hrefl : ∀ s, r s s)
    (htrans : ∀ {a b c}, r a b → r b c → r a c) (hr : ∀ s, P s → r (step s) s) (j : Nat) :
    ∀ s, P s → r (run done step j s) s := by
  induction j with
  | zero => exact fun s _ => hrefl s
  | succ j ih =>
    intro s h
    simp only [run]
    split
    · exact hrefl s
    · exact htrans (ih _ (hstep s h)) (hr s h)

/-- Enough fuel: if every step of a state that is not `done` either sets `done` or lowers `μ`, a run with fuel `μ s`
    ends in a state that is `done` or has `μ = 0`.  `P` is an invariant the two facts may rest on. -/
theorem run_stops (P : σ → Prop) (hstep : ∀ s, P s → P (step s)) (μ : σ → Nat)
    (hμ : ∀ s, P s → done s = false → done (step s) = true ∨ μ (step s) < μ s) :
    ∀ (n : Nat) (s : σ), P s → μ s ≤ n → done (run done step n s) = true ∨ μ (run done step n s) = 0 := by
  intro n
  induction n with
  | zero => intro s _ h; exact Or.inr (Nat.le_zero.1 h)
  | succ n ih =>
    intro s hs h
    cases hd : done s with
    | true => rw [run_of_done _ hd]; exact Or.inl hd
    | false =>
      simp only [run, hd, Bool.false_eq_true, if_false]
      rcases hμ s hs hd with h' | h'
      · rw [run_of_done _ h']; exact Or.inl h'
      · exact ih _ (hstep s hs) (by omega)

/-- Two machines in step: a relation that makes `done` agree and is kept by a pair of steps is kept by the runs
    (invariants of the two machines that the steps need go into `R`). -/
theorem run_rel {done' : τ → Bool} {step' : τ → τ} (R : σ → τ → Prop) (hd : ∀ s t, R s t → done s = done' t)
    (hR : ∀ s t, R s t → done s = false → R (step s) (step' t)) :
    ∀ (n : Nat) (s : σ) (t : τ), R s t → R (run done step n s) (run done' step' n t) := by
  intro n
  induction n with
  | zero => intro s t h; exact h
  | succ n ih =>
    intro s t h
    simp only [run, ← hd s t h]
    cases hs : done s with
    | true => exact h
    | false => exact ih _ _ (hR s t h hs)

/-! ### the loops of the model -/

variable {α : Type}

theorem cgStep_nil {v : α → Nat} {cfg : CgCfg} {k : Nat} {sorted : List α} {glb : EInt} {s : CgState α}
    (h : s.stack = []) : cgStep v cfg k sorted glb s = { s with done := true } := by
  unfold cgStep; rw [h]

/-- `cgRun` sets `done` on the empty stack without calling `cgStep`, which would do the same -/
theorem cgRun_eq (v : α → Nat) (cfg : CgCfg) (k : Nat) (sorted : List α) (glb : EInt) (t : Nat) (s : CgState α) :
    cgRun v cfg k sorted glb t s = run (·.done) (cgStep v cfg k sorted glb) t s := by
  induction t generalizing s with
  | zero => rfl
  | succ t ih =>
    simp only [cgRun, run, ← ih]
    split
    · rfl
    · split
      · rename_i hs; rw [cgStep_nil hs]; cases t <;> rfl
      · rfl

theorem ckkRun_eq (nm : α → Nat) [BEq α] (k : Nat) (contents gen isBest : Bool) (fuel : Nat) (s : CkkState α) :
    ckkRun nm k contents gen isBest fuel s = run (·.done) (ckkStep nm k contents gen isBest) fuel s := by
  induction fuel generalizing s with
  | zero => rfl
  | succ n ih => simp only [ckkRun, run, ih]

theorem ckkRunF_eq (nm : α → Nat) [BEq α] (k : Nat) (contents : Bool) (fuel : Nat) (s : CkkState α) :
    ckkRunF nm k contents fuel s = run (·.done) (ckkStepF nm k contents) fuel s := by
  induction fuel generalizing s with
  | zero => rfl
  | succ n ih => simp only [ckkRunF, run, ih]

end Prtpy.Iter
