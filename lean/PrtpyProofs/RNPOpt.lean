/-
  PrtpyProofs.RNPOpt — optimality (C02) of recursive number partitioning, for every recursion whose step is
  `RNPRound.round` (`rnpRec`, the code before F10, up to four bins; `rnpRecF`, after F10, up to five), at the level
  of sums and for either bins manager: no partition has a smaller spread than the sums returned.  That these are the
  sums of a partition is `RNPRound.rounds_valid` (`rounds_real` here).

  What is used of the 2-way complete Karmarkar–Karp search (`SumsOnly.TwoOK`, PrtpyProofs/SNPOpt.lean) and the
  completeness of the 2-way generator (`SNPOpt.CkkGenComplete`) are hypotheses of `rounds_optimal`, so
  `SNPOpt.rnp_optimal` (relative to `Ckk2Optimal`, at the end of this file in its namespace) and the unconditional
  `SumsOnly.rnpF_optimal_any` (PrtpyProofs/SumsOnly.lean, where `ckk2_twoOK` discharges `TwoOK`) are cases of the same
  theorem.  The odd round is a traversal of the inclusion/exclusion tree with a constant bound: `SNPOpt.treeFold_window`.
  Declares into: `Prtpy.SumsOnly` (the rounds: beside `Real`, `TwoOK`), `Prtpy.SNPOpt` (`rnp_optimal`, beside `snp_optimal`).
-/
import Mathlib.Data.List.Perm.Basic
import PrtpyProofs.SNP
import PrtpyProofs.RNPRound
import PrtpyProofs.CKKValid
import PrtpyProofs.SNPOpt
import PrtpyProofs.Runs

namespace Prtpy.SumsOnly
open Prtpy

variable {α : Type}

/-! ## The rounds of RNP, relative to what the recursion below them returns

  `child` is the recursive call (a variable); of the 2-way search only `TwoOK` is used, of the 2-way generator its
  validity and `SNPOpt.CkkGenComplete` (a hypothesis here, so that the theorems relative to hypotheses of SNPOpt and
  the unconditional ones are the same theorems). -/

section Rounds
open Prtpy.RNPRound
variable {v nm : α → Nat}

/-- the state invariant of the even loop: the state is the initial one, or sums together with their spread
    *combined with the fixed sums `w`*, which is below the initial bound -/
def EvenInv (w : List Nat) (best : Bins α) (st : Bins α × Nat) : Prop :=
  (st.1 = best ∧ st.2 = spread best.sums) ∨ (st.2 = spread (st.1.sums ++ w) ∧ st.2 < spread best.sums)

theorem evenInv_le {w : List Nat} {best : Bins α} {st : Bins α × Nat}
    (h : EvenInv w best st) : st.2 ≤ spread best.sums := by
  rcases h with ⟨_, h⟩ | ⟨_, h⟩ <;> omega

omit v in
theorem evenStep_inv {key : List Nat → Nat} {w : List Nat} (hkey : ∀ s, key s = spread (s ++ w))
    {child : Bins α → List α → Except Err (Bins α)} {best : Bins α}
    {st st' : Bins α × Nat} {top : Bins α}
    (hs : EvenInv w best st) (h : evenStep key child st top = .ok st') : EvenInv w best st' := by
  obtain ⟨nb1, nb2, h1, h2', ⟨hlt, rfl⟩ | ⟨_, rfl⟩⟩ := evenStep_cases h
  · exact Or.inr ⟨hkey _, Nat.lt_of_lt_of_le hlt (evenInv_le hs)⟩
  · exact hs

/-- sums that all lie between two of the sums of `B` do not widen the spread, whatever fixed sums are added -/
theorem spread_append_le_of_bounds {A B P : List Nat} {lo hi : Nat} (hA : A ≠ []) (hlo : lo ∈ B) (hhi : hi ∈ B)
    (h : ∀ x ∈ A, lo ≤ x ∧ x ≤ hi) : spread (A ++ P) ≤ spread (B ++ P) := by
  have hne : A ++ P ≠ [] := by simp [hA]
  have h1 : maxL (A ++ P) ≤ maxL (B ++ P) := by
    rcases List.mem_append.1 (Part.maxL_mem hne) with hm | hm
    · exact Nat.le_trans (h _ hm).2 (Part.le_maxL (List.mem_append_left _ hhi))
    · exact Part.le_maxL (List.mem_append_right _ hm)
  have h2 : minL (B ++ P) ≤ minL (A ++ P) := by
    rcases List.mem_append.1 (Part.minL_mem hne) with hm | hm
    · exact Nat.le_trans (Part.minL_le (List.mem_append_left _ hlo)) (h _ hm).1
    · exact Part.minL_le (List.mem_append_right _ hm)
  unfold spread
  omega

/-- The even round with four bins (both halves by a 2-way search `child`) and a score that is the spread combined
    with fixed sums `w`.  There is a number `D`, at most the incumbent's spread, such that: the result is the
    incumbent and `D` is its spread, or the result has the sums of a 4-way partition of the items whose spread
    combined with `w` is `D`, strictly below the incumbent's; and no 4-way partition of the items has a combined
    spread below `D`. -/
theorem evenLevel_opt [BEq α] {fuel : Nat} {key : List Nat → Nat} {w : List Nat}
    (hkey : ∀ s, key s = spread (s ++ w))
    {child : Bins α → List α → Except Err (Bins α)}
    (h2 : ∀ b its two, child b its = .ok two → TwoOK v its two) (hgen : SNPOpt.CkkGenComplete v nm)
    {best r : Bins α} {items : List α} (h : evenLevel v nm fuel key child best items = .ok r) :
    ∃ D, ((r = best ∧ D = spread best.sums) ∨ (D = spread (r.sums ++ w) ∧ D < spread best.sums)) ∧
      ∀ L : List (List α), L.length = 4 → L.flatten.Perm items → D ≤ spread (L.map (binSum v) ++ w) := by
  obtain ⟨tops, st, hne, hg, hf, rfl⟩ := evenLevel_ok h
  have hinv : EvenInv w best st := SNPProofs.foldE_inv (EvenInv w best) _ tops
    (fun s top s' _ hs hstep => evenStep_inv hkey hs hstep)
    (best, spread best.sums) st (Or.inl ⟨rfl, rfl⟩) hf
  refine ⟨st.2, hinv, ?_⟩
  intro L hl hp
  rcases Nat.lt_or_ge (spread (L.map (binSum v) ++ w)) (spread best.sums) with hlt | hge
  · obtain ⟨l1, l4, p, q, hperm, h14, hpb, hqb⟩ := SNPOpt.four_sorted v hl
    have m1 : binSum v l1 ∈ L.map (binSum v) := List.mem_map_of_mem (hperm.mem_iff.2 (by simp))
    have m4 : binSum v l4 ∈ L.map (binSum v) := List.mem_map_of_mem (hperm.mem_iff.2 (by simp))
    -- the spread of `L` is at least the distance between its smallest and its largest sum
    have hD : binSum v l4 - binSum v l1 ≤ spread (L.map (binSum v) ++ w) := by
      have := Part.le_maxL (List.mem_append_left w m4)
      have := Part.minL_le (List.mem_append_left w m1)
      unfold spread
      omega
    -- the split (smallest + largest, the two others) is yielded by the generator
    have hXY : ((l1 ++ l4) ++ (p ++ q)).Perm items := by
      have := hperm.flatten.symm.trans hp
      simpa using this
    have hdiff : spread [binSum v (l1 ++ l4), binSum v (p ++ q)] < spread best.sums := by
      rw [SNPOpt.spread_pair, Part.binSum_append, Part.binSum_append]
      omega
    obtain ⟨top, htop, X', Y', hlists, hcases⟩ := hgen items _ fuel tops hne hg _ _ hXY hdiff
    refine SNPProofs.foldE_reach (fun s : Bins α × Nat => s.2 ≤ spread (L.map (binSum v) ++ w)) _ top
      ?_ ?_ tops _ st htop hf
    · intro s x s' hs hstep
      obtain ⟨_, _, _, _, ⟨hlt', rfl⟩ | ⟨_, rfl⟩⟩ := evenStep_cases hstep
      · exact Nat.le_trans (Nat.le_of_lt hlt') hs
      · exact hs
    · intro s s' hstep
      obtain ⟨nb1, nb2, hn1, hn2, hcs⟩ := evenStep_cases hstep
      have h5 : s'.2 ≤ spread (nb1.sums ++ nb2.sums ++ w) := by
        rw [← hkey]
        rcases hcs with ⟨_, rfl⟩ | ⟨hle, rfl⟩
        · exact Nat.le_refl _
        · exact Nat.not_lt.1 hle
      rw [hlists] at hn1 hn2
      simp only [List.getD_cons_zero, List.getD_cons_succ] at hn1 hn2
      have hn1 := h2 _ _ _ hn1
      have hn2 := h2 _ _ _ hn2
      -- an optimal 2-way split of either half has both sums between the smallest and the largest sum of `L`
      have outer : ∀ {Z : List α} {nb : Bins α}, TwoOK v Z nb → (l1 ++ l4).Perm Z →
          nb.sums ≠ [] ∧ ∀ x ∈ nb.sums, binSum v l1 ≤ x ∧ x ≤ binSum v l4 :=
        fun hn hZ => two_bounds hn hZ (Nat.le_refl _) h14 h14 (Nat.le_refl _)
      have inner : ∀ {Z : List α} {nb : Bins α}, TwoOK v Z nb → (p ++ q).Perm Z →
          nb.sums ≠ [] ∧ ∀ x ∈ nb.sums, binSum v l1 ≤ x ∧ x ≤ binSum v l4 :=
        fun hn hZ => two_bounds hn hZ hpb.1 hqb.1 hpb.2 hqb.2
      -- whichever half each answer belongs to
      obtain ⟨⟨hne1, b1⟩, ⟨_, b2⟩⟩ :
          (nb1.sums ≠ [] ∧ ∀ x ∈ nb1.sums, binSum v l1 ≤ x ∧ x ≤ binSum v l4) ∧
          (nb2.sums ≠ [] ∧ ∀ x ∈ nb2.sums, binSum v l1 ≤ x ∧ x ≤ binSum v l4) := by
        rcases hcases with ⟨hX, hY⟩ | ⟨hX, hY⟩
        · exact ⟨outer hn1 hX.symm, inner hn2 hY.symm⟩
        · exact ⟨inner hn1 hX.symm, outer hn2 hY.symm⟩
      exact Nat.le_trans h5 (spread_append_le_of_bounds (A := nb1.sums ++ nb2.sums) (by simp [hne1]) m1 m4
        (fun x hx => (List.mem_append.1 hx).elim (b1 x) (b2 x)))
  · exact Nat.le_trans (evenInv_le hinv) hge

/-- what the odd round needs of the call below it, with `n` bins: against every completion `L'` of its prior bins
    either the result combined with the prior sums or the incumbent is at least as good -/
def ChildOpt (v : α → Nat) (n : Nat) (child : Call α) : Prop :=
  ∀ (prior2 best' : Bins α) (rest : List α) (nb : Bins α), child prior2 best' rest = .ok nb →
    ∀ L' : List (List α), L'.length = n → L'.flatten.Perm rest →
      spread (nb.sums ++ prior2.sums) ≤ spread (L'.map (binSum v) ++ prior2.sums) ∨
      spread best'.sums ≤ spread (L'.map (binSum v) ++ prior2.sums)

theorem childOpt_two {child : Call α}
    (h2 : ∀ p b its two, child p b its = .ok two → TwoOK v its two) : ChildOpt v 2 child :=
  fun prior2 _ _ _ hr L' hl' hp' => Or.inl (two_le (h2 _ _ _ _ hr) prior2.sums L' hl' hp')

theorem childOpt_even [BEq α] {fuel : Nat} {key : Bins α → List Nat → Nat}
    (hkey : ∀ (prior : Bins α) s, key prior s = spread (s ++ prior.sums)) {child : Call α}
    (h2 : ∀ p b its two, child p b its = .ok two → TwoOK v its two) (hgen : SNPOpt.CkkGenComplete v nm) :
    ChildOpt v 4 (fun prior best items => evenLevel v nm fuel (key prior) (child prior) best items) := by
  intro prior2 best' rest nb hr L' hl' hp'
  obtain ⟨D, hD, hall⟩ := evenLevel_opt (hkey prior2) (h2 prior2) hgen hr
  have h1 := hall L' hl' hp'
  rcases hD with ⟨_, rfl⟩ | ⟨rfl, _⟩
  · exact Or.inr h1
  · exact Or.inl h1

/-- The odd round above a call with `n` bins that satisfies `ChildOpt`: the result is at least as good as the
    incumbent and as every completion of the prior bins by `n + 1` bins. -/
theorem oddLevel_opt [BEq α] [LawfulBEq α] {n : Nat} {child : Call α} (hrec : ChildOpt v n child)
    {prior best r : Bins α} {items : List α}
    (h : oddLevel v child (n + 1) prior best items = .ok r) :
    spread r.sums ≤ spread best.sums ∧
      ∀ L : List (List α), L.length = n + 1 → L.flatten.Perm items →
        spread r.sums ≤ spread (L.map (binSum v) ++ prior.sums) := by
  rw [oddLevel_eq_treeFold] at h
  have hmono : ∀ D : Nat, spread best.sums ≤ D → spread r.sums ≤ D := by
    intro D hD
    exact SNPProofs.treeFold_inv (fun st : Bins α => spread st.sums ≤ D) _ _ _ _ _ [] _
      (fun st x st' hst _ hf => by
        obtain ⟨_, _, h1, _⟩ := oddStep_spec hf
        exact Nat.le_trans h1 hst) best r hD h
  refine ⟨hmono _ (Nat.le_refl _), ?_⟩
  · intro L hl hp
    rcases Nat.lt_or_ge (spread (L.map (binSum v) ++ prior.sums)) (spread best.sums) with hlt | hge
    · refine SNPOpt.treeFold_window prior.sums (fun _ => spread best.sums) _ ?_ ?_ hl hp (fun _ hB => by omega) h
      · intro st x st' hf
        obtain ⟨_, _, h1, _⟩ := oddStep_spec hf
        exact h1
      · intro st sub st' hf L' hlen hrest
        obtain ⟨nb, hnb, h1, h2⟩ := oddStep_spec hf
        rcases hrec _ _ _ _ hnb L' hlen hrest with h3 | h3
        · exact Nat.le_trans h2 h3
        · exact Nat.le_trans h1 h3
    · exact hmono _ hge

/-- **Every recursion whose step is `round`** (`rnpRec`, `rnpRecF`), for two to five bins at top level: no partition
    has a smaller spread than the sums returned (that these are sums of a partition: `RNPRound.rounds_valid`).  The
    score of the even round has to be the spread combined with the prior sums where the prior bins are not empty,
    i.e. for five bins. -/
theorem rounds_optimal [BEq α] [LawfulBEq α] {c : Bool} {fuel : Nat} {key : Bins α → List Nat → Nat}
    {R : Nat → Nat → Call α}
    (hR : ∀ rf cur prior best items,
      R (rf + 1) cur prior best items = round v nm c fuel key (R rf) cur prior best items)
    (h2 : ∀ its two, ckk2 v nm c its fuel = .ok two → TwoOK v its two) (hgen : SNPOpt.CkkGenComplete v nm)
    {k : Nat} (hk2 : 2 ≤ k) (hk5 : k ≤ 5)
    (hkey : ∀ prior : Bins α, (k ≤ 4 → prior.sums = []) → ∀ s, key prior s = spread (s ++ prior.sums))
    {items : List α} {best b : Bins α} (h : R (k + 1) k ⟨[], []⟩ best items = .ok b) :
    ∀ L : List (List α), L.length = k → L.flatten.Perm items → spread b.sums ≤ spread (L.map (binSum v)) := by
  have two : ∀ rf p b' its two, R (rf + 1) 2 p b' its = .ok two → TwoOK v its two := by
    intro rf p b' its two hr
    rw [hR, round_two] at hr
    exact h2 _ _ hr
  have odd : ∀ {n : Nat} {child : Call α}, ChildOpt v n child → k = n + 1 →
      oddLevel v child (n + 1) ⟨[], []⟩ best items = .ok b →
        ∀ L : List (List α), L.length = k → L.flatten.Perm items → spread b.sums ≤ spread (L.map (binSum v)) := by
    intro n child hc hk ho L hl hp
    subst hk
    simpa using (oddLevel_opt hc ho).2 L hl hp
  rw [hR] at h
  obtain rfl | rfl | rfl | rfl : k = 2 ∨ k = 3 ∨ k = 4 ∨ k = 5 := by omega
  · rw [round_two] at h
    exact (h2 _ _ h).2
  · rw [round_odd _ _ _ _ _ _ rfl] at h
    exact odd (childOpt_two (two 2)) rfl h
  · rw [round_four] at h
    obtain ⟨D, hD, hall⟩ := evenLevel_opt (hkey _ (fun _ => rfl)) (two 3 _) hgen h
    simp only [List.append_nil] at hall hD
    rcases hD with ⟨rfl, rfl⟩ | ⟨rfl, _⟩ <;> exact hall
  · rw [round_odd _ _ _ _ _ _ rfl] at h
    refine odd (n := 4) ?_ rfl h
    have := childOpt_even (fuel := fuel) (key := key) (fun p s => hkey p (by omega) s) (two 3) hgen
    intro p b' rest nb hr
    rw [hR, round_four] at hr
    exact this p b' rest nb hr

/-- validity at the level of sums, for either manager: `RNPRound.rounds_valid` without contents -/
theorem rounds_real [BEq α] [LawfulBEq α] {c : Bool} {fuel : Nat} {key : Bins α → List Nat → Nat}
    {R : Nat → Nat → Call α}
    (hR : ∀ rf cur prior best items,
      R (rf + 1) cur prior best items = round v nm c fuel key (R rf) cur prior best items)
    (h2 : ∀ its two, ckk2 v nm c its fuel = .ok two → TwoOK v its two) {k : Nat} (hk2 : 2 ≤ k) (hk5 : k ≤ 5)
    {items : List α} {best b : Bins α} (hbr : Real v items k best.sums)
    (h : R (k + 1) k ⟨[], []⟩ best items = .ok b) : Real v items k b.sums :=
  real_iff_answer.2 (rounds_valid (fun _ _ h => real_iff_answer.1 (h2 _ _ h).1) (CKKValid.ckkGen_valid v nm) hR hk2 hk5
    (real_iff_answer.1 hbr) h)

end Rounds

end Prtpy.SumsOnly

/-! ## `rnp` (the code before F10) up to four bins, relative to the hypotheses of SNPOpt -/

namespace Prtpy.SNPOpt
open Prtpy.SumsOnly
variable {α : Type}

/-- **C02 for RNP with at most four bins** (`rnp` is the code before fix F10; for the code after it, every
    `numbins ≤ 5`, see `SumsOnly.rnpF_optimal_any`), provided the 2-way CKK search is optimal and the 2-way CKK generator
    is complete below its bound.  With at most four bins the prior bins of the even round are empty, so the score
    of the code before F10 is the one `SumsOnly.rounds_optimal` asks for. -/
theorem rnp_optimal {v nm : α → Nat} [BEq α] [LawfulBEq α] (hckk : Ckk2Optimal v nm) (hgen : CkkGenComplete v nm)
    {k : Nat} {items : List α} {fuel : Nat} {b : Bins α} (hk : 0 < k) (hk4 : k ≤ 4) (hne : items ≠ [])
    (h : rnp v nm k true items fuel = .ok b) :
    IsOptimalValue .minDiff k (items.map v) (Objective.minDiff.value b.sums false) := by
  obtain ⟨best, hbest, ⟨h0, rfl⟩ | ⟨hk2, _, h⟩⟩ := CKKValid.rnp_cases hk hne h
  · exact SumsOnly.optimal_of_le (real_of_partition hbest) (fun L _ _ => by omega)
  · have h2 := fun its two (h : ckk2 v nm true its fuel = .ok two) => hckk.twoOK h
    exact SumsOnly.optimal_of_le
      (rounds_real (RNPRound.rnpRec_succ v nm true fuel) h2 hk2 (by omega) (real_of_partition hbest) h)
      (rounds_optimal (RNPRound.rnpRec_succ v nm true fuel) h2 hgen hk2 (by omega)
        (fun p hp s => by rw [hp hk4, List.append_nil]) h)

/-- eight items, four bins (the even case): KK's first answer has difference 2, the model returns sums
    `[5, 6, 5, 6]`.  The two hypotheses are theorems (`RNPF.ckk2Optimal`, `RNPF.ckkGenComplete`); the statement without
    them is `RNPF.rnp_optimal_four` in CKKFSwitch.lean -/
example (hckk : Ckk2Optimal (id : Nat → Nat) id) (hgen : CkkGenComplete (id : Nat → Nat) id) :
    IsOptimalValue .minDiff 4 ([5, 3, 3, 3, 2, 2, 2, 2].map id) 1 :=
  rnp_optimal hckk hgen (k := 4) (fuel := 1000) (b := ⟨[5, 6, 5, 6], [[5], [2, 2, 2], [2, 3], [3, 3]]⟩)
    (by decide) (by decide) (by decide)
    (by rw [RNPRound.rnp_eq_rnpF id id (by decide) (by decide)]; exact Runs.rnpF_four)

/-- six items, three bins (the odd case): KK's first answer has difference 2 -/
example (hckk : Ckk2Optimal (id : Nat → Nat) id) (hgen : CkkGenComplete (id : Nat → Nat) id) :
    IsOptimalValue .minDiff 3 ([5, 3, 3, 2, 2, 2].map id) 1 :=
  rnp_optimal hckk hgen (k := 3) (fuel := 1000) (b := ⟨[5, 6, 6], [[5], [2, 2, 2], [3, 3]]⟩)
    (by decide) (by decide) (by decide)
    (by rw [RNPRound.rnp_eq_rnpF id id (by decide) (by decide)]; exact Runs.rnpF_three)

end Prtpy.SNPOpt
