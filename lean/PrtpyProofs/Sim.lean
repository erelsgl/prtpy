/-
  PrtpyProofs.Sim — the heuristics under a renaming of the items together with a rescaling of the values.

  If `vβ (f a) = c * vα a` with `0 < c` (`Scaled c f vα vβ`), every comparison an algorithm makes, between two sums
  or between a sum (or a value) and the bin size, has the same outcome on `items.map f` under `vβ` as on `items`
  under `vα`.  So the first run is the second one with the items renamed by `f` and the sums multiplied by `c`
  (`rs c f`): the `*_rs` theorems, one step, one loop and one top-level lemma per algorithm.  Bin sizes: where the
  algorithm tests `sum ≤ B` (first fit, best fit, hence multifit with its `⌊cap⌋`) the scaled side has an arbitrary
  size `B'` and the other side `B' / c`, since all sums of scaled values are multiples of `c`; where it tests
  `B ≤ sum` (the covering heuristics) the sizes are `c * B` and `B`.
  `Natural.*_natural` (C07) is the case `c = 1` (`rs_one`), `Scale.*_scale` (C18) the case `f = id` (`Scale.rs_id`).

  Builds on: the bins operations under a map of sums and a map of contents (`BinsOps.sortAsc_map_map`,
  `BinsOps.sortDesc_map`), the loop that first fit and best fit share (`Fit.genLoop`), the heap of Karmarkar–Karp
  seen through its keys (`Part.hpop_keys`), and the arithmetic of `c * ·` on lists (end of Basic.lean).
  Namespace `Prtpy.Sim`, except for `foldl_natural` and `ite_map` at the top.
-/
import PrtpyProofs.BinsOps
import PrtpyProofs.Part
open Prtpy

/-! Two generic facts, in namespace `Natural` because the naturality proofs of the searches (Natural, Natural2,
CKKFSwitch) use them under that name. -/

namespace Prtpy.Natural

variable {α β : Type}

theorem foldl_natural {σ τ : Type} (f : α → β) (g : σ → τ) (stepα : σ → α → σ) (stepβ : τ → β → τ)
    (h : ∀ s x, stepβ (g s) (f x) = g (stepα s x)) (l : List α) (s : σ) :
    (l.map f).foldl stepβ (g s) = g (l.foldl stepα s) := by
  rw [List.foldl_map]; exact List.foldl_hom g h

/-- Both sides branch on the same condition.  The proofs below apply it once per `if` of the definition at hand,
    nested as the `if`s are. -/
theorem ite_map {σ τ : Type} {c : Prop} [Decidable c] (g : σ → τ) {a b : σ} {a' b' : τ}
    (ha : a' = g a) (hb : b' = g b) : (if c then a' else b') = g (if c then a else b) := by
  split <;> assumption

end Prtpy.Natural

namespace Prtpy.Sim
open Prtpy.Natural (foldl_natural ite_map)

variable {α β : Type}

/-! ## The tests against the bin size under `c * ·` -/

theorem fits_scale {c : Nat} (hc : 0 < c) (s val B' : Nat) : c * s + c * val ≤ B' ↔ s + val ≤ B' / c := by
  rw [Nat.le_div_iff_mul_le hc, Nat.add_mul, Nat.mul_comm s, Nat.mul_comm val]

theorem toobig_scale {c : Nat} (hc : 0 < c) (val B' : Nat) : B' < c * val ↔ B' / c < val := by
  rw [Nat.div_lt_iff_lt_mul hc, Nat.mul_comm]

/-- the best-fit scan: same index, scaled new sum -/
theorem bfScan_scale {c : Nat} (hc : 0 < c) (val B' : Nat) (ss : List Nat) (i : Nat) (best : Option (Nat × Nat)) :
    bfScan (c * val) B' (ss.map (c * ·)) i (best.map fun p => (p.1, c * p.2)) =
      (bfScan val (B' / c) ss i best).map fun p => (p.1, c * p.2) := by
  induction ss generalizing i best with
  | nil => rfl
  | cons s ss ih =>
    have hle : decide (c * s + c * val ≤ B') = decide (s + val ≤ B' / c) :=
      decide_eq_decide.2 (fits_scale hc s val B')
    cases best with
    | none =>
      simp only [List.map_cons, bfScan, Option.map_none, hle]
      rw [← ih]
      congr 1
      split <;> simp [Nat.mul_add]
    | some p =>
      have hlt : decide (c * p.2 < c * s + c * val) = decide (p.2 < s + val) :=
        decide_eq_decide.2 (by rw [← Nat.mul_add]; exact Nat.mul_lt_mul_left hc)
      simp only [List.map_cons, bfScan, Option.map_some, hle, hlt]
      rw [← ih]
      congr 1
      split <;> simp [Nat.mul_add]

theorem le_floorNat_iff {t : Nat} (ht : 0 < t) (q : Rat) : t ≤ floorNat q ↔ (t : Rat) ≤ q := by
  unfold floorNat
  rw [← Rat.intCast_natCast, ← Rat.le_floor_iff]
  omega

/-- `⌊⌊c q⌋ / c⌋ = ⌊q⌋` -/
theorem floorNat_scale {c : Nat} (hc : 0 < c) (q : Rat) : floorNat ((c : Rat) * q) / c = floorNat q := by
  have key : ∀ t : Nat, t ≤ floorNat ((c : Rat) * q) / c ↔ t ≤ floorNat q := by
    intro t
    rw [Nat.le_div_iff_mul_le hc]
    cases t with
    | zero => simp
    | succ t =>
      have hc' : (0 : Rat) < c := Rat.natCast_pos.2 hc
      rw [le_floorNat_iff (Nat.mul_pos (Nat.succ_pos t) hc), le_floorNat_iff (Nat.succ_pos t), Rat.natCast_mul,
        Rat.mul_comm]
      exact ⟨fun h => Rat.le_of_mul_le_mul_left h hc', fun h => Rat.mul_le_mul_of_nonneg_left h (Rat.le_of_lt hc')⟩
  exact Nat.le_antisymm ((key _).1 (Nat.le_refl _)) ((key _).2 (Nat.le_refl _))

theorem ratMax_scale {c : Rat} (hc : 0 < c) (a b : Rat) : ratMax (c * a) (c * b) = c * ratMax a b := by
  unfold ratMax
  by_cases h : a ≤ b
  · rw [if_pos h, if_pos (Rat.mul_le_mul_of_nonneg_left h (Rat.le_of_lt hc))]
  · rw [if_neg h, if_neg (fun h' => h (Rat.le_of_mul_le_mul_left h' hc))]

theorem mid_scale (c lo hi : Rat) : (c * lo + c * hi) / 2 = c * ((lo + hi) / 2) := by
  rw [← Rat.mul_add, Rat.div_def, Rat.div_def, Rat.mul_assoc]

/-! ## The simulation -/

/-- rename the items by `f`, multiply every sum by `c` -/
def rs (c : Nat) (f : α → β) (b : Bins α) : Bins β := ⟨b.sums.map (c * ·), b.lists.map (·.map f)⟩

@[simp] theorem rs_sums (c : Nat) (f : α → β) (b : Bins α) : (rs c f b).sums = b.sums.map (c * ·) := rfl

theorem rs_one (f : α → β) : rs 1 f = Bins.mapItems f := by
  funext b
  simp only [rs, Bins.mapItems, Nat.one_mul, List.map_id']

/-- `vβ ∘ f` is `vα` multiplied by the positive factor `c` -/
structure Scaled (c : Nat) (f : α → β) (vα : α → Nat) (vβ : β → Nat) : Prop where
  pos : 0 < c
  val : ∀ a, vβ (f a) = c * vα a

theorem Scaled.one {f : α → β} {vα : α → Nat} {vβ : β → Nat} (hf : ∀ a, vβ (f a) = vα a) : Scaled 1 f vα vβ :=
  ⟨Nat.one_pos, fun a => by rw [hf, Nat.one_mul]⟩

/-- the same on a heap entry of Karmarkar–Karp -/
def rsEntry (c : Nat) (f : α → β) (e : HEntry α) : HEntry β := ⟨c * e.diff, e.cnt, rs c f e.bins⟩

/-! ### the heap looks at an entry only through `HEntry.before`: the case "a heap and its image" of `Part.hpop_keys` -/

section HeapMap
variable (g : HEntry α → HEntry β) (hg : ∀ e₁ e₂, (g e₁).before (g e₂) = e₁.before e₂)
include hg

theorem hpop_map (h : Heap α) : hpop (h.map g) = (hpop h).map (fun p => (g p.1, p.2.map g)) := by
  have hk : h.map g = (h.map g).map id := (List.map_id _).symm
  have hmem : ∀ p ∈ h.zip (h.map g), g p.1 = p.2 := Part.mem_zip_of_map_eq hk
  have key := Part.hpop_keys g id hk (List.pairwise_of_forall_mem_list fun p hp q hq => by
    rw [← hmem p hp, ← hmem q hq, hg])
  simpa using key.symm

theorem htop_map (h : Heap α) : htop (h.map g) = (htop h).map g := by
  rw [Part.htop_eq_hpop, Part.htop_eq_hpop, hpop_map g hg, Option.map_map, Option.map_map]
  rfl

theorem kkLoop_map (G : Bins α → Bins β) (hbins : ∀ e, (g e).bins = G e.bins)
    (hcomb : ∀ b₁ b₂, kkCombine (G b₁) (G b₂) = G (kkCombine b₁ b₂))
    (hpush : ∀ h c b, Prtpy.hpush (h.map g) c (G b) = ((Prtpy.hpush h c b).1.map g, (Prtpy.hpush h c b).2))
    (n : Nat) (h : Heap α) (c : Nat) :
    kkLoop n (h.map g) c = (kkLoop n h c).map g := by
  induction n generalizing h c with
  | zero => rfl
  | succ n ih =>
    simp only [kkLoop, hpop_map g hg]
    cases hpop h with
    | none => rfl
    | some p₁ =>
      simp only [Option.map_some, hpop_map g hg]
      cases hpop p₁.2 with
      | none => rfl
      | some p₂ => simp only [Option.map_some, hbins, hcomb, hpush, ih]

end HeapMap

section Sim
variable {c : Nat} {f : α → β} {vα : α → Nat} {vβ : β → Nat}

/-! ### the bins operations, and the parts of the algorithms that do not compare -/

theorem new_rs (c : Nat) (f : α → β) (k : Nat) : rs c f (Bins.new k : Bins α) = Bins.new k := by
  simp [rs, Bins.new]

theorem addEmpty_rs (c : Nat) (f : α → β) (b : Bins α) (n : Nat) : (rs c f b).addEmpty n = rs c f (b.addEmpty n) := by
  simp [rs, Bins.addEmpty, Bins.concat, Bins.new]

theorem removeLast_rs (c : Nat) (f : α → β) (b : Bins α) (n : Nat) :
    (rs c f b).removeLast n = rs c f (b.removeLast n) := by
  simp [rs, Bins.removeLast]

theorem lastSum_rs (c : Nat) (f : α → β) (b : Bins α) : (rs c f b).lastSum = c * b.lastSum := by
  simp only [Bins.lastSum, rs_sums, Scale.lastD_map_mul]

theorem kkCombine_rs (c : Nat) (f : α → β) (b₁ b₂ : Bins α) :
    kkCombine (rs c f b₁) (rs c f b₂) = rs c f (kkCombine b₁ b₂) := by
  simp only [kkCombine, rs, ← List.map_reverse, List.zipWith_map, List.map_zipWith, Nat.mul_add, List.map_append]

section
variable (hf : ∀ a, vβ (f a) = c * vα a)
include hf

theorem map_values_rs (items : List α) : (items.map f).map vβ = (items.map vα).map (c * ·) := by
  rw [List.map_map, List.map_map]
  exact List.map_congr_left fun a _ => hf a

theorem binSum_rs (l : List α) : binSum vβ (l.map f) = c * binSum vα l := by
  unfold binSum
  rw [map_values_rs hf, Scale.sumL_map_mul]

theorem add_rs (b : Bins α) (x : α) (i : Nat) : (rs c f b).add vβ (f x) i = rs c f (b.add vα x i) := by
  simp only [rs, Bins.add, hf, Scale.modify_map_mul, BinsOps.map_modify_append, List.map_cons, List.map_nil]

theorem addLast_rs (b : Bins α) (x : α) : (rs c f b).addLast vβ (f x) = rs c f (b.addLast vα x) := by
  simp only [Bins.addLast, add_rs hf, rs_sums, List.length_map]

theorem rrLoop_rs (k : Nat) (b : Bins α) (i : Nat) (xs : List α) :
    rrLoop vβ k (rs c f b) i (xs.map f) = rs c f (rrLoop vα k b i xs) := by
  induction xs generalizing b i with
  | nil => rfl
  | cons x xs ih => simp only [List.map_cons, rrLoop, add_rs hf, ih]

theorem foldl_addLast_rs (b : Bins α) (xs : List α) :
    (xs.map f).foldl (Bins.addLast vβ) (rs c f b) = rs c f (xs.foldl (Bins.addLast vα) b) :=
  foldl_natural f (rs c f) _ _ (addLast_rs hf) _ _

theorem single_rs (k : Nat) (x : α) : single vβ k (f x) = rs c f (single vα k x) := by
  unfold single
  rw [← add_rs hf, new_rs]

end

/-! ### comparisons of sums with each other or with the bin size (`0 < c`) -/

section
variable (hc : 0 < c)
include hc

theorem sortAsc_rs (b : Bins α) : (rs c f b).sortAsc = rs c f b.sortAsc :=
  BinsOps.sortAsc_map_map (c * ·) (fun _ _ => Nat.mul_le_mul_left_iff hc) (·.map f) b

theorem closeIfFull_rs (B : Nat) (b : Bins α) : closeIfFull (c * B) (rs c f b) = rs c f (closeIfFull B b) := by
  unfold closeIfFull
  rw [lastSum_rs, addEmpty_rs]
  simp only [Nat.mul_le_mul_left_iff hc]
  split <;> rfl

theorem hpush_rs (h : Heap α) (cnt : Nat) (b : Bins α) :
    hpush (h.map (rsEntry c f)) cnt (rs c f b) = ((hpush h cnt b).1.map (rsEntry c f), (hpush h cnt b).2) := by
  simp only [hpush, sortAsc_rs hc, rs_sums, Scale.lastD_map_mul, Scale.headD_map_mul, List.map_append,
    List.map_cons, List.map_nil, rsEntry, Nat.mul_sub]

theorem before_rs (e₁ e₂ : HEntry α) : (rsEntry c f e₁).before (rsEntry c f e₂) = e₁.before e₂ := by
  have h1 : (c * e₂.diff < c * e₁.diff) ↔ (e₂.diff < e₁.diff) := Nat.mul_lt_mul_left hc
  have h2 : (c * e₁.diff = c * e₂.diff) ↔ (e₁.diff = e₂.diff) := Nat.mul_left_cancel_iff hc
  show (decide (c * e₂.diff < c * e₁.diff) || (decide (c * e₁.diff = c * e₂.diff) && decide (e₁.cnt < e₂.cnt))) =
    (decide (e₂.diff < e₁.diff) || (decide (e₁.diff = e₂.diff) && decide (e₁.cnt < e₂.cnt)))
  rw [decide_eq_decide.2 h1, decide_eq_decide.2 h2]

end

variable (S : Scaled c f vα vβ)
include S

/-! ### sorting -/

theorem sortDesc_rs (items : List α) : sortDesc vβ (items.map f) = (sortDesc vα items).map f :=
  BinsOps.sortDesc_map f (fun a b => by rw [S.val, S.val]; exact Nat.mul_le_mul_left_iff S.pos) items

/-! ### greedy and round-robin -/

theorem greedyStep_rs (b : Bins α) (x : α) : greedyStep vβ (rs c f b) (f x) = rs c f (greedyStep vα b x) := by
  simp only [greedyStep, rs_sums, Scale.argmin_map_mul S.pos, add_rs S.val]

theorem greedy_rs (k : Nat) (items : List α) : greedy vβ k (items.map f) = rs c f (greedy vα k items) := by
  unfold greedy
  rw [sortDesc_rs S, ← new_rs c f k]
  exact foldl_natural f (rs c f) _ _ (greedyStep_rs S) _ _

theorem roundrobin_rs (k : Nat) (items : List α) :
    roundrobin vβ k (items.map f) = rs c f (roundrobin vα k items) := by
  unfold roundrobin
  rw [sortDesc_rs S, ← rrLoop_rs S.val, new_rs]

/-! ### first fit and best fit (bin sizes `B'` and `B' / c`) -/

theorem ffStep_rs (B' : Nat) (b : Bins α) (x : α) :
    ffStep vβ B' (rs c f b) (f x) = rs c f (ffStep vα (B' / c) b x) := by
  unfold ffStep
  have hfit : ((fun s => decide (s + vβ (f x) ≤ B')) ∘ (c * ·)) = fun s => decide (s + vα x ≤ B' / c) := by
    funext s
    rw [S.val]
    exact decide_eq_decide.2 (fits_scale S.pos s (vα x) B')
  rw [rs_sums, List.findIdx?_map, hfit]
  cases b.sums.findIdx? (fun s => decide (s + vα x ≤ B' / c)) with
  | some i => exact add_rs S.val b x i
  | none => simp only [List.length_map, addEmpty_rs, add_rs S.val]

theorem bfStep_rs (B' : Nat) (b : Bins α) (x : α) :
    bfStep vβ B' (rs c f b) (f x) = rs c f (bfStep vα (B' / c) b x) := by
  unfold bfStep
  have h := bfScan_scale S.pos (vα x) B' b.sums 0 none
  simp only [Option.map_none] at h
  rw [rs_sums, S.val, h]
  cases bfScan (vα x) (B' / c) b.sums 0 none with
  | some p => exact add_rs S.val b x p.1
  | none => simp only [Option.map_none, List.length_map, addEmpty_rs, add_rs S.val]

/-- the loop shared by first fit and best fit (`Fit.ffLoop_eq`, `Fit.bfLoop_eq`) -/
theorem genLoop_rs (B' : Nat) (stepα : Bins α → α → Bins α) (stepβ : Bins β → β → Bins β)
    (hstep : ∀ b x, stepβ (rs c f b) (f x) = rs c f (stepα b x)) (xs : List α) (b : Bins α) :
    Fit.genLoop vβ B' stepβ (rs c f b) (xs.map f) = (Fit.genLoop vα (B' / c) stepα b xs).map (rs c f) := by
  induction xs generalizing b with
  | nil => rfl
  | cons x xs ih =>
    simp only [List.map_cons, Fit.genLoop, S.val, toobig_scale S.pos]
    split
    · rfl
    · rw [hstep, ih]

theorem ffOnline_rs (B' : Nat) (items : List α) :
    ffOnline vβ B' (items.map f) = (ffOnline vα (B' / c) items).map (rs c f) := by
  unfold ffOnline
  rw [Fit.ffLoop_eq, Fit.ffLoop_eq, ← new_rs c f 1]
  exact genLoop_rs S B' _ _ (ffStep_rs S B') _ _

theorem ffDecreasing_rs (B' : Nat) (items : List α) :
    ffDecreasing vβ B' (items.map f) = (ffDecreasing vα (B' / c) items).map (rs c f) := by
  unfold ffDecreasing
  rw [sortDesc_rs S, ffOnline_rs S]

theorem bfOnline_rs (B' : Nat) (items : List α) :
    bfOnline vβ B' (items.map f) = (bfOnline vα (B' / c) items).map (rs c f) := by
  unfold bfOnline
  rw [Fit.bfLoop_eq, Fit.bfLoop_eq, ← new_rs c f 1]
  exact genLoop_rs S B' _ _ (bfStep_rs S B') _ _

theorem bfDecreasing_rs (B' : Nat) (items : List α) :
    bfDecreasing vβ B' (items.map f) = (bfDecreasing vα (B' / c) items).map (rs c f) := by
  unfold bfDecreasing
  rw [sortDesc_rs S, bfOnline_rs S]

/-! ### multifit (rational capacities) -/

theorem ffOnline_floorNat_rs (cap : Rat) (items : List α) :
    ffOnline vβ (floorNat ((c : Rat) * cap)) (items.map f) = (ffOnline vα (floorNat cap) items).map (rs c f) := by
  rw [ffOnline_rs S, floorNat_scale S.pos]

theorem ffCount_rs (cap : Rat) (items : List α) :
    ffCount vβ ((c : Rat) * cap) (items.map f) = ffCount vα cap items := by
  unfold ffCount
  rw [ffOnline_floorNat_rs S]
  cases ffOnline vα (floorNat cap) items with
  | error e => rfl
  | ok b => simp [Except.map]

theorem multifitSearch_rs (k : Nat) (sorted : List α) (it : Nat) (lo hi : Rat) :
    multifitSearch vβ k (sorted.map f) it ((c : Rat) * lo) ((c : Rat) * hi) =
      (multifitSearch vα k sorted it lo hi).map ((c : Rat) * ·) := by
  induction it generalizing lo hi with
  | zero => rfl
  | succ it ih =>
    simp only [multifitSearch, mid_scale, ffCount_rs S]
    cases ffCount vα ((lo + hi) / 2) sorted with
    | error e => rfl
    | ok n =>
      simp only
      split
      · exact ih _ _
      · exact ih _ _

theorem multifit_rs (k : Nat) (items : List α) (it : Nat) :
    multifit vβ k (items.map f) it = (multifit vα k items it).map (rs c f) := by
  have hcQ : (0 : Rat) < c := Rat.natCast_pos.2 S.pos
  have hlo : ratMax (((c : Rat) * (sumL (items.map vα) : Nat)) / k) ((c : Rat) * (maxL (items.map vα) : Nat)) =
      (c : Rat) * ratMax (((sumL (items.map vα) : Nat) : Rat) / k) (maxL (items.map vα) : Nat) := by
    rw [← ratMax_scale hcQ, Rat.div_def, Rat.div_def, Rat.mul_assoc]
  have hhi : ratMax ((2 * ((c : Rat) * (sumL (items.map vα) : Nat))) / k) ((c : Rat) * (maxL (items.map vα) : Nat)) =
      (c : Rat) * ratMax ((2 * ((sumL (items.map vα) : Nat) : Rat)) / k) (maxL (items.map vα) : Nat) := by
    rw [← ratMax_scale hcQ, Rat.div_def, Rat.div_def, ← Rat.mul_assoc 2, Rat.mul_comm 2, Rat.mul_assoc (c : Rat),
      Rat.mul_assoc (c : Rat)]
  unfold multifit
  simp only [map_values_rs S.val, Scale.sumL_map_mul, Scale.maxL_map_mul, Rat.natCast_mul, hlo, hhi,
    sortDesc_rs S, multifitSearch_rs S]
  cases multifitSearch vα k (sortDesc vα items) it
      (ratMax (((sumL (items.map vα) : Nat) : Rat) / k) (maxL (items.map vα) : Nat))
      (ratMax ((2 * ((sumL (items.map vα) : Nat) : Rat)) / k) (maxL (items.map vα) : Nat)) with
  | error e => rfl
  | ok cap => exact ffOnline_floorNat_rs S cap _

/-! ### the covering heuristics (bin sizes `c * B` and `B`) -/

theorem coverStep_rs (B : Nat) (b : Bins α) (x : α) :
    coverStep vβ (c * B) (rs c f b) (f x) = rs c f (coverStep vα B b x) := by
  have h := closeIfFull_rs (f := f) S.pos B (b.addLast vα x)
  unfold closeIfFull at h
  unfold coverStep
  simp only [addLast_rs S.val]
  exact h

theorem decrSub_rs (B : Nat) (b : Bins α) (xs : List α) :
    decrSub vβ (c * B) (rs c f b) (xs.map f) = rs c f (decrSub vα B b xs) :=
  foldl_natural f (rs c f) _ _ (coverStep_rs S B) _ _

theorem coverDecreasing_rs (B : Nat) (items : List α) :
    coverDecreasing vβ (c * B) (items.map f) = rs c f (coverDecreasing vα B items) := by
  unfold coverDecreasing
  rw [sortDesc_rs S, ← removeLast_rs, ← decrSub_rs S, new_rs]

theorem fillFromSmall_rs (B : Nat) (n : Nat) (b : Bins α) (xs : List α) :
    fillFromSmall vβ (c * B) n (rs c f b) (xs.map f)
      = (rs c f (fillFromSmall vα B n b xs).1, (fillFromSmall vα B n b xs).2.map f) := by
  induction n generalizing b xs with
  | zero => rfl
  | succ n ih =>
    simp only [fillFromSmall, lastSum_rs, Nat.mul_lt_mul_left S.pos, List.getLast?_map]
    split
    · cases xs.getLast? with
      | none => rfl
      | some x => simp only [Option.map_some, addLast_rs S.val, ← List.map_dropLast, ih]
    · rfl

theorem twoThirdsLoop_rs (B : Nat) (n : Nat) (b : Bins α) (xs : List α) :
    twoThirdsLoop vβ (c * B) n (rs c f b) (xs.map f) = rs c f (twoThirdsLoop vα B n b xs) := by
  induction n generalizing b xs with
  | zero => rfl
  | succ n ih =>
    cases xs with
    | nil => rfl
    | cons x xs =>
      simp only [List.map_cons, twoThirdsLoop, List.length_map, addLast_rs S.val,
        fillFromSmall_rs S, closeIfFull_rs S.pos, ih]

theorem twoThirds_rs (B : Nat) (items : List α) :
    twoThirds vβ (c * B) (items.map f) = rs c f (twoThirds vα B items) := by
  simp only [twoThirds, sortDesc_rs S, List.length_map]
  rw [← removeLast_rs, ← twoThirdsLoop_rs S, new_rs]

theorem isBig_rs (B : Nat) : isBig vβ (c * B) ∘ f = isBig vα B := by
  funext a
  show isBig vβ (c * B) (f a) = isBig vα B a
  unfold isBig
  rw [S.val]
  exact decide_eq_decide.2 (by rw [Nat.mul_left_comm]; exact Nat.mul_le_mul_left_iff S.pos)

theorem isMedium_rs (B : Nat) : isMedium vβ (c * B) ∘ f = isMedium vα B := by
  funext a
  show isMedium vβ (c * B) (f a) = isMedium vα B a
  unfold isMedium
  rw [S.val]
  congr 1
  · exact decide_eq_decide.2 (by rw [Nat.mul_left_comm]; exact Nat.mul_le_mul_left_iff S.pos)
  · exact decide_eq_decide.2 (by rw [Nat.mul_left_comm]; exact Nat.mul_lt_mul_left S.pos)

theorem isSmall_rs (B : Nat) : isSmall vβ (c * B) ∘ f = isSmall vα B := by
  funext a
  show isSmall vβ (c * B) (f a) = isSmall vα B a
  unfold isSmall
  rw [S.val]
  exact decide_eq_decide.2 (by rw [Nat.mul_left_comm]; exact Nat.mul_lt_mul_left S.pos)

theorem threeQuartersLoop_rs (B : Nat) (n : Nat) (b : Bins α) (big med small : List α) :
    threeQuartersLoop vβ (c * B) n (rs c f b) (big.map f) (med.map f) (small.map f)
      = rs c f (threeQuartersLoop vα B n b big med small) := by
  induction n generalizing b big med small with
  | zero => rfl
  | succ n ih =>
    rw [threeQuartersLoop, threeQuartersLoop]
    simp only [List.isEmpty_map, ← List.map_take, ← List.map_drop, binSum_rs S.val, List.length_map,
      Nat.mul_le_mul_left_iff S.pos]
    refine ite_map _ ?_ (ite_map _ ?_ ?_)
    · rw [decrSub_rs S, decrSub_rs S]
    · exact decrSub_rs S B b small
    · cases decide (binSum vα (List.take 2 med) ≤ binSum vα (List.take 1 big)) <;>
        simp only [Bool.false_eq_true, if_false, if_true, foldl_addLast_rs S.val,
          fillFromSmall_rs S, closeIfFull_rs S.pos, ih]

theorem threeQuarters_rs (B : Nat) (items : List α) :
    threeQuarters vβ (c * B) (items.map f) = rs c f (threeQuarters vα B items) := by
  simp only [threeQuarters, sortDesc_rs S, List.length_map, List.filter_map, isBig_rs S B, isMedium_rs S B,
    isSmall_rs S B]
  rw [← removeLast_rs, ← threeQuartersLoop_rs S, new_rs]

/-! ### Karmarkar–Karp -/

theorem pushAll_rs (k : Nat) (xs : List α) (h : Heap α) (cnt : Nat) :
    pushAll vβ k (xs.map f) (h.map (rsEntry c f)) cnt =
      ((pushAll vα k xs h cnt).1.map (rsEntry c f), (pushAll vα k xs h cnt).2) := by
  induction xs generalizing h cnt with
  | nil => rfl
  | cons x xs ih => simp only [List.map_cons, pushAll, single_rs S.val, hpush_rs S.pos, ih]

theorem kk_rs (k : Nat) (items : List α) : kk vβ k (items.map f) = (kk vα k items).map (rs c f) := by
  have hp := pushAll_rs S k (sortDesc vα items) [] 0
  simp only [List.map_nil] at hp
  simp only [kk, sortDesc_rs S, List.length_map, hp,
    kkLoop_map (rsEntry c f) (before_rs S.pos) (rs c f) (fun _ => rfl) (kkCombine_rs c f) (hpush_rs S.pos),
    htop_map (rsEntry c f) (before_rs S.pos)]
  cases htop (kkLoop ((sortDesc vα items).length - 1) (pushAll vα k (sortDesc vα items) [] 0).1
    (pushAll vα k (sortDesc vα items) [] 0).2) <;> rfl

end Sim

end Prtpy.Sim
