/-
  PrtpyProofs.MaxMin3 — property C08, the exact max-min guarantee of LPT (`greedy`): what the proof in
  PrtpyProofs.MaxMin5 knows about the bins `Ls` of a run `LPT43.Lpt v (replicate k []) xs Ls` of the LPT rule on an
  ordered list (ties open; `LPT43.run_lpt`: the loop `run v k xs` is one).

  Invariants, each an induction over the run: `Lpt.pref` (every proper prefix of a bin has sum `≤` every bin),
  `Lpt.tail` (items that are not first in their bin are `≤` the `(k+1)`-th value) in LPT43.lean; here `Lpt.sorted`, and
  `Lpt.pairwise_splitRel` (the LPT rule seen from the other bins, a `List.Pairwise` over the bins: when the last item
  `c` of a bin was placed on a load `m`, every other bin already held items `≥ c` of total `≥ m`, and has received only
  items `≤ c` since; `Lpt.split_of_mem` is its use).
  The counting argument: an item weighs `wt W u = 1 + [u ≥ W/2] + [u ≥ W]`, a bin `binSum (wt W)` (weighed bins:
  Feasible.lean); every bin of sum `≥ W` weighs `≥ 3` (`wt_cover`), whereas a bin of a run whose items all exceed `t`,
  `W/4 ≤ t ≤ W/2`, weighs `≤ 3`, and `≤ 2` if its sum is at most the minimum `L < W/2 + t` (`wt_bin`);
  `Lpt.weight_count` is the pigeonhole step.
  The last section uses the counting on its own: `L ≥ W/2 + t` when all items exceed `t` (`Lpt.large`, and from it
  `greedy_maxmin_partial_half_plus`); MaxMin5 does not need that section.
-/
import PrtpyProofs.Part
import PrtpyProofs.Feasible
import PrtpyProofs.LPT43
import PrtpyProofs.MaxMin
open Prtpy

namespace Prtpy.MaxMin3
open Prtpy.LPT43 Prtpy.MaxMin

variable {α : Type}

/-- the LPT rule seen from bin `l`: when `c` was put on the items `pre`, the bin `l` held its first `m` items, of sum
    at least the sum of `pre` and all `≥ c`; the others came later and are `≤ c` -/
def Split (v : α → Nat) (pre : List α) (c : α) (l : List α) : Prop :=
  ∃ m, m ≤ l.length ∧ binSum v pre ≤ binSum v (l.take m) ∧ (∀ u ∈ l.drop m, v u ≤ v c) ∧
    (∀ u ∈ l.take m, v c ≤ v u)

section
open Prtpy.Part
variable {v : α → Nat} {Ls : List (List α)} {xs : List α} {k : Nat}

theorem _root_.Prtpy.LPT43.Lpt.mem_seen (hr : Lpt v (List.replicate k []) xs Ls) {l : List α} (hl : l ∈ Ls) {u : α} (hu : u ∈ l) :
    u ∈ xs := by
  simpa using hr.perm.mem_iff.1 (List.mem_flatten.2 ⟨l, hl, hu⟩)

theorem _root_.Prtpy.LPT43.Lpt.sorted (hr : Lpt v (List.replicate k []) xs Ls) (hS : xs.Pairwise (fun a c => v c ≤ v a)) :
    ∀ l ∈ Ls, l.Pairwise (fun a c => v c ≤ v a) := by
  induction hr with
  | nil => intro l hl; rw [(List.mem_replicate.1 hl).2]; simp
  | @snoc seen pre post L x hr' hmin ih =>
    obtain ⟨hS', -, hx⟩ := List.pairwise_append.1 hS
    intro l hl
    rcases Part.mem_replace (a := L) hl with rfl | hl
    · rw [List.pairwise_append]
      refine ⟨ih hS' L (by simp), by simp, fun a ha c hc => ?_⟩
      exact hx a (hr'.mem_seen (l := L) (by simp) ha) c hc
    · exact ih hS' l hl

/-- seen from bin `B`, bin `l` is split at the moment the last item of `B` arrived -/
def SplitRel (v : α → Nat) (B l : List α) : Prop := ∀ pre c, B = pre ++ [c] → Split v pre c l

/-- the LPT rule seen from the other bins -/
theorem _root_.Prtpy.LPT43.Lpt.pairwise_splitRel (hr : Lpt v (List.replicate k []) xs Ls) (hS : xs.Pairwise (fun a c => v c ≤ v a)) :
    Ls.Pairwise (fun B l => SplitRel v B l ∧ SplitRel v l B) := by
  induction hr with
  | nil =>
    refine List.pairwise_of_forall_mem_list fun B hB l hl => ?_
    rw [(List.mem_replicate.1 hB).2, (List.mem_replicate.1 hl).2]
    exact ⟨fun pre c e => by simp at e, fun pre c e => by simp at e⟩
  | @snoc seen pre post L x hr' hmin ih =>
    obtain ⟨hS', -, hx⟩ := List.pairwise_append.1 hS
    have hx' : ∀ M ∈ pre ++ L :: post, ∀ u ∈ M, v x ≤ v u := fun M hM u hu =>
      hx u (hr'.mem_seen hM hu) x (by simp)
    have key : ∀ M ∈ pre ++ L :: post, SplitRel v M L → SplitRel v (L ++ [x]) M ∧ SplitRel v M (L ++ [x]) := by
      intro M hM hML
      constructor
      · -- `x` has just joined `L`: `M` is at least as heavy and holds only items `≥ x`
        intro p c e
        obtain ⟨rfl, hc⟩ := List.append_inj' e rfl
        obtain rfl : x = c := by simpa using hc
        exact ⟨M.length, Nat.le_refl _, by rw [List.take_length]; exact hmin M hM, by simp,
          by rw [List.take_length]; exact hx' M hM⟩
      · -- the last item of `M` is older than `x`
        intro p c e
        obtain ⟨m, hm, h1, h2, h3⟩ := hML p c e
        refine ⟨m, by simp only [List.length_append]; omega, ?_, ?_, ?_⟩
        · rw [List.take_append_of_le_length hm]; exact h1
        · intro u hu
          rw [List.drop_append_of_le_length hm] at hu
          rcases List.mem_append.1 hu with hu | hu
          · exact h2 u hu
          · simp only [List.mem_cons, List.not_mem_nil, or_false] at hu
            rw [hu]; exact hx' M hM c (by rw [e]; simp)
        · rw [List.take_append_of_le_length hm]; exact h3
    exact Part.pairwise_replace (ih hS')
      (fun p hp h => (key p (by simp [hp]) h.1).symm) (fun q hq h => key q (by simp [hq]) h.2)

/-- seen from a bin `pre ++ [c]` of the final state, every bin is split -/
theorem _root_.Prtpy.LPT43.Lpt.split_of_mem (hr : Lpt v (List.replicate k []) xs Ls) (hS : xs.Pairwise (fun a c => v c ≤ v a))
    {pre l : List α} {c : α} (hB : pre ++ [c] ∈ Ls) (hl : l ∈ Ls) : Split v pre c l := by
  have hrefl : ∀ B ∈ Ls, SplitRel v B B ∧ SplitRel v B B := by
    intro B hB
    have : SplitRel v B B := by
      rintro pre c rfl
      have hso := hr.sorted hS _ hB
      rw [List.pairwise_append] at hso
      refine ⟨(pre ++ [c]).length, Nat.le_refl _, ?_, ?_, ?_⟩
      · rw [List.take_length, Part.binSum_concat]; omega
      · rw [List.drop_length]; intro u hu; cases hu
      · rw [List.take_length]
        intro u hu
        rcases List.mem_append.1 hu with h | h
        · exact hso.2.2 u h c (by simp)
        · simp only [List.mem_cons, List.not_mem_nil, or_false] at h; rw [h]
    exact ⟨this, this⟩
  -- pairwise, symmetric and reflexive on the members: it holds of every two members
  exact ((hr.pairwise_splitRel hS).forall_of_forall_of_flip hrefl ((hr.pairwise_splitRel hS).imp And.symm) hB hl).1 pre c rfl

/-- what the invariants say about a bin of the final state on an ordered list -/
theorem _root_.Prtpy.LPT43.Lpt.bin_invariants (hk : 0 < k) (hr : Lpt v (List.replicate k []) xs Ls) (hS : xs.Pairwise (fun a c => v c ≤ v a))
    {l : List α} (hl : l ∈ Ls) :
    (∀ m, m < l.length → binSum v (l.take m) ≤ lmin v Ls) ∧
    (∀ c ∈ l.tail, v c ≤ (xs.map v).getD k 0) ∧ l.Pairwise (fun a c => v c ≤ v a) :=
  ⟨fun m hm => le_lmin (hr.ne_nil hk) (hr.pref (fun _ h => (List.mem_replicate.1 h).2) l hl m hm),
    hr.tail hS (le_getD_of_sorted v k hS) l hl, hr.sorted hS l hl⟩

end

/-- weight of a value in the counting argument: one, plus one if it is `≥ W/2`, plus one if it is `≥ W`; a bin `g`
    weighs `binSum (wt W) g` -/
def wt (W u : Nat) : Nat := 1 + (if W ≤ 2 * u then 1 else 0) + (if W ≤ u then 1 else 0)

theorem wt_pos (W u : Nat) : 1 ≤ wt W u := by unfold wt; omega
theorem wt_le (W u : Nat) : wt W u ≤ 3 := by unfold wt; split <;> split <;> omega
theorem wt_lt {W u : Nat} (h : u < W) : wt W u ≤ 2 := by unfold wt; split <;> split <;> omega
theorem wt_small {W u : Nat} (h : 2 * u < W) : wt W u = 1 := by unfold wt; split <;> split <;> omega
theorem wt_half {W u : Nat} (h : W ≤ 2 * u) : 2 ≤ wt W u := by unfold wt; split <;> split <;> omega
theorem wt_full {W u : Nat} (h : W ≤ u) : wt W u = 3 := by
  unfold wt; rw [if_pos (show W ≤ 2 * u by omega), if_pos h]

theorem wt_scale {c : Nat} (hc : 0 < c) (W : Nat) (g : List Nat) :
    binSum (wt (c * W)) (g.map (c * ·)) = binSum (wt W) g := by
  rw [Part.binSum_map]
  refine Part.binSum_congr fun u _ => ?_
  have : 2 * (c * u) = c * (2 * u) := Nat.mul_left_comm 2 c u
  simp only [wt, this, Nat.mul_le_mul_left_iff hc]

/-- a covered bin weighs at least three: it holds a member `≥ W`, or two members one of which is `≥ W/2`,
    or three members -/
theorem wt_cover {W : Nat} (hW : 0 < W) : ∀ g : List Nat, W ≤ sumL g → 3 ≤ binSum (wt W) g
  | [], h => by simp [sumL] at h; omega
  | [u], h => by
    simp only [sumL] at h
    have := wt_full (show W ≤ u by omega)
    simp only [Part.binSum_cons, Part.binSum_nil]; omega
  | [u, u'], h => by
    simp only [sumL] at h
    have := wt_pos W u
    have := wt_pos W u'
    simp only [Part.binSum_cons, Part.binSum_nil]
    rcases Nat.le_total W (2 * u) with h1 | h1
    · have := wt_half h1; omega
    · have := wt_half (show W ≤ 2 * u' by omega); omega
  | a :: b :: c :: _, _ => by
    have := wt_pos W a
    have := wt_pos W b
    have := wt_pos W c
    simp only [Part.binSum_cons]; omega

section
open Prtpy.Part
variable {v : α → Nat} {Ls : List (List α)} {xs : List α} {k : Nat}

/-- the counting core for a run against a cover: the bins of the run cannot all weigh `≤ c`, and a bin of
    smallest sum `< c`, if every bin of the cover weighs `≥ c` -/
theorem _root_.Prtpy.LPT43.Lpt.weight_count (w : Nat → Nat) {c : Nat} (hk : 0 < k) (hr : Lpt v (List.replicate k []) xs Ls)
    (hQ : SplitInto (fun g => c ≤ binSum w g) k (xs.map v))
    (hbin : ∀ l ∈ Ls, binSum w (l.map v) ≤ c ∧ (binSum v l ≤ lmin v Ls → binSum w (l.map v) < c)) : False := by
  obtain ⟨l₀, hl₀, e₀⟩ := exists_mem_lmin (v := v) (hr.ne_nil hk)
  have hp : (Ls.map (List.map v)).flatten.Perm (xs.map v) := by rw [← List.map_flatten]; simpa using hr.perm.map v
  -- `k` bins of weight `≤ c`, one of them `< c`, against `k` bins of weight `≥ c` with the same values
  refine Nat.lt_irrefl _ (Nat.lt_of_le_of_lt hQ.le_weight
    (weight_lt_of_bins w (Ls.map (List.map v)) (by simpa using hr.length) hp ?_ ?_))
  · intro l' hl'
    obtain ⟨l, hl, rfl⟩ := List.mem_map.1 hl'
    exact (hbin l hl).1
  · exact ⟨l₀.map v, List.mem_map_of_mem hl₀, (hbin l₀ hl₀).2 (Nat.le_of_eq e₀)⟩

end

/-- the weight of a bin of the LPT loop: at most three, and at most two for a bin of smallest sum.
    The first hypothesis on the bin is `Lpt.pref` for it, with `L` the smallest sum; the second says that the items
    after the first one are `< W/2`; the third that all items exceed `t`.  With `2·L < W + 2·t ≤ 6·t`: at most three
    items, and the first one is `≤ L − t < W/2` if a second one fits below `L`. -/
theorem wt_bin {v : α → Nat} {W t L : Nat} (h2L : 2 * L < W + 2 * t) (hWt : W ≤ 4 * t) (htW : 2 * t ≤ W) :
    ∀ l : List α, (∀ n, n < l.length → binSum v (l.take n) ≤ L) → (∀ c ∈ l.tail, 2 * v c < W) →
      (∀ c ∈ l, t < v c) → binSum (wt W) (l.map v) ≤ 3 ∧ (binSum v l ≤ L → binSum (wt W) (l.map v) ≤ 2)
  | [], _, _, _ => by simp [binSum, sumL]
  | [a], _, _, _ => by
    simp only [List.map_cons, List.map_nil, Part.binSum_cons, Part.binSum_nil, Nat.add_zero]
    exact ⟨wt_le W (v a), fun hle => wt_lt (by omega)⟩
  | [a, c], hpre, htail, hbig => by
    have h1 := hpre 1 (by simp)
    simp only [List.take_succ_cons, List.take_zero, Part.binSum_cons, Part.binSum_nil] at h1
    have h3 := hbig c (by simp)
    have hc := wt_small (htail c (by simp))
    simp only [List.map_cons, List.map_nil, Part.binSum_cons, Part.binSum_nil]
    refine ⟨by have := wt_lt (show v a < W by omega); omega, fun hle => ?_⟩
    have := wt_small (show 2 * v a < W by omega)
    omega
  | [a, b, c], hpre, htail, hbig => by
    have h1 := hpre 2 (by simp)
    simp only [List.take_succ_cons, List.take_zero, Part.binSum_cons, Part.binSum_nil] at h1
    have h3 := hbig c (by simp)
    have h3' := hbig b (by simp)
    have h3'' := hbig a (by simp)
    have hc := wt_small (htail c (by simp))
    have hb := wt_small (htail b (by simp))
    have ha := wt_small (show 2 * v a < W by omega)
    simp only [List.map_cons, List.map_nil, Part.binSum_cons, Part.binSum_nil]
    exact ⟨by omega, fun hle => by omega⟩
  | a :: b :: c :: d :: r, hpre, _, hbig => by
    exfalso
    have h1 := hpre 3 (by simp)
    simp only [List.take_succ_cons, List.take_zero, Part.binSum_cons, Part.binSum_nil] at h1
    have h3 := hbig a (by simp)
    have h4 := hbig b (by simp)
    have h5 := hbig c (by simp)
    omega

/-! ## All items large: `2·L ≥ W + 2·t` -/

section
open Prtpy.Part
variable {v : α → Nat} {Ls : List (List α)} {xs : List α} {k : Nat}

theorem _root_.Prtpy.LPT43.Lpt.large : ∀ (k : Nat), 0 < k → ∀ (xs : List α) (Ls : List (List α)), Lpt v (List.replicate k []) xs Ls →
    xs.Pairwise (fun a c => v c ≤ v a) → ∀ (W t : Nat), Covers W k (xs.map v) → (∀ x ∈ xs, t < v x) → W ≤ 4 * t →
    2 * t ≤ W → W + 2 * t ≤ 2 * lmin v Ls := by
  intro k
  induction k with
  | zero => intro h; omega
  | succ k' ih =>
    intro hk xs Ls hr hS W t hc hbig hWt htW
    apply Classical.byContradiction
    intro hcon
    by_cases hy : 2 * (xs.map v).getD (k' + 1) 0 < W
    · -- no peeling: the `(k+1)`-th value is below `W/2`; count with the weight `wt`
      have h2L : 2 * lmin v Ls < W + 2 * t := by omega
      have hW : 0 < W := by omega
      refine hr.weight_count (wt W) (c := 3) hk (SplitInto.mono (wt_cover hW) hc) ?_
      intro l hl
      obtain ⟨pf, tl, -⟩ := hr.bin_invariants hk hS hl
      have hbin := wt_bin h2L hWt htW l pf (fun c hc' => by have := tl c hc'; omega)
        (fun c hc' => hbig c (hr.mem_seen hl hc'))
      exact ⟨hbin.1, fun h => Nat.lt_succ_of_le (hbin.2 h)⟩
    · have hsp := hr.spread_bound hk hS hc
      by_cases hk' : k' = 0
      · subst hk'
        simp only [Nat.zero_add, Nat.one_mul] at hsp hcon
        omega
      · have hk'pos : 0 < k' := Nat.pos_of_ne_zero hk'
        obtain ⟨ys, Ls', hsub, hr', hL', hc'⟩ := hr.peel hk'pos hS (by omega) hc
        have key := ih hk'pos ys Ls' hr' (hS.sublist hsub) W t hc'
          (fun x hx => hbig x (hsub.subset hx)) hWt htW
        rw [hL'] at key
        exact hcon key

end

/-- C08, max-min, under a hypothesis on the items; independent of the exact ratio `MaxMin5.greedy_maxmin` (for `t`
    near `OPT/2` it gives more): if all items exceed `t`, `OPT/4 ≤ t ≤ OPT/2`, LPT's smallest sum is at least
    `OPT/2 + t`, for every number of bins. -/
theorem greedy_maxmin_partial_half_plus {v : α → Nat} {k : Nat} {items : List α} (hk : 0 < k) {opt : Nat}
    (hopt : IsOptimalValue .maxSmallest k (items.map v) (-(opt : Int))) (t : Nat)
    (hbig : ∀ x ∈ items, t < v x) (h1 : opt ≤ 4 * t) (h2 : 2 * t ≤ opt) :
    opt + 2 * t ≤ 2 * minL (greedy v k items).sums := by
  obtain ⟨W, hW, hc⟩ := cover_of_opt hopt
  have hW' : W = opt := by exact_mod_cast hW
  subst hW'
  rw [greedy_eq_run, run_lmin v hk]
  exact Lpt.large k hk _ _ (run_lpt v hk _) (Part.sortDesc_sorted v items) W t
    (hc.perm ((Part.sortDesc_perm v items).map v).symm)
    (fun x hx => hbig x ((Part.sortDesc_perm v items).mem_iff.1 hx)) h1 h2

/-- `[10, 10, 7, 7, 7]` on two bins: `OPT = 20`; with `t = 6` (`20/4 ≤ 6 ≤ 20/2`) all items exceed `t`, LPT's
    smallest sum is `17`: `20 + 2·6 = 32 ≤ 34` -/
theorem optmin_10_10_7_7_7 : IsOptimalValue .maxSmallest 2 ([10, 10, 7, 7, 7].map id) (-((20 : Nat) : Int)) :=
  isOptimalMin_of_total (asg := [0, 0, 1, 1, 1]) ⟨rfl, by decide⟩ (by decide) (by decide)

example : 20 + 2 * 6 ≤ 2 * minL (greedy id 2 [10, 10, 7, 7, 7]).sums :=
  greedy_maxmin_partial_half_plus (v := id) (by decide) optmin_10_10_7_7_7 6 (by decide) (by decide) (by decide)

end Prtpy.MaxMin3
