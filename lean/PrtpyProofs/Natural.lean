/-
  PrtpyProofs.Natural — C07: the algorithms are natural in the item type: renaming the items by a map that
  preserves values renames the output and changes nothing else (`alg vβ (items.map f) = mapItems f (alg vα items)`,
  the `*_natural` theorems).  Taking `f := v` shows that the sums depend only on the values (C06, `*_sums_values`);
  for the algorithms that sort their input the sums are therefore the same for every order in which the items are
  presented (C18, `*_perm_sums`).

  The heuristics are walked through once, in Sim.lean (namespace `Prtpy.Sim`), for a renaming `f` together with a
  positive factor `c` on the values (`Scaled`, `rs`, the `*_rs` theorems); naturality is the case `c = 1`, and this
  file only instantiates.  The two searches that have no scaling theorem are walked through here, for a renaming
  alone: CBLDM (`cbPart_natural`, `cbldm_natural`) and complete greedy (`cgStep_natural`, `cg_natural`, over
  `Iter.run_rel`); scaling (C18) stops at the heuristics, for the exact algorithms it is a symmetry of their optimal
  value (ExactSym.lean).  The dynamic program and the complete Karmarkar–Karp search follow in Natural2.lean.
-/
import PrtpyProofs.Sim
import PrtpyProofs.Iter
import PrtpyProofs.CBLDM
open Prtpy

namespace Prtpy.Natural

variable {α β : Type}

/-- input of the examples: `(value, name)` pairs with ties -/
def exItems : List (Nat × Char) := [(4, 'a'), (7, 'b'), (4, 'c'), (2, 'd'), (5, 'e'), (4, 'f')]
/-- the same items presented in the reverse order -/
def exItems' : List (Nat × Char) := [(4, 'f'), (5, 'e'), (2, 'd'), (4, 'c'), (7, 'b'), (4, 'a')]

theorem exItems_perm : exItems.Perm exItems' := by decide

attribute [local instance] decEqExcept

/-! ## Sorting

The instances for a value-preserving `f` of `BinsOps.sortDesc_map`, `BinsOps.sortAsc_map`, which ask for
`key' (f a) ≤ key' (f b) ↔ key a ≤ key b`. -/

theorem sortDesc_map (f : α → β) (vα : α → Nat) (vβ : β → Nat) (hf : ∀ a, vβ (f a) = vα a)
    (items : List α) :
    sortDesc vβ (items.map f) = (sortDesc vα items).map f :=
  BinsOps.sortDesc_map f (fun a b => by rw [hf, hf]) items

example : sortDesc id ([(1, 'a'), (3, 'b'), (2, 'c')].map Prod.fst)
    = (sortDesc Prod.fst [(1, 'a'), (3, 'b'), (2, 'c')]).map Prod.fst :=
  sortDesc_map Prod.fst Prod.fst id (fun _ => rfl) _

theorem sortAsc_map (f : α → β) (vα : α → Nat) (vβ : β → Nat) (hf : ∀ a, vβ (f a) = vα a)
    (items : List α) :
    Prtpy.sortAsc vβ (items.map f) = (Prtpy.sortAsc vα items).map f :=
  BinsOps.sortAsc_map f (fun a b => by rw [hf, hf]) items

example : Prtpy.sortAsc id ([(1, 'a'), (3, 'b'), (2, 'c')].map Prod.fst)
    = (Prtpy.sortAsc Prod.fst [(1, 'a'), (3, 'b'), (2, 'c')]).map Prod.fst :=
  sortAsc_map Prod.fst Prod.fst id (fun _ => rfl) _

/-! ## `Bins.mapItems`

That it commutes with every operation of `Prtpy/Bins.lean` is `BinsOps.mapItems_*`. -/

section MapItems
variable (f : α → β)

@[simp] theorem mapItems_sums (b : Bins α) : (b.mapItems f).sums = b.sums := rfl

@[simp] theorem mapItems_lists (b : Bins α) : (b.mapItems f).lists = b.lists.map (·.map f) := rfl

theorem mapItems_lists_length (b : Bins α) : (b.mapItems f).lists.length = b.lists.length := by
  simp only [mapItems_lists, List.length_map]

theorem mapItems_numbins (b : Bins α) : (b.mapItems f).numbins = b.numbins := rfl

theorem mapItems_lastSum (b : Bins α) : (b.mapItems f).lastSum = b.lastSum := rfl

theorem mapItems_combine (b₁ : Bins α) (i₁ : Nat) (b₂ : Bins α) (i₂ : Nat) :
    (b₁.combine i₁ b₂ i₂).mapItems f = (b₁.mapItems f).combine i₁ (b₂.mapItems f) i₂ :=
  BinsOps.mapItems_combine f b₁ b₂ i₁ i₂

example : ((Bins.mk [3, 1] [['a'], ['b', 'c']]).sortAsc).mapItems Char.toNat
    = ((Bins.mk [3, 1] [['a'], ['b', 'c']]).mapItems Char.toNat).sortAsc :=
  BinsOps.mapItems_sortAsc Char.toNat _

end MapItems

theorem except_map_sums (f : α → β) (e : Except Err (Bins α)) :
    (e.map (Bins.mapItems f)).map (·.sums) = e.map (·.sums) := by
  cases e <;> rfl

/-- rename the items of a heap entry -/
def mapEntry (f : α → β) (e : HEntry α) : HEntry β := ⟨e.diff, e.cnt, e.bins.mapItems f⟩

theorem rsEntry_one (f : α → β) : Sim.rsEntry 1 f = mapEntry f := by
  funext e
  simp only [Sim.rsEntry, mapEntry, Nat.one_mul, Sim.rs_one]

/-! ## Naturality of the algorithms (C07): the case `c = 1` -/

section Algs
variable (f : α → β) (vα : α → Nat) (vβ : β → Nat) (hf : ∀ a, vβ (f a) = vα a)
include hf

theorem greedy_natural (k : Nat) (items : List α) :
    greedy vβ k (items.map f) = (greedy vα k items).mapItems f := by
  rw [Sim.greedy_rs (Sim.Scaled.one hf), Sim.rs_one]

omit hf in
example : greedy id 2 (exItems.map Prod.fst) = (greedy Prod.fst 2 exItems).mapItems Prod.fst :=
  greedy_natural Prod.fst Prod.fst id (fun _ => rfl) 2 exItems
omit hf in
example : (greedy Prod.fst 2 exItems).sums = [13, 13] := by decide

theorem roundrobin_natural (k : Nat) (items : List α) :
    roundrobin vβ k (items.map f) = (roundrobin vα k items).mapItems f := by
  rw [Sim.roundrobin_rs (Sim.Scaled.one hf), Sim.rs_one]

omit hf in
example : roundrobin id 2 (exItems.map Prod.fst) = (roundrobin Prod.fst 2 exItems).mapItems Prod.fst :=
  roundrobin_natural Prod.fst Prod.fst id (fun _ => rfl) 2 exItems
omit hf in
example : (roundrobin Prod.fst 2 exItems).sums = [15, 11] := by decide

theorem ffOnline_natural (B : Nat) (items : List α) :
    ffOnline vβ B (items.map f) = (ffOnline vα B items).map (Bins.mapItems f) := by
  rw [Sim.ffOnline_rs (Sim.Scaled.one hf), Nat.div_one, Sim.rs_one]

omit hf in
example : ffOnline id 10 (exItems.map Prod.fst) = (ffOnline Prod.fst 10 exItems).map (Bins.mapItems Prod.fst) :=
  ffOnline_natural Prod.fst Prod.fst id (fun _ => rfl) 10 exItems
omit hf in
example : (ffOnline Prod.fst 10 exItems).map (·.sums) = .ok [10, 7, 9] := by rfl

theorem ffDecreasing_natural (B : Nat) (items : List α) :
    ffDecreasing vβ B (items.map f) = (ffDecreasing vα B items).map (Bins.mapItems f) := by
  rw [Sim.ffDecreasing_rs (Sim.Scaled.one hf), Nat.div_one, Sim.rs_one]

omit hf in
example : ffDecreasing id 10 (exItems.map Prod.fst) = (ffDecreasing Prod.fst 10 exItems).map (Bins.mapItems Prod.fst) :=
  ffDecreasing_natural Prod.fst Prod.fst id (fun _ => rfl) 10 exItems
omit hf in
example : (ffDecreasing Prod.fst 10 exItems).map (·.sums) = .ok [9, 9, 8] := by rfl

theorem bfOnline_natural (B : Nat) (items : List α) :
    bfOnline vβ B (items.map f) = (bfOnline vα B items).map (Bins.mapItems f) := by
  rw [Sim.bfOnline_rs (Sim.Scaled.one hf), Nat.div_one, Sim.rs_one]

omit hf in
example : bfOnline id 10 (exItems.map Prod.fst) = (bfOnline Prod.fst 10 exItems).map (Bins.mapItems Prod.fst) :=
  bfOnline_natural Prod.fst Prod.fst id (fun _ => rfl) 10 exItems
omit hf in
example : (bfOnline Prod.fst 10 exItems).map (·.sums) = .ok [10, 7, 9] := by rfl

theorem bfDecreasing_natural (B : Nat) (items : List α) :
    bfDecreasing vβ B (items.map f) = (bfDecreasing vα B items).map (Bins.mapItems f) := by
  rw [Sim.bfDecreasing_rs (Sim.Scaled.one hf), Nat.div_one, Sim.rs_one]

omit hf in
example : bfDecreasing id 10 (exItems.map Prod.fst) = (bfDecreasing Prod.fst 10 exItems).map (Bins.mapItems Prod.fst) :=
  bfDecreasing_natural Prod.fst Prod.fst id (fun _ => rfl) 10 exItems
omit hf in
example : (bfDecreasing Prod.fst 10 exItems).map (·.sums) = .ok [7, 9, 10] := by rfl

theorem multifit_natural (k : Nat) (items : List α) (iterations : Nat) :
    multifit vβ k (items.map f) iterations = (multifit vα k items iterations).map (Bins.mapItems f) := by
  rw [Sim.multifit_rs (Sim.Scaled.one hf), Sim.rs_one]

omit hf in
example : multifit id 2 (exItems.map Prod.fst) 5
    = (multifit Prod.fst 2 exItems 5).map (Bins.mapItems Prod.fst) :=
  multifit_natural Prod.fst Prod.fst id (fun _ => rfl) 2 exItems 5

theorem coverDecreasing_natural (B : Nat) (items : List α) :
    coverDecreasing vβ B (items.map f) = (coverDecreasing vα B items).mapItems f := by
  rw [← Sim.rs_one, ← Sim.coverDecreasing_rs (Sim.Scaled.one hf), Nat.one_mul]

omit hf in
example : coverDecreasing id 8 (exItems.map Prod.fst) = (coverDecreasing Prod.fst 8 exItems).mapItems Prod.fst :=
  coverDecreasing_natural Prod.fst Prod.fst id (fun _ => rfl) 8 exItems
omit hf in
example : (coverDecreasing Prod.fst 8 exItems).sums = [12, 8] := by decide

theorem twoThirds_natural (B : Nat) (items : List α) :
    twoThirds vβ B (items.map f) = (twoThirds vα B items).mapItems f := by
  rw [← Sim.rs_one, ← Sim.twoThirds_rs (Sim.Scaled.one hf), Nat.one_mul]

omit hf in
example : twoThirds id 8 (exItems.map Prod.fst) = (twoThirds Prod.fst 8 exItems).mapItems Prod.fst :=
  twoThirds_natural Prod.fst Prod.fst id (fun _ => rfl) 8 exItems
omit hf in
example : (twoThirds Prod.fst 8 exItems).sums = [9, 9, 8] := by decide +kernel

theorem threeQuarters_natural (B : Nat) (items : List α) :
    threeQuarters vβ B (items.map f) = (threeQuarters vα B items).mapItems f := by
  rw [← Sim.rs_one, ← Sim.threeQuarters_rs (Sim.Scaled.one hf), Nat.one_mul]

omit hf in
example : threeQuarters id 8 (exItems.map Prod.fst) = (threeQuarters Prod.fst 8 exItems).mapItems Prod.fst :=
  threeQuarters_natural Prod.fst Prod.fst id (fun _ => rfl) 8 exItems
omit hf in
example : (threeQuarters Prod.fst 8 exItems).sums = [9, 9, 8] := by decide +kernel

theorem kk_natural (k : Nat) (items : List α) :
    kk vβ k (items.map f) = (kk vα k items).map (Bins.mapItems f) := by
  rw [Sim.kk_rs (Sim.Scaled.one hf), Sim.rs_one]

omit hf in
example : kk id 3 (exItems.map Prod.fst) = (kk Prod.fst 3 exItems).map (Bins.mapItems Prod.fst) :=
  kk_natural Prod.fst Prod.fst id (fun _ => rfl) 3 exItems
omit hf in
example : (kk Prod.fst 3 exItems).map (·.sums) = .ok [8, 9, 9] := by decide +kernel

/-- the heap of `kk` before its main loop; `ckk` starts from the same heap (Natural2) -/
theorem pushAll_natural (k : Nat) (xs : List α) (h : Heap α) (c : Nat) :
    pushAll vβ k (xs.map f) (h.map (mapEntry f)) c
      = ((pushAll vα k xs h c).1.map (mapEntry f), (pushAll vα k xs h c).2) := by
  have hp := Sim.pushAll_rs (Sim.Scaled.one hf) k xs h c
  rwa [rsEntry_one] at hp

end Algs

/-! The heap operations under renaming, as the complete KK (`ckk`) uses them.  `mapEntry` keeps `diff` and `cnt`, so
`before_map` is `rfl`: a renaming alone needs no `Scaled`. -/

section KKHeap
variable (f : α → β)

theorem before_map (e₁ e₂ : HEntry α) : (mapEntry f e₁).before (mapEntry f e₂) = e₁.before e₂ := rfl

theorem hpush_natural (h : Heap α) (c : Nat) (b : Bins α) :
    hpush (h.map (mapEntry f)) c (b.mapItems f)
      = ((hpush h c b).1.map (mapEntry f), (hpush h c b).2) := by
  have hp := Sim.hpush_rs (f := f) Nat.one_pos h c b
  rwa [rsEntry_one, Sim.rs_one] at hp

theorem htop_natural (h : Heap α) : htop (h.map (mapEntry f)) = (htop h).map (mapEntry f) :=
  Sim.htop_map _ (before_map f) h

theorem hpop_natural (h : Heap α) :
    hpop (h.map (mapEntry f)) = (hpop h).map (fun p => (mapEntry f p.1, p.2.map (mapEntry f))) :=
  Sim.hpop_map _ (before_map f) h

end KKHeap

/-! ## The sums depend only on the values (C06)

Instance `f := v`, `β := Nat`, `vβ := id` of naturality: running an algorithm on the items and running it on
their bare values produce the same sums (indeed the same bins, after replacing every item by its value). -/

section Values
variable (v : α → Nat)

theorem greedy_sums_values (p : Nat) (items : List α) :
    (greedy v p items).sums = (greedy id p (items.map v)).sums := by
  rw [greedy_natural v v id (fun _ => rfl)]; rfl

example : (greedy Prod.fst 2 exItems).sums = (greedy id 2 [4, 7, 4, 2, 5, 4]).sums :=
  greedy_sums_values Prod.fst 2 exItems

theorem roundrobin_sums_values (p : Nat) (items : List α) :
    (roundrobin v p items).sums = (roundrobin id p (items.map v)).sums := by
  rw [roundrobin_natural v v id (fun _ => rfl)]; rfl

example : (roundrobin Prod.fst 2 exItems).sums = (roundrobin id 2 [4, 7, 4, 2, 5, 4]).sums :=
  roundrobin_sums_values Prod.fst 2 exItems

theorem coverDecreasing_sums_values (p : Nat) (items : List α) :
    (coverDecreasing v p items).sums = (coverDecreasing id p (items.map v)).sums := by
  rw [coverDecreasing_natural v v id (fun _ => rfl)]; rfl

example : (coverDecreasing Prod.fst 8 exItems).sums = (coverDecreasing id 8 [4, 7, 4, 2, 5, 4]).sums :=
  coverDecreasing_sums_values Prod.fst 8 exItems

theorem twoThirds_sums_values (p : Nat) (items : List α) :
    (twoThirds v p items).sums = (twoThirds id p (items.map v)).sums := by
  rw [twoThirds_natural v v id (fun _ => rfl)]; rfl

example : (twoThirds Prod.fst 8 exItems).sums = (twoThirds id 8 [4, 7, 4, 2, 5, 4]).sums :=
  twoThirds_sums_values Prod.fst 8 exItems

theorem threeQuarters_sums_values (p : Nat) (items : List α) :
    (threeQuarters v p items).sums = (threeQuarters id p (items.map v)).sums := by
  rw [threeQuarters_natural v v id (fun _ => rfl)]; rfl

example : (threeQuarters Prod.fst 8 exItems).sums = (threeQuarters id 8 [4, 7, 4, 2, 5, 4]).sums :=
  threeQuarters_sums_values Prod.fst 8 exItems

theorem ffOnline_sums_values (p : Nat) (items : List α) :
    (ffOnline v p items).map (·.sums) = (ffOnline id p (items.map v)).map (·.sums) := by
  rw [ffOnline_natural v v id (fun _ => rfl), except_map_sums]

example : (ffOnline Prod.fst 10 exItems).map (·.sums) = (ffOnline id 10 [4, 7, 4, 2, 5, 4]).map (·.sums) :=
  ffOnline_sums_values Prod.fst 10 exItems

theorem ffDecreasing_sums_values (p : Nat) (items : List α) :
    (ffDecreasing v p items).map (·.sums) = (ffDecreasing id p (items.map v)).map (·.sums) := by
  rw [ffDecreasing_natural v v id (fun _ => rfl), except_map_sums]

example : (ffDecreasing Prod.fst 10 exItems).map (·.sums) = (ffDecreasing id 10 [4, 7, 4, 2, 5, 4]).map (·.sums) :=
  ffDecreasing_sums_values Prod.fst 10 exItems

theorem bfOnline_sums_values (p : Nat) (items : List α) :
    (bfOnline v p items).map (·.sums) = (bfOnline id p (items.map v)).map (·.sums) := by
  rw [bfOnline_natural v v id (fun _ => rfl), except_map_sums]

example : (bfOnline Prod.fst 10 exItems).map (·.sums) = (bfOnline id 10 [4, 7, 4, 2, 5, 4]).map (·.sums) :=
  bfOnline_sums_values Prod.fst 10 exItems

theorem bfDecreasing_sums_values (p : Nat) (items : List α) :
    (bfDecreasing v p items).map (·.sums) = (bfDecreasing id p (items.map v)).map (·.sums) := by
  rw [bfDecreasing_natural v v id (fun _ => rfl), except_map_sums]

example : (bfDecreasing Prod.fst 10 exItems).map (·.sums) = (bfDecreasing id 10 [4, 7, 4, 2, 5, 4]).map (·.sums) :=
  bfDecreasing_sums_values Prod.fst 10 exItems

theorem kk_sums_values (p : Nat) (items : List α) :
    (kk v p items).map (·.sums) = (kk id p (items.map v)).map (·.sums) := by
  rw [kk_natural v v id (fun _ => rfl), except_map_sums]

example : (kk Prod.fst 3 exItems).map (·.sums) = (kk id 3 [4, 7, 4, 2, 5, 4]).map (·.sums) :=
  kk_sums_values Prod.fst 3 exItems

theorem multifit_sums_values (k : Nat) (items : List α) (iterations : Nat) :
    (multifit v k items iterations).map (·.sums)
      = (multifit id k (items.map v) iterations).map (·.sums) := by
  rw [multifit_natural v v id (fun _ => rfl), except_map_sums]

example : (multifit Prod.fst 2 exItems 5).map (·.sums) = (multifit id 2 [4, 7, 4, 2, 5, 4] 5).map (·.sums) :=
  multifit_sums_values Prod.fst 2 exItems 5

end Values

/-! ## Permutation invariance (C18)

On bare values (`v = id`) an algorithm that sorts its input only sees the sorted list, and the sorted list of
values is the same for every presentation of the input.  So after replacing every item by its value the whole
output is the same for every presentation (`*_perm_values`), in particular the sums (`*_perm_sums`). -/

theorem sortDesc_id_perm {L₁ L₂ : List Nat} (h : L₁.Perm L₂) : sortDesc id L₁ = sortDesc id L₂ :=
  List.Perm.eq_of_pairwise (le := fun a b => b ≤ a)
    (fun _ _ _ _ h₁ h₂ => Nat.le_antisymm h₂ h₁)
    (Part.sortDesc_sorted id L₁) (Part.sortDesc_sorted id L₂)
    ((Part.sortDesc_perm id L₁).trans (h.trans (Part.sortDesc_perm id L₂).symm))

theorem sortDesc_values_perm (v : α → Nat) {l₁ l₂ : List α} (h : l₁.Perm l₂) :
    (sortDesc v l₁).map v = (sortDesc v l₂).map v := by
  rw [← sortDesc_map v v id (fun _ => rfl), ← sortDesc_map v v id (fun _ => rfl)]
  exact sortDesc_id_perm (h.map v)

example : (sortDesc Prod.fst [(2, 'a'), (3, 'b'), (2, 'c')]).map Prod.fst
    = (sortDesc Prod.fst [(2, 'c'), (2, 'a'), (3, 'b')]).map Prod.fst :=
  sortDesc_values_perm _ (by decide)

/-- the sorted lists themselves differ (ties keep input order): only the values agree -/
example : sortDesc Prod.fst [(2, 'a'), (3, 'b'), (2, 'c')]
    ≠ sortDesc Prod.fst [(2, 'c'), (2, 'a'), (3, 'b')] := by decide

theorem kk_id_perm {L₁ L₂ : List Nat} (h : L₁.Perm L₂) (p : Nat) : kk id p L₁ = kk id p L₂ := by
  simp only [kk, sortDesc_id_perm h]

theorem except_sums_congr (f : α → β) {e₁ e₂ : Except Err (Bins α)}
    (h : e₁.map (Bins.mapItems f) = e₂.map (Bins.mapItems f)) : e₁.map (·.sums) = e₂.map (·.sums) := by
  rw [← except_map_sums f e₁, h, except_map_sums]

section Perm
variable (v : α → Nat) {items₁ items₂ : List α} (h : items₁.Perm items₂)
include h

theorem greedy_perm_values (p : Nat) :
    (greedy v p items₁).mapItems v = (greedy v p items₂).mapItems v := by
  rw [← greedy_natural v v id (fun _ => rfl), ← greedy_natural v v id (fun _ => rfl)]
  simp only [greedy, sortDesc_id_perm (h.map v)]

theorem greedy_perm_sums (p : Nat) : (greedy v p items₁).sums = (greedy v p items₂).sums :=
  (congrArg Bins.sums (greedy_perm_values v h p) :)

omit h in
/-- the contents do depend on the presentation (ties), only the values do not -/
example : (greedy Prod.fst 2 exItems).lists ≠ (greedy Prod.fst 2 exItems').lists := by decide +kernel

omit h in
example : (greedy Prod.fst 2 exItems).sums = (greedy Prod.fst 2 exItems').sums :=
  greedy_perm_sums Prod.fst exItems_perm 2

theorem roundrobin_perm_values (p : Nat) :
    (roundrobin v p items₁).mapItems v = (roundrobin v p items₂).mapItems v := by
  rw [← roundrobin_natural v v id (fun _ => rfl), ← roundrobin_natural v v id (fun _ => rfl)]
  simp only [roundrobin, sortDesc_id_perm (h.map v)]

theorem roundrobin_perm_sums (p : Nat) : (roundrobin v p items₁).sums = (roundrobin v p items₂).sums :=
  (congrArg Bins.sums (roundrobin_perm_values v h p) :)

omit h in
example : (roundrobin Prod.fst 2 exItems).sums = (roundrobin Prod.fst 2 exItems').sums :=
  roundrobin_perm_sums Prod.fst exItems_perm 2

theorem coverDecreasing_perm_values (p : Nat) :
    (coverDecreasing v p items₁).mapItems v = (coverDecreasing v p items₂).mapItems v := by
  rw [← coverDecreasing_natural v v id (fun _ => rfl), ← coverDecreasing_natural v v id (fun _ => rfl)]
  simp only [coverDecreasing, sortDesc_id_perm (h.map v)]

theorem coverDecreasing_perm_sums (p : Nat) : (coverDecreasing v p items₁).sums = (coverDecreasing v p items₂).sums :=
  (congrArg Bins.sums (coverDecreasing_perm_values v h p) :)

omit h in
example : (coverDecreasing Prod.fst 8 exItems).sums = (coverDecreasing Prod.fst 8 exItems').sums :=
  coverDecreasing_perm_sums Prod.fst exItems_perm 8

theorem twoThirds_perm_values (p : Nat) :
    (twoThirds v p items₁).mapItems v = (twoThirds v p items₂).mapItems v := by
  rw [← twoThirds_natural v v id (fun _ => rfl), ← twoThirds_natural v v id (fun _ => rfl)]
  simp only [twoThirds, sortDesc_id_perm (h.map v)]

theorem twoThirds_perm_sums (p : Nat) : (twoThirds v p items₁).sums = (twoThirds v p items₂).sums :=
  (congrArg Bins.sums (twoThirds_perm_values v h p) :)

omit h in
example : (twoThirds Prod.fst 8 exItems).sums = (twoThirds Prod.fst 8 exItems').sums :=
  twoThirds_perm_sums Prod.fst exItems_perm 8

theorem threeQuarters_perm_values (p : Nat) :
    (threeQuarters v p items₁).mapItems v = (threeQuarters v p items₂).mapItems v := by
  rw [← threeQuarters_natural v v id (fun _ => rfl), ← threeQuarters_natural v v id (fun _ => rfl)]
  simp only [threeQuarters, sortDesc_id_perm (h.map v)]

theorem threeQuarters_perm_sums (p : Nat) : (threeQuarters v p items₁).sums = (threeQuarters v p items₂).sums :=
  (congrArg Bins.sums (threeQuarters_perm_values v h p) :)

omit h in
example : (threeQuarters Prod.fst 8 exItems).sums = (threeQuarters Prod.fst 8 exItems').sums :=
  threeQuarters_perm_sums Prod.fst exItems_perm 8

theorem ffDecreasing_perm_values (p : Nat) :
    (ffDecreasing v p items₁).map (Bins.mapItems v) = (ffDecreasing v p items₂).map (Bins.mapItems v) := by
  rw [← ffDecreasing_natural v v id (fun _ => rfl), ← ffDecreasing_natural v v id (fun _ => rfl)]
  simp only [ffDecreasing, sortDesc_id_perm (h.map v)]

theorem ffDecreasing_perm_sums (p : Nat) :
    (ffDecreasing v p items₁).map (·.sums) = (ffDecreasing v p items₂).map (·.sums) :=
  except_sums_congr v (ffDecreasing_perm_values v h p)

omit h in
example : (ffDecreasing Prod.fst 10 exItems).map (·.sums) = (ffDecreasing Prod.fst 10 exItems').map (·.sums) :=
  ffDecreasing_perm_sums Prod.fst exItems_perm 10

theorem bfDecreasing_perm_values (p : Nat) :
    (bfDecreasing v p items₁).map (Bins.mapItems v) = (bfDecreasing v p items₂).map (Bins.mapItems v) := by
  rw [← bfDecreasing_natural v v id (fun _ => rfl), ← bfDecreasing_natural v v id (fun _ => rfl)]
  simp only [bfDecreasing, sortDesc_id_perm (h.map v)]

theorem bfDecreasing_perm_sums (p : Nat) :
    (bfDecreasing v p items₁).map (·.sums) = (bfDecreasing v p items₂).map (·.sums) :=
  except_sums_congr v (bfDecreasing_perm_values v h p)

omit h in
example : (bfDecreasing Prod.fst 10 exItems).map (·.sums) = (bfDecreasing Prod.fst 10 exItems').map (·.sums) :=
  bfDecreasing_perm_sums Prod.fst exItems_perm 10

theorem kk_perm_values (p : Nat) :
    (kk v p items₁).map (Bins.mapItems v) = (kk v p items₂).map (Bins.mapItems v) := by
  rw [← kk_natural v v id (fun _ => rfl), ← kk_natural v v id (fun _ => rfl)]
  simp only [kk, sortDesc_id_perm (h.map v)]

theorem kk_perm_sums (p : Nat) :
    (kk v p items₁).map (·.sums) = (kk v p items₂).map (·.sums) :=
  except_sums_congr v (kk_perm_values v h p)

omit h in
example : (kk Prod.fst 3 exItems).map (·.sums) = (kk Prod.fst 3 exItems').map (·.sums) :=
  kk_perm_sums Prod.fst exItems_perm 3

theorem multifit_perm_values (k iterations : Nat) :
    (multifit v k items₁ iterations).map (Bins.mapItems v)
      = (multifit v k items₂ iterations).map (Bins.mapItems v) := by
  rw [← multifit_natural v v id (fun _ => rfl), ← multifit_natural v v id (fun _ => rfl)]
  simp only [multifit, List.map_id, Part.sumL_perm (h.map v),
    Part.maxL_eq_of_perm (h.map v), sortDesc_id_perm (h.map v)]

theorem multifit_perm_sums (k iterations : Nat) :
    (multifit v k items₁ iterations).map (·.sums) = (multifit v k items₂ iterations).map (·.sums) :=
  except_sums_congr v (multifit_perm_values v h k iterations)

omit h in
example : (multifit Prod.fst 2 exItems 5).map (·.sums) = (multifit Prod.fst 2 exItems' 5).map (·.sums) :=
  multifit_perm_sums Prod.fst exItems_perm 2 5

end Perm

/-! ## Naturality of CBLDM -/

/-- rename the items of a CBLDM search state -/
def mapCbState (f : α → β) (st : CbState α) : CbState β :=
  ⟨st.best.map (Bins.mapItems f), st.sd, st.opt, st.tick⟩

section CBLDM
variable (f : α → β)

theorem sumDiff_mapItems (b : Bins α) : sumDiff (b.mapItems f) = sumDiff b := rfl

theorem lenDiff_mapItems (b : Bins α) : lenDiff (b.mapItems f) = lenDiff b := by
  simp only [lenDiff, mapItems_lists, BinsOps.getD_map_map, List.length_map]

theorem cbCombine_natural (a b : Bins α) :
    cbCombine (a.mapItems f) (b.mapItems f) = (cbCombine a b).mapItems f := by
  unfold cbCombine
  rw [BinsOps.mapItems_sortAsc]
  simp only [Bins.mapItems, BinsOps.getD_map_map, List.map_cons, List.map_nil, List.map_append]

theorem cbSplit_natural (a b : Bins α) :
    cbSplit (a.mapItems f) (b.mapItems f) = (cbSplit a b).mapItems f := by
  unfold cbSplit
  rw [BinsOps.mapItems_sortAsc]
  simp only [Bins.mapItems, BinsOps.getD_map_map, List.map_cons, List.map_nil, List.map_append]

@[simp] theorem mapCbState_best (st : CbState α) :
    (mapCbState f st).best = st.best.map (Bins.mapItems f) := rfl
@[simp] theorem mapCbState_sd (st : CbState α) : (mapCbState f st).sd = st.sd := rfl
@[simp] theorem mapCbState_opt (st : CbState α) : (mapCbState f st).opt = st.opt := rfl
@[simp] theorem mapCbState_tick (st : CbState α) : (mapCbState f st).tick = st.tick := rfl

/-! each named piece of one round of `cbPart` (`CBLDMProofs`) commutes with the renaming -/
section Round
open CBLDMProofs

theorem leaf_map (d : Nat) (st : CbState α) (p : Bins α) :
    cbLeaf d (mapCbState f st) (p.mapItems f) = mapCbState f (cbLeaf d st p) := by
  unfold cbLeaf
  rw [lenDiff_mapItems]
  exact ite_map _ rfl rfl

theorem map_sumDiff_map (subs : List (Bins α)) :
    (subs.map (Bins.mapItems f)).map sumDiff = subs.map sumDiff := by
  rw [List.map_map]; rfl

theorem map_lenDiff_map (subs : List (Bins α)) :
    (subs.map (Bins.mapItems f)).map lenDiff = subs.map lenDiff := by
  rw [List.map_map]; exact List.map_congr_left fun p _ => lenDiff_mapItems f p

theorem order_map (n : Nat) (subs : List (Bins α)) :
    cbOrder n (subs.map (Bins.mapItems f)) = (cbOrder n subs).map (Bins.mapItems f) := by
  unfold cbOrder
  rw [List.length_map, sortDesc_map (Bins.mapItems f) sumDiff sumDiff (fun _ => rfl)]
  exact ite_map _ rfl rfl

theorem cbPart_natural (n d : Nat) (cut : Option Nat) (fuel : Nat) (st : CbState α) (subs : List (Bins α)) :
    cbPart n d cut fuel (mapCbState f st) (subs.map (Bins.mapItems f))
      = mapCbState f (cbPart n d cut fuel st subs) := by
  -- the run on `α` is analysed by `cbPart_induct`; in each of its cases the run on `β` takes the same case
  refine cbPart_induct n d cut (fun fuel st subs out =>
    cbPart n d cut fuel (mapCbState f st) (subs.map (Bins.mapItems f)) = mapCbState f out)
    ?_ ?_ ?_ ?_ ?_ ?_ fuel st subs
  · intro st subs; rfl
  · intro fuel st subs h; exact cbPart_stop (st := mapCbState f st) h
  · intro fuel st h; exact cbPart_nil (st := mapCbState f st) h
  · intro fuel st p h; exact (cbPart_leaf (st := mapCbState f st) h).trans (leaf_map f d (tickSt st) p)
  · intro fuel st subs h h2 hp
    refine cbPart_pruned (st := mapCbState f st) h (by rw [List.length_map]; exact h2) ?_
    unfold sumPrune cardPrune at hp ⊢
    rw [map_sumDiff_map, map_lenDiff_map]; exact hp
  · intro fuel st subs a b rest st1 st2 h hs hc ho _ _ ih1 ih2
    have hs' : sumPrune (mapCbState f st).sd (subs.map (Bins.mapItems f)) = false := by
      unfold sumPrune at hs ⊢; rw [map_sumDiff_map]; exact hs
    have hc' : cardPrune d (subs.map (Bins.mapItems f)) = false := by
      unfold cardPrune at hc ⊢; rw [map_lenDiff_map]; exact hc
    have happ : ∀ x : Bins α, rest.map (Bins.mapItems f) ++ [x.mapItems f]
        = (rest ++ [x]).map (Bins.mapItems f) := fun x => by
      rw [List.map_append, List.map_singleton]
    rw [cbPart_node (st := mapCbState f st) h hs' hc' (by rw [order_map, ho]; rfl), cbSplit_natural,
      cbCombine_natural, happ, happ]
    exact (congrArg (cbPart n d cut fuel · _) ih1).trans ih2

end Round

theorem cbldm_natural (vα : α → Nat) (vβ : β → Nat) (hf : ∀ a, vβ (f a) = vα a)
    (items : List α) (d cut : Option Nat) :
    cbldm vβ (items.map f) d cut = (cbldm vα items d cut).map (Bins.mapItems f) := by
  have hsub : ((sortDesc vα items).map f).map (fun x => (Bins.new 2).add vβ x 1)
      = ((sortDesc vα items).map (fun x => (Bins.new 2).add vα x 1)).map (Bins.mapItems f) := by
    simp only [List.map_map]
    apply List.map_congr_left
    intro x _
    simp only [Function.comp, BinsOps.mapItems_add f vα vβ hf, BinsOps.mapItems_new]
  have hinit : ({ best := none, sd := none, opt := false, tick := 0 } : CbState β)
      = mapCbState f { best := none, sd := none, opt := false, tick := 0 } := rfl
  simp only [cbldm, sortDesc_map f vα vβ hf, List.length_map, hsub, hinit, cbPart_natural,
    mapCbState_best]

example : cbldm id (exItems.map Prod.fst) (some 1) none
    = (cbldm Prod.fst exItems (some 1) none).map (Bins.mapItems Prod.fst) :=
  cbldm_natural Prod.fst Prod.fst id (fun _ => rfl) exItems (some 1) none
example : (cbldm Prod.fst exItems (some 1) none).map (·.sums) = some [13, 13] := by decide +kernel

end CBLDM

/-! ## Naturality of complete greedy -/

/-- rename the items of a stack vertex -/
def mapVertex (f : α → β) (p : Bins α × Nat) : Bins β × Nat := (p.1.mapItems f, p.2)

/-- rename the items of a complete-greedy search state -/
def mapCgState (f : α → β) (s : CgState α) : CgState β :=
  ⟨s.stack.map (mapVertex f), s.seen, s.best.map (Bins.mapItems f), s.bestV, s.done⟩

section CG
variable (f : α → β) (vα : α → Nat) (vβ : β → Nat) (hf : ∀ a, vβ (f a) = vα a)
include hf

theorem remFrom_map (sorted : List α) (d : Nat) : remFrom vβ (sorted.map f) d = remFrom vα sorted d := by
  simp only [remFrom, ← List.map_drop, BinsOps.binSum_map f vα vβ hf]

theorem cgChildren_natural (cfg : CgCfg) (k : Nat) (cur : Bins α) (depth : Nat) (x : α) (r : Nat)
    (bestV : EInt) (bs : List Nat) (prev : Option Nat) (seen : List (Nat × List Nat))
    (acc : List (Bins α × Nat)) :
    cgChildren vβ cfg k (cur.mapItems f) depth (f x) r bestV bs prev seen (acc.map (mapVertex f))
      = Prod.map (List.map (mapVertex f)) id (cgChildren vα cfg k cur depth x r bestV bs prev seen acc) := by
  induction bs generalizing prev seen acc with
  | nil => simp only [cgChildren, Prod.map, List.map_reverse, id]
  | cons b bs ih =>
    have hcons : ∀ nb : Bins α, (nb.mapItems f, depth + 1) :: acc.map (mapVertex f)
        = ((nb, depth + 1) :: acc).map (mapVertex f) := fun _ => rfl
    simp only [cgChildren, mapItems_sums, hf, ← BinsOps.mapItems_add f vα vβ hf, ← BinsOps.mapItems_sortAsc, hcons, ih]
    exact ite_map _ rfl (ite_map _ rfl (ite_map _ rfl (ite_map _ (ite_map _ rfl rfl) rfl)))

theorem cgStep_natural (cfg : CgCfg) (k : Nat) (sorted : List α) (glb : EInt) (s : CgState α) :
    cgStep vβ cfg k (sorted.map f) glb (mapCgState f s)
      = mapCgState f (cgStep vα cfg k sorted glb s) := by
  obtain ⟨stack, seen, best, bestV, done⟩ := s
  match stack with
  | [] => rfl
  | (cur, depth) :: stack =>
    rw [show mapCgState f ⟨(cur, depth) :: stack, seen, best, bestV, done⟩
        = ⟨(cur.mapItems f, depth) :: stack.map (mapVertex f), seen, best.map (Bins.mapItems f), bestV, done⟩
        from rfl]
    simp only [cgStep, List.length_map, mapItems_sums, remFrom_map f vα vβ hf, List.getElem?_map]
    refine ite_map _ (ite_map _ (ite_map _ rfl rfl) rfl) (ite_map _ ?_ ?_)
    · have hfold := foldl_natural f (Bins.mapItems f) (fun b x => Bins.add vα b x 0)
        (fun b x => Bins.add vβ b x 0) (fun b x => (BinsOps.mapItems_add f vα vβ hf b x 0).symm)
        (sorted.drop depth) cur
      rw [← List.map_drop, hfold, ← BinsOps.mapItems_sortAsc]
      rfl
    · cases sorted[depth]? with
      | none => rfl
      | some x =>
        have hch := cgChildren_natural f vα vβ hf cfg k cur depth x (remFrom vα sorted (depth + 1)) bestV
          (List.range k).reverse none seen []
        simp only [List.map_nil] at hch
        simp only [Option.map_some, hch, Prod.map, id, ← List.map_reverse, ← List.map_append]
        rfl

theorem cgRun_natural (cfg : CgCfg) (k : Nat) (sorted : List α) (glb : EInt) (t : Nat) (s : CgState α) :
    cgRun vβ cfg k (sorted.map f) glb t (mapCgState f s)
      = mapCgState f (cgRun vα cfg k sorted glb t s) := by
  rw [Iter.cgRun_eq, Iter.cgRun_eq]
  exact Iter.run_rel (fun s t => t = mapCgState f s) (fun _ _ h => h ▸ rfl)
    (fun s _ h _ => h ▸ cgStep_natural f vα vβ hf cfg k sorted glb s) t s _ rfl

theorem cg_natural (cfg : CgCfg) (k : Nat) (items : List α) (cut : Option Nat) (fuel : Nat) :
    cg vβ cfg k (items.map f) cut fuel
      = (cg vα cfg k items cut fuel).map (Option.map (Bins.mapItems f)) := by
  have hinit : (cgInit k : CgState β) = mapCgState f (cgInit k) := by
    simp only [cgInit, mapCgState, List.map_cons, List.map_nil, mapVertex, BinsOps.mapItems_new, Option.map_none]
  simp only [cg, sortDesc_map f vα vβ hf, remFrom_map f vα vβ hf, hinit, cgRun_natural f vα vβ hf]
  cases cut with
  | some c => rfl
  | none =>
    simp only [mapCgState, List.isEmpty_map]
    split <;> rfl

omit hf in
example : cg id ⟨.minLargest, true, true, true, true⟩ 3 (exItems.map Prod.fst) none 1000
    = (cg Prod.fst ⟨.minLargest, true, true, true, true⟩ 3 exItems none 1000).map
        (Option.map (Bins.mapItems Prod.fst)) :=
  cg_natural Prod.fst Prod.fst id (fun _ => rfl) _ 3 exItems none 1000
omit hf in
example : (cg Prod.fst ⟨.minLargest, true, true, true, true⟩ 3 exItems none 1000).map (Option.map (·.sums))
    = .ok (some [8, 9, 9]) := by decide +kernel

end CG

/-! ## The sums of CBLDM and complete greedy depend only on the multiset of values (C18) -/

theorem option_map_sums (f : α → β) (o : Option (Bins α)) :
    (o.map (Bins.mapItems f)).map (·.sums) = o.map (·.sums) := by
  cases o <;> rfl

theorem except_option_map_sums (f : α → β) (e : Except Err (Option (Bins α))) :
    (e.map (Option.map (Bins.mapItems f))).map (Option.map (·.sums)) = e.map (Option.map (·.sums)) := by
  cases e with
  | error _ => rfl
  | ok o => cases o <;> rfl

theorem cbldm_id_perm {L₁ L₂ : List Nat} (h : L₁.Perm L₂) (d cut : Option Nat) :
    cbldm id L₁ d cut = cbldm id L₂ d cut := by
  simp only [cbldm, sortDesc_id_perm h]

theorem cg_id_perm {L₁ L₂ : List Nat} (h : L₁.Perm L₂) (cfg : CgCfg) (k : Nat) (cut : Option Nat) (fuel : Nat) :
    cg id cfg k L₁ cut fuel = cg id cfg k L₂ cut fuel := by
  simp only [cg, sortDesc_id_perm h]

theorem cbldm_perm_sums (v : α → Nat) {items₁ items₂ : List α} (h : items₁.Perm items₂) (d cut : Option Nat) :
    (cbldm v items₁ d cut).map (·.sums) = (cbldm v items₂ d cut).map (·.sums) := by
  have h₁ := cbldm_natural v v id (fun _ => rfl) items₁ d cut
  have h₂ := cbldm_natural v v id (fun _ => rfl) items₂ d cut
  rw [cbldm_id_perm (h.map v)] at h₁
  have := congrArg (Option.map (·.sums)) (h₁.symm.trans h₂)
  rwa [option_map_sums, option_map_sums] at this

example : (cbldm Prod.fst exItems (some 1) none).map (·.sums)
    = (cbldm Prod.fst exItems' (some 1) none).map (·.sums) :=
  cbldm_perm_sums Prod.fst exItems_perm _ _

theorem cg_perm_sums (v : α → Nat) {items₁ items₂ : List α} (h : items₁.Perm items₂)
    (cfg : CgCfg) (k : Nat) (cut : Option Nat) (fuel : Nat) :
    (cg v cfg k items₁ cut fuel).map (Option.map (·.sums))
      = (cg v cfg k items₂ cut fuel).map (Option.map (·.sums)) := by
  have h₁ := cg_natural v v id (fun _ => rfl) cfg k items₁ cut fuel
  have h₂ := cg_natural v v id (fun _ => rfl) cfg k items₂ cut fuel
  rw [cg_id_perm (h.map v)] at h₁
  have := congrArg (Except.map (Option.map (·.sums))) (h₁.symm.trans h₂)
  rwa [except_option_map_sums, except_option_map_sums] at this

example : (cg Prod.fst ⟨.minLargest, true, true, true, true⟩ 3 exItems none 1000).map (Option.map (·.sums))
    = (cg Prod.fst ⟨.minLargest, true, true, true, true⟩ 3 exItems' none 1000).map (Option.map (·.sums)) :=
  cg_perm_sums Prod.fst exItems_perm _ 3 none 1000

end Prtpy.Natural
