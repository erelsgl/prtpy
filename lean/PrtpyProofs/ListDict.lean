/-
  PrtpyProofs.ListDict — properties C06 and C07 as statements about the sums, the part that holds where
  PrtpyProofs/CKKDedupe.lean refutes the whole: for `ckk` (the code before F11) list input and dict input, and the two
  managers, give the same *difference* between the largest and the smallest sum (both runs are optimal), hence the
  same vector of sums with two bins and whenever the optimum difference is ≤ 1; for `snp` the whole vector of sums is
  the same for list and dict input (`snp_list_dict_sums`, an instance of `ValueSim.snp_sums_congr`).  The examples run
  on the inputs of the refutations.  Namespace `Prtpy.CKKDedupe`, continued from CKKDedupe.lean; the corresponding
  theorem for `rnpF` is `RNPDict.rnpF_list_dict_sums`.
-/
import PrtpyProofs.BinsOps
import PrtpyProofs.CKKDedupe
import PrtpyProofs.SNPOpt
import PrtpyProofs.SumsOnly
import PrtpyProofs.ValueSim
open Prtpy

attribute [local instance] Prtpy.decEqBins

namespace Prtpy.CKKDedupe
open Prtpy.SumsOnly (Real)

variable {α : Type}

/-! ## What remains true of `ckk` -/

/-! ### the difference is the same for list and dict input -/

theorem binSum_id_map (v : α → Nat) (l : List α) : binSum id (l.map v) = binSum v l :=
  BinsOps.binSum_map v v id (fun _ => rfl) l

theorem real_length_sum {v : α → Nat} {items : List α} {k : Nat} {s : List Nat} (h : Real v items k s) :
    s.length = k ∧ sumL s = binSum v items := by
  obtain ⟨L, hl, hp, rfl⟩ := h
  exact ⟨by simpa using hl, by rw [Part.sumL_map_binSum, Part.binSum_perm v hp]⟩

/-- C07 for complete Karmarkar–Karp (before F11), the value: list input and dict input (arbitrary items, any
    managers, any fuels) give the same difference between the largest and the smallest sum. -/
theorem ckk_list_dict_spread {v nm : α → Nat} [BEq α] [LawfulBEq α] {c₁ c₂ : Bool} {k : Nat} {items : List α}
    {fuel₁ fuel₂ : Nat} {b₁ : Bins α} {b₂ : Bins Nat} (hk : 0 < k)
    (h₁ : ckk v nm k c₁ items fuel₁ = .ok b₁) (h₂ : ckk id id k c₂ (items.map v) fuel₂ = .ok b₂) :
    spread b₂.sums = spread b₁.sums := by
  have hne := SumsOnly.ckk_ne_nil h₁
  have o₂ := (SumsOnly.ckk_real_optimal c₂ hk (by simpa using hne) h₂).2
  rw [List.map_id] at o₂
  exact SumsOnly.spread_eq_of_optimal o₂ (SumsOnly.ckk_real_optimal c₁ hk hne h₁).2

example : spread (⟨[4, 4, 6, 6], [[4], [2, 2], [2, 2, 2], [1, 5]]⟩ : Bins Nat).sums
    = spread (⟨[4, 5, 5, 6], [[(3, 2), (5, 2)], [(1, 4), (7, 1)], [(0, 5)], [(2, 2), (4, 2), (6, 2)]]⟩ :
        Bins (Nat × Nat)).sums :=
  ckk_list_dict_spread (by decide) ckk_dict_contents ckk_list_contents

/-- C07 for SNP, the value -/
theorem snp_list_dict_spread {v nm : α → Nat} [BEq α] [LawfulBEq α] {c₁ c₂ : Bool} {k : Nat} {items : List α}
    {fuel₁ fuel₂ : Nat} {b₁ : Bins α} {b₂ : Bins Nat} (hk : 0 < k) (hne : items ≠ [])
    (h₁ : snp v nm k c₁ items fuel₁ = .ok b₁) (h₂ : snp id id k c₂ (items.map v) fuel₂ = .ok b₂) :
    spread b₂.sums = spread b₁.sums := by
  have o₂ := (SumsOnly.snp_optimal_any c₂ hk (by simpa using hne) h₂).2
  rw [List.map_id] at o₂
  exact SumsOnly.spread_eq_of_optimal o₂ (SumsOnly.snp_optimal_any c₁ hk hne h₁).2

/-- C07 for RNP (`numbins ≤ 5`), the value -/
theorem rnpF_list_dict_spread {v nm : α → Nat} [BEq α] [LawfulBEq α] {c₁ c₂ : Bool} {k : Nat} {items : List α}
    {fuel₁ fuel₂ : Nat} {b₁ : Bins α} {b₂ : Bins Nat} (hk : 0 < k) (hk5 : k ≤ 5) (hne : items ≠ [])
    (h₁ : rnpF v nm k c₁ items fuel₁ = .ok b₁) (h₂ : rnpF id id k c₂ (items.map v) fuel₂ = .ok b₂) :
    spread b₂.sums = spread b₁.sums := by
  have o₂ := (SumsOnly.rnpF_optimal_any c₂ hk hk5 (by simpa using hne) h₂).2
  rw [List.map_id] at o₂
  exact SumsOnly.spread_eq_of_optimal o₂ (SumsOnly.rnpF_optimal_any c₁ hk hk5 hne h₁).2

/-! ### ascending vectors of spread at most one -/

theorem two_valued (m : Nat) : ∀ l : List Nat, (∀ x ∈ l, x = m ∨ x = m + 1) →
    sumL l = l.length * m + l.count (m + 1) ∧ l.count m + l.count (m + 1) = l.length ∧
      ∀ y, y ≠ m → y ≠ m + 1 → l.count y = 0
  | [], _ => by simp [sumL]
  | x :: xs, h => by
    obtain ⟨i1, i2, i3⟩ := two_valued m xs (fun y hy => h y (List.mem_cons_of_mem _ hy))
    have hx := h x List.mem_cons_self
    refine ⟨?_, ?_, fun y hy1 hy2 => ?_⟩
    · rcases hx with rfl | rfl <;> simp [sumL, i1, Nat.add_mul] <;> omega
    · rcases hx with rfl | rfl <;> simp <;> omega
    · rw [List.count_cons, i3 y hy1 hy2]
      rcases hx with rfl | rfl
      · simp [Ne.symm hy1]
      · simp [Ne.symm hy2]

theorem spread_le_one_two_valued {l : List Nat} (hs : spread l ≤ 1) :
    ∀ x ∈ l, x = minL l ∨ x = minL l + 1 := by
  intro x hx
  have h1 := Part.minL_le hx
  have h2 := Part.le_maxL hx
  unfold spread at hs
  omega

/-- ascending vectors of the same length and total whose spread is at most one are equal: both take values in
    `{m, m + 1}`, and length and total fix `m` and the number of entries `m + 1` -/
theorem sorted_eq_of_spread_le_one {a b : List Nat} (ha : a.Pairwise (· ≤ ·)) (hb : b.Pairwise (· ≤ ·))
    (hlen : a.length = b.length) (hsum : sumL a = sumL b) (hsa : spread a ≤ 1) (hsb : spread b ≤ 1) : a = b := by
  by_cases hane : a = []
  · subst hane
    exact (List.length_eq_zero_iff.1 hlen.symm).symm
  have hbne : b ≠ [] := by
    intro h
    subst h
    exact hane (List.length_eq_zero_iff.1 hlen)
  obtain ⟨a1, a2, a3⟩ := two_valued (minL a) a (spread_le_one_two_valued hsa)
  obtain ⟨b1, b2, b3⟩ := two_valued (minL b) b (spread_le_one_two_valued hsb)
  have ca : 0 < a.count (minL a) := List.count_pos_iff.2 (Part.minL_mem hane)
  have cb : 0 < b.count (minL b) := List.count_pos_iff.2 (Part.minL_mem hbne)
  rw [hlen] at a1 a2
  rw [hsum] at a1
  have hm : minL a = minL b := by
    rcases Nat.lt_trichotomy (minL a) (minL b) with h | h | h
    · have := Nat.mul_le_mul_left b.length (show minL a + 1 ≤ minL b from h)
      rw [Nat.mul_succ] at this
      omega
    · exact h
    · have := Nat.mul_le_mul_left b.length (show minL b + 1 ≤ minL a from h)
      rw [Nat.mul_succ] at this
      omega
  rw [← hm] at b1 b2 b3
  refine Part.eq_of_sorted_of_perm ha hb (List.perm_iff_count.2 fun y => ?_)
  by_cases h1 : y = minL a
  · subst h1; omega
  · by_cases h2 : y = minL a + 1
    · subst h2; omega
    · rw [a3 y h1 h2, b3 y h1 h2]

example : ([5, 5, 6] : List Nat) = [5, 5, 6] :=
  sorted_eq_of_spread_le_one (by decide) (by decide) rfl rfl (by decide) (by decide)

/-- C06 for `ckk`, partial: optimum difference at most one.  (Without `hs` the statement is false:
    `ckk_sums_manager_dependent`.) -/
theorem ckk_sums_manager_independent_partial_spread_le_one {v nm : α → Nat} [BEq α] [LawfulBEq α] {k : Nat}
    {items : List α} {fuel₁ fuel₂ : Nat} {b₁ b₂ : Bins α} (hk : 0 < k)
    (h₁ : ckk v nm k true items fuel₁ = .ok b₁) (h₂ : ckk v nm k false items fuel₂ = .ok b₂)
    (hs : spread b₁.sums ≤ 1) : b₂.sums = b₁.sums := by
  have hne := SumsOnly.ckk_ne_nil h₁
  obtain ⟨l₁, s₁⟩ := real_length_sum (SumsOnly.ckk_real_optimal true hk hne h₁).1
  obtain ⟨l₂, s₂⟩ := real_length_sum (SumsOnly.ckk_real_optimal false hk hne h₂).1
  have hv := SumsOnly.ckk_value_manager_independent hk h₁ h₂
  exact sorted_eq_of_spread_le_one (SumsOnly.ckk_sums_sorted h₂) (SumsOnly.ckk_sums_sorted h₁)
    (by rw [l₁, l₂]) (by rw [s₁, s₂]) (by omega) hs

example : (⟨[8, 8, 8, 8], [[], [], [], []]⟩ : Bins Nat).sums
    = (⟨[8, 8, 8, 8], [[1, 7], [2, 6], [3, 5], [8]]⟩ : Bins Nat).sums :=
  ckk_sums_manager_independent_partial_spread_le_one (v := id) (nm := id) (k := 4)
    (items := [8, 7, 6, 5, 3, 2, 1]) (fuel₁ := 200) (fuel₂ := 200) (by decide) (by decide +kernel)
    (by decide +kernel) (by decide)

/-- C07 for `ckk`, partial: optimum difference at most one (arbitrary items; without `hs` the statement is false:
    `ckk_list_dict_disagree`) -/
theorem ckk_list_dict_sums_partial_spread_le_one {v nm : α → Nat} [BEq α] [LawfulBEq α] {c₁ c₂ : Bool} {k : Nat}
    {items : List α} {fuel₁ fuel₂ : Nat} {b₁ : Bins α} {b₂ : Bins Nat} (hk : 0 < k)
    (h₁ : ckk v nm k c₁ items fuel₁ = .ok b₁) (h₂ : ckk id id k c₂ (items.map v) fuel₂ = .ok b₂)
    (hs : spread b₁.sums ≤ 1) : b₂.sums = b₁.sums := by
  have hne := SumsOnly.ckk_ne_nil h₁
  obtain ⟨l₁, s₁⟩ := real_length_sum (SumsOnly.ckk_real_optimal c₁ hk hne h₁).1
  obtain ⟨l₂, s₂⟩ := real_length_sum (SumsOnly.ckk_real_optimal c₂ hk (by simpa using hne) h₂).1
  have hv := ckk_list_dict_spread hk h₁ h₂
  exact sorted_eq_of_spread_le_one (SumsOnly.ckk_sums_sorted h₂) (SumsOnly.ckk_sums_sorted h₁)
    (by rw [l₁, l₂]) (by rw [s₁, s₂, binSum_id_map]) (by omega) hs

/-- C07 for `ckk` with two bins (arbitrary items): the two ascending sums are determined by total and difference -/
theorem ckk_list_dict_sums_two {v nm : α → Nat} [BEq α] [LawfulBEq α] {c₁ c₂ : Bool}
    {items : List α} {fuel₁ fuel₂ : Nat} {b₁ : Bins α} {b₂ : Bins Nat}
    (h₁ : ckk v nm 2 c₁ items fuel₁ = .ok b₁) (h₂ : ckk id id 2 c₂ (items.map v) fuel₂ = .ok b₂) :
    b₂.sums = b₁.sums := by
  have hne := SumsOnly.ckk_ne_nil h₁
  exact ValueSim.real_two_sums_eq (SumsOnly.ckk_real_optimal c₂ (by decide) (by simpa using hne) h₂).1
    (SumsOnly.ckk_real_optimal c₁ (by decide) hne h₁).1 (binSum_id_map v items)
    (SumsOnly.ckk_sums_sorted h₂) (SumsOnly.ckk_sums_sorted h₁) (ckk_list_dict_spread (by decide) h₁ h₂)

example : (⟨[15, 15], [[4, 5, 6], [7, 8]]⟩ : Bins Nat).sums
    = (⟨[15, 15], [[(2, 6), (3, 5), (4, 4)], [(0, 8), (1, 7)]]⟩ : Bins (Nat × Nat)).sums :=
  ckk_list_dict_sums_two (v := Prod.snd) (nm := Prod.fst) (c₁ := true) (c₂ := true)
    (items := [(0, 8), (1, 7), (2, 6), (3, 5), (4, 4)]) (fuel₁ := 100) (fuel₂ := 100) (by decide +kernel)
    (by decide +kernel)

/-! ## Sequential number partitioning: list input = dict input (the whole vector of sums)

  Instances of `ValueSim.snp_sums_congr` (two runs on items with the same values up to order),
  PrtpyProofs/ValueSim.lean. -/

/-- the 2-way search on items and on (a reordering of) their values: the same ascending sums -/
theorem ckk2_sums_values {v nm : α → Nat} [BEq α] [LawfulBEq α] {c c' : Bool} {rem : List α} {remN : List Nat}
    {fuel fuel' : Nat} {two : Bins α} {two' : Bins Nat} (hp : (rem.map v).Perm remN)
    (h : ckk2 v nm c rem fuel = .ok two) (h' : ckk2 id id c' remN fuel' = .ok two') : two.sums = two'.sums :=
  ValueSim.ckk2_vsim (by rwa [List.map_id]) h h'

/-- **C07 for sequential number partitioning, the whole vector of sums.**  For arbitrary items
    (names in any order, equal values, even equal items), any number of bins, either manager and any fuels: the run
    on the named items and the run on the list of their values return the same sums, in the same order. -/
theorem snp_list_dict_sums {v nm : α → Nat} [BEq α] [LawfulBEq α] {c₁ c₂ : Bool} {k : Nat} {items : List α}
    {fuel₁ fuel₂ : Nat} {b₁ : Bins α} {b₂ : Bins Nat}
    (h₁ : snp v nm k c₁ items fuel₁ = .ok b₁) (h₂ : snp id id k c₂ (items.map v) fuel₂ = .ok b₂) :
    b₂.sums = b₁.sums :=
  (ValueSim.snp_sums_congr (by rw [List.map_id]) h₁ h₂).symm

/-- non-vacuity, on the very input on which `ckk` disagrees -/
example : (⟨[4, 5, 5, 6], [[4], [5], [1, 2, 2], [2, 2, 2]]⟩ : Bins Nat).sums
    = (⟨[4, 5, 5, 6], [[(1, 4)], [(0, 5)], [(7, 1), (3, 2), (4, 2)], [(6, 2), (2, 2), (5, 2)]]⟩ :
        Bins (Nat × Nat)).sums :=
  snp_list_dict_sums (v := Prod.snd) (nm := Prod.fst) (c₁ := true) (c₂ := true) (k := 4) (items := cexItems)
    (fuel₁ := 1000) (fuel₂ := 1000) (by decide +kernel) (by decide +kernel)

end Prtpy.CKKDedupe
