/-
  Property C09 for the *decreasing* variants: first fit decreasing (`ffDecreasing`) and best fit decreasing
  (`bfDecreasing`) against the optimum (`Packable B m`, `optBins`).
  `k` = number of bins of the run, `m` = any number of bins that suffices; the input is non-empty (the model packs the
  empty list into one empty bin while `Packable B 0 []`; the `…_all` variants, `2·k ≤ 3·m + 2` and `3·k ≤ 4·m + 3`,
  cover it).

  What C09 claims for these two algorithms is `9·k ≤ 11·m + 6` (FFD) and `9·k ≤ 11·m + 36` (BFD).  Proved here:
  `3·k ≤ 4·m + 1` for every any-fit rule (`Fit.Step`) on a sorted input (`gen_sorted_four_thirds`), hence `2·k ≤ 3·m`
  and the C09 bounds for `m ∈ {1,2,3,4,6,7}` (FFD) and `m ≤ 33` (BFD; `FFD119.bfd_eleven_ninths_of_opt_le_108` has
  `m ≤ 108`); and the two outer ranges of the first item `a` of the last bin: `a > B/3` gives `k ≤ m`, `a ≤ 2B/11`
  gives `9·k ≤ 11·m + 8`.  The range `2B/11 < a ≤ B/3` is the subject of `PrtpyProofs.FFD119` and
  `PrtpyProofs.FFD119Gap`, where the part that stays open is stated.

  Lemma 1 (`run_tail_small`, on the lists of a run `Fit.Run`): for every any-fit rule on a sorted input that fits
  into `m ≥ 1` bins, every item that ends up in a bin beyond the first `m` is at most `B/3`.  Induction over the run:
  if `x > B/3` then all items so far exceed `B/3`, so at most `m` bins are open, and if exactly `m` are open
  `LPT43.large_fits` (a counting statement about arbitrary arrangements of items above `B/3`) gives a bin with room
  for `x`.  The bound `4/3` looks at the moment the last bin was opened (`LPT43.run_opened`): when an item `a` opens bin
  number `k`, every open bin is filled above `B − a`, every packed item is `≥ a`, `a ≤ B/3` and the bins beyond the
  first `m` hold at least three items: volume `> m·(B − a) + 3·a·(k − 1 − m) + a`, which is at most `m·B`.  (This is
  the "minimal counterexample" normal form of the classical proofs, obtained without removing items.)
  Everything holds for `Fit.Run v B ρ` with an arbitrary rule `ρ` (every any-fit step `Fit.Step`, through
  `Fit.gen_run`); only the section on `run_allfit` is about first fit.
  Stands on Fit.lean (`Fit.Run`, `Run.anyfit`), on Feasible.lean (`LPT43.run_opened`, `many_per_bin`, `large_fits`, the
  closure of `Packable`) and on the summation layer of Basic.lean (`Part.length_mul_le_binSum_flatten`);
  `Checkers.optBins_spec` serves the `…_opt` results only.
-/
import PrtpyProofs.Feasible
import PrtpyProofs.Checkers
open Prtpy

namespace Prtpy.FFD

variable {α : Type} {ρ : Fit.Rule α}

/-! ## The bins beyond the first `m` hold only items of size at most `B/3` -/

/-- every item of a bin with index `≥ m` is at most `B/3` -/
def TailSmall (v : α → Nat) (B m : Nat) (b : Bins α) : Prop :=
  ∀ j, m ≤ j → ∀ y ∈ b.lists.getD j [], 3 * v y ≤ B

theorem tailSmall_iff_drop {v : α → Nat} {B m : Nat} {b : Bins α} :
    TailSmall v B m b ↔ ∀ L ∈ b.lists.drop m, ∀ y ∈ L, 3 * v y ≤ B := by
  constructor
  · intro h L hL y hy
    obtain ⟨j, hj, rfl⟩ := List.mem_drop_iff_getElem.1 hL
    have hj' : m + j < b.lists.length := by omega
    exact h (m + j) (by omega) y (by simpa [List.getD_eq_getElem?_getD, List.getElem?_eq_getElem hj'] using hy)
  · intro h j hj y hy
    by_cases hjl : j < b.lists.length
    · rw [List.getD_eq_getElem?_getD, List.getElem?_eq_getElem hjl] at hy
      exact h _ (List.mem_drop_iff_getElem.2 ⟨j - m, by omega, by simp [Nat.add_sub_cancel' hj]⟩) y hy
    · rw [List.getD_eq_getElem?_getD, List.getElem?_eq_none (by omega)] at hy
      simp at hy

/-- the members from position `m` on after a replacement: the new member if the old one was among them, and old
    members -/
theorem mem_drop_replace {β : Type} {pre post : List β} {a a' M : β} {m : Nat}
    (h : M ∈ (pre ++ a' :: post).drop m) :
    (M = a' ∧ a ∈ (pre ++ a :: post).drop m) ∨ M ∈ (pre ++ a :: post).drop m := by
  rcases Nat.lt_or_ge pre.length m with hlt | hle
  · obtain ⟨k, rfl⟩ : ∃ k, m = pre.length + (k + 1) := ⟨m - pre.length - 1, by omega⟩
    have e : pre.length + (k + 1) - pre.length = k + 1 := by omega
    rw [List.drop_append, e, List.drop_succ_cons] at h ⊢
    exact Or.inr h
  · rw [List.drop_append_of_le_length hle] at h ⊢
    rcases Part.mem_replace (a := a) h with rfl | h
    · exact Or.inl ⟨rfl, by simp⟩
    · exact Or.inr h

/-- Lemma 1 (for every any-fit rule on a sorted input): if the items fit into `m ≥ 1` bins, every item that ends up
    in a bin beyond the first `m` is at most `B/3`.  An item that joins such a bin is not larger than the items already
    there; an item above `B/3` does not open bin `m + 1` (`LPT43.large_fits`: the smallest of a set of items above
    `B/3` that fits into `m` bins fits into some bin of every arrangement of the others into `m` bins). -/
theorem run_tail_small {v : α → Nat} {B m : Nat} {xs : List α} {Ls : List (List α)} (hm : 1 ≤ m)
    (hr : Fit.Run v B ρ xs Ls) : xs.Pairwise (fun a c => v c ≤ v a) → Packable B m (xs.map v) →
      ∀ L ∈ Ls.drop m, ∀ y ∈ L, 3 * v y ≤ B := by
  induction hr with
  | nil =>
    intro _ _ L hL
    match m, hm, hL with
    | m + 1, _, hL => simp at hL
  | @into P pre post L0 x hr hfit _ ih =>
    intro hs hf M hM y hy
    obtain ⟨hs1, _, hs2⟩ := List.pairwise_append.1 hs
    have ih' := ih hs1 (by rw [List.map_append] at hf; exact LPT43.packable_prefix _ hf)
    rcases mem_drop_replace (a := L0) hM with ⟨rfl, hL0⟩ | hM
    · rcases List.mem_append.1 hy with hy | hy
      · exact ih' L0 hL0 y hy
      · -- `x` is not larger than the items of `L0`, and `L0` is not empty: it is not the only bin
        rw [List.mem_singleton.1 hy]
        have hne : L0 ≠ [] := hr.ne_nil_of_two (by
          have := List.length_pos_of_mem hL0
          rw [List.length_drop] at this; omega) L0 (by simp)
        obtain ⟨z, hz⟩ := List.exists_mem_of_ne_nil _ hne
        have h1 := ih' L0 hL0 z hz
        have h2 := hs2 z (hr.mem_seen L0 (by simp) z hz) x (by simp)
        omega
    · exact ih' M hM y hy
  | @new P Ls x hr hx hno ih =>
    intro hs hf M hM y hy
    obtain ⟨hs1, _, hs2⟩ := List.pairwise_append.1 hs
    have ih' := ih hs1 (by rw [List.map_append] at hf; exact LPT43.packable_prefix _ hf)
    rcases Nat.lt_or_ge Ls.length m with hlt | hle
    · obtain ⟨k, hk⟩ : ∃ k, m - Ls.length = k + 1 := ⟨m - Ls.length - 1, by omega⟩
      rw [List.drop_append, List.drop_eq_nil_of_le (Nat.le_of_lt hlt), hk] at hM
      simp at hM
    · rw [List.drop_append_of_le_length hle] at hM
      rcases List.mem_append.1 hM with hM | hM
      · exact ih' M hM y hy
      · rw [List.mem_singleton.1 hM, List.mem_singleton] at hy
        subst hy
        apply Nat.le_of_not_lt
        intro hbig
        -- all items so far exceed `B/3`, so no bin beyond the first `m` is open
        have hlm : Ls.length = m := by
          apply Nat.le_antisymm _ hle
          apply Nat.le_of_not_lt
          intro hlt
          have hmem : Ls[m] ∈ Ls.drop m := List.mem_drop_iff_getElem.2 ⟨0, by simpa using hlt, by simp⟩
          have hne : Ls[m] ≠ [] := hr.ne_nil_of_two (by omega) _ (List.getElem_mem hlt)
          obtain ⟨z, hz⟩ := List.exists_mem_of_ne_nil _ hne
          have h1 := ih' _ hmem z hz
          have h2 := hs2 z (hr.mem_seen _ (List.getElem_mem hlt) z hz) y (by simp)
          omega
        obtain ⟨l', hl', hfit⟩ := LPT43.large_fits (T := B) (k := m) (m := v y) (vals := P.map v)
          (Ls.map (List.map v)) (by simpa using hlm)
          (by rw [← List.map_flatten]; exact hr.perm.map v) (by simpa using hf)
          (fun z hz => by obtain ⟨a, ha, rfl⟩ := List.mem_map.1 hz; exact hs2 a ha y (by simp)) hbig
        obtain ⟨l, hl2, rfl⟩ := List.mem_map.1 hl'
        have := hno l hl2
        have e : binSum v l = sumL (l.map v) := rfl
        omega

theorem tailSmall_foldl {v : α → Nat} {B m : Nat} {step : Bins α → α → Bins α}
    (hstep : ∀ b x, Fit.Step v B b x (step b x)) (hm : 1 ≤ m) (xs : List α)
    (hs : xs.Pairwise (fun a c => v c ≤ v a)) (hf : Packable B m (xs.map v)) :
    TailSmall v B m (xs.foldl step (Bins.new 1)) :=
  tailSmall_iff_drop.2 (run_tail_small hm (Fit.run_foldl step hstep (fun b x hc => (hstep b x).lists hc) xs
    (fun _ ha => LPT43.packable_item_le hf (List.mem_map_of_mem ha))) hs hf)


/-! ## Every any-fit rule on a sorted input: `#bins ≤ (4·m + 1)/3`

The moment the last bin was opened (`Fit.Run.opened`) needs nothing but the any-fit property: when an item `a`
opens a new bin, all bins are filled above `B − a`, all items packed so far are at least `a`, and (Lemma 1) the
bins beyond the first `m` hold only items `≤ B/3`, hence at least three of them each. -/

/-- the volume argument: `S1` = content of the first `m` bins, `S2` = content of the `t` others -/
theorem volume_arith {m t B a S1 S2 : Nat} (hm : 1 ≤ m) (haB : a ≤ B) (h1 : m * (B - a + 1) ≤ S1)
    (h2 : t * (3 * a) ≤ S2) (h3 : S1 + S2 + a ≤ m * B) : 3 * t + 2 ≤ m := by
  apply Nat.le_of_not_lt
  intro hlt
  have h4 : m * a ≤ (3 * t + 1) * a := Nat.mul_le_mul_right a (by omega)
  have h5 : (3 * t + 1) * a = t * (3 * a) + a := by
    rw [Nat.add_mul, Nat.one_mul, Nat.mul_comm 3 t, Nat.mul_assoc]
  have h6 : m * (B - a + 1) + m * a = m * B + m := by
    rw [← Nat.mul_add, show B - a + 1 + a = B + 1 by omega, Nat.mul_add, Nat.mul_one]
  omega

/-- the moment an item `x` opens bin number `k`: every open bin is filled above `B − x`, every packed item is `≥ x`,
    and the bins beyond the first `m` hold at least three items -/
theorem new_bin_count {v : α → Nat} {B m : Nat} {P : List α} {Ls : List (List α)} {x : α} (hm : 1 ≤ m)
    (hr : Fit.Run v B ρ P Ls) (hs : ∀ a ∈ P, v x ≤ v a) (hf : Packable B m ((P ++ [x]).map v))
    (hfull : ∀ L ∈ Ls, B < binSum v L + v x)
    (hts : ∀ L ∈ (Ls ++ [[x]]).drop m, ∀ y ∈ L, 3 * v y ≤ B) : 3 * (Ls.length + 1) ≤ 4 * m + 1 := by
  by_cases hk : Ls.length + 1 ≤ m
  · omega
  · have hkm : m ≤ Ls.length := by omega
    rw [List.drop_append_of_le_length hkm] at hts
    have h3a : 3 * v x ≤ B := hts [x] (by simp) x (by simp)
    have hxB : v x ≤ B := LPT43.packable_item_le hf (List.mem_map_of_mem (by simp))
    have hge : ∀ L ∈ Ls, ∀ y ∈ L, v x ≤ v y := fun L hL y hy => hs y (hr.mem_seen L hL y hy)
    -- the first `m` bins are filled above `B − x`
    have h1 := Part.length_mul_le_binSum_flatten (w := v) (c := B - v x + 1) (Q := Ls.take m) fun L hL => by
      have := hfull L (List.mem_of_mem_take hL)
      omega
    rw [List.length_take, Nat.min_eq_left hkm] at h1
    -- the others hold at least three items, each `≥ x`
    have h2 := Part.length_mul_le_binSum_flatten (w := v) (c := 3 * v x) (Q := Ls.drop m) fun L hL => by
      have hLm := List.mem_of_mem_drop hL
      have h3 := LPT43.many_per_bin (t := 3) (l := L.map v) (by simpa using hts L (List.mem_append_left _ hL)) h3a
        (hfull L hLm)
      rw [List.length_map] at h3
      exact Nat.le_trans (Nat.mul_le_mul_right _ h3) (Part.length_mul_le_binSum (hge L hLm))
    rw [List.length_drop] at h2
    have htot : binSum v (Ls.take m).flatten + binSum v (Ls.drop m).flatten + v x ≤ m * B := by
      have := Fit.packing_lower_bound hf
      rw [← Part.binSum_append, ← List.flatten_append, List.take_append_drop, Part.binSum_perm _ hr.perm]
      have e : sumL ((P ++ [x]).map v) = binSum v P + v x := by
        simp [binSum, Part.sumL_append, sumL]
      omega
    have := volume_arith hm hxB h1 h2 htot
    omega

/-- every any-fit rule on a sorted input (first fit, best fit, worst fit, … decreasing):
    `#bins ≤ (4·m + 1)/3` whenever `m ≥ 1` bins suffice -/
theorem run_sorted_four_thirds {v : α → Nat} {B m : Nat} {xs : List α} {Ls : List (List α)} (hm : 1 ≤ m)
    (hr : Fit.Run v B ρ xs Ls) : xs.Pairwise (fun a c => v c ≤ v a) → Packable B m (xs.map v) →
      3 * Ls.length ≤ 4 * m + 1 := by
  intro hs hf
  rcases Nat.lt_or_ge 1 Ls.length with h1 | h1
  · -- the moment the last bin was opened
    obtain ⟨P, a, S, Ls', _, hr', hlen, hno, hs', hf', _⟩ :=
      LPT43.run_opened hr hs hf (j := Ls.length - 1) (by omega) (by omega)
    have := new_bin_count hm hr' (fun u hu => (List.pairwise_append.1 hs').2.2 u hu a (by simp)) hf' hno
      (run_tail_small hm (hr'.new (LPT43.packable_item_le hf' (List.mem_map_of_mem (by simp))) hno) hs' hf')
    omega
  · omega

theorem gen_sorted_four_thirds {v : α → Nat} {B m : Nat} {step : Bins α → α → Bins α} {xs : List α}
    {b : Bins α} (hstep : ∀ b x, Fit.Step v B b x (step b x)) (hsorted : xs.Pairwise (fun a c => v c ≤ v a))
    (hne : xs ≠ []) (hok : Fit.genLoop v B step (Bins.new 1) xs = .ok b) (hm : Packable B m (xs.map v)) :
    3 * b.lists.length ≤ 4 * m + 1 :=
  run_sorted_four_thirds (LPT43.packable_pos hm (by simpa using hne)) (Fit.gen_run hstep hok) hsorted hm

/-! ## The two easy halves of Johnson's theorem

Let `a` be the first item of the last bin.  If `a > B/3` the packing is optimal (Lemma 1); if `a ≤ 2B/11`
all other bins are filled above `9B/11`, which gives `9·#bins ≤ 11·m + 8` by volume alone. -/

/-- volume: all bins before the last one are filled above `B − a`, `a` the first item of the last bin -/
theorem run_volume_of_last {v : α → Nat} {B m : Nat} {items : List α} {Ls : List (List α)}
    (hr : Fit.Run v B ρ items Ls) (hm : Packable B m (items.map v)) {x : α} {L : List α}
    (hlast : Ls.getLast? = some (x :: L)) : (Ls.length - 1) * (B - v x + 1) + v x ≤ m * B := by
  obtain ⟨Ls', rfl⟩ := List.getLast?_eq_some_iff.1 hlast
  obtain ⟨_, _, hPE⟩ := List.pairwise_append.1 hr.anyfit
  have hxB : v x ≤ B := by
    have := hr.le (x :: L) (by simp)
    rw [Part.binSum_cons] at this
    omega
  have h1 := Part.length_mul_le_binSum_flatten (w := v) (c := B - v x + 1) (Q := Ls') fun L' hL' => by
    obtain ⟨y, hy, hlt⟩ := hPE L' hL' (x :: L) (by simp)
    simp only [List.head?_cons, Option.some.injEq] at hy
    subst hy
    omega
  have htot : binSum v (Ls' ++ [x :: L]).flatten ≤ m * B := by
    rw [Part.binSum_perm _ hr.perm]; exact Fit.packing_lower_bound hm
  rw [List.flatten_append, Part.binSum_append] at htot
  simp only [List.flatten_cons, List.flatten_nil, List.append_nil, Part.binSum_cons, List.length_append,
    List.length_cons, List.length_nil, Nat.add_sub_cancel] at htot ⊢
  omega

/-- the volume argument for a ratio `q/p`: if `k'` bins are filled above `B − a`, the items and `a` fit into `m`
    bins, and `a ≤ (1 − p/q)·B`, then `p·k' < q·m` (from `q·(B − a + 1) ≥ p·B + q`) -/
theorem volume_ratio {p q k' m B a : Nat} (h : k' * (B - a + 1) + a ≤ m * B) (ha : q * a + p * B ≤ q * B)
    (hq : 0 < q) : k' = 0 ∨ p * k' < q * m := by
  rcases Nat.eq_zero_or_pos k' with hk | hk
  · exact Or.inl hk
  · refine Or.inr (Nat.lt_of_not_le fun hc => ?_)
    have haB : a ≤ B := Nat.le_of_mul_le_mul_left (Nat.le_trans (Nat.le_add_right _ _) ha) hq
    have h2 : p * B + q ≤ q * (B - a + 1) := by
      have e : q * (B - a + 1) + q * a = q * B + q := by
        rw [← Nat.mul_add, show B - a + 1 + a = B + 1 by omega, Nat.mul_add, Nat.mul_one]
      omega
    have h3 : k' * (p * B + q) ≤ q * (k' * (B - a + 1)) :=
      Nat.mul_left_comm q k' _ ▸ Nat.mul_le_mul_left k' h2
    have h4 : q * (k' * (B - a + 1)) + q * a ≤ q * m * B := by
      rw [← Nat.mul_add, Nat.mul_assoc]; exact Nat.mul_le_mul_left q h
    have h5 : q * m * B ≤ p * k' * B := Nat.mul_le_mul_right B hc
    have h6 : k' * (p * B + q) = p * k' * B + k' * q := by
      rw [Nat.mul_add, Nat.mul_left_comm, Nat.mul_assoc]
    have := Nat.mul_pos hk hq
    omega

section generic
variable {v : α → Nat} {B m : Nat} {step : Bins α → α → Bins α} {xs : List α} {b : Bins α}

/-- every any-fit rule, easy half 1: if the first item of the last bin is at most `2B/11`, then
    `9 · #bins ≤ 11 · m + 8` (no sortedness needed) -/
theorem gen_eleven_ninths_of_last_small (hstep : ∀ b x, Fit.Step v B b x (step b x)) (hne : xs ≠ [])
    (hok : Fit.genLoop v B step (Bins.new 1) xs = .ok b) (hm : Packable B m (xs.map v)) {x : α} {L : List α}
    (hlast : b.lists.getLast? = some (x :: L)) (hx : 11 * v x ≤ 2 * B) : 9 * b.lists.length ≤ 11 * m + 8 := by
  have hm1 : 1 ≤ m := LPT43.packable_pos hm (by simpa using hne)
  have h1 := run_volume_of_last (Fit.gen_run hstep hok) hm hlast
  have hpos : 1 ≤ b.lists.length := (Fit.gen_run hstep hok).length_pos
  rcases volume_ratio (p := 9) (q := 11) h1 (by omega) (by omega) with h0 | h0 <;> omega

/-- every any-fit rule on a sorted input, easy half 2: if the first item of the last bin exceeds `B/3`, the
    packing is optimal -/
theorem gen_sorted_opt_of_last_big (hstep : ∀ b x, Fit.Step v B b x (step b x))
    (hsorted : xs.Pairwise (fun a c => v c ≤ v a)) (hne : xs ≠ [])
    (hok : Fit.genLoop v B step (Bins.new 1) xs = .ok b) (hm : Packable B m (xs.map v)) {x : α} {L : List α}
    (hlast : b.lists.getLast? = some (x :: L)) (hx : B < 3 * v x) : b.lists.length ≤ m := by
  have hm1 : 1 ≤ m := LPT43.packable_pos hm (by simpa using hne)
  have hts := run_tail_small hm1 (Fit.gen_run hstep hok) hsorted hm
  apply Nat.le_of_not_lt
  intro hlt
  have := hts (x :: L) (List.mem_drop_iff_getElem.2 ⟨b.lists.length - 1 - m, by omega, by
    rw [List.getLast?_eq_getElem?, List.getElem?_eq_some_iff] at hlast
    obtain ⟨_, e⟩ := hlast
    rw [← e]; congr 1; omega⟩) x (by simp)
  omega

theorem gen_sorted_three_halves (hstep : ∀ b x, Fit.Step v B b x (step b x))
    (hsorted : xs.Pairwise (fun a c => v c ≤ v a)) (hne : xs ≠ [])
    (hok : Fit.genLoop v B step (Bins.new 1) xs = .ok b) (hm : Packable B m (xs.map v)) :
    2 * b.lists.length ≤ 3 * m := by
  have hm1 : 1 ≤ m := LPT43.packable_pos hm (by simpa using hne)
  have := gen_sorted_four_thirds hstep hsorted hne hok hm
  omega

end generic

/-! ## Corollaries for the two algorithms -/

section main
variable {v : α → Nat} {B m : Nat} {items : List α} {b : Bins α}

/-- what holds of every any-fit step on a non-empty sorted list that fits into `m` bins holds of first fit
    decreasing: the run is `Fit.genLoop` with `ffStep` on the sorted list -/
theorem ffd_of_gen {Φ : Prop} (hne : items ≠ []) (hok : ffDecreasing v B items = .ok b)
    (hm : Packable B m (items.map v))
    (hgen : ∀ {step : Bins α → α → Bins α} {xs : List α}, (∀ b x, Fit.Step v B b x (step b x)) →
      xs.Pairwise (fun a c => v c ≤ v a) → xs ≠ [] → Fit.genLoop v B step (Bins.new 1) xs = .ok b →
      Packable B m (xs.map v) → Φ) : Φ :=
  hgen (Fit.ffStep_step v B) (Part.sortDesc_sorted v items) (Part.sortDesc_ne_nil v hne)
    (Fit.ffDecreasing_eq_gen ▸ hok) (LPT43.packable_sortDesc hm)

/-- the same for best fit decreasing -/
theorem bfd_of_gen {Φ : Prop} (hne : items ≠ []) (hok : bfDecreasing v B items = .ok b)
    (hm : Packable B m (items.map v))
    (hgen : ∀ {step : Bins α → α → Bins α} {xs : List α}, (∀ b x, Fit.Step v B b x (step b x)) →
      xs.Pairwise (fun a c => v c ≤ v a) → xs ≠ [] → Fit.genLoop v B step (Bins.new 1) xs = .ok b →
      Packable B m (xs.map v) → Φ) : Φ :=
  hgen (Fit.bfStep_step v B) (Part.sortDesc_sorted v items) (Part.sortDesc_ne_nil v hne)
    (Fit.bfDecreasing_eq_gen ▸ hok) (LPT43.packable_sortDesc hm)

/-- the model packs the empty list into one empty bin -/
theorem ffd_length_of_nil (hok : ffDecreasing v B items = .ok b) (h : items = []) : b.lists.length = 1 := by
  subst h; cases hok; rfl

theorem bfd_length_of_nil (hok : bfDecreasing v B items = .ok b) (h : items = []) : b.lists.length = 1 := by
  subst h; cases hok; rfl

/-- **C09, first fit decreasing, ratio 4/3**: `FFD ≤ 4/3 · OPT + 1/3` (the textbook bound `(4·OPT + 1)/3`).
    Weaker than Johnson's / Dósa's `11/9 · OPT + 6/9` for `OPT = 5, 8` and `OPT ≥ 9`, equal to it (after rounding
    down) for `OPT ≤ 4` and `OPT = 6, 7`;
    it implies the absolute bound `3/2` (`ffd_three_halves`). -/
theorem ffd_partial_four_thirds (hne : items ≠ []) (hok : ffDecreasing v B items = .ok b)
    (hm : Packable B m (items.map v)) : 3 * b.lists.length ≤ 4 * m + 1 :=
  ffd_of_gen hne hok hm gen_sorted_four_thirds

/-- C09, best fit decreasing, ratio 4/3: `BFD ≤ 4/3 · OPT + 1/3` -/
theorem bfd_partial_four_thirds (hne : items ≠ []) (hok : bfDecreasing v B items = .ok b)
    (hm : Packable B m (items.map v)) : 3 * b.lists.length ≤ 4 * m + 1 :=
  bfd_of_gen hne hok hm gen_sorted_four_thirds

/-- without the hypothesis `items ≠ []` -/
theorem ffd_partial_four_thirds_all (hok : ffDecreasing v B items = .ok b) (hm : Packable B m (items.map v)) :
    3 * b.lists.length ≤ 4 * m + 3 := by
  by_cases hne : items = []
  · have := ffd_length_of_nil hok hne
    omega
  · have := ffd_partial_four_thirds hne hok hm
    omega

theorem bfd_partial_four_thirds_all (hok : bfDecreasing v B items = .ok b) (hm : Packable B m (items.map v)) :
    3 * b.lists.length ≤ 4 * m + 3 := by
  by_cases hne : items = []
  · have := bfd_length_of_nil hok hne
    omega
  · have := bfd_partial_four_thirds hne hok hm
    omega

/-- **C09, first fit decreasing, absolute ratio 3/2** (Simchi-Levi 1994): `FFD ≤ 3/2 · OPT`.
    The input must not be empty: for `items = []` the model returns one (empty) bin while `Packable B 0 []`. -/
theorem ffd_three_halves (hne : items ≠ []) (hok : ffDecreasing v B items = .ok b)
    (hm : Packable B m (items.map v)) : 2 * b.lists.length ≤ 3 * m :=
  ffd_of_gen hne hok hm gen_sorted_three_halves

/-- C09, best fit decreasing, absolute ratio 3/2: `BFD ≤ 3/2 · OPT` -/
theorem bfd_three_halves (hne : items ≠ []) (hok : bfDecreasing v B items = .ok b)
    (hm : Packable B m (items.map v)) : 2 * b.lists.length ≤ 3 * m :=
  bfd_of_gen hne hok hm gen_sorted_three_halves

/-- without the hypothesis `items ≠ []` -/
theorem ffd_three_halves_all (hok : ffDecreasing v B items = .ok b) (hm : Packable B m (items.map v)) :
    2 * b.lists.length ≤ 3 * m + 2 := by
  by_cases hne : items = []
  · have := ffd_length_of_nil hok hne
    omega
  · have := ffd_three_halves hne hok hm
    omega

theorem bfd_three_halves_all (hok : bfDecreasing v B items = .ok b) (hm : Packable B m (items.map v)) :
    2 * b.lists.length ≤ 3 * m + 2 := by
  by_cases hne : items = []
  · have := bfd_length_of_nil hok hne
    omega
  · have := bfd_three_halves hne hok hm
    omega

/-- in the form of the checked property: `#bins ≤ ⌊(4·OPT + 1)/3⌋` -/
theorem ffd_floor (hne : items ≠ []) (hok : ffDecreasing v B items = .ok b) (hm : Packable B m (items.map v)) :
    b.lists.length ≤ (4 * m + 1) / 3 := by
  have := ffd_partial_four_thirds hne hok hm
  omega

theorem bfd_floor (hne : items ≠ []) (hok : bfDecreasing v B items = .ok b) (hm : Packable B m (items.map v)) :
    b.lists.length ≤ (4 * m + 1) / 3 := by
  have := bfd_partial_four_thirds hne hok hm
  omega

/-- C09 exactly, for small optima: Dósa's bound `FFD ≤ 11/9 · OPT + 6/9` holds whenever
    `OPT ∈ {1, 2, 3, 4, 6, 7}` (there `⌊(4·OPT + 1)/3⌋ = ⌊(11·OPT + 6)/9⌋`) -/
theorem ffd_eleven_ninths_of_opt_small (hne : items ≠ []) (hok : ffDecreasing v B items = .ok b)
    (hm : Packable B m (items.map v)) (hsmall : m ≤ 4 ∨ m = 6 ∨ m = 7) : 9 * b.lists.length ≤ 11 * m + 6 := by
  have := ffd_partial_four_thirds hne hok hm
  have hcases : m = 0 ∨ m = 1 ∨ m = 2 ∨ m = 3 ∨ m = 4 ∨ m = 6 ∨ m = 7 := by omega
  rcases hcases with rfl | rfl | rfl | rfl | rfl | rfl | rfl <;> omega

/-- C09 exactly, for small optima: `BFD ≤ 11/9 · OPT + 4` holds whenever `OPT ≤ 33`
    (the empty input included: one bin, `OPT = 0`) -/
theorem bfd_eleven_ninths_of_opt_small (hok : bfDecreasing v B items = .ok b)
    (hm : Packable B m (items.map v)) (hsmall : m ≤ 33) : 9 * b.lists.length ≤ 11 * m + 36 := by
  by_cases hne : items = []
  · have := bfd_length_of_nil hok hne
    omega
  · have := bfd_partial_four_thirds hne hok hm
    omega

/-- C09 if the first item of the last bin is at most `2B/11`: `FFD ≤ 11/9 · OPT + 8/9` -/
theorem ffd_eleven_ninths_of_last_small (hne : items ≠ []) (hok : ffDecreasing v B items = .ok b)
    (hm : Packable B m (items.map v)) {x : α} {L : List α} (hlast : b.lists.getLast? = some (x :: L))
    (hx : 11 * v x ≤ 2 * B) : 9 * b.lists.length ≤ 11 * m + 8 :=
  ffd_of_gen hne hok hm fun g1 _ g3 g4 g5 => gen_eleven_ninths_of_last_small g1 g3 g4 g5 hlast hx

theorem bfd_eleven_ninths_of_last_small (hne : items ≠ []) (hok : bfDecreasing v B items = .ok b)
    (hm : Packable B m (items.map v)) {x : α} {L : List α} (hlast : b.lists.getLast? = some (x :: L))
    (hx : 11 * v x ≤ 2 * B) : 9 * b.lists.length ≤ 11 * m + 8 :=
  bfd_of_gen hne hok hm fun g1 _ g3 g4 g5 => gen_eleven_ninths_of_last_small g1 g3 g4 g5 hlast hx

/-- C09 in the outer range `a > B/3`: first fit decreasing is optimal if the first item of the last bin exceeds `B/3`
    (in particular if all items exceed `B/3`) -/
theorem ffd_opt_of_last_big (hne : items ≠ []) (hok : ffDecreasing v B items = .ok b)
    (hm : Packable B m (items.map v)) {x : α} {L : List α} (hlast : b.lists.getLast? = some (x :: L))
    (hx : B < 3 * v x) : b.lists.length ≤ m :=
  ffd_of_gen hne hok hm fun g1 g2 g3 g4 g5 => gen_sorted_opt_of_last_big g1 g2 g3 g4 g5 hlast hx

theorem bfd_opt_of_last_big (hne : items ≠ []) (hok : bfDecreasing v B items = .ok b)
    (hm : Packable B m (items.map v)) {x : α} {L : List α} (hlast : b.lists.getLast? = some (x :: L))
    (hx : B < 3 * v x) : b.lists.length ≤ m :=
  bfd_of_gen hne hok hm fun g1 g2 g3 g4 g5 => gen_sorted_opt_of_last_big g1 g2 g3 g4 g5 hlast hx

/-! ### against the oracle `optBins` -/

/-- a successful run of first fit decreasing on a non-empty input: the oracle has an answer `m`, and
    `FFD ≤ 3/2 · m`, `FFD ≤ (4·m + 1)/3` -/
theorem ffd_opt (hne : items ≠ []) (hok : ffDecreasing v B items = .ok b) :
    ∃ m, optBins B (items.map v) = some m ∧ 2 * b.lists.length ≤ 3 * m ∧ 3 * b.lists.length ≤ 4 * m + 1 := by
  obtain ⟨m, h1, h2, _⟩ := Checkers.optBins_spec
    (Fit.gen_ok_all_le_map (Fit.ffDecreasing_eq_gen ▸ hok) (Part.sortDesc_perm v items))
  exact ⟨m, h1, ffd_three_halves hne hok h2, ffd_partial_four_thirds hne hok h2⟩

theorem bfd_opt (hne : items ≠ []) (hok : bfDecreasing v B items = .ok b) :
    ∃ m, optBins B (items.map v) = some m ∧ 2 * b.lists.length ≤ 3 * m ∧ 3 * b.lists.length ≤ 4 * m + 1 := by
  obtain ⟨m, h1, h2, _⟩ := Checkers.optBins_spec
    (Fit.gen_ok_all_le_map (Fit.bfDecreasing_eq_gen ▸ hok) (Part.sortDesc_perm v items))
  exact ⟨m, h1, bfd_three_halves hne hok h2, bfd_partial_four_thirds hne hok h2⟩

end main

/-! ## First fit: no item of a later bin fits into an earlier bin

The any-fit property of C09 speaks of the items that opened a bin; first fit (not best fit) has it for all items.
None of the bounds above uses this section. -/

def AllFit (v : α → Nat) (B : Nat) (b : Bins α) : Prop :=
  ∀ i j, i < j → j < b.lists.length → ∀ y ∈ b.lists.getD j [], B < b.sums.getD i 0 + v y

theorem run_allfit {v : α → Nat} {B : Nat} {seen : List α} {Ls : List (List α)}
    (hr : Fit.Run v B (Fit.FirstFit v B) seen Ls) :
    Ls.Pairwise (fun L L' => ∀ y ∈ L', B < binSum v L + v y) :=
  Fit.Run.pairwise (fun _ x _ h y hy => by rw [List.mem_singleton.1 hy]; exact h)
    (fun P _ x _ _ h y hy => by have := h y hy; rw [Part.binSum_append]; omega)
    (fun _ P _ x hP hρ _ _ _ h y hy => by
      rcases List.mem_append.1 hy with hy | hy
      · exact h y hy
      · rw [List.mem_singleton.1 hy]; exact hρ P hP) hr (Part.pairwise_true seen)

theorem allfit_iff_pairwise {v : α → Nat} {B : Nat} {b : Bins α} (hc : b.sums = b.lists.map (binSum v)) :
    AllFit v B b ↔ b.lists.Pairwise (fun L L' => ∀ y ∈ L', B < binSum v L + v y) :=
  Fit.getD_pairwise_iff hc (fun s L' => ∀ y ∈ L', B < s + v y)

theorem ffOnline_allfit {v : α → Nat} {B : Nat} {items : List α} {b : Bins α}
    (h : ffOnline v B items = .ok b) : AllFit v B b :=
  (allfit_iff_pairwise (Fit.ffOnline_inv h).cons).2 (run_allfit (Fit.ffOnline_run h))

theorem AllFit.pairwise {v : α → Nat} {B : Nat} {b : Bins α} (hc : b.sums = b.lists.map (binSum v))
    (h : AllFit v B b) : b.lists.Pairwise (fun L L' => ∀ y ∈ L', B < binSum v L + v y) :=
  (allfit_iff_pairwise hc).1 h

/-! ## Examples -/

/-- `[4, 4, 3, 3, 3, 3]` with `B = 10`: the optimum is two bins `4 + 3 + 3` -/
theorem ex_packable : Packable 10 2 (([3, 4, 3, 4, 3, 3] : List Nat).map id) :=
  ⟨[0, 0, 0, 1, 1, 1], ⟨rfl, by decide⟩, by decide⟩

/-- first fit decreasing and best fit decreasing need three bins -/
theorem ex_ffd : ffDecreasing id 10 [3, 4, 3, 4, 3, 3] = .ok ⟨[8, 9, 3], [[4, 4], [3, 3, 3], [3]]⟩ := rfl
theorem ex_bfd : bfDecreasing id 10 [3, 4, 3, 4, 3, 3] = .ok ⟨[8, 9, 3], [[4, 4], [3, 3, 3], [3]]⟩ := rfl

/-- both bounds are attained: `2 · 3 = 3 · 2` and `3 · 3 = 4 · 2 + 1` -/
example : 2 * 3 ≤ 3 * 2 := ffd_three_halves (by decide) ex_ffd ex_packable
example : 2 * 3 ≤ 3 * 2 := bfd_three_halves (by decide) ex_bfd ex_packable
example : 2 * 3 ≤ 3 * 2 + 2 := ffd_three_halves_all ex_ffd ex_packable
example : 3 * 3 ≤ 4 * 2 + 1 := ffd_partial_four_thirds (by decide) ex_ffd ex_packable
example : 3 * 3 ≤ 4 * 2 + 1 := bfd_partial_four_thirds (by decide) ex_bfd ex_packable
example : 3 ≤ (4 * 2 + 1) / 3 := ffd_floor (by decide) ex_ffd ex_packable
example : 9 * 3 ≤ 11 * 2 + 6 := ffd_eleven_ninths_of_opt_small (by decide) ex_ffd ex_packable (by decide)
example : 9 * 3 ≤ 11 * 2 + 36 := bfd_eleven_ninths_of_opt_small ex_bfd ex_packable (by decide)
example : ∃ m, optBins 10 (([3, 4, 3, 4, 3, 3] : List Nat).map id) = some m ∧ 2 * 3 ≤ 3 * m ∧ 3 * 3 ≤ 4 * m + 1 :=
  ffd_opt (by decide) ex_ffd

/-- Lemma 1 on this run: the third bin (beyond the first `m = 2`) holds only items `≤ 10/3` -/
example : TailSmall id 10 2 (([4, 4, 3, 3, 3, 3] : List Nat).foldl (ffStep id 10) (Bins.new 1)) :=
  tailSmall_foldl (Fit.ffStep_step id 10) (by decide) [4, 4, 3, 3, 3, 3] (by decide)
    ⟨[0, 1, 0, 0, 1, 1], ⟨rfl, by decide⟩, by decide⟩

/-- the first-fit property of the run -/
example : AllFit id 10 (⟨[8, 9, 3], [[4, 4], [3, 3, 3], [3]]⟩ : Bins Nat) :=
  ffOnline_allfit (items := [4, 4, 3, 3, 3, 3]) rfl

/-- the last bin starts with `3 ≤ 10/3`, so optimality is not claimed; with `B = 8` and `[5, 4, 3, 3]` it is -/
example : 2 ≤ 2 :=
  ffd_opt_of_last_big (v := id) (B := 8) (items := [3, 5, 4, 3]) (b := ⟨[8, 7], [[5, 3], [4, 3]]⟩) (m := 2)
    (by decide) rfl ⟨[0, 0, 1, 1], ⟨rfl, by decide⟩, by decide⟩ (x := 4) (L := [3]) rfl (by decide)

/-- Johnson's family (scaled to `B = 100`): six bins `51 + 26 + 23` and three bins `27 + 27 + 23 + 23` -/
def johnson : List Nat :=
  [51, 26, 23, 51, 26, 23, 51, 26, 23, 51, 26, 23, 51, 26, 23, 51, 26, 23,
   27, 27, 23, 23, 27, 27, 23, 23, 27, 27, 23, 23]

theorem johnson_packable : Packable 100 9 (johnson.map id) :=
  ⟨[0, 0, 0, 1, 1, 1, 2, 2, 2, 3, 3, 3, 4, 4, 4, 5, 5, 5, 6, 6, 6, 6, 7, 7, 7, 7, 8, 8, 8, 8],
    ⟨rfl, by decide⟩, by decide⟩

/-- first fit decreasing needs eleven bins: `11 = 11/9 · 9` -/
theorem johnson_ffd : ∃ b, ffDecreasing id 100 johnson = .ok b ∧ b.lists.length = 11 := by
  have h : (ffDecreasing id 100 johnson).toOption.map (fun b => b.lists.length) = some 11 := by decide
  cases hb : ffDecreasing id 100 johnson with
  | error e => rw [hb] at h; simp [Except.toOption] at h
  | ok b => rw [hb] at h; exact ⟨b, rfl, by simpa [Except.toOption] using h⟩

example : 3 * 11 ≤ 4 * 9 + 1 := by
  obtain ⟨b, hb, hl⟩ := johnson_ffd
  have := ffd_partial_four_thirds (by decide) hb johnson_packable
  omega

/-- the volume half does not apply to Johnson's family (`11 · 23 > 2 · 100`); it does apply here:
    `B = 100`, the last bin starts with `18 ≤ 200/11` -/
example : 9 * 2 ≤ 11 * 2 + 8 :=
  ffd_eleven_ninths_of_last_small (v := id) (B := 100) (items := [18, 18, 90, 18]) (m := 2)
    (b := ⟨[90, 54], [[90], [18, 18, 18]]⟩) (by decide) rfl ⟨[0, 0, 1, 0], ⟨rfl, by decide⟩, by decide⟩
    (x := 18) (L := [18, 18]) rfl (by decide)

/-- without `items ≠ []` the absolute bounds are false for the model: the empty list is packed into one
    (empty) bin, while it is `Packable` into `0` bins -/
example : ffDecreasing id 10 ([] : List Nat) = .ok ⟨[0], [[]]⟩ := rfl
example : Packable 10 0 (([] : List Nat).map id) := ⟨[], ⟨rfl, by simp⟩, by simp [sumsOf]⟩
example : ¬ (2 * (⟨[0], [[]]⟩ : Bins Nat).lists.length ≤ 3 * 0) := by decide

end Prtpy.FFD
