/-
  PrtpyProofs.Total — property C01, totality part: "a call that runs to completion never yields a missing
  result".  In the models: with enough fuel no exact algorithm ends in `.error .fuel`, and on the property's
  domain (`0 < k`, non-empty items) it ends in `.ok`.

  Complete Karmarkar–Karp: a potential on the stack of heaps (`binSum (wt k)`, the sum of the weights of its heaps)
  drops at every iteration of the search loop `CKKValid.searchStep` as long as an iteration pushes at most `k!`
  combinations; this gives the explicit fuel `ckkFuel k n = (k! + 1) ^ n + 1`, for `ckk` (the code before F11), the
  generator and `ckkF` (after F11) alike.
  SNP and RNP (numbins ≤ 5) need that fuel for their 2-way searches only; what is left to show is that they never
  run 2-way CKK on an empty list.  Bin completion returns its incumbent when the budget is exhausted.
  The results for `ckkF` (`CKKF.ckkF_fuel_sufficient`, `CKKF.ckkF_never_fuel`) stand here, in their namespace
  `Prtpy.CKKF`, because they rest on the potential.
  `step_pot`, `step_alive` go by cases on `CKKValid.Step`.
-/
import Mathlib.Data.Nat.Factorial.Basic
import PrtpyProofs.Iter
import PrtpyProofs.Runs
import PrtpyProofs.BCProofs
import PrtpyProofs.Part
import PrtpyProofs.SNP
import PrtpyProofs.CKK
import PrtpyProofs.RNPRound
import PrtpyProofs.AllComb
import PrtpyProofs.CKKValid
import PrtpyProofs.CKKFAux
import PrtpyProofs.CKKOpt
import PrtpyProofs.SNPOpt
open Prtpy

namespace Prtpy.Total
open Prtpy.CKKValid (searchStep
  ckkStep_eq_search ckkRun_eq_search resultOf_ok resultOf_of_done ckk_eq_resultOf)

variable {α : Type}

/-! ## `itertools.permutations` yields `n!` lists; `all_combinations` at most `k!` tuples, at least one -/

theorem length_flatMap_const {β γ : Type} (f : β → List γ) (c : Nat) (l : List β)
    (h : ∀ a ∈ l, (f a).length = c) : (l.flatMap f).length = l.length * c := by
  rw [List.length_flatMap, List.map_congr_left (g := fun _ => c) h, List.map_const', List.sum_replicate_nat]

theorem lexPermsAux_length (n : Nat) (l : List α) (hl : l.length = n) :
    (lexPermsAux n l).length = n.factorial := by
  induction n generalizing l with
  | zero => simp [lexPermsAux]
  | succ n ih =>
    cases l with
    | nil => simp at hl
    | cons a t =>
      rw [CKKProofs.lexPermsAux_succ_cons, length_flatMap_const _ n.factorial]
      · rw [List.length_range, hl, Nat.factorial_succ]
      · intro i hi
        have hi' : i < (a :: t).length := List.mem_range.1 hi
        rw [List.getElem?_eq_getElem hi']
        have hlen : (removeAt (a :: t) i).length = n := by
          have := CKKProofs.removeAt_length (a :: t) i hi'; omega
        simp only [List.length_map]
        exact ih _ hlen

theorem lexPerms_length (l : List α) : (lexPerms l).length = l.length.factorial :=
  lexPermsAux_length l.length l rfl

theorem lexPerms_ne_nil (l : List α) : lexPerms l ≠ [] := by
  intro h
  have := CKKProofs.lexPerms_complete (List.Perm.refl l)
  rw [h] at this
  cases this

theorem allComb_length_le (nm : α → Nat) [BEq α] (contents : Bool) (b1 b2 : Bins α) :
    (allComb nm contents b1 b2).length ≤ b1.sums.length.factorial := by
  unfold allComb
  split
  · obtain ⟨l', hs, he⟩ := AllComb.aux_sublist nm b1 b2 (lexPerms (List.range b1.sums.length)) []
    have := hs.length_le
    rw [List.length_map, lexPerms_length, List.length_range] at this
    simpa [allCombContents, he] using this
  · have := (CKKF.firsts_sublist id ((lexPerms (List.range b1.sums.length)).map (CKKProofs.canonS b1.sums b2.sums))
      []).length_le
    rw [List.length_map, lexPerms_length, List.length_range] at this
    simpa [CKKF.allCombSums_eq_firsts] using this

/-- the first pairing is always new -/
theorem allComb_ne_nil (nm : α → Nat) [BEq α] (contents : Bool) (b1 b2 : Bins α) :
    allComb nm contents b1 b2 ≠ [] := by
  unfold allComb
  cases hp : lexPerms (List.range b1.sums.length) with
  | nil => exact absurd hp (lexPerms_ne_nil _)
  | cons perm rest =>
    split
    · obtain ⟨l', _, he⟩ := AllComb.aux_sublist nm b1 b2 rest [AllComb.canonC nm b1 b2 perm]
      have : allCombContents nm b1 b2 = allCombContentsAux nm b1 b2 rest [AllComb.canonC nm b1 b2 perm] := by
        unfold allCombContents; rw [hp]; rfl
      rw [this, he]; simp
    · rw [CKKF.allCombSums_eq_firsts, hp]
      simp [CKKF.firsts]

/-! ## The potential of a stack of heaps -/

/-- the weight of a heap with `m` tuples: an iteration replaces a heap of `m + 1` tuples by at most `k!` heaps of
    `m` tuples, and `W (m + 1) = 1 + k! · W m` pays for that -/
def W (k : Nat) : Nat → Nat
  | 0 => 1
  | m + 1 => 1 + k.factorial * W k m

theorem W_pos (k m : Nat) : 0 < W k m := by
  cases m with
  | zero => simp [W]
  | succ m => rw [W]; omega

theorem W_le_pow (k m : Nat) : W k m ≤ (k.factorial + 1) ^ m := by
  induction m with
  | zero => simp [W]
  | succ m ih =>
    have h1 : 1 ≤ (k.factorial + 1) ^ m := Nat.one_le_pow _ _ (by omega)
    have h2 : k.factorial * W k m ≤ k.factorial * (k.factorial + 1) ^ m := Nat.mul_le_mul_left _ ih
    rw [W, Nat.pow_succ, Nat.mul_add, Nat.mul_one, Nat.mul_comm ((k.factorial + 1) ^ m)]
    omega

/-- the weight of a heap on the stack; the potential of a stack `L` is `binSum (wt k) L` -/
def wt (k : Nat) (h : Heap α) : Nat := W k h.length

theorem pot_clones (k : Nat) (h2 : Heap α) (c : Nat) (combs : List (Bins α)) :
    binSum (wt k) (CKKValid.clones h2 c combs) = combs.length * W k (h2.length + 1) := by
  induction combs generalizing c with
  | nil => simp [CKKValid.clones]
  | cons nb rest ih =>
    rw [CKKValid.clones, Part.binSum_cons, wt, ih, Part.hpush_length, List.length_cons, Nat.add_mul]; omega

/-- every tuple on the stack has `k` bins -/
def LenInv (k : Nat) (s : CkkState α) : Prop := ∀ h ∈ s.stack, ∀ e ∈ h, e.bins.sums.length = k

section Search
variable {combs : Bins α → Bins α → List (Bins α)}

/-- an iteration uses up the weight of the popped heap, when it pushes at most `k!` combinations: at most `k!` heaps of
    one tuple less replace it -/
theorem step_pot (hc : ∀ b1 b2 : Bins α, (combs b1 b2).length ≤ b1.sums.length.factorial) {k : Nat}
    {gen isBest : Bool} {s s' : CkkState α} (hstep : CKKValid.Step combs k gen isBest s s') (hl : LenInv k s)
    (hne : s.stack ≠ []) : binSum (wt k) s'.stack + 1 ≤ binSum (wt k) s.stack := by
  have drop : ∀ {h : Heap α} {st : List (Heap α)}, s.stack = h :: st → binSum (wt k) st + 1 ≤ binSum (wt k) s.stack := fun {h _} hst => by
    rw [hst, Part.binSum_cons, wt]; have := W_pos k h.length; omega
  cases hstep with
  | stop hst => exact absurd hst hne
  | prune hst _ => exact drop hst
  | noHeap hst => exact drop hst
  | leafNo hst _ _ => exact drop hst
  | leafYes hst _ _ => exact drop hst
  | @expand h h1 h2 e1 e2 st hst _ hp1 _ hperm =>
    show binSum (wt k) (CKKValid.children _ h2 s.cnt ++ st) + 1 ≤ _
    rw [hst, Part.binSum_cons, wt, Part.binSum_append, Part.binSum_perm _ (CKKValid.children_perm _ _ _), pot_clones]
    have hc := hc e1.bins e2.bins
    rw [hl h (hst ▸ List.mem_cons_self) e1 (Part.hpop_mem hp1)] at hc
    have e : h.length = (h2.length + 1) + 1 := by simpa using hperm.length_eq
    have hWe : W k (h2.length + 1 + 1) = 1 + k.factorial * W k (h2.length + 1) := rfl
    rw [e, hWe]
    have := Nat.mul_le_mul_right (W k (h2.length + 1)) hc
    -- at most `k!` children of weight `w` each replace a heap of weight `1 + k!·w`:
    -- `|combs|·w + rest + 1 ≤ (1 + k!·w) + rest`
    generalize W k (h2.length + 1) = w at *
    omega

/-- with fuel above the potential of the stack, the loop runs until `done` -/
theorem searchRun_done (hc : ∀ b1 b2 : Bins α, (combs b1 b2).length ≤ b1.sums.length.factorial) (k : Nat)
    (gen isBest : Bool) (P : CkkState α → Prop) (hstep : ∀ s, P s → P (searchStep combs k gen isBest s))
    (hlen : ∀ s, P s → LenInv k s) (fuel : Nat) (s : CkkState α) (hs : P s) (hp : binSum (wt k) s.stack + 1 ≤ fuel) :
    (Iter.run (·.done) (searchStep combs k gen isBest) fuel s).done = true := by
  refine (Iter.run_stops P hstep (fun s => binSum (wt k) s.stack + 1) ?_ fuel s hs hp).resolve_right (Nat.succ_ne_zero _)
  intro s hs _
  by_cases hne : s.stack = []
  · left; unfold searchStep; rw [hne]
  · right; have := step_pot hc (CKKValid.searchStep_step combs k gen isBest s) (hlen s hs) hne; omega

end Search

theorem ckkRun_mono (nm : α → Nat) [BEq α] (k : Nat) (contents gen isBest : Bool) {fuel fuel' : Nat}
    (hf : fuel ≤ fuel') (s : CkkState α) (hd : (ckkRun nm k contents gen isBest fuel s).done = true) :
    ckkRun nm k contents gen isBest fuel' s = ckkRun nm k contents gen isBest fuel s := by
  simp only [Iter.ckkRun_eq] at hd ⊢
  exact Iter.run_eq_of_done_le hf s hd

/-! ## Explicit fuel for complete Karmarkar–Karp -/

/-- fuel for `n` items and `k` bins: one more than `(k! + 1) ^ n ≥ W k n`, the potential of the initial stack -/
def ckkFuel (k n : Nat) : Nat := (k.factorial + 1) ^ n + 1

theorem ckkFuel_mono (k : Nat) {n n' : Nat} (h : n ≤ n') : ckkFuel k n ≤ ckkFuel k n' := by
  unfold ckkFuel
  have := Nat.pow_le_pow_right (n := k.factorial + 1) (by omega) h
  omega

theorem pushAll_length (v : α → Nat) (k : Nat) :
    ∀ (xs : List α) (h : Heap α) (c : Nat), (pushAll v k xs h c).1.length = h.length + xs.length
  | xs, h, c => (Part.pushAll_induction (Φ := fun _ _ => True) xs (fun _ _ _ _ _ _ => trivial) [] h c trivial).2

theorem ckkInit_pot (v : α → Nat) (k : Nat) (items : List α) (best : EInt) :
    binSum (wt k) (ckkInit v k items best).stack + 1 ≤ ckkFuel k items.length := by
  simp only [ckkInit, Part.binSum_cons, Part.binSum_nil, wt, pushAll_length, Part.sortDesc_length, List.length_nil, Nat.zero_add, Nat.add_zero,
    ckkFuel]
  have := W_le_pow k items.length
  omega

theorem lenInv_of_sinv {v : α → Nat} {k : Nat} {items : List α} {s : CkkState α}
    (h : CKKValid.SInv v k items s) : LenInv k s :=
  fun g hg => CKKValid.hinv_sums_length (h.stack g hg)

theorem lenInv_of_sinvS {v : α → Nat} {k : Nat} {items : List α} {s : CkkState α}
    (h : CKKValid.SInvS v k items s) : LenInv k s :=
  fun g hg => let ⟨⟨_, hg', hsim⟩, _⟩ := h.stack g hg; CKKValid.sim_sums_length hg' hsim

/-- The search loop of CKK stops within `ckkFuel k n` iterations: in every mode (optimal / generator, with or
    without a bound), with either manager. -/
theorem ckkRun_init_done (v nm : α → Nat) [BEq α] {k : Nat} (hk : 0 < k) (contents gen isBest : Bool)
    (items : List α) (best : EInt) {fuel : Nat} (hf : ckkFuel k items.length ≤ fuel) :
    (ckkRun nm k contents gen isBest fuel (ckkInit v k items best)).done = true := by
  have hp := Nat.le_trans (ckkInit_pot v k items best) hf
  rw [ckkRun_eq_search]
  cases contents with
  | true =>
    exact searchRun_done (allComb_length_le nm true) k gen isBest (CKKValid.SInv v k items)
      (fun s hs => by rw [← ckkStep_eq_search]; exact CKKValid.ckkStep_sinv gen isBest hs)
      (fun s hs => lenInv_of_sinv hs) fuel _ (CKKValid.ckkInit_inv hk items best) hp
  | false =>
    exact searchRun_done (allComb_length_le nm false) k gen isBest (CKKValid.SInvS v k items)
      (fun s hs => by rw [← ckkStep_eq_search]; exact CKKValid.ckkStep_invS gen isBest hs)
      (fun s hs => lenInv_of_sinvS hs) fuel _ (CKKValid.ckkInit_invS hk items best) hp

/-! ### the search finds an incumbent before it stops -/

/-- an incumbent exists, or nothing has been pruned yet and the stack holds a non-empty heap -/
def Alive (s : CkkState α) : Prop :=
  s.bestP ≠ none ∨ (s.best = .negInf ∧ s.done = false ∧ s.stack ≠ [] ∧ ∀ g ∈ s.stack, g ≠ [])

section Search
variable {combs : Bins α → Bins α → List (Bins α)}

theorem step_alive (hne : ∀ b1 b2, combs b1 b2 ≠ []) {k : Nat} {gen isBest : Bool} {s s' : CkkState α}
    (hstep : CKKValid.Step combs k gen isBest s s') (h : Alive s) : Alive s' := by
  rcases h with h | ⟨hb, hd, hst, hall⟩
  · -- an incumbent is only ever replaced
    cases hstep with
    | leafYes _ _ _ => exact Or.inl (Option.some_ne_none _)
    | _ => exact Or.inl h
  · have hnp : ∀ h : Heap α, CKKValid.prunedB k h s.best = false := fun h => by
      rw [hb]; unfold CKKValid.prunedB
      cases ckkBound h k <;> rfl
    cases hstep with
    | stop hs => exact absurd hs hst
    | prune _ hpr => rw [hnp] at hpr; cases hpr
    | noHeap hs => exact absurd rfl (hall [] (hs ▸ List.mem_cons_self))
    | leafNo _ _ hlt => rw [hb] at hlt; cases hlt
    | leafYes _ _ _ => exact Or.inl (Option.some_ne_none _)
    | @expand h h1 h2 e1 e2 st hs _ _ _ _ =>
      obtain ⟨nb, hnb⟩ := List.exists_mem_of_ne_nil _ (hne e1.bins e2.bins)
      obtain ⟨c, hc⟩ := CKKValid.mem_children_of_mem hnb h2 s.cnt
      refine Or.inr ⟨hb, hd, List.ne_nil_of_mem (List.mem_append_left _ hc), fun g hg => ?_⟩
      rcases List.mem_append.1 hg with hg | hg
      · obtain ⟨nb, _, c, _, _, rfl⟩ := CKKValid.mem_clones ((CKKValid.children_perm _ _ _).mem_iff.1 hg)
        simp [hpush]
      · exact hall g (hs ▸ List.mem_cons_of_mem _ hg)

theorem searchStep_alive (hne : ∀ b1 b2, combs b1 b2 ≠ []) (k : Nat) (gen isBest : Bool) (s : CkkState α) (h : Alive s) :
    Alive (searchStep combs k gen isBest s) :=
  step_alive hne (CKKValid.searchStep_step combs k gen isBest s) h

end Search

theorem ckkInit_alive (v : α → Nat) (k : Nat) {items : List α} (hne : items ≠ []) : Alive (ckkInit v k items .negInf) := by
  right
  refine ⟨rfl, rfl, by simp [ckkInit], ?_⟩
  intro g hg
  simp only [ckkInit, List.mem_singleton] at hg
  subst hg
  intro h
  have := congrArg List.length h
  rw [pushAll_length, Part.sortDesc_length] at this
  have : items.length = 0 := by simpa using this
  exact hne (List.length_eq_zero_iff.1 this)

/-- C01 (totality) for complete Karmarkar–Karp, `optimal` before F11 (`ckk`): with `ckkFuel k n` iterations, for
    `0 < k` and a non-empty input, the model returns a result — for both managers. -/
theorem ckk_fuel_sufficient {v nm : α → Nat} [BEq α] {k : Nat} {contents : Bool} {items : List α} {fuel : Nat}
    (hk : 0 < k) (hne : items ≠ []) (hf : ckkFuel k items.length ≤ fuel) :
    ∃ b, ckk v nm k contents items fuel = .ok b := by
  have hd := ckkRun_init_done v nm hk contents false true items .negInf hf
  have hj := CKKValid.ckkRun_inv nm k contents false true Alive
    (fun s hs => by
      rw [ckkStep_eq_search]
      exact searchStep_alive (allComb_ne_nil nm contents) k false true s hs) fuel _ (ckkInit_alive v k hne)
  rcases hj with hj | ⟨_, hnd, _⟩
  · exact (resultOf_of_done hd).2 hj
  · rw [hd] at hnd; cases hnd

/-- five items: `(2! + 1) ^ 5 + 1 = 244` iterations for two bins; the sums-only manager with three bins -/
example : ∃ b, ckk id id 2 true [4, 5, 6, 7, 8] 244 = .ok b := ckk_fuel_sufficient (by decide) (by decide) (by decide)
example : ∃ b, ckk id id 3 false [4, 5, 6, 7, 8] (ckkFuel 3 5) = .ok b :=
  ckk_fuel_sufficient (by decide) (by decide) (Nat.le_refl _)

/-- with that fuel `Err.fuel` is not reachable on any input (on the empty list the model answers `indexError` where
    Python raises `ValueError` at `max([])` in the lower bound; outside the property's domain) -/
theorem ckk_never_fuel {v nm : α → Nat} [BEq α] {k : Nat} {contents : Bool} {items : List α} {fuel : Nat}
    (hk : 0 < k) (hf : ckkFuel k items.length ≤ fuel) : ckk v nm k contents items fuel ≠ .error .fuel := by
  exact (resultOf_of_done (ckkRun_init_done v nm hk contents false true items .negInf hf)).1

example : ckk id id 2 true ([] : List Nat) 2 ≠ .error .fuel := ckk_never_fuel (by decide) (by decide)

/-- C01 (totality) for the CKK generator `ckkGen` (RNP draws its 2-way splits from it), for every initial bound; no
    hypothesis on the items is needed -/
theorem ckkGen_fuel_sufficient {v nm : α → Nat} [BEq α] {k : Nat} {contents : Bool} {items : List α}
    {bound : Option Nat} {fuel : Nat} (hk : 0 < k) (hf : ckkFuel k items.length ≤ fuel) :
    ∃ ys, ckkGen v nm k contents items bound fuel = .ok ys := by
  simp only [ckkGen, ckkRun_init_done v nm hk contents true bound.isNone items _ hf, Bool.not_true,
    Bool.false_eq_true, if_false]
  exact ⟨_, rfl⟩

example : ∃ ys, ckkGen id id 2 true [4, 5, 6, 7, 8] (some 3) 244 = .ok ys :=
  ckkGen_fuel_sufficient (by decide) (by decide)
example : ∃ ys, ckkGen id id 3 false [4, 5, 6, 7, 8] none (ckkFuel 3 5) = .ok ys :=
  ckkGen_fuel_sufficient (by decide) (Nat.le_refl _)

/-! ## More fuel does not change a completed run -/

theorem ckk_fuel_mono {v nm : α → Nat} [BEq α] {k : Nat} {contents : Bool} {items : List α} {fuel fuel' : Nat}
    {b : Bins α} (h : ckk v nm k contents items fuel = .ok b) (hf : fuel ≤ fuel') :
    ckk v nm k contents items fuel' = .ok b := by
  rw [ckk_eq_resultOf] at h ⊢
  rw [ckkRun_mono nm k contents false true hf _ (resultOf_ok h).1]
  exact h

example : ckk id id 3 true [4, 5, 6, 7, 8] 1000 = .ok ⟨[8, 11, 11], [[8], [5, 6], [4, 7]]⟩ :=
  ckk_fuel_mono Runs.ckk3_contents (by decide)

theorem gen_mono_aux (nm : α → Nat) [BEq α] (k : Nat) (contents gen isBest : Bool) (s0 : CkkState α)
    {fuel fuel' : Nat} {ys : List (Bins α)} (hf : fuel ≤ fuel')
    (h : (if !(ckkRun nm k contents gen isBest fuel s0).done then Except.error Err.fuel
          else Except.ok (ckkRun nm k contents gen isBest fuel s0).yields.reverse) = Except.ok ys) :
    (if !(ckkRun nm k contents gen isBest fuel' s0).done then Except.error Err.fuel
      else Except.ok (ckkRun nm k contents gen isBest fuel' s0).yields.reverse) = Except.ok ys := by
  have hd : (ckkRun nm k contents gen isBest fuel s0).done = true := by
    split at h
    · cases h
    · rename_i hnd; simpa using hnd
  rw [ckkRun_mono nm k contents gen isBest hf _ hd]
  exact h

theorem ckkGen_fuel_mono {v nm : α → Nat} [BEq α] {k : Nat} {contents : Bool} {items : List α}
    {bound : Option Nat} {fuel fuel' : Nat} {ys : List (Bins α)}
    (h : ckkGen v nm k contents items bound fuel = .ok ys) (hf : fuel ≤ fuel') :
    ckkGen v nm k contents items bound fuel' = .ok ys := by
  exact gen_mono_aux nm k contents true bound.isNone _ hf h

example : ckkGen id id 2 true [4, 5, 6, 7, 8] (some 3) 1000 =
    .ok [⟨[14, 16], [[6, 8], [4, 5, 7]]⟩, ⟨[15, 15], [[4, 5, 6], [7, 8]]⟩] :=
  ckkGen_fuel_mono Runs.ckkGen2_bound3 (by decide)

end Prtpy.Total

namespace Prtpy.CKKF
open Prtpy.CKKValid (searchStep resultOf_of_done)
variable {α : Type}

/-! ## The search of `optimal` after F11 (`ckkF`) stops -/

/-- the de-duplication on sums of F11 only removes combinations, so the `k!` bound and the potential argument hold
    for the contents manager; the sums-only manager runs the loop of `ckk` -/
theorem ckkRunF_init_done (v nm : α → Nat) [BEq α] {k : Nat} (hk : 0 < k) (contents : Bool)
    (items : List α) (best : EInt) {fuel : Nat} (hf : Total.ckkFuel k items.length ≤ fuel) :
    (ckkRunF nm k contents fuel (ckkInit v k items best)).done = true := by
  cases contents with
  | true =>
    rw [ckkRunF_eq_search]
    exact Total.searchRun_done
      (fun b1 b2 => Nat.le_trans (dedupSums_length_le _) (Total.allComb_length_le nm true b1 b2)) k false true
      (CKKValid.SInv v k items) (fun s hs => by rw [← ckkStepF_eq_search]; exact ckkStepF_inv hs)
      (fun s hs => Total.lenInv_of_sinv hs) fuel _ (CKKValid.ckkInit_inv hk items best)
      (Nat.le_trans (Total.ckkInit_pot v k items best) hf)
  | false =>
    rw [ckkRunF_false_eq]
    exact Total.ckkRun_init_done v nm hk false false true items best hf

/-- C01 (totality) for complete Karmarkar–Karp, `optimal` after F11 (`ckkF`).  With `Total.ckkFuel k n =
    (k! + 1) ^ n + 1` iterations, for `0 < k` and a non-empty input, the model returns a result — for both managers. -/
theorem ckkF_fuel_sufficient {v nm : α → Nat} [BEq α] {k : Nat} {contents : Bool} {items : List α} {fuel : Nat}
    (hk : 0 < k) (hne : items ≠ []) (hf : Total.ckkFuel k items.length ≤ fuel) :
    ∃ b, ckkF v nm k contents items fuel = .ok b := by
  have hd := ckkRunF_init_done v nm hk contents items .negInf hf
  have hj := ckkRunF_inv nm k contents Total.Alive
    (fun s hs => by
      rw [ckkStepF_eq_search]
      exact Total.searchStep_alive
        (fun b1 b2 => dedupSums_ne_nil (Total.allComb_ne_nil nm contents b1 b2)) k false true s hs)
    fuel _ (Total.ckkInit_alive v k hne)
  rcases hj with hj | ⟨_, hnd, _⟩
  · exact (resultOf_of_done hd).2 hj
  · rw [hd] at hnd; cases hnd

example : ∃ b, ckkF id id 2 true [4, 5, 6, 7, 8] 244 = .ok b :=
  ckkF_fuel_sufficient (by decide) (by decide) (by decide)

theorem ckkF_never_fuel {v nm : α → Nat} [BEq α] {k : Nat} {contents : Bool} {items : List α} {fuel : Nat}
    (hk : 0 < k) (hf : Total.ckkFuel k items.length ≤ fuel) : ckkF v nm k contents items fuel ≠ .error .fuel := by
  exact (resultOf_of_done (ckkRunF_init_done v nm hk contents items .negInf hf)).1

example : ckkF id id 2 true ([] : List Nat) 2 ≠ .error .fuel := ckkF_never_fuel (by decide) (by decide)

end Prtpy.CKKF

namespace Prtpy.Total
variable {α : Type}

/-! ## SNP never fails

`findDiff items sub` can be empty only if `sub` holds all the items; the upper bound `sum(sub) ≤ total / c` of the
window excludes that as soon as the total is positive, and the total *is* positive at every level: at the top
because a zero total makes KK's answer perfect (`spread = 0`, early return), below because the remaining items
keep at least `(c - 1) / c` of a positive total.  So `ckk2` is never called on an empty list. -/

/-- totality rule for `treeFold`: `body` is only called on sub-collections inside the window, in states that
    satisfy an invariant `P` -/
theorem treeFold_ok {σ : Type} (P : σ → Prop) (v : α → Nat) (den : Nat) (ub : Int) (lbOf : σ → Int)
    (body : σ → List α → Except Err σ) : ∀ (rest cur : List α),
    (∀ st s, P st → s.Sublist rest → SNPProofs.inWin v den (lbOf st) ub (cur ++ s) = true →
      ∃ st', body st (cur ++ s) = .ok st' ∧ P st') →
    ∀ st, P st → ∃ st', treeFold v den ub lbOf body st cur rest = .ok st' ∧ P st'
  | [], cur, hbody, st, hst => by
    simp only [treeFold]
    split
    · exact ⟨st, rfl, hst⟩
    · rename_i hp
      have := hbody st [] hst (List.Sublist.refl _) (by
        rw [List.append_nil]
        rw [SNPProofs.inexPrune_nil] at hp
        simpa using hp)
      simpa using this
  | x :: xs, cur, hbody, st, hst => by
    simp only [treeFold]
    split
    · exact ⟨st, rfl, hst⟩
    · obtain ⟨s1, h1, hs1⟩ := treeFold_ok P v den ub lbOf body xs (cur ++ [x]) (fun st0 s h0 hs hw => by
        have := hbody st0 (x :: s) h0 (hs.cons_cons x) (by simpa using hw)
        simpa using this) st hst
      rw [h1]
      exact treeFold_ok P v den ub lbOf body xs cur (fun st0 s h0 hs hw => hbody st0 s h0 (hs.cons x) hw) s1 hs1

theorem foldE_ok {σ β : Type} (P : σ → Prop) (f : σ → β → Except Err σ) :
    ∀ (l : List β), (∀ s x, x ∈ l → P s → ∃ s', f s x = .ok s' ∧ P s') →
      ∀ s, P s → ∃ s', foldE f s l = .ok s' ∧ P s'
  | [], _, s, hs => ⟨s, rfl, hs⟩
  | x :: xs, h, s, hs => by
    obtain ⟨s1, h1, hp1⟩ := h s x List.mem_cons_self hs
    simp only [foldE, h1]
    exact foldE_ok P f xs (fun s y hy => h s y (List.mem_cons_of_mem _ hy)) s1 hp1

theorem ckk2_total {v nm : α → Nat} [BEq α] {contents : Bool} {items : List α} {fuel n : Nat}
    (hf : ckkFuel 2 n ≤ fuel) (hne : items ≠ []) (hn : items.length ≤ n) :
    ∃ b, ckk2 v nm contents items fuel = .ok b := by
  unfold ckk2
  rw [if_neg (by simpa using hne)]
  exact CKKF.ckkF_fuel_sufficient (by decide) hne (Nat.le_trans (ckkFuel_mono 2 hn) hf)

/-- the part of the items that stays after a sub-collection of total at most `total / c` (`c ≥ 2`) has been
    split off: no longer than the input, and of positive total -/
theorem findDiff_facts [BEq α] [LawfulBEq α] {v : α → Nat} {items sub : List α} {c : Nat} (hc : 2 ≤ c)
    (hsub : sub.Subperm items) (hw : ((binSum v sub : Nat) : Int) * (c : Nat) ≤ ((binSum v items : Nat) : Int))
    (hpos : 0 < binSum v items) :
    (findDiff items sub).length ≤ items.length ∧ binSum v sub + binSum v (findDiff items sub) = binSum v items ∧
      0 < binSum v (findDiff items sub) := by
  have hp := SNPProofs.findDiff_perm_of_subperm hsub
  have hl := hp.length_eq
  have hb := Part.binSum_perm v hp
  rw [List.length_append] at hl
  rw [Part.binSum_append] at hb
  have hw' : binSum v sub * c ≤ binSum v items := by exact_mod_cast hw
  have h2 : binSum v sub * 2 ≤ binSum v sub * c := Nat.mul_le_mul_left _ hc
  exact ⟨by omega, hb, by omega⟩

theorem inWin_ub {v : α → Nat} {den : Nat} {lb ub : Int} {s : List α} (h : SNPProofs.inWin v den lb ub s = true) :
    ((binSum v s : Nat) : Int) * (den : Nat) ≤ ub := by
  simp only [SNPProofs.inWin, Bool.and_eq_true, decide_eq_true_eq] at h
  exact h.2

theorem snpRec_total {v nm : α → Nat} [BEq α] [LawfulBEq α] (contents : Bool) {fuel n : Nat}
    (hf : ckkFuel 2 n ≤ fuel) (cur : Nat) (prior best : Bins α) (items : List α) :
    items.length ≤ n → 0 < binSum v items → ∃ b, snpRec v nm contents fuel cur prior best items = .ok b := by
  induction cur, prior, best, items using snpRec.induct v nm contents fuel with
  | case1 | case2 => exact fun _ _ => ⟨_, rfl⟩
  | case3 prior best items e he =>
    intro hn hpos
    obtain ⟨two, h2⟩ := ckk2_total (v := v) (nm := nm) (contents := contents) hf (Part.ne_nil_of_binSum_pos hpos) hn
    rw [h2] at he; cases he
  | case4 prior best items two ht hlt => simp only [snpRec, ht, if_pos hlt]; exact fun _ _ => ⟨_, rfl⟩
  | case5 prior best items two ht hlt => simp only [snpRec, ht, if_neg hlt]; exact fun _ _ => ⟨_, rfl⟩
  | case6 c prior best items ih =>
    intro hn hpos
    rw [snpRec]
    refine (treeFold_ok (fun _ => True) v _ _ _ _ (sortDesc v items) [] ?_ best trivial).imp fun _ h => h.1
    intro st s _ hs hw
    rw [List.nil_append] at hw ⊢
    have hsub : s.Subperm items := hs.subperm.trans (Part.sortDesc_perm v items).subperm
    obtain ⟨q1, _, q3⟩ := findDiff_facts (c := c + 3) (by omega) hsub (inWin_ub hw) hpos
    exact (ih st s (by omega) q3).imp fun _ h => ⟨h, trivial⟩

theorem binSum_pos_of_spread {v : α → Nat} {items : List α} {k : Nat} {b : Bins α} (h : IsPartition v items k b)
    (hs : spread b.sums ≠ 0) : 0 < binSum v items := by
  have h1 := (Part.isPartition_sumL h).1
  have h2 : maxL b.sums ≤ sumL b.sums := Part.maxL_le fun _ h => Part.le_sumL_of_mem h
  unfold spread at hs
  omega

/-- C01 (totality) for SNP.  For `0 < k` and a non-empty input, `snp` with CKK fuel `ckkFuel 2 n = 3 ^ n + 1`
    returns a result, for both managers: neither `Err.fuel` nor the `ValueError` of 2-way CKK on an empty list
    (which the model has, as the code has) is reachable.  Zero values are allowed. -/
theorem snp_total {v nm : α → Nat} [BEq α] [LawfulBEq α] {k : Nat} {contents : Bool} {items : List α} {fuel : Nat}
    (hk : 0 < k) (hne : items ≠ []) (hf : ckkFuel 2 items.length ≤ fuel) :
    ∃ b, snp v nm k contents items fuel = .ok b := by
  obtain ⟨best, hb, hbest⟩ := Part.kk_isPartition (v := v) hk hne
  simp only [snp, hb]
  split
  · exact ⟨_, rfl⟩
  · rename_i hsp
    exact snpRec_total contents hf k _ best items (Nat.le_refl _) (binSum_pos_of_spread hbest hsp)

/-- six items, fuel `3 ^ 6 + 1 = 730`; the second instance has zero values -/
example : ∃ b, snp id id 3 true [5, 3, 3, 2, 2, 2] 730 = .ok b := snp_total (by decide) (by decide) (by decide)
example : ∃ b, snp id id 4 false [5, 0, 3, 0, 2, 2] 730 = .ok b := snp_total (by decide) (by decide) (by decide)

/-! ## RNP (numbins ≤ 5) never fails

Besides the argument of SNP (odd levels), the even level (4 bins) splits the items with the 2-way generator and
runs 2-way CKK on both sides; a side is empty only if the difference of the split is the whole total, and the
generator only yields splits whose difference is *below* the incumbent spread.  The incumbent spread is at most the
largest item (KK's gap bound, `Part.kk_gap`), and the items that reach level 4 weigh at least that much. -/

theorem ckkGen_bounded_lt {v nm : α → Nat} [BEq α] {k : Nat} {items : List α} {d fuel : Nat} {ys : List (Bins α)}
    (hk : 0 < k) (h : ckkGen v nm k true items (some d) fuel = .ok ys) : ∀ y ∈ ys, spread y.sums < d := by
  have hinv := CKKValid.ckkRun_inv nm k true true false
    (fun s => CKKValid.SInv v k items s ∧ s.best = .fin (-(d : Int)) ∧ ∀ y ∈ s.yields, spread y.sums < d)
    (by
      rintro s ⟨hs, hb, hy⟩
      obtain ⟨_, hrel⟩ := CKKValid.ckkStep_cases nm k true true false s
      refine ⟨CKKValid.ckkStep_sinv true false hs, ?_, ?_⟩
      · rcases hrel with ⟨h1, _, _⟩ | ⟨e, _, _, h1, _, _⟩
        · rw [h1]; exact hb
        · rw [h1]; simpa using hb
      · rcases hrel with ⟨_, h2, _⟩ | ⟨e, he, hlt, _, h2, _⟩
        · rw [h2]; exact hy
        · rw [h2]
          intro y hy'
          rcases List.mem_cons.1 hy' with rfl | hy'
          · have hd := (CKKValid.hinv_singleton (hs.stack _ he)).2
            rw [hb] at hlt
            have := CGOpt.elt_fin.1 hlt
            omega
          · exact hy y hy')
    fuel (ckkInit v k items (.fin (-(d : Int)))) ⟨CKKValid.ckkInit_inv hk items _, rfl, by simp [ckkInit]⟩
  simp only [ckkGen] at h
  split at h
  · cases h
  · cases h
    intro y hy
    exact hinv.2.2 y (List.mem_reverse.1 hy)

/-- both sides of a 2-way split whose difference is below the total are non-empty -/
theorem top_sides {v : α → Nat} {items : List α} {top : Bins α} {d : Nat} (h : IsPartition v items 2 top)
    (hlt : spread top.sums < d) (hd : d ≤ binSum v items) :
    (top.lists.getD 0 [] ≠ [] ∧ (top.lists.getD 0 []).length ≤ items.length) ∧
    (top.lists.getD 1 [] ≠ [] ∧ (top.lists.getD 1 []).length ≤ items.length) := by
  obtain ⟨tp, tl, tc⟩ := h
  match hl : top.lists, tl with
  | [a, b], _ =>
    rw [hl] at tp tc
    have hp : (a ++ b).Perm items := by simpa using tp
    have hlen := hp.length_eq
    have hsum := Part.binSum_perm v hp
    rw [List.length_append] at hlen
    rw [Part.binSum_append] at hsum
    rw [tc] at hlt
    simp only [List.map_cons, List.map_nil, SNPOpt.spread_pair] at hlt
    simp only [List.getD_cons_zero, List.getD_cons_succ]
    refine ⟨⟨?_, by omega⟩, ?_, by omega⟩
    · rintro rfl
      simp only [Part.binSum_nil] at hlt hsum
      omega
    · rintro rfl
      simp only [Part.binSum_nil] at hlt hsum
      omega

/-- if the recursive call succeeds, so does the iteration, and the incumbent spread does not grow -/
theorem oddStep_ok {v : α → Nat} [BEq α] {child : RNPRound.Call α} {prior : Bins α}
    {items : List α} {st : Bins α} {sub : List α} {nb : Bins α}
    (hr : child ⟨prior.sums ++ [binSum v sub], prior.lists ++ [sub]⟩ st (findDiff items sub) = .ok nb) :
    ∃ st', RNPRound.oddStep v child prior items st sub = .ok st' ∧ spread st'.sums ≤ spread st.sums := by
  obtain ⟨st', h'⟩ : ∃ st', RNPRound.oddStep v child prior items st sub = .ok st' := by
    unfold RNPRound.oddStep
    simp only [hr]
    split <;> exact ⟨_, rfl⟩
  obtain ⟨_, _, hle, _⟩ := RNPRound.oddStep_spec h'
  exact ⟨st', h', hle⟩

/-! ### the rounds, relative to the totality of the call below them -/

section Rounds
variable {v nm : α → Nat} [BEq α] [LawfulBEq α] {contents : Bool} {fuel n : Nat}

omit [LawfulBEq α] in
/-- the odd round: the loop succeeds if the call below succeeds on what stays after every sub-collection of the
    window, for every incumbent at least as good as the initial one -/
theorem oddLevel_total {cur : Nat} {child : RNPRound.Call α} (prior best : Bins α) {items : List α}
    (hrec : ∀ (st : Bins α) (sub : List α), sub.Subperm items →
      ((binSum v sub : Nat) : Int) * (cur : Nat) ≤ ((binSum v items : Nat) : Int) → spread st.sums ≤ spread best.sums →
      ∃ nb, child ⟨prior.sums ++ [binSum v sub], prior.lists ++ [sub]⟩ st (findDiff items sub) = .ok nb) :
    ∃ b, RNPRound.oddLevel v child cur prior best items = .ok b := by
  rw [RNPRound.oddLevel_eq_treeFold]
  obtain ⟨b, hb, _⟩ := treeFold_ok (fun st : Bins α => spread st.sums ≤ spread best.sums) v _ _ _
    (RNPRound.oddStep v child prior items) (sortDesc v items) []
    (fun st sub hst hs hw => by
      rw [List.nil_append] at hw ⊢
      obtain ⟨nb, hnb⟩ := hrec st sub (hs.subperm.trans (Part.sortDesc_perm v items).subperm) (inWin_ub hw) hst
      obtain ⟨st', h', hle⟩ := oddStep_ok hnb
      exact ⟨st', h', Nat.le_trans hle hst⟩) best (Nat.le_refl _)
  exact ⟨b, hb⟩

omit [LawfulBEq α] in
/-- the even round over a call that succeeds on every non-empty list of at most `n` items: both sides of a yield
    are non-empty because its difference is below the incumbent's spread, which is at most the total -/
theorem evenLevel_total (hf : ckkFuel 2 n ≤ fuel) {key : List Nat → Nat}
    {child : Bins α → List α → Except Err (Bins α)}
    (h2 : ∀ b its, its ≠ [] → its.length ≤ n → ∃ two, child b its = .ok two) (best : Bins α) {items : List α}
    (hn : items.length ≤ n) (hpos : 0 < binSum v items) (hd : spread best.sums ≤ binSum v items) :
    ∃ b, RNPRound.evenLevel v nm fuel key child best items = .ok b := by
  have hne := Part.ne_nil_of_binSum_pos hpos
  unfold RNPRound.evenLevel
  rw [if_neg (by simpa using hne)]
  obtain ⟨tops, hg⟩ := ckkGen_fuel_sufficient (v := v) (nm := nm) (k := 2) (contents := true) (items := items)
    (bound := some (spread best.sums)) (by decide) (Nat.le_trans (ckkFuel_mono 2 hn) hf)
  rw [hg]
  have hvalid := CKKValid.ckkGen_yields (by decide) hg
  have hlt := ckkGen_bounded_lt (by decide) hg
  obtain ⟨st, hst, _⟩ := foldE_ok (fun _ => True) (RNPRound.evenStep key child) tops
    (fun st top htop _ => by
      obtain ⟨⟨a1, a2⟩, b1, b2⟩ := top_sides (hvalid top htop).1 (hlt top htop) hd
      obtain ⟨nb1, h1⟩ := h2 st.1 _ a1 (Nat.le_trans a2 hn)
      obtain ⟨nb2, h2'⟩ := h2 st.1 _ b1 (Nat.le_trans b2 hn)
      unfold RNPRound.evenStep
      simp only [h1, h2']
      split <;> exact ⟨_, rfl, trivial⟩) (best, spread best.sums) trivial
  simp only [hst]
  exact ⟨_, rfl⟩

/-- every recursion whose step is `RNPRound.round`, two to five bins at top level: the 2-way search is never called
    on an empty list.  For five bins the incumbent's spread has to be at most one of the items (KK's gap bound): the
    items that reach the even round weigh at least that much. -/
theorem rounds_total (hf : ckkFuel 2 n ≤ fuel) {key : Bins α → List Nat → Nat} {R : Nat → Nat → RNPRound.Call α}
    (hR : ∀ rf cur prior best items,
      R (rf + 1) cur prior best items = RNPRound.round v nm contents fuel key (R rf) cur prior best items)
    {k : Nat} (hk2 : 2 ≤ k) (hk5 : k ≤ 5) (prior best : Bins α) {items : List α} (hn : items.length ≤ n)
    (hpos : 0 < binSum v items) {x : α} (hx : x ∈ items) (hsp : spread best.sums ≤ v x) :
    ∃ b, R (k + 1) k prior best items = .ok b := by
  have two : ∀ rf p b' its, its ≠ [] → its.length ≤ n → ∃ two, R (rf + 1) 2 p b' its = .ok two := by
    intro rf p b' its hne hl
    rw [hR, RNPRound.round_two]
    exact ckk2_total hf hne hl
  have four : ∀ p b' its, its.length ≤ n → 0 < binSum v its → spread b'.sums ≤ binSum v its →
      ∃ b, R 5 4 p b' its = .ok b := by
    intro p b' its hl hp hd
    rw [hR, RNPRound.round_four]
    exact evenLevel_total hf (two 3 p) b' hl hp hd
  obtain rfl | rfl | rfl | rfl : k = 2 ∨ k = 3 ∨ k = 4 ∨ k = 5 := by omega
  · exact two 2 _ _ _ (Part.ne_nil_of_binSum_pos hpos) hn
  · rw [hR, RNPRound.round_odd _ _ _ _ _ _ rfl]
    refine oddLevel_total prior best (fun st sub h1 h2 _ => ?_)
    obtain ⟨q1, _, q3⟩ := findDiff_facts (c := 3) (by omega) h1 h2 hpos
    exact two 2 _ st _ (Part.ne_nil_of_binSum_pos q3) (Nat.le_trans q1 hn)
  · exact four prior best items hn hpos (Nat.le_trans hsp (Part.le_binSum_of_mem v hx))
  · rw [hR, RNPRound.round_odd _ _ _ _ _ _ rfl]
    refine oddLevel_total prior best (fun st sub h1 h2 hst => ?_)
    obtain ⟨q1, q2, q3⟩ := findDiff_facts (c := 5) (by omega) h1 h2 hpos
    have hw' : binSum v sub * 5 ≤ binSum v items := by exact_mod_cast h2
    -- `x` is in `sub`, which weighs at most a fifth of the total, or in the rest
    have hbig : spread st.sums ≤ binSum v (findDiff items sub) := by
      have hmem : x ∈ sub ∨ x ∈ findDiff items sub := by
        simpa using (SNPProofs.findDiff_perm_of_subperm h1).mem_iff.2 hx
      rcases hmem with hm | hm <;> have := Part.le_binSum_of_mem v hm <;> omega
    exact four _ st _ (Nat.le_trans q1 hn) q3 hbig

end Rounds

/-- C01 (totality) for RNP (`numbins ≤ 5`, the modelled range).  For a non-empty input, `rnpF` with CKK fuel
    `ckkFuel 2 n = 3 ^ n + 1` returns a result, for both managers (the recursion fuel `k + 1` of the model is
    enough, and the `ValueError` of 2-way CKK / of the 2-way generator on an empty list is not reachable). -/
theorem rnpF_total {v nm : α → Nat} [BEq α] [LawfulBEq α] {k : Nat} {contents : Bool} {items : List α} {fuel : Nat}
    (hk : 0 < k) (hk5 : k ≤ 5) (hne : items ≠ []) (hf : ckkFuel 2 items.length ≤ fuel) :
    ∃ b, rnpF v nm k contents items fuel = .ok b := by
  obtain ⟨best, hb, hbest⟩ := Part.kk_isPartition (v := v) hk hne
  have hgap : spread best.sums ≤ maxL (items.map v) := Part.kk_gap hk hne hb
  simp only [rnpF, hb]
  split
  · exact ⟨_, rfl⟩
  · rename_i hsp
    rw [if_neg (by omega)]
    have hpos := binSum_pos_of_spread hbest hsp
    have hk2 := CKKValid.two_le_of_spread_ne_zero hk hbest hsp
    obtain ⟨x, hx, hvx⟩ := List.mem_map.1 (Part.maxL_mem (l := items.map v) (by simpa using hne))
    exact rounds_total hf (RNPRound.rnpRecF_succ v nm contents fuel) hk2 hk5 _ best (Nat.le_refl _) hpos hx (by omega)

/-- eight items, fuel `3 ^ 8 + 1 = 6562`: the odd level 5 above the even level 4, and level 4 with zero values -/
example : ∃ b, rnpF id id 5 true [11, 9, 9, 6, 6, 4, 4, 4] 6562 = .ok b :=
  rnpF_total (by decide) (by decide) (by decide) (by decide)
example : ∃ b, rnpF id id 4 false [5, 3, 0, 3, 2, 2, 0, 2] 6562 = .ok b :=
  rnpF_total (by decide) (by decide) (by decide) (by decide)

/-! ## Bin completion never fails -/

/-- C01 (totality) for bin completion.  The model never reports `Err.fuel` (an exhausted budget returns the
    incumbent); if every item fits into a bin the result is `.ok` for every fuel, and with
    `BCProofs.enoughFuel` it is a packing with the minimum number of bins. -/
theorem bc_total {B : Nat} {items : List Nat} (fuel : Nat) (hall : ∀ x ∈ items, x ≤ B) :
    ∃ bins, BC.binCompletion B items fuel = .ok bins ∧
      (0 < B → BCProofs.enoughFuel (items.filter (· != 0)).length ≤ fuel →
        optBins B (items.filter (· != 0)) = some bins.length) := by
  obtain ⟨bins, h⟩ := BCProofs.bc_ok_of_all_le fuel hall
  exact ⟨bins, h, fun hB hfuel => BCProofs.bc_optimal hB hfuel h⟩

/-- the only error of `binCompletion` is the `ValueError` for an item that is larger than a bin -/
theorem bc_never_fuel {B : Nat} {items : List Nat} {fuel : Nat} : BC.binCompletion B items fuel ≠ .error .fuel := by
  intro h
  have := (BCProofs.bc_error_iff.1 h).1
  cases this

example : ∃ bins, BC.binCompletion 20 [5, 10, 4, 10, 8, 6, 4, 10, 5, 4, 4, 10] 7 = .ok bins ∧
    (0 < 20 → BCProofs.enoughFuel ([5, 10, 4, 10, 8, 6, 4, 10, 5, 4, 4, 10].filter (· != 0)).length ≤ 7 →
      optBins 20 ([5, 10, 4, 10, 8, 6, 4, 10, 5, 4, 4, 10].filter (· != 0)) = some bins.length) :=
  bc_total 7 (by decide)

end Prtpy.Total
