/-
  PrtpyProofs.BCNamed — bin completion on named items (fix F15 of /verif/known_findings.json):
  `BC.binCompletionNamed v B items fuel` runs the search of `BC.binCompletion` on the values `items.map v` and puts the
  items back into the bins value by value (`BC.relabel`).  For an arbitrary item type `α` and `v : α → Nat`: putting the
  items back keeps the values of every bin and uses every item once (`relabel_spec`), so the values of the named answer
  are the answer for the bare values (`bcNamed_values`); C03, C19, C04 and C07 for named items follow from the
  theorems of `BCProofs` about the values (for what `fuel` stands for see the head of BCProofs.lean).
  `decide +kernel` occurs only in `example`s.
-/
import PrtpyProofs.BCProofs

namespace Prtpy.BCNamed
open Prtpy

/-- decidable equality on results (`Prtpy.decEqExcept` with the error type fixed), a local instance for evaluating the
    concrete runs of the examples -/
@[instance_reducible] def decEqResult {β : Type} [DecidableEq β] : DecidableEq (Except Err β)
  | .ok a, .ok b => if h : a = b then isTrue (by rw [h]) else isFalse (fun h' => h (Except.ok.inj h'))
  | .error a, .error b =>
    if h : a = b then isTrue (by rw [h]) else isFalse (fun h' => h (Except.error.inj h'))
  | .ok _, .error _ => isFalse (fun h => by cases h)
  | .error _, .ok _ => isFalse (fun h => by cases h)

attribute [local instance] decEqResult

variable {α : Type}

/-! ### `takeValue` and `relabelBin` -/

/-- `takeValue` finds an item of value `x` whenever there is one, and removes exactly that item -/
theorem takeValue_spec (v : α → Nat) (x : Nat) : ∀ (l : List α), x ∈ l.map v →
    ∃ a l', BC.takeValue v x l = some (a, l') ∧ v a = x ∧ (a :: l').Perm l
  | [], h => by simp at h
  | b :: l, h => by
    by_cases hb : v b = x
    · exact ⟨b, l, by simp [BC.takeValue, hb], hb, List.Perm.refl _⟩
    · have hx : x ∈ l.map v := by
        rw [List.map_cons, List.mem_cons] at h
        rcases h with h | h
        · exact absurd h.symm hb
        · exact h
      obtain ⟨a, l', h1, h2, h3⟩ := takeValue_spec v x l hx
      refine ⟨a, b :: l', by simp [BC.takeValue, hb, h1], h2, ?_⟩
      exact (List.Perm.swap b a l').trans (h3.cons b)

/-- one bin: if the values of the bin are available among the remaining items, the items chosen have exactly these values
    (in this order), and chosen ++ remaining is a rearrangement of what was there -/
theorem relabelBin_spec (v : α → Nat) : ∀ (b : List Nat) (rest : List α), List.Subperm b (rest.map v) →
    (BC.relabelBin v b rest).1.map v = b ∧
      ((BC.relabelBin v b rest).1 ++ (BC.relabelBin v b rest).2).Perm rest
  | [], rest, _ => by simp [BC.relabelBin]
  | x :: xs, rest, h => by
    have hx : x ∈ rest.map v := h.subset (List.mem_cons_self ..)
    obtain ⟨a, rest', h1, h2, h3⟩ := takeValue_spec v x rest hx
    have hsub : List.Subperm xs (rest'.map v) := by
      have hp : (x :: rest'.map v).Perm (rest.map v) := by
        have := h3.map v
        rwa [List.map_cons, h2] at this
      have : List.Subperm (x :: xs) (x :: rest'.map v) := h.trans hp.symm.subperm
      exact (List.subperm_cons x).1 this
    obtain ⟨ih1, ih2⟩ := relabelBin_spec v xs rest' hsub
    simp only [BC.relabelBin, h1]
    refine ⟨by rw [List.map_cons, h2, ih1], ?_⟩
    exact ((ih2.cons a)).trans h3

/-! ### `relabel` keeps the values and uses every item exactly once -/

theorem relabel_spec (v : α → Nat) : ∀ (bins : List (List Nat)) (items : List α),
    bins.flatten.Perm (items.map v) →
    (BC.relabel v bins items).map (fun l => l.map v) = bins ∧ (BC.relabel v bins items).flatten.Perm items
  | [], items, h => by
    have : items = [] := by
      have := h.length_eq
      simpa using this.symm
    subst this
    simp [BC.relabel]
  | b :: bs, items, h => by
    rw [List.flatten_cons] at h
    have hsub : List.Subperm b (items.map v) :=
      (List.sublist_append_left b bs.flatten).subperm.trans h.subperm
    obtain ⟨h1, h2⟩ := relabelBin_spec v b items hsub
    have hrest : bs.flatten.Perm ((BC.relabelBin v b items).2.map v) := by
      have hp := (h2.map v).symm
      rw [List.map_append, h1] at hp
      exact (List.perm_append_left_iff b).1 (h.trans hp)
    obtain ⟨ih1, ih2⟩ := relabel_spec v bs _ hrest
    simp only [BC.relabel, List.map_cons, List.flatten_cons]
    refine ⟨by rw [h1, ih1], ?_⟩
    exact (ih2.append_left _).trans h2

theorem relabel_values (v : α → Nat) (bins : List (List Nat)) (items : List α)
    (h : bins.flatten.Perm (items.map v)) :
    (BC.relabel v bins items).map (fun l => l.map v) = bins := (relabel_spec v bins items h).1

theorem relabel_perm (v : α → Nat) (bins : List (List Nat)) (items : List α)
    (h : bins.flatten.Perm (items.map v)) :
    (BC.relabel v bins items).flatten.Perm items := (relabel_spec v bins items h).2

theorem relabel_length (v : α → Nat) : ∀ (bins : List (List Nat)) (items : List α),
    (BC.relabel v bins items).length = bins.length
  | [], _ => rfl
  | b :: bs, items => by simp [BC.relabel, relabel_length v bs]

example : BC.relabel Prod.snd [[9, 1], [9], [9]] [(0, 9), (1, 9), (2, 9), (3, 1)]
    = [[(0, 9), (3, 1)], [(1, 9)], [(2, 9)]] := by decide
example : (BC.relabel Prod.snd [[9, 1], [9], [9]] [(0, 9), (1, 9), (2, 9), (3, 1)]).map (fun l => l.map Prod.snd)
    = [[9, 1], [9], [9]] :=
  relabel_values Prod.snd _ _ (by decide)
example : (BC.relabel Prod.snd [[9, 1], [9], [9]] [(0, 9), (1, 9), (2, 9), (3, 1)]).flatten.Perm
    [(0, 9), (1, 9), (2, 9), (3, 1)] :=
  relabel_perm Prod.snd _ _ (by decide)

/-! ### the values of the named answer = the answer for the bare values (C07) -/

theorem filter_map_values (v : α → Nat) (items : List α) :
    (items.map v).filter (· != 0) = (items.filter fun a => v a != 0).map v := by
  rw [List.filter_map]; rfl

theorem bcNamed_ok_cases {v : α → Nat} {B : Nat} {items : List α} {fuel : Nat} {bs : List (List α)}
    (h : BC.binCompletionNamed v B items fuel = .ok bs) :
    ∃ bins, BC.binCompletion B (items.map v) fuel = .ok bins ∧
      bs = BC.relabel v bins (items.filter fun a => v a != 0) ∧
      bins.flatten.Perm ((items.filter fun a => v a != 0).map v) := by
  unfold BC.binCompletionNamed at h
  cases hb : BC.binCompletion B (items.map v) fuel with
  | error e => rw [hb] at h; cases h
  | ok bins =>
    rw [hb] at h
    refine ⟨bins, rfl, (Except.ok.inj h).symm, ?_⟩
    rw [← filter_map_values]
    exact (BCProofs.bc_isArrangement hb).1

/-- the values in the named answer are exactly the answer for the bare values (same sums, same number of bins) -/
theorem bcNamed_values {v : α → Nat} {B : Nat} {items : List α} {fuel : Nat} {bs : List (List α)}
    (h : BC.binCompletionNamed v B items fuel = .ok bs) :
    BC.binCompletion B (items.map v) fuel = .ok (bs.map fun l => l.map v) := by
  obtain ⟨bins, hb, rfl, hp⟩ := bcNamed_ok_cases h
  rw [relabel_values v bins _ hp]; exact hb

/-- conversely: a successful run on the values gives a successful named run with these values -/
theorem bcNamed_of_values {v : α → Nat} {B : Nat} {items : List α} {fuel : Nat} {bins : List (List Nat)}
    (h : BC.binCompletion B (items.map v) fuel = .ok bins) :
    ∃ bs, BC.binCompletionNamed v B items fuel = .ok bs ∧ (bs.map fun l => l.map v) = bins := by
  refine ⟨BC.relabel v bins (items.filter fun a => v a != 0), by simp [BC.binCompletionNamed, h], ?_⟩
  apply relabel_values
  rw [← filter_map_values]
  exact (BCProofs.bc_isArrangement h).1

theorem bcNamed_length {v : α → Nat} {B : Nat} {items : List α} {fuel : Nat} {bs : List (List α)}
    (h : BC.binCompletionNamed v B items fuel = .ok bs) :
    ∃ bins, BC.binCompletion B (items.map v) fuel = .ok bins ∧ bins.length = bs.length :=
  ⟨_, bcNamed_values h, by simp⟩

theorem bcNamed_sums {v : α → Nat} {B : Nat} {items : List α} {fuel : Nat} {bs : List (List α)}
    (h : BC.binCompletionNamed v B items fuel = .ok bs) :
    ∃ bins, BC.binCompletion B (items.map v) fuel = .ok bins ∧ bins.map sumL = bs.map (binSum v) :=
  ⟨_, bcNamed_values h, by simp [List.map_map, binSum, Function.comp_def]⟩

example : BC.binCompletionNamed Prod.snd 10 [(0, 9), (1, 9), (2, 9), (3, 1)] 100
    = .ok [[(0, 9), (3, 1)], [(1, 9)], [(2, 9)]] := by decide +kernel
example : BC.binCompletion 10 ([(0, 9), (1, 9), (2, 9), (3, 1)].map Prod.snd) 100
    = .ok ([[(0, 9), (3, 1)], [(1, 9)], [(2, 9)]].map fun l => l.map Prod.snd) :=
  bcNamed_values (by decide +kernel)
example : ∃ bs, BC.binCompletionNamed Prod.snd 10 [(0, 9), (1, 9), (2, 9), (3, 1)] 100 = .ok bs ∧
    (bs.map fun l => l.map Prod.snd) = [[9, 1], [9], [9]] :=
  bcNamed_of_values (by decide +kernel)
example : ∃ bins, BC.binCompletion 10 ([(0, 9), (1, 9), (2, 9), (3, 1)].map Prod.snd) 100 = .ok bins ∧
    bins.length = ([[(0, 9), (3, 1)], [(1, 9)], [(2, 9)]] : List (List (Nat × Nat))).length :=
  bcNamed_length (by decide +kernel)
example : ∃ bins, BC.binCompletion 10 ([(0, 9), (1, 9), (2, 9), (3, 1)].map Prod.snd) 100 = .ok bins ∧
    bins.map sumL = ([[(0, 9), (3, 1)], [(1, 9)], [(2, 9)]] : List (List (Nat × Nat))).map (binSum Prod.snd) :=
  bcNamed_sums (by decide +kernel)

/-! ### C03 for named items -/

/-- C03 for bin completion on named items: the result arranges the items of non-zero value into feasible, non-empty bins
    (`BCProofs.bc_isPacking` with `v` instead of `id`; no hypothesis on `B` is needed) -/
theorem bcNamed_isPacking {v : α → Nat} {B : Nat} {items : List α} {fuel : Nat} {bs : List (List α)}
    (h : BC.binCompletionNamed v B items fuel = .ok bs) :
    IsPacking v B (items.filter fun a => v a != 0) ⟨bs.map (binSum v), bs⟩ := by
  have hv := bcNamed_values h
  obtain ⟨_, hle, hne⟩ := BCProofs.bc_isArrangement hv
  obtain ⟨bins, _, rfl, hp⟩ := bcNamed_ok_cases h
  refine ⟨relabel_perm v bins _ hp, rfl, ?_, ?_⟩
  · intro s hs
    obtain ⟨l, hl, rfl⟩ := List.mem_map.1 hs
    exact hle (l.map v) (List.mem_map_of_mem (f := fun l => l.map v) hl)
  · intro hitems l hl hnil
    subst hnil
    refine hne ?_ _ (List.mem_map_of_mem (f := fun l => l.map v) hl) rfl
    rw [filter_map_values]
    intro hm
    exact hitems (List.map_eq_nil_iff.1 hm)

example : IsPacking Prod.snd 10 ([(0, 9), (1, 9), (4, 0), (2, 9), (3, 1)].filter fun a => a.2 != 0)
    ⟨[[(0, 9), (3, 1)], [(1, 9)], [(2, 9)]].map (binSum Prod.snd), [[(0, 9), (3, 1)], [(1, 9)], [(2, 9)]]⟩ :=
  bcNamed_isPacking (fuel := 100) (by decide +kernel)

/-! ### refusal (C19) for named items -/

theorem bcNamed_error_eq_iff {v : α → Nat} {B : Nat} {items : List α} {fuel : Nat} {e : Err} :
    BC.binCompletionNamed v B items fuel = .error e ↔ BC.binCompletion B (items.map v) fuel = .error e := by
  unfold BC.binCompletionNamed
  cases BC.binCompletion B (items.map v) fuel with
  | error e' => simp
  | ok bins => simp

theorem bcNamed_error_iff {v : α → Nat} {B : Nat} {items : List α} {fuel : Nat} :
    (∃ e, BC.binCompletionNamed v B items fuel = .error e) ↔
      (∃ e, BC.binCompletion B (items.map v) fuel = .error e) :=
  exists_congr fun _ => bcNamed_error_eq_iff

/-- C19: bin completion on named items fails exactly when some item is larger than the bin size, and then with
    `ValueError` -/
theorem bcNamed_error_iff_oversize {v : α → Nat} {B : Nat} {items : List α} {fuel : Nat} {e : Err} :
    BC.binCompletionNamed v B items fuel = .error e ↔ (e = .valueError ∧ ∃ a ∈ items, B < v a) := by
  rw [bcNamed_error_eq_iff, BCProofs.bc_error_iff]
  constructor
  · rintro ⟨he, x, hx, hlt⟩
    obtain ⟨a, ha, rfl⟩ := List.mem_map.1 hx
    exact ⟨he, a, ha, hlt⟩
  · rintro ⟨he, a, ha, hlt⟩
    exact ⟨he, v a, List.mem_map_of_mem ha, hlt⟩

theorem bcNamed_ok_of_all_le {v : α → Nat} {B : Nat} {items : List α} (fuel : Nat) (h : ∀ a ∈ items, v a ≤ B) :
    ∃ bs, BC.binCompletionNamed v B items fuel = .ok bs := by
  cases hr : BC.binCompletionNamed v B items fuel with
  | ok bs => exact ⟨bs, rfl⟩
  | error e =>
    obtain ⟨_, a, ha, hlt⟩ := bcNamed_error_iff_oversize.1 hr
    exact absurd (h a ha) (by omega)

example : ∃ e, BC.binCompletion 10 ([(0, 9), (1, 11), (2, 9), (3, 1)].map Prod.snd) 100 = .error e :=
  bcNamed_error_iff.1 ⟨.valueError, by decide +kernel⟩
example : BC.binCompletionNamed Prod.snd 10 [(0, 9), (1, 11), (2, 9), (3, 1)] 100 = .error .valueError :=
  bcNamed_error_iff_oversize.2 ⟨rfl, (1, 11), by decide, by decide⟩
example : ∃ a ∈ [(0, 9), (1, 11), (2, 9), (3, 1)], 10 < a.2 :=
  (bcNamed_error_iff_oversize (v := Prod.snd) (fuel := 7) (e := .valueError)).1 (by decide +kernel) |>.2
example : ∃ bs, BC.binCompletionNamed Prod.snd 10 [(0, 9), (1, 9), (2, 9), (3, 1)] 100 = .ok bs :=
  bcNamed_ok_of_all_le 100 (by decide)

/-! ### list input: nothing changes (C07) -/

theorem bcNamed_list {B : Nat} (items : List Nat) {fuel : Nat} :
    BC.binCompletionNamed id B items fuel = BC.binCompletion B items fuel := by
  cases hb : BC.binCompletion B items fuel with
  | error e => exact bcNamed_error_eq_iff.2 (by rwa [List.map_id])
  | ok bins =>
    obtain ⟨bs, h, e⟩ := bcNamed_of_values (v := id) (items := items) (fuel := fuel) (by rwa [List.map_id])
    rw [h, ← e]
    simp

example : BC.binCompletionNamed id 20 [5, 10, 4, 10, 8, 6, 4, 10, 5, 4, 4, 10] 100
    = .ok [[10, 10], [10, 10], [8, 4, 4, 4], [6, 5, 5, 4]] := by
  rw [bcNamed_list]; exact BCProofs.ex_run

/-! ### C04 for named items -/

/-- the named result is sandwiched like the result on the values: `⌈total/B⌉ ≤ optimum ≤ result ≤ BFD` -/
theorem bcNamed_bounds {v : α → Nat} {B : Nat} {items : List α} {fuel : Nat} {bs : List (List α)} (hB : 0 < B)
    (h : BC.binCompletionNamed v B items fuel = .ok bs) :
    ∃ m, optBins B ((items.filter fun a => v a != 0).map v) = some m ∧
      BC.lowerBound B (items.map v) ≤ m ∧ m ≤ bs.length ∧
      ∀ bfd, bfDecreasing id B ((items.filter fun a => v a != 0).map v) = .ok bfd → bs.length ≤ bfd.lists.length := by
  have := BCProofs.bc_bounds hB (bcNamed_values h)
  rw [filter_map_values] at this
  simpa using this

/-- C04 for named items: with enough fuel the named result has the minimum number of bins among all packings of the
    non-zero values -/
theorem bcNamed_optimal {v : α → Nat} {B : Nat} {items : List α} {fuel : Nat} {bs : List (List α)} (hB : 0 < B)
    (hfuel : BCProofs.enoughFuel (items.filter fun a => v a != 0).length ≤ fuel)
    (h : BC.binCompletionNamed v B items fuel = .ok bs) :
    optBins B ((items.filter fun a => v a != 0).map v) = some bs.length := by
  have := BCProofs.bc_optimal hB (fuel := fuel) (items := items.map v)
    (by rw [filter_map_values, List.length_map]; exact hfuel) (bcNamed_values h)
  rw [filter_map_values] at this
  simpa using this

example : optBins 10 (([(0, 9), (1, 9), (2, 9), (3, 1)].filter fun a => a.2 != 0).map Prod.snd) =
    some ([[(0, 9), (3, 1)], [(1, 9)], [(2, 9)]] : List (List (Nat × Nat))).length :=
  bcNamed_optimal (fuel := BCProofs.enoughFuel 4) (by decide) (by decide +kernel) (by decide +kernel)
example : ∃ m, optBins 10 (([(0, 9), (1, 9), (2, 9), (3, 1)].filter fun a => a.2 != 0).map Prod.snd) = some m ∧
    BC.lowerBound 10 ([(0, 9), (1, 9), (2, 9), (3, 1)].map Prod.snd) ≤ m ∧
    m ≤ ([[(0, 9), (3, 1)], [(1, 9)], [(2, 9)]] : List (List (Nat × Nat))).length := by
  obtain ⟨m, h1, h2, h3, _⟩ := bcNamed_bounds (v := Prod.snd) (B := 10) (items := [(0, 9), (1, 9), (2, 9), (3, 1)])
    (fuel := 100) (bs := [[(0, 9), (3, 1)], [(1, 9)], [(2, 9)]]) (by decide) (by decide +kernel)
  exact ⟨m, h1, h2, h3⟩

end Prtpy.BCNamed
