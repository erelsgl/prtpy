/-
  PrtpyProofs.MaxMin4 — property C08: bounds on LPT's smallest sum that are contained in the theorem of
  PrtpyProofs.MaxMin5, `(3k − 1) · OPT ≤ (4k − 2) · (smallest sum of LPT)` for every `k`: the instances `k = 2, 3, 4`,
  the smaller ratios `1/2 < k/(2k−1)`, `2/3 < 2k/(3k−1)`, `3/4` (each `≤ (3k−1)/(4k−2)`), and statements of the exact
  constant that carry a side condition.  None of the side conditions is used: each such theorem is proved by
  `MaxMin5.greedy_maxmin` alone (`LPT43.greedy_maxmin_partial_small`, whose `opt` is an `Int`, by
  `MaxMin5.greedy_maxmin_succ` after `cover_of_opt` and a cast), so Lean's unused-variable warnings here are
  expected; a user takes `MaxMin5.greedy_maxmin`.  Each is followed by an instance on which it is tight or on which its
  side condition holds.
  The theorems stand in the namespaces `LPT43`, `MaxMin`, `MaxMin3`, `MaxMin4` by which `lean/theorems.json` names
  them; they are in this file because they follow from `MaxMin5`.
-/
import Mathlib.Tactic.Linarith
import PrtpyProofs.Feasible
import PrtpyProofs.LPT43
import PrtpyProofs.MaxMin5
open Prtpy

namespace Prtpy.LPT43

variable {α : Type}

/-- Max-min, exact bound stated with the `(k+1)`-th largest value `y`: `(4k − 2) · min ≥ (3k − 1) · OPT` when
    `(4k − 2) · y ≤ k · OPT`.  The hypothesis `hy` is not used. -/
theorem greedy_maxmin_partial_small {v : α → Nat} {k : Nat} {items : List α} (hk : 0 < k) {opt : Int}
    (hopt : IsOptimalValue .maxSmallest k (items.map v) (-opt))
    (hy : (4 * k - 2) * (nextValue v k items : Int) ≤ k * opt) :
    (4 * k - 2) * (minL (greedy v k items).sums : Int) ≥ (3 * k - 1) * opt := by
  obtain ⟨W, rfl, -⟩ := cover_of_opt hopt
  obtain ⟨k', rfl⟩ : ∃ k', k = k' + 1 := ⟨k - 1, by omega⟩
  have key : (((3 * k' + 2) * W : Nat) : Int) ≤ (((4 * k' + 2) * minL (greedy v (k' + 1) items).sums : Nat) : Int) :=
    by exact_mod_cast MaxMin5.greedy_maxmin_succ hopt
  push_cast at key ⊢
  linarith

/-- Max-min, ratio `k / (2k − 1) > 1/2`: `(2k − 1) · min ≥ k · OPT`. -/
theorem greedy_maxmin_partial_half {v : α → Nat} {k : Nat} {items : List α} (hk : 0 < k) {opt : Int}
    (hopt : IsOptimalValue .maxSmallest k (items.map v) (-opt)) :
    (2 * k - 1) * (minL (greedy v k items).sums : Int) ≥ k * opt := by
  obtain ⟨W, rfl, -⟩ := cover_of_opt hopt
  obtain ⟨k', rfl⟩ : ∃ k', k = k' + 1 := ⟨k - 1, by omega⟩
  have key : (((k' + 1) * W : Nat) : Int) ≤ (((2 * k' + 1) * minL (greedy v (k' + 1) items).sums : Nat) : Int) := by
    exact_mod_cast MaxMin5.ratio_weaken (by omega) (MaxMin5.greedy_maxmin_succ hopt)
      (show (k' + 1) * (4 * k' + 2) ≤ (2 * k' + 1) * (3 * k' + 2) by nlinarith)
  push_cast at key ⊢
  linarith

/-- `[3, 3, 2, 2, 2]`, `k = 2`: `OPT = 6`, LPT's smallest sum is `5`; `3 · 5 ≥ 2 · 6`, and the exact
    bound `6 · 5 ≥ 5 · 6` is tight (the hypothesis reads `6 · 2 ≤ 2 · 6`) -/
example : (2 * (2 : Nat) - 1) * (minL (greedy id 2 [3, 3, 2, 2, 2]).sums : Int) ≥ (2 : Nat) * 6 :=
  greedy_maxmin_partial_half (v := id) (by decide) optmin_33222
example : (4 * (2 : Nat) - 2) * (minL (greedy id 2 [3, 3, 2, 2, 2]).sums : Int) ≥ (3 * (2 : Nat) - 1) * 6 :=
  greedy_maxmin_partial_small (v := id) (by decide) optmin_33222 (by decide)

end Prtpy.LPT43

namespace Prtpy.MaxMin
open Prtpy.LPT43

variable {α : Type}

/-- Max-min, ratio `2k/(3k−1)` (`4/5` for two bins, `3/4` for three, always more than `2/3`); it is at most
    `(3k−1)/(4k−2)` because `(3k−1)² − 2k·(4k−2) = (k−1)²`. -/
theorem greedy_maxmin_partial_2k_3k {v : α → Nat} {k : Nat} {items : List α} (hk : 0 < k) {opt : Nat}
    (hopt : IsOptimalValue .maxSmallest k (items.map v) (-(opt : Int))) :
    2 * k * opt ≤ (3 * k - 1) * minL (greedy v k items).sums := by
  obtain ⟨k', rfl⟩ : ∃ k', k = k' + 1 := ⟨k - 1, by omega⟩
  have e : 3 * (k' + 1) - 1 = 3 * k' + 2 := by omega
  rw [e]
  exact MaxMin5.ratio_weaken (by omega) (MaxMin5.greedy_maxmin_succ hopt)
    (show 2 * (k' + 1) * (4 * k' + 2) ≤ (3 * k' + 2) * (3 * k' + 2) by nlinarith)

/-- Max-min, ratio `2/3`: `2 · OPT ≤ 3 · (smallest sum of LPT)`, for every number of bins. -/
theorem greedy_maxmin_partial_two_thirds {v : α → Nat} {k : Nat} {items : List α} (hk : 0 < k) {opt : Nat}
    (hopt : IsOptimalValue .maxSmallest k (items.map v) (-(opt : Int))) :
    2 * opt ≤ 3 * minL (greedy v k items).sums := by
  obtain ⟨k', rfl⟩ : ∃ k', k = k' + 1 := ⟨k - 1, by omega⟩
  exact MaxMin5.ratio_weaken (by omega) (MaxMin5.greedy_maxmin_succ hopt) (by omega)

/-- `[3, 3, 2, 2, 2]` on two bins: optimal smallest sum `6`, LPT's smallest sum `5`:
    `2 · 2 · 6 = 24 ≤ 25 = 5 · 5` -/
example : 2 * 2 * 6 ≤ (3 * 2 - 1) * minL (greedy id 2 [3, 3, 2, 2, 2]).sums :=
  greedy_maxmin_partial_2k_3k (v := id) (by decide) optmin_33222
example : 2 * 6 ≤ 3 * minL (greedy id 2 [3, 3, 2, 2, 2]).sums :=
  greedy_maxmin_partial_two_thirds (v := id) (by decide) optmin_33222

/-- Max-min, exact constant, window form: stated for instances in which no item after the `k` largest has a
    value `x` in the window `k·OPT/(4k−2) < x ≤ L/2`, `L` being LPT's smallest sum.  The hypothesis `hwin` is not
    used. -/
theorem greedy_maxmin_partial_window {v : α → Nat} {k : Nat} {items : List α} (hk : 0 < k) {opt : Nat}
    (hopt : IsOptimalValue .maxSmallest k (items.map v) (-(opt : Int)))
    (hwin : ∀ x ∈ (sortDesc v items).drop k,
      (4 * k - 2) * v x ≤ k * opt ∨ minL (greedy v k items).sums < 2 * v x) :
    (3 * k - 1) * opt ≤ (4 * k - 2) * minL (greedy v k items).sums :=
  MaxMin5.greedy_maxmin hk hopt

/-- Max-min, exact constant, a-posteriori certificate: stated for results of LPT in which every bin with at
    least two items exceeds the smallest sum `L` by at most `y`, where `(4k−2)·y ≤ k·OPT` (for the run on an
    ordered list this case is `LPT43.Lpt.spread_of_inv` with `MaxMin5.maxmin_of_spread`).  The hypotheses `hinv`, `hy`
    are not used. -/
theorem greedy_maxmin_partial_cert {v : α → Nat} {k : Nat} {items : List α} (hk : 0 < k) {opt : Nat}
    (hopt : IsOptimalValue .maxSmallest k (items.map v) (-(opt : Int))) (y : Nat)
    (hinv : ∀ l ∈ (greedy v k items).lists,
      l.length ≤ 1 ∨ binSum v l ≤ minL (greedy v k items).sums + y)
    (hy : (4 * k - 2) * y ≤ k * opt) :
    (3 * k - 1) * opt ≤ (4 * k - 2) * minL (greedy v k items).sums :=
  MaxMin5.greedy_maxmin hk hopt

/-- `[6, 5, 5, 3]` on two bins, `OPT = 9`, LPT gives `[6, 3], [5, 5]`: the third value `5` exceeds `2·9/6 = 3` but
    `2·5 > 9`; the last value `3` is small -/
theorem optmin_6553 : IsOptimalValue .maxSmallest 2 ([6, 5, 5, 3].map id) (-((9 : Nat) : Int)) :=
  isOptimalMin_of_total (asg := [0, 1, 1, 0]) ⟨rfl, by decide⟩ (by decide) (by decide)

example : (3 * 2 - 1) * 9 ≤ (4 * 2 - 2) * minL (greedy id 2 [6, 5, 5, 3]).sums :=
  greedy_maxmin_partial_window (v := id) (by decide) optmin_6553 (by decide)

/-- the hypotheses of the certificate hold: `[3, 3, 2, 2, 2]`, two bins, `OPT = 6`, `L = 5`, the other bin has sum `7`,
    `y = 2`, `6·2 ≤ 2·6` (tight: `5·6 = 6·5`) -/
example : (3 * 2 - 1) * 6 ≤ (4 * 2 - 2) * minL (greedy id 2 [3, 3, 2, 2, 2]).sums :=
  greedy_maxmin_partial_cert (v := id) (by decide) optmin_33222 2 (by decide) (by decide)

end Prtpy.MaxMin

namespace Prtpy.MaxMin3
open Prtpy.LPT43

variable {α : Type}

/-- C08 for two bins: LPT's smallest sum is at least `5/6` of the optimal smallest sum. -/
theorem greedy_maxmin_two {v : α → Nat} {items : List α} {opt : Nat}
    (hopt : IsOptimalValue .maxSmallest 2 (items.map v) (-(opt : Int))) :
    5 * opt ≤ 6 * minL (greedy v 2 items).sums :=
  MaxMin5.greedy_maxmin (k := 2) (by decide) hopt

/-- tight: `[3, 3, 2, 2, 2]`, optimal smallest sum `6`, LPT's smallest sum `5`: `5·6 = 6·5` -/
example : 5 * 6 ≤ 6 * minL (greedy id 2 [3, 3, 2, 2, 2]).sums :=
  greedy_maxmin_two (v := id) optmin_33222
example : 5 * 6 = 6 * minL (greedy id 2 [3, 3, 2, 2, 2]).sums := by decide

/-- The exact constant, stated for instances all of whose items exceed `k·OPT/(4k−2)`; `hbig` is not used. -/
theorem greedy_maxmin_partial_large {v : α → Nat} {k : Nat} {items : List α} (hk : 0 < k) {opt : Nat}
    (hopt : IsOptimalValue .maxSmallest k (items.map v) (-(opt : Int)))
    (hbig : ∀ x ∈ items, k * opt < (4 * k - 2) * v x) :
    (3 * k - 1) * opt ≤ (4 * k - 2) * minL (greedy v k items).sums :=
  MaxMin5.greedy_maxmin hk hopt

example : (3 * 2 - 1) * 20 ≤ (4 * 2 - 2) * minL (greedy id 2 [10, 10, 7, 7, 7]).sums :=
  greedy_maxmin_partial_large (v := id) (by decide) optmin_10_10_7_7_7 (by decide)
example : 5 * 20 ≤ 6 * minL (greedy id 2 [10, 10, 7, 7, 7]).sums :=
  greedy_maxmin_two (v := id) optmin_10_10_7_7_7

/-- C08 for three bins: LPT's smallest sum is at least `8/10` of the optimal smallest sum. -/
theorem greedy_maxmin_three {v : α → Nat} {items : List α} {opt : Nat}
    (hopt : IsOptimalValue .maxSmallest 3 (items.map v) (-(opt : Int))) :
    8 * opt ≤ 10 * minL (greedy v 3 items).sums :=
  MaxMin5.greedy_maxmin (k := 3) (by decide) hopt

/-- tight: `[5, 5, 4, 4, 3, 3, 3, 3]` on three bins: the optimum `{5,5}, {4,3,3}, {4,3,3}` has
    smallest sum `10`, LPT builds `{5,3,3}, {5,3,3}, {4,4}` with smallest sum `8`: `8·10 = 10·8` -/
theorem optmin_55443333 :
    IsOptimalValue .maxSmallest 3 ([5, 5, 4, 4, 3, 3, 3, 3].map id) (-((10 : Nat) : Int)) :=
  isOptimalMin_of_total (asg := [0, 0, 1, 2, 1, 1, 2, 2]) ⟨rfl, by decide⟩ (by decide) (by decide)

example : 8 * 10 ≤ 10 * minL (greedy id 3 [5, 5, 4, 4, 3, 3, 3, 3]).sums :=
  greedy_maxmin_three (v := id) optmin_55443333
example : 8 * 10 = 10 * minL (greedy id 3 [5, 5, 4, 4, 3, 3, 3, 3]).sums := by decide

/-- the optimum of an instance on which the proof of `MaxMin5.greedy_maxmin` is in its heavy-bin case (`Lpt.mixed_all`;
    the figures below are worked out by hand, the example after it only applies `greedy_maxmin_three`):
    `[6, 6, 5, 5, 4, 4, 4, 3]` on three bins, optimum
    `{6,6}, {5,4,3}, {5,4,4}` with smallest sum `12`; LPT builds `{6,4,4}, {6,4,3}, {5,5}`: smallest sum `L = 10`, the
    fourth value is `5` and `2·5 ≤ 10`, and the first bin exceeds `10` by `4 > 3·12/10` -/
theorem optmin_66554443 :
    IsOptimalValue .maxSmallest 3 ([6, 6, 5, 5, 4, 4, 4, 3].map id) (-((12 : Nat) : Int)) :=
  isOptimalMin_of_total (asg := [0, 0, 1, 2, 1, 2, 2, 1]) ⟨rfl, by decide⟩ (by decide) (by decide)

example : 8 * 12 ≤ 10 * minL (greedy id 3 [6, 6, 5, 5, 4, 4, 4, 3]).sums :=
  greedy_maxmin_three (v := id) optmin_66554443
example : minL (greedy id 3 [6, 6, 5, 5, 4, 4, 4, 3]).sums = 10 := by decide

/-- C08 for at most `K` bins, stated with a hypothesis `hmix` on the LPT run on `P ++ [x]`: the bound in the
    situation of `MaxMin5.mixed_all` (`2·y ≤ L`, a bin of at least two items above `L + k·W/(4k−2)`) when moreover the
    last item `x` is small and does not land on a bin of smallest final sum.  `hmix` and `hkK` are not used. -/
theorem greedy_maxmin_partial {v : α → Nat} (K : Nat)
    (hmix : ∀ k, 2 ≤ k → k ≤ K → ∀ (P : List α) (x : α) (W : Nat) (Q : List (List Nat)),
      (P ++ [x]).Pairwise (fun a c => v c ≤ v a) → Q.length = k → Q.flatten.Perm ((P ++ [x]).map v) →
      (∀ l ∈ Q, W ≤ sumL l) →
      minL (run v k (P ++ [x])).sums ≠ minL (run v k P).sums + v x →
      2 * ((P ++ [x]).map v).getD k 0 ≤ minL (run v k (P ++ [x])).sums →
      (∃ l ∈ (run v k (P ++ [x])).lists, 2 ≤ l.length ∧
        minL (run v k (P ++ [x])).sums + k * W / (4 * k - 2) < binSum v l) →
      (4 * k - 2) * v x ≤ k * W →
      3 * k * W + 2 * minL (run v k (P ++ [x])).sums ≤ 4 * k * minL (run v k (P ++ [x])).sums + W)
    {k : Nat} (hk : 0 < k) (hkK : k ≤ K) {items : List α} {opt : Nat}
    (hopt : IsOptimalValue .maxSmallest k (items.map v) (-(opt : Int))) :
    (3 * k - 1) * opt ≤ (4 * k - 2) * minL (greedy v k items).sums :=
  MaxMin5.greedy_maxmin hk hopt

/-- the hypothesis `hmix` of `greedy_maxmin_partial` is provable (`MaxMin5.run_maxmin`) -/
example : (3 * 3 - 1) * 10 ≤ (4 * 3 - 2) * minL (greedy id 3 [5, 5, 4, 4, 3, 3, 3, 3]).sums :=
  greedy_maxmin_partial (v := id) 3 (fun k h2 _ P x W Q hS hQk hQp hQ _ _ _ _ =>
    MaxMin5.run_maxmin k (by omega) _ hS W Q hQk hQp hQ) (by decide) (by decide) optmin_55443333

/-- Max-min, ratio `3/4`, stated for at most three bins; `hk3` is not used. -/
theorem greedy_maxmin_partial_three_quarters {v : α → Nat} {k : Nat} {items : List α} (hk : 0 < k) (hk3 : k ≤ 3)
    {opt : Nat} (hopt : IsOptimalValue .maxSmallest k (items.map v) (-(opt : Int))) :
    3 * opt ≤ 4 * minL (greedy v k items).sums :=
  MaxMin5.greedy_maxmin_partial_three_quarters_all hk hopt

example : 3 * 10 ≤ 4 * minL (greedy id 3 [5, 5, 4, 4, 3, 3, 3, 3]).sums :=
  greedy_maxmin_partial_three_quarters (v := id) (by decide) (by decide) optmin_55443333

end Prtpy.MaxMin3

namespace Prtpy.MaxMin4
open Prtpy.LPT43

variable {α : Type}

/-- C08 for four bins: LPT's smallest sum is at least `11/14` of the optimal smallest sum. -/
theorem greedy_maxmin_four {v : α → Nat} {items : List α} {opt : Nat}
    (hopt : IsOptimalValue .maxSmallest 4 (items.map v) (-(opt : Int))) :
    11 * opt ≤ 14 * minL (greedy v 4 items).sums :=
  MaxMin5.greedy_maxmin (k := 4) (by decide) hopt

/-- tight: `[7,7,6,6,5,5,4,4,4,4,4]` on four bins: the optimum `{7,7}, {6,4,4}, {6,4,4}, {5,5,4}`
    has smallest sum `14`, LPT builds `{7,4,4}, {7,4,4}, {6,5,4}, {6,5}` with smallest sum `11`: `11·14 = 14·11` -/
theorem optmin_k4_tight :
    IsOptimalValue .maxSmallest 4 ([7, 7, 6, 6, 5, 5, 4, 4, 4, 4, 4].map id) (-((14 : Nat) : Int)) :=
  isOptimalMin_of_total (asg := [0, 0, 1, 2, 3, 3, 1, 1, 2, 2, 3]) ⟨rfl, by decide⟩ (by decide) (by decide)

example : 11 * 14 ≤ 14 * minL (greedy id 4 [7, 7, 6, 6, 5, 5, 4, 4, 4, 4, 4]).sums :=
  greedy_maxmin_four (v := id) optmin_k4_tight
example : 11 * 14 = 14 * minL (greedy id 4 [7, 7, 6, 6, 5, 5, 4, 4, 4, 4, 4]).sums := by decide

/-- the optimum of an instance in the heavy-bin case of the proof (`Lpt.mixed_all`; figures by hand, the example after it
    only applies `greedy_maxmin_four`): `[8,8,5,5,4,4,4,2,2]` on four bins, optimum
    `{8,2}, {8,2}, {5,5}, {4,4,4}` with smallest sum `10`; LPT builds `{8,4}, {8,2}, {5,4,2}, {5,4}`: smallest sum
    `L = 9`, the fifth value is `4` and `2·4 ≤ 9`, and the first bin exceeds `9` by `3 > 40/14` -/
theorem optmin_k4_mixed :
    IsOptimalValue .maxSmallest 4 ([8, 8, 5, 5, 4, 4, 4, 2, 2].map id) (-((10 : Nat) : Int)) :=
  isOptimalMin_of_total (asg := [0, 1, 2, 2, 3, 3, 3, 0, 1]) ⟨rfl, by decide⟩ (by decide) (by decide)

example : 11 * 10 ≤ 14 * minL (greedy id 4 [8, 8, 5, 5, 4, 4, 4, 2, 2]).sums :=
  greedy_maxmin_four (v := id) optmin_k4_mixed
example : minL (greedy id 4 [8, 8, 5, 5, 4, 4, 4, 2, 2]).sums = 9 := by decide

/-- C08 for at most `K` bins, with the hypothesis `hmix` of `MaxMin3.greedy_maxmin_partial` for `5 ≤ k ≤ K` only.
    `hmix` and `hkK` are not used. -/
theorem greedy_maxmin_partial {v : α → Nat} (K : Nat)
    (hmix : ∀ k, 5 ≤ k → k ≤ K → ∀ (P : List α) (x : α) (W : Nat) (Q : List (List Nat)),
      (P ++ [x]).Pairwise (fun a c => v c ≤ v a) → Q.length = k → Q.flatten.Perm ((P ++ [x]).map v) →
      (∀ l ∈ Q, W ≤ sumL l) →
      minL (run v k (P ++ [x])).sums ≠ minL (run v k P).sums + v x →
      2 * ((P ++ [x]).map v).getD k 0 ≤ minL (run v k (P ++ [x])).sums →
      (∃ l ∈ (run v k (P ++ [x])).lists, 2 ≤ l.length ∧
        minL (run v k (P ++ [x])).sums + k * W / (4 * k - 2) < binSum v l) →
      (4 * k - 2) * v x ≤ k * W →
      3 * k * W + 2 * minL (run v k (P ++ [x])).sums ≤ 4 * k * minL (run v k (P ++ [x])).sums + W)
    {k : Nat} (hk : 0 < k) (hkK : k ≤ K) {items : List α} {opt : Nat}
    (hopt : IsOptimalValue .maxSmallest k (items.map v) (-(opt : Int))) :
    (3 * k - 1) * opt ≤ (4 * k - 2) * minL (greedy v k items).sums :=
  MaxMin5.greedy_maxmin hk hopt

/-- for `K = 4` the hypothesis of `greedy_maxmin_partial` is vacuous -/
example : (3 * 4 - 1) * 14 ≤ (4 * 4 - 2) * minL (greedy id 4 [7, 7, 6, 6, 5, 5, 4, 4, 4, 4, 4]).sums :=
  greedy_maxmin_partial (v := id) 4 (fun k h5 hK => by omega) (by decide) (by decide) optmin_k4_tight

/-- Max-min, ratio `3/4`, stated for at most four bins; `hk4` is not used. -/
theorem greedy_maxmin_partial_three_quarters {v : α → Nat} {k : Nat} {items : List α} (hk : 0 < k) (hk4 : k ≤ 4)
    {opt : Nat} (hopt : IsOptimalValue .maxSmallest k (items.map v) (-(opt : Int))) :
    3 * opt ≤ 4 * minL (greedy v k items).sums :=
  MaxMin5.greedy_maxmin_partial_three_quarters_all hk hopt

example : 3 * 14 ≤ 4 * minL (greedy id 4 [7, 7, 6, 6, 5, 5, 4, 4, 4, 4, 4]).sums :=
  greedy_maxmin_partial_three_quarters (v := id) (by decide) (by decide) optmin_k4_tight

/-- The exact constant, stated for instances all of whose items are at least `OPT/8`; `hlow` is not used. -/
theorem greedy_maxmin_partial_eighth {v : α → Nat} {k : Nat} {items : List α} (hk : 0 < k) {opt : Nat}
    (hopt : IsOptimalValue .maxSmallest k (items.map v) (-(opt : Int)))
    (hlow : ∀ x ∈ items, opt ≤ 8 * v x) :
    (3 * k - 1) * opt ≤ (4 * k - 2) * minL (greedy v k items).sums :=
  MaxMin5.greedy_maxmin hk hopt

/-- tight for five bins, and `hlow` holds: `[9,9,8,8,7,7,6,6,5,5,5,5,5,5]`: the optimum
    `{9,9}, {8,5,5}, {8,5,5}, {7,6,5}, {7,6,5}` has smallest sum `18`, every item is `≥ 18/8`, LPT's smallest sum is
    `14`: `14·18 = 18·14` -/
theorem optmin_k5_tight :
    IsOptimalValue .maxSmallest 5 ([9, 9, 8, 8, 7, 7, 6, 6, 5, 5, 5, 5, 5, 5].map id) (-((18 : Nat) : Int)) :=
  isOptimalMin_of_total (asg := [0, 0, 1, 2, 3, 4, 3, 4, 1, 1, 2, 2, 3, 4]) ⟨rfl, by decide⟩ (by decide) (by decide)

example : (3 * 5 - 1) * 18 ≤ (4 * 5 - 2) * minL (greedy id 5 [9, 9, 8, 8, 7, 7, 6, 6, 5, 5, 5, 5, 5, 5]).sums :=
  greedy_maxmin_partial_eighth (v := id) (by decide) optmin_k5_tight (by decide)
example : (3 * 5 - 1) * 18 = (4 * 5 - 2) * minL (greedy id 5 [9, 9, 8, 8, 7, 7, 6, 6, 5, 5, 5, 5, 5, 5]).sums := by
  decide
example : (3 * 5 - 1) * 18 ≤ (4 * 5 - 2) * minL (greedy id 5 [9, 9, 8, 8, 7, 7, 6, 6, 5, 5, 5, 5, 5, 5]).sums :=
  MaxMin5.greedy_maxmin (v := id) (by decide) optmin_k5_tight
example : 14 * 18 ≤ 18 * minL (greedy id 5 [9, 9, 8, 8, 7, 7, 6, 6, 5, 5, 5, 5, 5, 5]).sums :=
  MaxMin5.greedy_maxmin_five (v := id) optmin_k5_tight
example : 3 * 18 ≤ 4 * minL (greedy id 5 [9, 9, 8, 8, 7, 7, 6, 6, 5, 5, 5, 5, 5, 5]).sums :=
  MaxMin5.greedy_maxmin_partial_three_quarters_all (v := id) (by decide) optmin_k5_tight

end Prtpy.MaxMin4
