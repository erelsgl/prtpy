/-
  PrtpyProofs.SNP — the inclusion/exclusion tree is an exact window enumerator (C13b), multiset bookkeeping of
  `findDiff`, validity (C01) of `snp` (`snp_isPartition`: contents manager; for either manager the statement is
  `snpRec_valid` on `Answer`, whose sums-only corollary for `snp` is the first half of `SumsOnly.snp_optimal_of`,
  SNPOpt.lean), and the rules for `treeFold` and `foldE` that the other files on `snp`/`rnp` use.

  CKK / CKK-generator / KK validity are taken as explicit hypotheses (`CkkValid`, `CkkGenValid`, `KkValid`);
  they are proved in other files.  What a successful call of `ckk2`, `snp`, `rnp`, `rnpF` says about the calls below it
  (`ckk2_ok`, `snp_ok`, `rnp_ok`, `rnpF_ok`) is stated here; the rounds of `rnp`/`rnpF` are in
  PrtpyProofs/RNPRound.lean.
-/
import Mathlib.Data.List.Perm.Basic
import PrtpyProofs.Basic

namespace Prtpy.SNPProofs
open Prtpy

variable {α : Type}

/-! ### hypotheses about KK / CKK (proved elsewhere) -/

/-- validity of the 2-way search `snp`/`rnp` call (`ckk2` = `ckkF … 2 …`, the code after fix F11);
    discharged by `CKKValid.ckkValid` (PrtpyProofs/CKKFSwitch.lean) from `CKKF.ckkF_isPartition` -/
def CkkValid (v nm : α → Nat) [BEq α] : Prop :=
  ∀ (items : List α) (fuel : Nat) (b : Bins α), items ≠ [] →
    ckkF v nm 2 true items fuel = .ok b → IsPartition v items 2 b

/-- validity of the generator (used at `k = 2` only, by the even round of `rnp`); discharged by
    `CKKValid.ckkGen_valid` -/
def CkkGenValid (v nm : α → Nat) [BEq α] : Prop :=
  ∀ (k : Nat) (items : List α) (bound : Option Nat) (fuel : Nat) (ys : List (Bins α)), 0 < k → items ≠ [] →
    ckkGen v nm k true items bound fuel = .ok ys → ∀ b ∈ ys, IsPartition v items k b

/-- discharged by `CKKValid.kkValid` -/
def KkValid (v : α → Nat) : Prop :=
  ∀ (k : Nat) (items : List α) (b : Bins α), 0 < k → items ≠ [] →
    kk v k items = .ok b → IsPartition v items k b

@[simp] theorem binSum_nil (v : α → Nat) : binSum v [] = 0 := rfl

/-! ### the in/ex tree is an exact enumerator (C13b) -/

/-- all sub-collections (by position) of a list, in the traversal order of the tree (include first) -/
def allSubs : List α → List (List α)
  | [] => [[]]
  | x :: xs => (allSubs xs).map (x :: ·) ++ allSubs xs

/-- the window test `lb/den ≤ sum s ≤ ub/den` (by cross-multiplication) -/
def inWin (v : α → Nat) (den : Nat) (lb ub : Int) (s : List α) : Bool :=
  decide (lb ≤ (binSum v s : Int) * den) && decide ((binSum v s : Int) * den ≤ ub)

/-- every sub-collection by position is enumerated -/
theorem allSubs_sublists {s l : List α} : s ∈ allSubs l ↔ s.Sublist l := by
  induction l generalizing s with
  | nil => simp [allSubs]
  | cons x xs ih =>
    simp only [allSubs, List.mem_append, List.mem_map, List.sublist_cons_iff, ih]
    constructor
    · rintro (⟨t, ht, rfl⟩ | h)
      · exact Or.inr ⟨t, rfl, ht⟩
      · exact Or.inl h
    · rintro (h | ⟨t, rfl, ht⟩)
      · exact Or.inr h
      · exact Or.inl ⟨t, ht, rfl⟩

/-- there are `2 ^ n` entries -/
theorem allSubs_length (l : List α) : (allSubs l).length = 2 ^ l.length := by
  induction l with
  | nil => rfl
  | cons x xs ih =>
    simp only [allSubs, List.length_append, List.length_map, ih, List.length_cons, Nat.pow_succ]
    omega

/-- for distinct items the enumerated sub-collections are distinct -/
theorem allSubs_nodup {l : List α} (h : l.Nodup) : (allSubs l).Nodup := by
  induction l with
  | nil => simp [allSubs]
  | cons x xs ih =>
    rw [List.nodup_cons] at h
    simp only [allSubs]
    rw [List.nodup_append]
    refine ⟨?_, ih h.2, ?_⟩
    · exact List.Pairwise.map _ (fun a b (hab : a ≠ b) hc => hab (List.cons.inj hc).2) (ih h.2)
    · intro a ha b hb hab
      rw [List.mem_map] at ha
      obtain ⟨t, _, rfl⟩ := ha
      subst hab
      exact h.1 ((allSubs_sublists.mp hb).subset List.mem_cons_self)

theorem inexPrune_nil (v : α → Nat) (den : Nat) (lb ub : Int) (cur : List α) :
    inexPrune v den lb ub cur [] = !inWin v den lb ub cur := by
  simp only [inexPrune, inWin, Part.binSum_nil, Int.natCast_zero, Int.add_zero]
  by_cases h1 : ub < (binSum v cur : Int) * den <;> by_cases h2 : (binSum v cur : Int) * den < lb <;>
    simp [h1, h2]
  all_goals omega

/-- soundness of the prune test: values are `≥ 0`, so the partial sum is monotone along every branch -/
theorem inexPrune_sound (v : α → Nat) (den : Nat) (lb ub : Int) (cur rest s : List α)
    (hp : inexPrune v den lb ub cur rest = true) (hs : s.Sublist rest) :
    inWin v den lb ub (cur ++ s) = false := by
  have hle := Part.binSum_sublist v hs
  simp only [inexPrune, Bool.or_eq_true, decide_eq_true_eq] at hp
  simp only [inWin, Part.binSum_append, Bool.and_eq_false_iff, decide_eq_false_iff_not]
  have h1 : ((binSum v cur : Nat) : Int) * den ≤ ((binSum v cur + binSum v s : Nat) : Int) * den := by
    have : binSum v cur * den ≤ (binSum v cur + binSum v s) * den := Nat.mul_le_mul_right _ (by omega)
    exact_mod_cast this
  have h2 : ((binSum v cur + binSum v s : Nat) : Int) * den
      ≤ (((binSum v cur : Nat) : Int) + ((binSum v rest : Nat) : Int)) * den := by
    have : (binSum v cur + binSum v s) * den ≤ (binSum v cur + binSum v rest) * den :=
      Nat.mul_le_mul_right _ (by omega)
    exact_mod_cast this
  rcases hp with hp | hp
  · right; omega
  · left; omega

theorem genTreeAux_eq (v : α → Nat) (den : Nat) (lb ub : Int) (cur rest : List α) :
    genTreeAux v den lb ub cur rest = ((allSubs rest).map (cur ++ ·)).filter (inWin v den lb ub) := by
  induction rest generalizing cur with
  | nil =>
    simp only [genTreeAux, allSubs, List.map_cons, List.map_nil, List.append_nil, inexPrune_nil]
    cases h : inWin v den lb ub cur <;> simp [List.filter, h]
  | cons x xs ih =>
    rw [genTreeAux]
    split
    · rename_i hp
      symm
      rw [List.filter_eq_nil_iff]
      intro a ha
      rw [List.mem_map] at ha
      obtain ⟨s, hs, rfl⟩ := ha
      rw [inexPrune_sound v den lb ub cur (x :: xs) s hp (allSubs_sublists.mp hs)]
      simp
    · rw [ih, ih]
      simp only [allSubs, List.map_append, List.filter_append, List.map_map]
      congr 2
      apply List.map_congr_left
      intro s _
      simp

/-- C13b: `generate_tree` yields exactly the sub-collections (by position, of the items sorted by descending
    value) whose total lies in the window, in include-first order.  (`0 < den` is not needed.) -/
theorem genTree_eq {v : α → Nat} {den : Nat} {lb ub : Int} {items : List α} (_hden : 0 < den) :
    genTree v den lb ub items =
      (allSubs (sortDesc v items)).filter
        (fun s => decide (lb ≤ (binSum v s : Int) * den) && decide ((binSum v s : Int) * den ≤ ub)) := by
  rw [genTree, genTreeAux_eq]
  simp only [List.nil_append, List.map_id']
  rfl

example : genTree (fun x : Nat => x) 3 6 12 [1, 3, 2] = [[3, 1], [3], [2, 1], [2]] := by decide

theorem genTreeAux_mono_lb (v : α → Nat) (den : Nat) {lb lb' : Int} (ub : Int) (cur rest : List α)
    (h : lb ≤ lb') : (genTreeAux v den lb' ub cur rest).Sublist (genTreeAux v den lb ub cur rest) := by
  rw [genTreeAux_eq, genTreeAux_eq]
  apply List.monotone_filter_right
  intro s hs
  simp only [inWin, Bool.and_eq_true, decide_eq_true_eq] at hs ⊢
  exact ⟨by omega, hs.2⟩

/-! #### the fold version with a moving lower bound -/

theorem treeFold_nil_ok {σ : Type} {v : α → Nat} {den : Nat} {ub : Int} {lbOf : σ → Int}
    {body : σ → List α → Except Err σ} {st r : σ} {cur : List α} :
    treeFold v den ub lbOf body st cur [] = .ok r ↔
      (inexPrune v den (lbOf st) ub cur [] = true ∧ r = st) ∨
      (inexPrune v den (lbOf st) ub cur [] = false ∧ body st cur = .ok r) := by
  simp only [treeFold]
  cases inexPrune v den (lbOf st) ub cur [] with
  | true => simp [eq_comm]
  | false => simp

theorem treeFold_cons_ok {σ : Type} {v : α → Nat} {den : Nat} {ub : Int} {lbOf : σ → Int}
    {body : σ → List α → Except Err σ} {st r : σ} {cur : List α} {x : α} {xs : List α} :
    treeFold v den ub lbOf body st cur (x :: xs) = .ok r ↔
      (inexPrune v den (lbOf st) ub cur (x :: xs) = true ∧ r = st) ∨
      (inexPrune v den (lbOf st) ub cur (x :: xs) = false ∧ ∃ s1,
        treeFold v den ub lbOf body st (cur ++ [x]) xs = .ok s1 ∧ treeFold v den ub lbOf body s1 cur xs = .ok r) := by
  simp only [treeFold]
  cases inexPrune v den (lbOf st) ub cur (x :: xs) with
  | true => simp [eq_comm]
  | false =>
    cases treeFold v den ub lbOf body st (cur ++ [x]) xs with
    | error e => simp
    | ok s1 => simp

/-- `body` instrumented with a log of the sub-collections it is called on -/
def logBody {σ : Type} (body : σ → List α → Except Err σ) :
    σ × List (List α) → List α → Except Err (σ × List (List α)) :=
  fun st sub => match body st.1 sub with
    | .error e => .error e
    | .ok s' => .ok (s', st.2 ++ [sub])

theorem treeFold_logBody_fst {σ : Type} (v : α → Nat) (den : Nat) (ub : Int) (lbOf : σ → Int)
    (body : σ → List α → Except Err σ) (st : σ) (log : List (List α)) (cur rest : List α) :
    (treeFold v den ub (fun p => lbOf p.1) (logBody body) (st, log) cur rest).map (·.1)
      = treeFold v den ub lbOf body st cur rest := by
  induction rest generalizing st log cur with
  | nil =>
    simp only [treeFold]
    split
    · rfl
    · simp only [logBody]
      cases body st cur <;> rfl
  | cons x xs ih =>
    simp only [treeFold]
    split
    · rfl
    · have h1 := ih st log (cur ++ [x])
      cases hL : treeFold v den ub (fun p => lbOf p.1) (logBody body) (st, log) (cur ++ [x]) xs with
      | error e => rw [hL] at h1; rw [← h1]; rfl
      | ok p =>
        rw [hL] at h1
        rw [← h1]
        obtain ⟨s1, l1⟩ := p
        exact ih s1 l1 cur

/-- The sub-collections on which `treeFold` calls `body` form (in order) a sub-list of the output of the
    fixed-bound tree for the *initial* lower bound, provided `body` never decreases `lbOf`.  A result of its own (C13b for
    the moving bound): optimality does not go through it but through `SNPOpt.treeFold_reach`. -/
theorem treeFold_sub {σ : Type} (v : α → Nat) (den : Nat) (ub : Int) (lbOf : σ → Int)
    (body : σ → List α → Except Err σ)
    (hmono : ∀ st sub st', body st sub = .ok st' → lbOf st ≤ lbOf st')
    (st : σ) (log : List (List α)) (cur rest : List α) (st' : σ) (log' : List (List α))
    (h : treeFold v den ub (fun p => lbOf p.1) (logBody body) (st, log) cur rest = .ok (st', log')) :
    lbOf st ≤ lbOf st' ∧
    ∃ called, log' = log ++ called ∧ called.Sublist (genTreeAux v den (lbOf st) ub cur rest) := by
  induction rest generalizing st log cur st' log' with
  | nil =>
    rw [genTreeAux]
    rcases treeFold_nil_ok.1 h with ⟨_, hr⟩ | ⟨hp, hb⟩
    · cases hr
      exact ⟨Int.le_refl _, [], by simp, List.nil_sublist _⟩
    · simp only [logBody] at hb
      cases hb' : body st cur with
      | error e => rw [hb'] at hb; cases hb
      | ok s' =>
        rw [hb'] at hb
        cases hb
        refine ⟨hmono _ _ _ hb', [cur], rfl, ?_⟩
        rw [if_neg (by simp [hp])]
  | cons x xs ih =>
    rw [genTreeAux]
    rcases treeFold_cons_ok.1 h with ⟨_, hr⟩ | ⟨hp, ⟨s1, l1⟩, hL, h⟩
    · cases hr
      exact ⟨Int.le_refl _, [], by simp, List.nil_sublist _⟩
    · rw [if_neg (by simp [hp])]
      obtain ⟨hle1, c1, rfl, hc1⟩ := ih st log (cur ++ [x]) s1 l1 hL
      obtain ⟨hle2, c2, rfl, hc2⟩ := ih s1 (log ++ c1) cur st' log' h
      refine ⟨Int.le_trans hle1 hle2, c1 ++ c2, by simp, ?_⟩
      exact List.Sublist.append hc1 (hc2.trans (genTreeAux_mono_lb v den ub cur xs hle1))

/-- invariant rule for `treeFold`: `body` is only ever called on `cur ++ s` with `s` a sub-collection of `rest` -/
theorem treeFold_inv {σ : Type} (P : σ → Prop) (v : α → Nat) (den : Nat) (ub : Int) (lbOf : σ → Int)
    (body : σ → List α → Except Err σ) (cur rest : List α)
    (hbody : ∀ st s st', P st → s.Sublist rest → body st (cur ++ s) = .ok st' → P st')
    (st st' : σ) (hst : P st) (h : treeFold v den ub lbOf body st cur rest = .ok st') : P st' := by
  induction rest generalizing st cur st' with
  | nil =>
    rcases treeFold_nil_ok.1 h with ⟨_, rfl⟩ | ⟨_, hb⟩
    · exact hst
    · exact hbody st [] st' hst (List.Sublist.refl _) (by simpa using hb)
  | cons x xs ih =>
    rcases treeFold_cons_ok.1 h with ⟨_, rfl⟩ | ⟨_, s1, hL, h⟩
    · exact hst
    · have hP1 : P s1 := by
        refine ih (cur ++ [x]) ?_ st s1 hst hL
        intro st0 s st0' h0 hs hb
        refine hbody st0 (x :: s) st0' h0 (hs.cons_cons x) ?_
        simpa using hb
      refine ih cur ?_ s1 st' hP1 h
      intro st0 s st0' h0 hs hb
      exact hbody st0 s st0' h0 (hs.cons x) hb

/-! ### multiset bookkeeping -/

theorem findDiff_nil [BEq α] (items : List α) : findDiff items [] = items := rfl

theorem findDiff_cons [BEq α] (items : List α) (x : α) (s : List α) :
    findDiff items (x :: s) = findDiff (items.erase x) s := rfl

theorem findDiff_perm_of_subperm [BEq α] [LawfulBEq α] {items sub : List α} (h : sub.Subperm items) :
    (sub ++ findDiff items sub).Perm items := by
  induction sub generalizing items with
  | nil => exact List.Perm.refl _
  | cons x s ih =>
    have hx : x ∈ items := h.subset List.mem_cons_self
    have hs : s.Subperm (items.erase x) := by
      have := h.erase x
      rwa [List.erase_cons_head] at this
    rw [findDiff_cons, List.cons_append]
    exact ((ih hs).cons x).trans (List.perm_cons_erase hx).symm

theorem findDiff_perm [BEq α] [LawfulBEq α] {items items' sub : List α}
    (hs : sub.Sublist items') (hp : items'.Perm items) : (sub ++ findDiff items sub).Perm items :=
  findDiff_perm_of_subperm (hs.subperm.trans hp.subperm)

example : ([3, 1] ++ findDiff [1, 2, 3, 1] [3, 1]).Perm [1, 2, 3, 1] :=
  findDiff_perm (items' := [3, 2, 1, 1]) (by decide) (by decide)

/-! ### validity of SNP (C01) -/

theorem spread_perm {l₁ l₂ : List Nat} (h : l₁.Perm l₂) : spread l₁ = spread l₂ := by
  unfold spread
  rw [Part.maxL_eq_of_perm h, Part.minL_eq_of_perm h]

theorem value_minDiff (sums : List Nat) : Objective.minDiff.value sums false = (spread sums : Nat) := by
  have := Obj.minL_le_maxL sums
  simp only [Objective.value, Bool.false_eq_true, if_false, spread]
  omega

theorem spread_le_append (l m : List Nat) : spread l ≤ spread (l ++ m) := by
  unfold spread
  by_cases hl : l = []
  · subst hl; simp [maxL, minL]
  · have h1 : maxL l ≤ maxL (l ++ m) := Part.le_maxL (List.mem_append_left _ (Part.maxL_mem hl))
    have h2 : minL (l ++ m) ≤ minL l := Part.minL_le (List.mem_append_left _ (Part.minL_mem hl))
    omega

theorem ckk2_ok {v nm : α → Nat} [BEq α] {contents : Bool} {items : List α} {fuel : Nat} {two : Bins α}
    (h : ckk2 v nm contents items fuel = .ok two) : items ≠ [] ∧ ckkF v nm 2 contents items fuel = .ok two := by
  unfold ckk2 at h
  split at h
  · cases h
  · rename_i hne
    exact ⟨by simpa using hne, h⟩

theorem ckk2_valid {v nm : α → Nat} [BEq α] (hckk : CkkValid v nm) {items : List α} {fuel : Nat} {two : Bins α}
    (h : ckk2 v nm true items fuel = .ok two) : IsPartition v items 2 two :=
  hckk items fuel two (ckk2_ok h).1 (ckk2_ok h).2

/-! ### one notion of a valid answer for both managers -/

/-- A valid answer of a search with either bins manager: the sums of `b` are those of a partition `L` of `items` into
    `k` bins, and if `p` then `L` is what `b` holds.  `p` says whether the claim covers the contents (`Answer v true` is
    `IsPartition`) or the sums only (`Answer v false` is `SumsOnly.Real` of the sums, true of either manager).
    The recursions of SNP and RNP build their answers by `Bins.concat` from the prior bins and from answers of the
    calls below; `Answer` is closed under that for either `p`, so validity is one induction per recursion. -/
def Answer (v : α → Nat) (p : Bool) (items : List α) (k : Nat) (b : Bins α) : Prop :=
  ∃ L : List (List α), L.length = k ∧ L.flatten.Perm items ∧ b.sums = L.map (binSum v) ∧ (p = true → b.lists = L)

theorem Answer.of_partition {v : α → Nat} {p : Bool} {items : List α} {k : Nat} {b : Bins α}
    (h : IsPartition v items k b) : Answer v p items k b :=
  ⟨b.lists, h.2.1, h.1, h.2.2, fun _ => rfl⟩

theorem Answer.partition {v : α → Nat} {items : List α} {k : Nat} {b : Bins α} (h : Answer v true items k b) :
    IsPartition v items k b := by
  obtain ⟨L, hl, hp, hs, he⟩ := h
  obtain rfl := he rfl
  exact ⟨hp, hl, hs⟩

theorem answer_concat {v : α → Nat} {p : Bool} {i1 i2 items : List α} {k1 k2 k : Nat} {b1 b2 : Bins α}
    (h1 : Answer v p i1 k1 b1) (h2 : Answer v p i2 k2 b2) (hp : (i1 ++ i2).Perm items) (hk : k1 + k2 = k) :
    Answer v p items k (b1.concat b2) := by
  obtain ⟨L1, l1, p1, s1, e1⟩ := h1
  obtain ⟨L2, l2, p2, s2, e2⟩ := h2
  refine ⟨L1 ++ L2, by simp [l1, l2, hk], ?_, by simp [Bins.concat, s1, s2], fun hc => by
    simp [Bins.concat, e1 hc, e2 hc]⟩
  rw [List.flatten_append]
  exact (p1.append p2).trans hp

theorem answer_prior {v : α → Nat} {p : Bool} {prior : Bins α} (hc : prior.Consistent v) :
    Answer v p prior.lists.flatten prior.lists.length prior :=
  ⟨prior.lists, rfl, List.Perm.refl _, hc, fun _ => rfl⟩

theorem consistent_snoc {v : α → Nat} {prior : Bins α} (hc : prior.Consistent v) (sub : List α) :
    (⟨prior.sums ++ [binSum v sub], prior.lists ++ [sub]⟩ : Bins α).Consistent v := by
  unfold Bins.Consistent at hc ⊢
  simp only [List.map_append, hc, List.map_cons, List.map_nil]

/-- Validity of `rec_generate_sets` (the recursion of SNP) for either manager, given the validity of the 2-way
    search (`h2`): the result is the incumbent or the prior bins followed by answers of the 2-way search. -/
theorem snpRec_valid {v nm : α → Nat} [BEq α] [LawfulBEq α] {c p : Bool} {fuel : Nat}
    (h2 : ∀ its two, ckk2 v nm c its fuel = .ok two → Answer v p its 2 two) (items : List α) (k : Nat)
    (cur : Nat) (prior best : Bins α) (rem : List α) : ∀ (r : Bins α),
    Answer v p items k best →
    prior.lists.length + cur = k → prior.Consistent v →
    (prior.lists.flatten ++ rem).Perm items →
    snpRec v nm c fuel cur prior best rem = .ok r → Answer v p items k r := by
  induction cur, prior, best, rem using snpRec.induct v nm c fuel with
  | case1 | case2 => intro r hbest _ _ _ h; simp only [snpRec] at h; cases h; exact hbest
  | case3 prior best rem e he => intro r _ _ _ _ h; simp only [snpRec, he] at h; cases h
  | case4 prior best rem two ht hlt =>
    intro r _ hlen hcons hperm h
    simp only [snpRec, ht, if_pos hlt] at h
    cases h
    exact answer_concat (h2 _ _ ht) (answer_prior hcons) ((List.perm_append_comm).trans hperm) (by omega)
  | case5 prior best rem two ht hlt => intro r hbest _ _ _ h; simp only [snpRec, ht, if_neg hlt] at h; cases h; exact hbest
  | case6 cur prior best rem ih =>
    intro r hbest hlen hcons hperm h
    rw [snpRec] at h
    refine treeFold_inv (Answer v p items k) _ _ _ _ _ [] (sortDesc v rem) ?_ best r hbest h
    intro st s st' hst hs hb
    rw [List.nil_append] at hb
    refine ih st s st' hst ?_ (consistent_snoc hcons s) ?_ hb
    · simp only [List.length_append, List.length_singleton]; omega
    · simp only [List.flatten_append, List.flatten_singleton, List.append_assoc]
      exact ((findDiff_perm hs (Part.sortDesc_perm v rem)).append_left _).trans hperm

/-- a successful `snp`: KK's answer, either already perfect or handed to the search as the incumbent -/
theorem snp_ok {v nm : α → Nat} [BEq α] {k : Nat} {contents : Bool} {items : List α} {fuel : Nat} {b : Bins α}
    (h : snp v nm k contents items fuel = .ok b) :
    ∃ best, kk v k items = .ok best ∧
      ((spread best.sums = 0 ∧ b = best) ∨
        (spread best.sums ≠ 0 ∧ snpRec v nm contents fuel k ⟨[], []⟩ best items = .ok b)) := by
  unfold snp at h
  cases hb : kk v k items with
  | error e => rw [hb] at h; cases h
  | ok best =>
    rw [hb] at h
    simp only at h
    split at h
    · rename_i h0
      cases h
      exact ⟨b, rfl, Or.inl ⟨h0, rfl⟩⟩
    · rename_i hsp
      exact ⟨best, rfl, Or.inr ⟨hsp, h⟩⟩

/-- C01 for `snp`, relative to the validity of KK and of the 2-way search; unconditionally:
    `CKKValid.snp_isPartition'` -/
theorem snp_isPartition {v nm : α → Nat} [BEq α] [LawfulBEq α] {k : Nat} {items : List α} {fuel : Nat} {b : Bins α}
    (hkk : KkValid v) (hckk : CkkValid v nm) (hk : 0 < k) (hne : items ≠ []) :
    snp v nm k true items fuel = .ok b → IsPartition v items k b := by
  intro h
  obtain ⟨best, hb, ⟨_, rfl⟩ | ⟨_, hr⟩⟩ := snp_ok h
  · exact hkk k items b hk hne hb
  · exact (snpRec_valid (p := true) (fun _ _ h2 => .of_partition (ckk2_valid hckk h2)) items k k ⟨[], []⟩ best
      items b (.of_partition (hkk k items best hk hne hb)) (by simp) rfl (by simp) hr).partition

/-! ### folds with early exit; a successful `rnp` -/

theorem foldE_cons_ok {σ β : Type} {f : σ → β → Except Err σ} {s r : σ} {x : β} {xs : List β} :
    foldE f s (x :: xs) = .ok r ↔ ∃ s1, f s x = .ok s1 ∧ foldE f s1 xs = .ok r := by
  simp only [foldE]
  cases f s x with
  | error e => exact ⟨fun h => (nomatch h), fun ⟨_, h, _⟩ => (nomatch h)⟩
  | ok s1 => exact ⟨fun h => ⟨s1, rfl, h⟩, fun ⟨_, h, h2⟩ => Except.ok.inj h ▸ h2⟩

theorem foldE_inv {σ β : Type} (P : σ → Prop) (f : σ → β → Except Err σ) (l : List β)
    (hf : ∀ s x s', x ∈ l → P s → f s x = .ok s' → P s') :
    ∀ s s', P s → foldE f s l = .ok s' → P s' := by
  induction l with
  | nil => intro s s' hs h; simp only [foldE] at h; cases h; exact hs
  | cons x xs ih =>
    intro s s' hs h
    obtain ⟨s1, hx, h2⟩ := foldE_cons_ok.1 h
    exact ih (fun s y s' hy => hf s y s' (List.mem_cons_of_mem _ hy)) s1 s'
      (hf s x s1 List.mem_cons_self hs hx) h2

/-- `foldE` reaches every element of its list: `P` holds at the end if it holds after `f` has been run on `target`
    and is stable afterwards -/
theorem foldE_reach {σ β : Type} (P : σ → Prop) (f : σ → β → Except Err σ) (target : β)
    (hmono : ∀ st x st', P st → f st x = .ok st' → P st')
    (hhit : ∀ st st', f st target = .ok st' → P st') :
    ∀ (l : List β) (st st' : σ), target ∈ l → foldE f st l = .ok st' → P st' := by
  intro l
  induction l with
  | nil => intro st st' hm; cases hm
  | cons x xs ih =>
    intro st st' hm h
    obtain ⟨s1, hx, h2⟩ := foldE_cons_ok.1 h
    rcases List.mem_cons.1 hm with rfl | hm
    · exact foldE_inv P f xs (fun s y s' _ hs hf => hmono _ _ _ hs hf) s1 st' (hhit _ _ hx) h2
    · exact ih s1 st' hm h2

theorem foldE_append {σ β : Type} (f : σ → β → Except Err σ) (s : σ) (l1 l2 : List β) :
    foldE f s (l1 ++ l2) = match foldE f s l1 with
      | .error e => .error e
      | .ok s1 => foldE f s1 l2 := by
  induction l1 generalizing s with
  | nil => rfl
  | cons x xs ih =>
    simp only [List.cons_append, foldE]
    cases f s x with
    | error e => rfl
    | ok s' => exact ih s'

theorem foldE_append_ok {σ β : Type} {f : σ → β → Except Err σ} {s r : σ} {l1 l2 : List β} :
    foldE f s (l1 ++ l2) = .ok r ↔ ∃ s1, foldE f s l1 = .ok s1 ∧ foldE f s1 l2 = .ok r := by
  rw [foldE_append]
  cases foldE f s l1 with
  | error e => exact ⟨fun h => (nomatch h), fun ⟨_, h, _⟩ => (nomatch h)⟩
  | ok s1 => exact ⟨fun h => ⟨s1, rfl, h⟩, fun ⟨_, h, h2⟩ => Except.ok.inj h ▸ h2⟩

theorem foldE_singleton {σ β : Type} (f : σ → β → Except Err σ) (s : σ) (x : β) : foldE f s [x] = f s x := by
  simp only [foldE]
  cases f s x <;> rfl

/-- the tree whose bound does not depend on the state is the fold over the fixed-bound tree -/
theorem treeFold_const {σ : Type} (v : α → Nat) (den : Nat) (lb ub : Int) (body : σ → List α → Except Err σ) :
    ∀ (rest cur : List α) (st : σ),
      treeFold v den ub (fun _ => lb) body st cur rest = foldE body st (genTreeAux v den lb ub cur rest)
  | [], cur, st => by
    simp only [treeFold, genTreeAux]
    split
    · rfl
    · simp only [foldE]; cases body st cur <;> rfl
  | x :: xs, cur, st => by
    simp only [treeFold, genTreeAux]
    split
    · rfl
    · rw [foldE_append, treeFold_const v den lb ub body xs (cur ++ [x]) st]
      cases foldE body st (genTreeAux v den lb ub (cur ++ [x]) xs) with
      | error e => rfl
      | ok s1 => exact treeFold_const v den lb ub body xs cur s1

/-- a successful `rnp`: KK's answer, either already perfect or handed to the recursion as the incumbent -/
theorem rnp_ok {v nm : α → Nat} [BEq α] {k : Nat} {contents : Bool} {items : List α} {fuel : Nat} {b : Bins α}
    (h : rnp v nm k contents items fuel = .ok b) :
    ∃ best, kk v k items = .ok best ∧
      ((spread best.sums = 0 ∧ b = best) ∨
        (spread best.sums ≠ 0 ∧ k < 6 ∧ rnpRec v nm contents fuel (k + 1) k ⟨[], []⟩ best items = .ok b)) := by
  unfold rnp at h
  cases hb : kk v k items with
  | error e => rw [hb] at h; cases h
  | ok best =>
    rw [hb] at h
    simp only at h
    split at h
    · rename_i h0
      cases h
      exact ⟨b, rfl, Or.inl ⟨h0, rfl⟩⟩
    · rename_i hsp
      split at h
      · cases h
      · rename_i hk
        exact ⟨best, rfl, Or.inr ⟨hsp, by omega, h⟩⟩

/-- a successful `rnpF`: the same, with the recursion after F10 -/
theorem rnpF_ok {v nm : α → Nat} [BEq α] {k : Nat} {contents : Bool} {items : List α} {fuel : Nat} {b : Bins α}
    (h : rnpF v nm k contents items fuel = .ok b) :
    ∃ best, kk v k items = .ok best ∧
      ((spread best.sums = 0 ∧ b = best) ∨
        (spread best.sums ≠ 0 ∧ k < 6 ∧ rnpRecF v nm contents fuel (k + 1) k ⟨[], []⟩ best items = .ok b)) := by
  unfold rnpF at h
  cases hb : kk v k items with
  | error e => rw [hb] at h; cases h
  | ok best =>
    rw [hb] at h
    simp only at h
    split at h
    · rename_i h0
      cases h
      exact ⟨b, rfl, Or.inl ⟨h0, rfl⟩⟩
    · rename_i hsp
      split at h
      · cases h
      · rename_i hk
        exact ⟨best, rfl, Or.inr ⟨hsp, by omega, h⟩⟩

end Prtpy.SNPProofs
