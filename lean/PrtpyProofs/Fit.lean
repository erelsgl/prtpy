/-
  First fit and best fit (online and decreasing): feasibility (C03), refusal (C19), the any-fit invariant and the
  bin-count bound `< 2 · OPT` (C09), characterisation of the best-fit scan and of the two steps (C14).

  Both algorithms are instances of one generic loop `genLoop` over a step function that
  satisfies the relation `Step` ("put the item into a bin where it fits; open a new bin only if it fits
  nowhere").  `Run` describes the runs of every such step function on the lists of the bins alone (no positions, no
  sums); invariants of runs are inductions over `Run`, and the invariant `Inv` is what `Run` says about a bins-array.
-/
import PrtpyProofs.Basic

namespace Prtpy.Fit
open Prtpy Prtpy.Part

variable {α : Type}

/-! ### any-fit steps and their invariant -/

/-- an "any-fit" step: put `x` into some bin where it fits, open a new bin only if it fits nowhere -/
def Step (v : α → Nat) (B : Nat) (b : Bins α) (x : α) (b' : Bins α) : Prop :=
  (∃ i, ∃ _ : i < b.sums.length, b.sums[i] + v x ≤ B ∧ b' = b.add v x i) ∨
  ((∀ s ∈ b.sums, ¬ s + v x ≤ B) ∧ b' = (b.addEmpty 1).add v x b.sums.length)

/-- C14, `ffStep`: the chosen bin is the first one with room -/
theorem ffStep_spec' (v : α → Nat) (B : Nat) (b : Bins α) (x : α) :
    (∃ i, ∃ h : i < b.sums.length, b.sums[i] + v x ≤ B ∧ (∀ j (hj : j < i), ¬ b.sums[j] + v x ≤ B) ∧
        ffStep v B b x = b.add v x i) ∨
    ((∀ s ∈ b.sums, ¬ s + v x ≤ B) ∧ ffStep v B b x = (b.addEmpty 1).add v x b.sums.length) := by
  unfold ffStep
  split
  next i hi =>
    left
    rw [List.findIdx?_eq_some_iff_getElem] at hi
    obtain ⟨h, hfit, hfirst⟩ := hi
    exact ⟨i, h, by simpa using hfit, fun j hj => by simpa using hfirst j hj, rfl⟩
  next hn =>
    right
    rw [List.findIdx?_eq_none_iff] at hn
    exact ⟨by simpa using hn, rfl⟩

theorem ffStep_step (v : α → Nat) (B : Nat) (b : Bins α) (x : α) : Step v B b x (ffStep v B b x) := by
  rcases ffStep_spec' v B b x with ⟨i, hi, hfit, _, he⟩ | h
  · exact Or.inl ⟨i, hi, hfit, he⟩
  · exact Or.inr h

theorem addEmpty_add (v : α → Nat) (b : Bins α) (x : α) (h : b.sums.length = b.lists.length) :
    (b.addEmpty 1).add v x b.sums.length = ⟨b.sums ++ [v x], b.lists ++ [[x]]⟩ := by
  simp only [Bins.addEmpty, Bins.concat, Bins.new, Bins.add, List.replicate_one]
  rw [modify_length_append]
  rw [h, modify_length_append]
  simp

/-- the invariant of a run that starts from `Bins.new 1` (Python's initial empty bin) and has consumed `seen`:
    the bins are consistent, within the capacity and any-fit; before the first item there is the one empty bin
    (`first`), afterwards no bin is empty (`nonempty`, which `IsPacking` asks for) -/
structure Inv (v : α → Nat) (B : Nat) (seen : List α) (b : Bins α) : Prop where
  perm : b.lists.flatten.Perm seen
  cons : b.sums = b.lists.map (binSum v)
  le : ∀ s ∈ b.sums, s ≤ B
  af : AnyFit v B b
  first : seen = [] → b.lists = [[]]
  nonempty : seen ≠ [] → ∀ l ∈ b.lists, l ≠ []

theorem Inv.len {v : α → Nat} {B : Nat} {seen : List α} {b : Bins α} (h : Inv v B seen b) :
    b.sums.length = b.lists.length :=
  consistent_length v h.cons

theorem Inv.le_lists {v : α → Nat} {B : Nat} {seen : List α} {b : Bins α} (h : Inv v B seen b) :
    ∀ L ∈ b.lists, binSum v L ≤ B :=
  fun L hL => h.le _ (by rw [h.cons]; exact List.mem_map_of_mem hL)

/-! ### the run, on the lists of the bins

One any-fit step either appends the item to one member of the list of bins or appends a new bin.  `Step.lists` says
so once (no positions); `Run` is the relation "these bins arise from these items", and its induction principle is the
induction over the prefixes of the input.  A relation between an earlier and a later bin is established by
`Run.pairwise`; `Run.opened` goes back to the moment a given bin was opened. -/

/-- what is known, beyond "it fits", about the bin chosen for an item: a property of the bins before it -/
abbrev Rule (α : Type) := List (List α) → List α → α → Prop

/-- every any-fit rule -/
abbrev AnyRule : Rule α := fun _ _ _ => True

/-- first fit: the item fits into none of the bins before the chosen one -/
abbrev FirstFit (v : α → Nat) (B : Nat) : Rule α := fun pre _ x => ∀ L' ∈ pre, B < binSum v L' + v x

/-- one step on the lists of the bins: the item joins a bin where it fits (and the rule `ρ` holds of the bins before
    it), or opens a new bin when it fits nowhere -/
def ListStep (v : α → Nat) (B : Nat) (ρ : Rule α) (Ls : List (List α)) (x : α) (Ls' : List (List α)) : Prop :=
  (∃ pre L post, Ls = pre ++ L :: post ∧ binSum v L + v x ≤ B ∧ ρ pre L x ∧ Ls' = pre ++ (L ++ [x]) :: post) ∨
  ((∀ L ∈ Ls, B < binSum v L + v x) ∧ Ls' = Ls ++ [[x]])

theorem sums_getElem {v : α → Nat} {b : Bins α} (hc : b.sums = b.lists.map (binSum v)) {j : Nat}
    (hs : j < b.sums.length) (hl : j < b.lists.length) : b.sums[j] = binSum v b.lists[j] := by
  simp [hc]

/-- `Bins.add` at position `i`, on the lists -/
theorem add_lists_split {v : α → Nat} {b : Bins α} (x : α) {i : Nat} (hi : i < b.lists.length) :
    b.lists = b.lists.take i ++ b.lists[i] :: b.lists.drop (i + 1) ∧
      (b.add v x i).lists = b.lists.take i ++ (b.lists[i] ++ [x]) :: b.lists.drop (i + 1) :=
  ⟨by rw [← List.drop_eq_getElem_cons hi, List.take_append_drop], List.modify_eq_take_cons_drop hi⟩

theorem nofit_lists {v : α → Nat} {B : Nat} {b : Bins α} {x : α} (hc : b.sums = b.lists.map (binSum v))
    (hno : ∀ s ∈ b.sums, ¬ s + v x ≤ B) : ∀ L ∈ b.lists, B < binSum v L + v x := by
  intro L hL
  have := hno (binSum v L) (by rw [hc]; exact List.mem_map_of_mem hL)
  omega

/-- a step given by the position of the chosen bin, on the lists; what the step knows of the bins before the chosen
    one is a relation `q` between the sum of an earlier bin and the sum of the chosen bin -/
theorem listStep_of_pos {v : α → Nat} {B : Nat} {b b' : Bins α} {x : α} (q : Nat → Nat → Prop)
    (hc : b.sums = b.lists.map (binSum v))
    (h : (∃ i, ∃ h : i < b.sums.length, b.sums[i] + v x ≤ B ∧ (∀ j (hj : j < i), q b.sums[j] b.sums[i]) ∧
        b' = b.add v x i) ∨ ((∀ s ∈ b.sums, ¬ s + v x ≤ B) ∧ b' = (b.addEmpty 1).add v x b.sums.length)) :
    ListStep v B (fun pre L _ => ∀ L' ∈ pre, q (binSum v L') (binSum v L)) b.lists x b'.lists := by
  have hl : b.sums.length = b.lists.length := by rw [hc, List.length_map]
  rcases h with ⟨i, hi, hfit, hq, rfl⟩ | ⟨hno, rfl⟩
  · have hi' : i < b.lists.length := hl ▸ hi
    obtain ⟨e, e'⟩ := add_lists_split (v := v) x hi'
    refine Or.inl ⟨_, _, _, e, sums_getElem hc hi hi' ▸ hfit, fun L' hL' => ?_, e'⟩
    obtain ⟨j, hj, rfl⟩ := List.mem_take_iff_getElem.1 hL'
    have hji : j < i := (Nat.lt_min.1 hj).1
    exact sums_getElem hc (Nat.lt_trans hji hi) (Nat.lt_trans hji hi') ▸ sums_getElem hc hi hi' ▸ hq j hji
  · rw [addEmpty_add v b x hl]
    exact Or.inr ⟨nofit_lists hc hno, rfl⟩

theorem Step.lists {v : α → Nat} {B : Nat} {b b' : Bins α} {x : α} (hs : Step v B b x b')
    (hc : b.sums = b.lists.map (binSum v)) : ListStep v B AnyRule b.lists x b'.lists := by
  rcases listStep_of_pos (fun _ _ => True) hc
    (hs.imp_left fun ⟨i, hi, hfit, e⟩ => ⟨i, hi, hfit, fun _ _ => trivial, e⟩) with ⟨_, _, _, e, hfit, _, e'⟩ | h
  · exact Or.inl ⟨_, _, _, e, hfit, trivial, e'⟩
  · exact Or.inr h

theorem Step.cons {v : α → Nat} {B : Nat} {b b' : Bins α} {x : α} (hs : Step v B b x b')
    (hc : b.sums = b.lists.map (binSum v)) : b'.sums = b'.lists.map (binSum v) := by
  rcases hs with ⟨i, _, _, rfl⟩ | ⟨_, rfl⟩
  · exact add_consistent v b x i hc
  · rw [addEmpty_add v b x (consistent_length v hc)]
    simp only [hc, List.map_append, List.map_cons, List.map_nil, binSum_singleton]

theorem cons_foldl {v : α → Nat} {B : Nat} (step : Bins α → α → Bins α) (hstep : ∀ b x, Step v B b x (step b x))
    (xs : List α) : (xs.foldl step (Bins.new 1)).sums = (xs.foldl step (Bins.new 1)).lists.map (binSum v) := by
  induction xs using snoc_induction with
  | nil => simp [Bins.new, binSum, sumL]
  | snoc P x ih =>
    rw [List.foldl_append]
    exact (hstep _ x).cons ih

/-- `Run v B ρ seen Ls`: the bins `Ls` arise from the items `seen` (in this order) by steps of an any-fit rule that
    satisfies `ρ`, starting from the one empty bin of `Bins.new 1` -/
inductive Run (v : α → Nat) (B : Nat) (ρ : Rule α) : List α → List (List α) → Prop
  | nil : Run v B ρ [] [[]]
  | into {seen : List α} {pre post : List (List α)} {L : List α} {x : α} :
      Run v B ρ seen (pre ++ L :: post) → binSum v L + v x ≤ B → ρ pre L x →
      Run v B ρ (seen ++ [x]) (pre ++ (L ++ [x]) :: post)
  | new {seen : List α} {Ls : List (List α)} {x : α} :
      Run v B ρ seen Ls → v x ≤ B → (∀ L ∈ Ls, B < binSum v L + v x) → Run v B ρ (seen ++ [x]) (Ls ++ [[x]])

theorem run_foldl {v : α → Nat} {B : Nat} {ρ : Rule α} (step : Bins α → α → Bins α)
    (hstep : ∀ b x, Step v B b x (step b x))
    (hl : ∀ b x, b.sums = b.lists.map (binSum v) → ListStep v B ρ b.lists x (step b x).lists) :
    ∀ xs : List α, (∀ x ∈ xs, v x ≤ B) → Run v B ρ xs (xs.foldl step (Bins.new 1)).lists := by
  intro xs
  induction xs using snoc_induction with
  | nil => intro _; exact Run.nil
  | snoc P x ih =>
    intro hall
    have hr := ih (fun y hy => hall y (by simp [hy]))
    rw [List.foldl_append]
    simp only [List.foldl_cons, List.foldl_nil]
    rcases hl _ x (cons_foldl step hstep P) with ⟨pre, L, post, e, hfit, hρ, e'⟩ | ⟨hno, e'⟩
    · rw [e']; rw [e] at hr; exact hr.into hfit hρ
    · rw [e']; exact hr.new (hall x (by simp)) hno

section run
variable {v : α → Nat} {B : Nat} {ρ : Rule α} {seen : List α} {Ls : List (List α)}

theorem Run.perm (hr : Run v B ρ seen Ls) : Ls.flatten.Perm seen := by
  induction hr with
  | nil => simp
  | @into seen pre post L x _ _ _ ih =>
    exact (flatten_snoc_at_perm pre post L x).trans ((ih.cons x).trans (List.perm_append_singleton x seen).symm)
  | @new seen Ls x _ _ _ ih =>
    simp only [List.flatten_append, List.flatten_cons, List.flatten_nil, List.append_nil]
    exact ih.append_right [x]

theorem Run.mem_seen (hr : Run v B ρ seen Ls) : ∀ L ∈ Ls, ∀ u ∈ L, u ∈ seen :=
  fun L hL _ hu => hr.perm.mem_iff.1 (List.mem_flatten.2 ⟨L, hL, hu⟩)

theorem Run.le (hr : Run v B ρ seen Ls) : ∀ L ∈ Ls, binSum v L ≤ B := by
  induction hr with
  | nil => simp [binSum, sumL]
  | @into seen pre post L x _ hfit _ ih =>
    intro M hM
    rcases mem_replace (a := L) hM with rfl | hM
    · rw [binSum_append]; simpa [binSum, sumL] using hfit
    · exact ih M hM
  | @new seen Ls x _ hx _ ih =>
    intro M hM
    rcases List.mem_append.1 hM with hM | hM
    · exact ih M hM
    · rw [List.mem_singleton.1 hM]; simpa [binSum, sumL] using hx

theorem Run.shape (hr : Run v B ρ seen Ls) : (seen = [] ∧ Ls = [[]]) ∨ (seen ≠ [] ∧ ∀ L ∈ Ls, L ≠ []) := by
  induction hr with
  | nil => exact Or.inl ⟨rfl, rfl⟩
  | @into seen pre post L x _ _ _ ih =>
    refine Or.inr ⟨by simp, fun M hM => ?_⟩
    rcases ih with ⟨_, e⟩ | ⟨_, hne⟩
    · match pre, e, hM with
      | [], e, hM =>
        simp only [List.nil_append, List.cons.injEq] at e
        obtain ⟨rfl, rfl⟩ := e
        simp only [List.nil_append, List.mem_singleton] at hM
        rw [hM]; simp
      | _ :: pre', e, _ => simp at e
    · rcases mem_replace (a := L) hM with rfl | hM
      · simp
      · exact hne M hM
  | @new seen Ls x _ hx hno ih =>
    refine Or.inr ⟨by simp, fun M hM => ?_⟩
    rcases List.mem_append.1 hM with hM | hM
    · rcases ih with ⟨_, e⟩ | ⟨_, hne⟩
      · have := hno [] (by rw [e]; simp)
        simp only [binSum, List.map_nil, sumL] at this
        omega
      · exact hne M hM
    · rw [List.mem_singleton.1 hM]; simp

theorem Run.length_pos (hr : Run v B ρ seen Ls) : 0 < Ls.length := by
  induction hr with
  | nil => exact Nat.one_pos
  | into _ _ _ _ => rw [List.length_append, List.length_cons]; omega
  | new _ _ _ _ => rw [List.length_append, List.length_singleton]; omega

theorem Run.ne_nil_of_ne (hr : Run v B ρ seen Ls) (h : seen ≠ []) : ∀ L ∈ Ls, L ≠ [] := by
  rcases hr.shape with ⟨e, _⟩ | ⟨_, hne⟩
  · exact absurd e h
  · exact hne

/-- the one empty bin of the start has no neighbour -/
theorem Run.ne_nil_of_two (hr : Run v B ρ seen Ls) (h : 2 ≤ Ls.length) : ∀ L ∈ Ls, L ≠ [] := by
  rcases hr.shape with ⟨_, e⟩ | ⟨_, hne⟩
  · rw [e] at h; exact absurd h (Nat.not_succ_le_self 1)
  · exact hne

theorem Run.sublist (hr : Run v B ρ seen Ls) : ∀ L ∈ Ls, L.Sublist seen := by
  induction hr with
  | nil => simp
  | @into seen pre post L x _ _ _ ih =>
    intro M hM
    rcases mem_replace (a := L) hM with rfl | hM
    · exact (ih L (by simp)).append (List.Sublist.refl _)
    · exact (ih M hM).trans (List.sublist_append_left _ _)
  | @new seen Ls x _ _ _ ih =>
    intro M hM
    rcases List.mem_append.1 hM with hM | hM
    · exact (ih M hM).trans (List.sublist_append_left _ _)
    · rw [List.mem_singleton.1 hM]; exact List.sublist_append_right _ _

theorem Run.sorted_bins (hr : Run v B ρ seen Ls) (hs : seen.Pairwise (fun a c => v c ≤ v a)) :
    ∀ L ∈ Ls, L.Pairwise (fun a c => v c ≤ v a) :=
  fun L hL => hs.sublist (hr.sublist L hL)

/-- How a relation `R` between an earlier and a later bin is established along a run: it holds between a bin into
    which `x` does not fit and the fresh bin `[x]` (`hnew`), and it survives an item joining the earlier bin (`hgrow`)
    and, under the rule, an item joining the later bin (`hadd`; that bin is not the one empty bin of the start).
    `S u x` is what the order of the input says of an earlier item `u` and a later item `x`: nothing, or `v x ≤ v u`
    on a sorted input. -/
theorem Run.pairwise {S : α → α → Prop} {R : List α → List α → Prop}
    (hnew : ∀ P x, (∀ u ∈ P, S u x) → B < binSum v P + v x → R P [x])
    (hgrow : ∀ P Q x, (∀ u ∈ P, S u x) → (∀ u ∈ Q, S u x) → R P Q → R (P ++ [x]) Q)
    (hadd : ∀ pre P L x, P ∈ pre → ρ pre L x → L ≠ [] → (∀ u ∈ P, S u x) → (∀ u ∈ L, S u x) → R P L →
      R P (L ++ [x]))
    (hr : Run v B ρ seen Ls) : seen.Pairwise S → Ls.Pairwise R := by
  induction hr with
  | nil => intro _; simp
  | @into seen pre post L x hr _ hρ ih =>
    intro hs
    obtain ⟨hs1, _, hs2⟩ := List.pairwise_append.1 hs
    have hS : ∀ M ∈ pre ++ L :: post, ∀ u ∈ M, S u x :=
      fun M hM u hu => hs2 u (hr.mem_seen M hM u hu) x (by simp)
    refine pairwise_replace (ih hs1) (fun P hP h => ?_) (fun Q hQ h => hgrow L Q x (hS L (by simp)) (hS Q (by simp [hQ])) h)
    have hL : L ≠ [] := hr.ne_nil_of_two (by
      have := List.length_pos_of_mem hP
      rw [List.length_append, List.length_cons]; omega) L (by simp)
    exact hadd pre P L x hP hρ hL (hS P (by simp [hP])) (hS L (by simp)) h
  | @new seen Ls x hr _ hno ih =>
    intro hs
    obtain ⟨hs1, _, hs2⟩ := List.pairwise_append.1 hs
    exact List.pairwise_append.2 ⟨ih hs1, by simp, fun P hP Q hQ => by
      rw [List.mem_singleton.1 hQ]
      exact hnew P x (fun u hu => hs2 u (hr.mem_seen P hP u hu) x (by simp)) (hno P hP)⟩

/-- The moment bin number `j ≥ 1` was opened: the input splits at the item `a` that opened it, the `j` bins `Ls'` of
    the run up to `a` have no room for `a`, and `a` is still the first item of bin `j`.  What a proof does "at the
    moment an item opens a new bin" it does with this run of the prefix. -/
theorem Run.opened (hr : Run v B ρ seen Ls) : ∀ j, 0 < j → j < Ls.length →
    ∃ P a S Ls', seen = P ++ a :: S ∧ Run v B ρ P Ls' ∧ Ls'.length = j ∧ (∀ L ∈ Ls', B < binSum v L + v a) ∧
      (Ls.map List.head?)[j]? = some (some a) := by
  induction hr with
  | nil => intro j hj hjl; exact absurd hjl (Nat.not_lt.2 hj)
  | @into seen pre post L x hr _ _ ih =>
    intro j hj hjl
    have hlen : (pre ++ (L ++ [x]) :: post).length = (pre ++ L :: post).length := by
      simp only [List.length_append, List.length_cons]
    rw [hlen] at hjl
    obtain ⟨P, a, S, Ls', e, h1, h2, h3, h4⟩ := ih j hj hjl
    refine ⟨P, a, S ++ [x], Ls', by rw [e, List.append_assoc, List.cons_append], h1, h2, h3, ?_⟩
    have hL : L ≠ [] := hr.ne_nil_of_two (by omega) L (List.mem_append_right _ List.mem_cons_self)
    match L, hL, h4 with
    | y :: r, _, h4 =>
      simp only [List.map_append, List.map_cons, List.cons_append, List.head?_cons] at h4 ⊢
      exact h4
  | @new seen Ls x hr _ hno ih =>
    intro j hj hjl
    rcases Nat.lt_or_ge j Ls.length with hlt | hge
    · obtain ⟨P, a, S, Ls', e, h1, h2, h3, h4⟩ := ih j hj hlt
      refine ⟨P, a, S ++ [x], Ls', by rw [e, List.append_assoc, List.cons_append], h1, h2, h3, ?_⟩
      rw [List.map_append, List.getElem?_append_left (by rw [List.length_map]; exact hlt)]
      exact h4
    · rw [List.length_append, List.length_singleton] at hjl
      obtain rfl : j = Ls.length := Nat.le_antisymm (Nat.le_of_lt_succ hjl) hge
      refine ⟨seen, x, [], Ls, rfl, hr, rfl, hno, ?_⟩
      rw [List.map_append, List.getElem?_append_right (by rw [List.length_map]; exact Nat.le_refl _), List.length_map,
        Nat.sub_self]
      rfl

theorem Run.anyfit (hr : Run v B ρ seen Ls) :
    Ls.Pairwise (fun L L' => ∃ x, L'.head? = some x ∧ B < binSum v L + v x) :=
  Run.pairwise (fun _ x _ h => ⟨x, rfl, h⟩)
    (fun P _ x _ _ ⟨z, hz, hlt⟩ => ⟨z, hz, by rw [binSum_append]; omega⟩)
    (fun _ _ _ _ _ _ _ _ _ ⟨z, hz, hlt⟩ => ⟨z, by rw [List.head?_append, hz]; rfl, hlt⟩) hr (pairwise_true seen)

end run

/-- the bridge between the statements about positions (`b.sums.getD i 0`, `b.lists.getD j []` for `i < j`, as `AnyFit`
    and its kin are written) and `Pairwise` statements about the lists of a consistent bins-array -/
theorem getD_pairwise_iff {v : α → Nat} {b : Bins α} (hc : b.sums = b.lists.map (binSum v))
    (Q : Nat → List α → Prop) :
    (∀ i j, i < j → j < b.lists.length → Q (b.sums.getD i 0) (b.lists.getD j [])) ↔
      b.lists.Pairwise (fun L L' => Q (binSum v L) L') := by
  have e : ∀ i j (hij : i < j) (hj : j < b.lists.length),
      b.sums.getD i 0 = binSum v (b.lists[i]'(Nat.lt_trans hij hj)) ∧ b.lists.getD j [] = b.lists[j] :=
    fun i j hij hj => ⟨by simp [hc, List.getD_eq_getElem?_getD, List.getElem?_eq_getElem (Nat.lt_trans hij hj)],
      by simp [List.getD_eq_getElem?_getD, List.getElem?_eq_getElem hj]⟩
  rw [List.pairwise_iff_getElem]
  constructor
  · intro h i j _ hj hij
    have := h i j hij hj
    rwa [(e i j hij hj).1, (e i j hij hj).2] at this
  · intro h i j hij hj
    rw [(e i j hij hj).1, (e i j hij hj).2]
    exact h i j _ hj hij

theorem anyfit_iff_pairwise {v : α → Nat} {B : Nat} {b : Bins α} (hc : b.sums = b.lists.map (binSum v)) :
    AnyFit v B b ↔ b.lists.Pairwise (fun L L' => ∃ x, L'.head? = some x ∧ B < binSum v L + v x) :=
  getD_pairwise_iff hc (fun s L' => ∃ x, L'.head? = some x ∧ B < s + v x)

theorem inv_of_run {v : α → Nat} {B : Nat} {ρ : Rule α} {seen : List α} {b : Bins α}
    (hr : Run v B ρ seen b.lists) (hc : b.sums = b.lists.map (binSum v)) : Inv v B seen b := by
  refine ⟨hr.perm, hc, fun s hs => ?_, (anyfit_iff_pairwise hc).2 hr.anyfit, fun h => ?_, hr.ne_nil_of_ne⟩
  · rw [hc] at hs
    obtain ⟨L, hL, rfl⟩ := List.mem_map.1 hs
    exact hr.le L hL
  · rcases hr.shape with ⟨_, e⟩ | ⟨hne, _⟩
    · exact e
    · exact absurd h hne

/-! ### sorted input: a bin is closed for the items that came later

Who derives what from `Closed`: for first fit every item of a later bin (`run_closed_ff`), from which
`MultiFit122.FFDStrong` (the filter form, `Closed.filter`) and from that `MaxMin2.FFDInv` (heads and one partner); for
every any-fit rule only the item that opened the later bin (`FFD119.run_srel`: `SRel`, its value form `VRel`, the field
`rel` of the normal form `FFD119.NF`).  On unsorted input first fit still has `FFD.run_allfit` (no item of a later bin
fits into an earlier one), which is not a case of `Closed`. -/

/-- on a sorted input: when `z` arrived, `L` held `pre` (items `≥ z`), and `z` did not fit; `post` came later -/
def Closed (v : α → Nat) (B : Nat) (L : List α) (z : α) : Prop :=
  ∃ pre post, L = pre ++ post ∧ B < binSum v pre + v z ∧ (∀ u ∈ pre, v z ≤ v u) ∧ (∀ u ∈ post, v u ≤ v z)

theorem Closed.snoc {v : α → Nat} {B : Nat} {L : List α} {z x : α} (h : Closed v B L z) (hx : v x ≤ v z) :
    Closed v B (L ++ [x]) z := by
  obtain ⟨p, q, e, hlt, hp, hq⟩ := h
  refine ⟨p, q ++ [x], by rw [e, List.append_assoc], hlt, hp, fun u hu => ?_⟩
  rcases List.mem_append.1 hu with hu | hu
  · exact hq u hu
  · rw [List.mem_singleton.1 hu]; exact hx

theorem Closed.full {v : α → Nat} {B : Nat} {L : List α} {x : α} (h : B < binSum v L + v x)
    (hge : ∀ u ∈ L, v x ≤ v u) : Closed v B L x :=
  ⟨L, [], by simp, h, hge, by simp⟩

/-- what a closed bin held when `z` arrived is among its items `≥ z` -/
theorem Closed.filter {v : α → Nat} {B : Nat} {L : List α} {z : α} (h : Closed v B L z) :
    B < binSum v (L.filter (fun y => decide (v z ≤ v y))) + v z := by
  obtain ⟨pre, post, e, hlt, hpre, _⟩ := h
  rw [e, List.filter_append, binSum_append, List.filter_eq_self.2 fun u hu => by simpa using hpre u hu]
  omega

/-- first fit on a sorted input: every bin is closed for every item of every later bin -/
theorem run_closed_ff {v : α → Nat} {B : Nat} {seen : List α} {Ls : List (List α)}
    (hr : Run v B (FirstFit v B) seen Ls) :
    seen.Pairwise (fun a c => v c ≤ v a) → Ls.Pairwise (fun L L' => ∀ z ∈ L', Closed v B L z) :=
  Run.pairwise (fun P x hP h z hz => by rw [List.mem_singleton.1 hz]; exact Closed.full h hP)
    (fun P Q x _ hQ h z hz => (h z hz).snoc (hQ z hz))
    (fun pre P L x hP hρ _ hPx _ h z hz => by
      rcases List.mem_append.1 hz with hz | hz
      · exact h z hz
      · rw [List.mem_singleton.1 hz]; exact Closed.full (hρ P hP) hPx) hr


/-! ### the best-fit scan (C14) -/

/-- what the best-fit scan has established about the prefix `l` scanned so far: nothing fits, or the index and new
    sum of the fullest bin with room, no earlier bin with room being as full -/
def BfGood (val B : Nat) (l : List Nat) : Option (Nat × Nat) → Prop
  | none => ∀ s ∈ l, ¬ (s + val ≤ B)
  | some (i, ns) => ∃ h : i < l.length, ns = l[i] + val ∧ ns ≤ B ∧
      (∀ t ∈ l, t + val ≤ B → t ≤ l[i]) ∧ (∀ t ∈ l.take i, t + val ≤ B → t < l[i])

theorem bfGood_snoc (val B : Nat) (pre : List Nat) (s : Nat) (best : Option (Nat × Nat)) :
    BfGood val B pre best → BfGood val B (pre ++ [s])
      (if (decide (s + val ≤ B) && (match best with
          | none => true
          | some (_, bs) => decide (bs < s + val))) = true
        then some (pre.length, s + val) else best) := by
  intro h
  have hlast : (pre ++ [s])[pre.length]'(by simp) = s := by simp
  have htake : (pre ++ [s]).take pre.length = pre := by simp
  match best, h with
  | none, h =>
    simp only [BfGood] at h
    by_cases hs : s + val ≤ B
    · rw [if_pos (by simp [hs])]
      refine ⟨by simp, by rw [hlast], hs, ?_, ?_⟩
      · intro t ht hfit
        rcases List.mem_append.1 ht with ht | ht
        · exact absurd hfit (h t ht)
        · rw [hlast, List.mem_singleton.1 ht]; exact Nat.le_refl _
      · rw [htake]
        intro t ht hfit
        exact absurd hfit (h t ht)
    · rw [if_neg (by simp [hs])]
      intro t ht
      rcases List.mem_append.1 ht with ht | ht
      · exact h t ht
      · rw [List.mem_singleton.1 ht]; exact hs
  | some (k, bs), h =>
    obtain ⟨hk, hbs, hle, hall, hlt⟩ := h
    have hkk : (pre ++ [s])[k]'(by simp; omega) = pre[k] := List.getElem_append_left hk
    by_cases hs : s + val ≤ B ∧ bs < s + val
    · rw [if_pos (by simp [hs.1, hs.2])]
      refine ⟨by simp, by rw [hlast], hs.1, ?_, ?_⟩
      · intro t ht hfit
        rw [hlast]
        rcases List.mem_append.1 ht with ht | ht
        · have := hall t ht hfit; omega
        · rw [List.mem_singleton.1 ht]; exact Nat.le_refl _
      · rw [htake, hlast]
        intro t ht hfit
        have := hall t ht hfit; omega
    · rw [if_neg (by simp only [Bool.and_eq_true, decide_eq_true_eq]; exact hs)]
      refine ⟨by simp; omega, by rw [hkk]; exact hbs, hle, ?_, ?_⟩
      · intro t ht hfit
        rw [hkk]
        rcases List.mem_append.1 ht with ht | ht
        · exact hall t ht hfit
        · rw [List.mem_singleton.1 ht] at hfit ⊢; omega
      · rw [hkk, List.take_append_of_le_length (Nat.le_of_lt hk)]
        exact hlt

/-- the choice of the scan in terms of positions -/
theorem BfGood.indexed {val B : Nat} {l : List Nat} {i ns : Nat} (h : BfGood val B l (some (i, ns))) :
    ∃ h : i < l.length, ns = l[i] + val ∧ ns ≤ B ∧
      (∀ j (hj : j < l.length), l[j] + val ≤ B → l[j] ≤ l[i]) ∧
      (∀ j (hj : j < i), l[j]'(Nat.lt_trans hj h) + val ≤ B → l[j]'(Nat.lt_trans hj h) < l[i]) := by
  obtain ⟨h, e, hle, h1, h2⟩ := h
  exact ⟨h, e, hle, fun j hj => h1 _ (List.getElem_mem hj),
    fun j hj => h2 _ (List.mem_take_iff_getElem.2 ⟨j, by omega, rfl⟩)⟩

theorem bfScan_gen (val B : Nat) : ∀ (ss pre : List Nat) (best : Option (Nat × Nat)),
    BfGood val B pre best → BfGood val B (pre ++ ss) (bfScan val B ss pre.length best)
  | [], pre, best, h => by simpa [bfScan] using h
  | s :: ss, pre, best, h => by
    have h1 := bfGood_snoc val B pre s best h
    have h2 := bfScan_gen val B ss (pre ++ [s]) _ h1
    rcases best with _ | ⟨k, bs⟩ <;> simpa [bfScan] using h2

theorem bfScan_good (val B : Nat) (sums : List Nat) : BfGood val B sums (bfScan val B sums 0 none) := by
  have := bfScan_gen val B sums [] none (by simp [BfGood])
  simpa using this

/-- C14: the scan returns `none` when nothing fits, else the fullest bin with room, the first among equally full,
    with its new sum -/
theorem bfScan_spec (val B : Nat) (sums : List Nat) :
    match bfScan val B sums 0 none with
    | none => ∀ s ∈ sums, ¬ (s + val ≤ B)
    | some (i, ns) => ∃ h : i < sums.length, ns = sums[i] + val ∧ ns ≤ B ∧
        (∀ j (hj : j < sums.length), sums[j] + val ≤ B → sums[j] ≤ sums[i]) ∧
        (∀ j (hj : j < i), sums[j] + val ≤ B → sums[j] < sums[i]) := by
  have := bfScan_good val B sums
  revert this
  cases bfScan val B sums 0 none with
  | none => exact id
  | some p => obtain ⟨i, ns⟩ := p; exact BfGood.indexed

example : bfScan 3 10 [5, 7, 2, 7, 9] 0 none = some (1, 10) := by decide
example : ∀ j (hj : j < [5, 7, 2, 7, 9].length), [5, 7, 2, 7, 9][j] + 3 ≤ 10 → [5, 7, 2, 7, 9][j] ≤ 7 := by
  obtain ⟨_, _, _, h, _⟩ := bfScan_spec 3 10 [5, 7, 2, 7, 9]
  exact h
example : ∀ s ∈ [8, 9], ¬ (s + 3 ≤ 10) := bfScan_spec 3 10 [8, 9]


/-! ### both steps are any-fit steps -/

/-- `ffStep` picks the first index whose bin has room, else opens a new bin (definitional form) -/
theorem ffStep_spec (v : α → Nat) (B : Nat) (b : Bins α) (x : α) :
    ffStep v B b x =
      match b.sums.findIdx? (fun s => decide (s + v x ≤ B)) with
      | some i => b.add v x i
      | none => (b.addEmpty 1).add v x b.sums.length := rfl

/-- C14, `bfStep`: the chosen bin is the fullest one with room, the first among equally full -/
theorem bfStep_spec (v : α → Nat) (B : Nat) (b : Bins α) (x : α) :
    (∃ i, ∃ h : i < b.sums.length, b.sums[i] + v x ≤ B ∧
        (∀ j (hj : j < b.sums.length), b.sums[j] + v x ≤ B → b.sums[j] ≤ b.sums[i]) ∧
        (∀ j (hj : j < i), b.sums[j] + v x ≤ B → b.sums[j] < b.sums[i]) ∧
        bfStep v B b x = b.add v x i) ∨
    ((∀ s ∈ b.sums, ¬ s + v x ≤ B) ∧ bfStep v B b x = (b.addEmpty 1).add v x b.sums.length) := by
  have hg := bfScan_good (v x) B b.sums
  unfold bfStep
  split
  next i ns hi =>
    rw [hi] at hg
    obtain ⟨h, hns, hle, h1, h2⟩ := hg.indexed
    exact Or.inl ⟨i, h, by omega, h1, h2, rfl⟩
  next hn =>
    rw [hn] at hg
    exact Or.inr ⟨hg, rfl⟩

theorem bfStep_step (v : α → Nat) (B : Nat) (b : Bins α) (x : α) : Step v B b x (bfStep v B b x) := by
  rcases bfStep_spec v B b x with ⟨i, hi, hfit, _, _, he⟩ | h
  · exact Or.inl ⟨i, hi, hfit, he⟩
  · exact Or.inr h

theorem ffStep_lists (v : α → Nat) (B : Nat) (b : Bins α) (x : α) (hc : b.sums = b.lists.map (binSum v)) :
    ListStep v B (FirstFit v B) b.lists x (ffStep v B b x).lists := by
  refine listStep_of_pos (fun s _ => B < s + v x) hc ?_
  rcases ffStep_spec' v B b x with ⟨i, hi, hfit, hfirst, e⟩ | h
  · exact Or.inl ⟨i, hi, hfit, fun j hj => Nat.lt_of_not_le (hfirst j hj), e⟩
  · exact Or.inr h

example : ffStep id 10 ⟨[8, 5, 3], [[8], [5], [3]]⟩ 4 = (⟨[8, 9, 3], [[8], [5, 4], [3]]⟩ : Bins Nat) :=
  (ffStep_spec id 10 ⟨[8, 5, 3], [[8], [5], [3]]⟩ 4).trans rfl
example : bfStep id 10 ⟨[8, 5, 6], [[8], [5], [6]]⟩ 4 = (⟨[8, 5, 10], [[8], [5], [6, 4]]⟩ : Bins Nat) := rfl
example : ffStep id 10 ⟨[8, 7], [[8], [7]]⟩ 4 = (⟨[8, 7, 4], [[8], [7], [4]]⟩ : Bins Nat) := rfl

/-! ### the generic loop -/

/-- the common shape of `ffLoop` and `bfLoop` -/
def genLoop (v : α → Nat) (B : Nat) (step : Bins α → α → Bins α) : Bins α → List α → Except Err (Bins α)
  | b, [] => .ok b
  | b, x :: xs => if B < v x then .error .valueError else genLoop v B step (step b x) xs

theorem ffLoop_eq (v : α → Nat) (B : Nat) : ∀ (xs : List α) (b : Bins α),
    ffLoop v B b xs = genLoop v B (ffStep v B) b xs
  | [], _ => rfl
  | x :: xs, b => by simp only [ffLoop, genLoop, ffLoop_eq v B xs]

theorem bfLoop_eq (v : α → Nat) (B : Nat) : ∀ (xs : List α) (b : Bins α),
    bfLoop v B b xs = genLoop v B (bfStep v B) b xs
  | [], _ => rfl
  | x :: xs, b => by simp only [bfLoop, genLoop, bfLoop_eq v B xs]

theorem genLoop_ok (v : α → Nat) (B : Nat) (step : Bins α → α → Bins α) : ∀ (xs : List α) (b : Bins α),
    (∀ x ∈ xs, v x ≤ B) → genLoop v B step b xs = .ok (xs.foldl step b)
  | [], _, _ => rfl
  | x :: xs, b, h => by
    have hx : ¬ B < v x := Nat.not_lt.2 (h x List.mem_cons_self)
    simp only [genLoop, if_neg hx, List.foldl_cons]
    exact genLoop_ok v B step xs (step b x) (fun y hy => h y (List.mem_cons_of_mem _ hy))

theorem genLoop_err (v : α → Nat) (B : Nat) (step : Bins α → α → Bins α) : ∀ (xs : List α) (b : Bins α),
    (∃ x ∈ xs, B < v x) → genLoop v B step b xs = .error .valueError
  | [], _, h => by simp at h
  | x :: xs, b, h => by
    by_cases hx : B < v x
    · simp only [genLoop, if_pos hx]
    · simp only [genLoop, if_neg hx]
      apply genLoop_err v B step xs
      obtain ⟨y, hy, hlt⟩ := h
      rcases List.mem_cons.1 hy with rfl | hy
      · exact absurd hlt hx
      · exact ⟨y, hy, hlt⟩

theorem all_le_or_exists_gt (v : α → Nat) (B : Nat) (xs : List α) :
    (∀ x ∈ xs, v x ≤ B) ∨ (∃ x ∈ xs, B < v x) := by
  by_cases h : ∃ x ∈ xs, B < v x
  · exact Or.inr h
  · exact Or.inl fun x hx => Nat.le_of_not_lt fun hl => h ⟨x, hx, hl⟩

section generic
variable {v : α → Nat} {B : Nat} {step : Bins α → α → Bins α} {items : List α} {b : Bins α}

theorem gen_error_iff : (∃ e, genLoop v B step (Bins.new 1) items = .error e) ↔ ∃ x ∈ items, B < v x := by
  constructor
  · rintro ⟨e, he⟩
    rcases all_le_or_exists_gt v B items with h | h
    · rw [genLoop_ok v B step items _ h] at he; cases he
    · exact h
  · intro h
    exact ⟨_, genLoop_err v B step items _ h⟩

theorem gen_error_kind {e : Err} (he : genLoop v B step (Bins.new 1) items = .error e) :
    e = Err.valueError := by
  rcases all_le_or_exists_gt v B items with h | h
  · rw [genLoop_ok v B step items _ h] at he; cases he
  · rw [genLoop_err v B step items _ h] at he
    cases he; rfl

theorem gen_ok_all_le (hb : genLoop v B step (Bins.new 1) items = .ok b) : ∀ x ∈ items, v x ≤ B := by
  rcases all_le_or_exists_gt v B items with h | h
  · exact h
  · rw [genLoop_err v B step items _ h] at hb; cases hb

/-- the same for a list that was reordered before the run (the decreasing variants), on the values -/
theorem gen_ok_all_le_map {xs : List α} (hb : genLoop v B step (Bins.new 1) xs = .ok b) (hp : xs.Perm items) :
    ∀ a ∈ items.map v, a ≤ B := by
  intro a ha
  obtain ⟨x, hx, rfl⟩ := List.mem_map.1 ha
  exact gen_ok_all_le hb x (hp.mem_iff.2 hx)

theorem gen_ok_iff : genLoop v B step (Bins.new 1) items = .ok b ↔
    (∀ x ∈ items, v x ≤ B) ∧ b = items.foldl step (Bins.new 1) := by
  constructor
  · intro hb
    have hall := gen_ok_all_le hb
    rw [genLoop_ok v B step items _ hall] at hb
    exact ⟨hall, (Except.ok.inj hb).symm⟩
  · rintro ⟨hall, rfl⟩
    exact genLoop_ok v B step items _ hall

theorem gen_run (hstep : ∀ b x, Step v B b x (step b x)) (hb : genLoop v B step (Bins.new 1) items = .ok b) :
    Run v B AnyRule items b.lists := by
  obtain ⟨hall, rfl⟩ := gen_ok_iff.1 hb
  exact run_foldl step hstep (fun b x hc => (hstep b x).lists hc) items hall

theorem gen_inv (hstep : ∀ b x, Step v B b x (step b x))
    (hb : genLoop v B step (Bins.new 1) items = .ok b) : Inv v B items b := by
  have hr := gen_run hstep hb
  obtain ⟨_, rfl⟩ := gen_ok_iff.1 hb
  exact inv_of_run hr (cons_foldl step hstep items)

theorem Inv.isPacking (h : Inv v B items b) : IsPacking v B items b :=
  ⟨h.perm, h.cons, h.le, h.nonempty⟩

theorem gen_isPacking (hstep : ∀ b x, Step v B b x (step b x)) (h : ∀ x ∈ items, v x ≤ B) :
    ∃ b, genLoop v B step (Bins.new 1) items = .ok b ∧ IsPacking v B items b :=
  ⟨_, genLoop_ok v B step items _ h, (gen_inv hstep (genLoop_ok v B step items _ h)).isPacking⟩

end generic

theorem isPacking_of_perm {v : α → Nat} {B : Nat} {l₁ l₂ : List α} {b : Bins α} (hp : l₁.Perm l₂)
    (h : IsPacking v B l₁ b) : IsPacking v B l₂ b := by
  obtain ⟨h1, h2, h3, h4⟩ := h
  refine ⟨h1.trans hp, h2, h3, fun hne => h4 ?_⟩
  intro h0
  subst h0
  exact hne hp.symm.eq_nil

section main
variable {v : α → Nat} {B : Nat} {items : List α} {b : Bins α}

/-! ### the four algorithms are the generic loop -/

theorem ffOnline_eq_gen : ffOnline v B items = genLoop v B (ffStep v B) (Bins.new 1) items :=
  ffLoop_eq v B _ _

theorem bfOnline_eq_gen : bfOnline v B items = genLoop v B (bfStep v B) (Bins.new 1) items :=
  bfLoop_eq v B _ _

theorem ffDecreasing_eq_gen : ffDecreasing v B items = genLoop v B (ffStep v B) (Bins.new 1) (sortDesc v items) :=
  ffLoop_eq v B _ _

theorem bfDecreasing_eq_gen : bfDecreasing v B items = genLoop v B (bfStep v B) (Bins.new 1) (sortDesc v items) :=
  bfLoop_eq v B _ _

theorem ffOnline_ok_iff : ffOnline v B items = .ok b ↔
    (∀ x ∈ items, v x ≤ B) ∧ b = items.foldl (ffStep v B) (Bins.new 1) := by
  rw [ffOnline_eq_gen]; exact gen_ok_iff

/-! ### feasibility (C03) -/

theorem ffOnline_isPacking (h : ∀ x ∈ items, v x ≤ B) :
    ∃ b, ffOnline v B items = .ok b ∧ IsPacking v B items b := by
  rw [ffOnline_eq_gen]
  exact gen_isPacking (ffStep_step v B) h

example : ∃ b, ffOnline id 10 [3, 8, 0, 2, 7, 3, 10] = .ok b ∧ IsPacking id 10 [3, 8, 0, 2, 7, 3, 10] b :=
  ffOnline_isPacking (by decide)

theorem bfOnline_isPacking (h : ∀ x ∈ items, v x ≤ B) :
    ∃ b, bfOnline v B items = .ok b ∧ IsPacking v B items b := by
  rw [bfOnline_eq_gen]
  exact gen_isPacking (bfStep_step v B) h

example : ∃ b, bfOnline id 10 [3, 8, 0, 2, 7, 3, 10] = .ok b ∧ IsPacking id 10 [3, 8, 0, 2, 7, 3, 10] b :=
  bfOnline_isPacking (by decide)

theorem ffDecreasing_isPacking (h : ∀ x ∈ items, v x ≤ B) :
    ∃ b, ffDecreasing v B items = .ok b ∧ IsPacking v B items b := by
  have hp := sortDesc_perm v items
  obtain ⟨b, hb, hpk⟩ := ffOnline_isPacking (v := v) (B := B) (items := sortDesc v items)
    (fun x hx => h x (hp.mem_iff.1 hx))
  exact ⟨b, hb, isPacking_of_perm hp hpk⟩

example : ∃ b, ffDecreasing id 10 [3, 8, 0, 2, 7, 3, 10] = .ok b ∧
    IsPacking id 10 [3, 8, 0, 2, 7, 3, 10] b :=
  ffDecreasing_isPacking (by decide)

theorem bfDecreasing_isPacking (h : ∀ x ∈ items, v x ≤ B) :
    ∃ b, bfDecreasing v B items = .ok b ∧ IsPacking v B items b := by
  have hp := sortDesc_perm v items
  obtain ⟨b, hb, hpk⟩ := bfOnline_isPacking (v := v) (B := B) (items := sortDesc v items)
    (fun x hx => h x (hp.mem_iff.1 hx))
  exact ⟨b, hb, isPacking_of_perm hp hpk⟩

example : ∃ b, bfDecreasing id 10 [3, 8, 0, 2, 7, 3, 10] = .ok b ∧
    IsPacking id 10 [3, 8, 0, 2, 7, 3, 10] b :=
  bfDecreasing_isPacking (by decide)

/-- the full invariant of a successful run (everything the other theorems project from) -/
theorem ffOnline_inv (h : ffOnline v B items = .ok b) : Inv v B items b := by
  rw [ffOnline_eq_gen] at h
  exact gen_inv (ffStep_step v B) h

theorem bfOnline_inv (h : bfOnline v B items = .ok b) : Inv v B items b := by
  rw [bfOnline_eq_gen] at h
  exact gen_inv (bfStep_step v B) h

theorem ff_run_foldl (hall : ∀ x ∈ items, v x ≤ B) :
    Run v B (FirstFit v B) items (items.foldl (ffStep v B) (Bins.new 1)).lists :=
  run_foldl _ (ffStep_step v B) (ffStep_lists v B) items hall

theorem ff_inv_foldl (hall : ∀ x ∈ items, v x ≤ B) : Inv v B items (items.foldl (ffStep v B) (Bins.new 1)) :=
  inv_of_run (ff_run_foldl hall) (cons_foldl _ (ffStep_step v B) items)

theorem ffOnline_run (h : ffOnline v B items = .ok b) : Run v B (FirstFit v B) items b.lists := by
  obtain ⟨hall, rfl⟩ := ffOnline_ok_iff.1 h
  exact ff_run_foldl hall

/-- a successful run is a packing — no hypothesis on the items needed -/
theorem ffOnline_ok_isPacking (h : ffOnline v B items = .ok b) : IsPacking v B items b :=
  (ffOnline_inv h).isPacking

theorem bfOnline_ok_isPacking (h : bfOnline v B items = .ok b) : IsPacking v B items b :=
  (bfOnline_inv h).isPacking

theorem ffDecreasing_ok_isPacking (h : ffDecreasing v B items = .ok b) : IsPacking v B items b :=
  isPacking_of_perm (sortDesc_perm v items) (ffOnline_ok_isPacking h)

theorem bfDecreasing_ok_isPacking (h : bfDecreasing v B items = .ok b) : IsPacking v B items b :=
  isPacking_of_perm (sortDesc_perm v items) (bfOnline_ok_isPacking h)

theorem ffOnline_lengths (h : ffOnline v B items = .ok b) : b.sums.length = b.lists.length :=
  (ffOnline_inv h).len

theorem bfOnline_lengths (h : bfOnline v B items = .ok b) : b.sums.length = b.lists.length :=
  (bfOnline_inv h).len

theorem ffDecreasing_lengths (h : ffDecreasing v B items = .ok b) : b.sums.length = b.lists.length :=
  ffOnline_lengths h

theorem bfDecreasing_lengths (h : bfDecreasing v B items = .ok b) : b.sums.length = b.lists.length :=
  bfOnline_lengths h

example : (⟨[6, 10, 6], [[6], [5, 5], [6]]⟩ : Bins Nat).sums.length = 3 :=
  ffOnline_lengths (v := id) (B := 10) (items := [6, 5, 6, 5]) rfl

example : (⟨[10, 9], [[6, 4], [5, 4]]⟩ : Bins Nat).sums.length = 2 :=
  bfOnline_lengths (v := id) (B := 10) (items := [6, 5, 4, 4]) rfl

/-! ### refusal (C19) -/

theorem ffOnline_error_iff : (∃ e, ffOnline v B items = .error e) ↔ ∃ x ∈ items, B < v x := by
  rw [ffOnline_eq_gen]
  exact gen_error_iff

theorem ffOnline_error_kind {e : Err} (h : ffOnline v B items = .error e) : e = Err.valueError := by
  rw [ffOnline_eq_gen] at h
  exact gen_error_kind h

theorem bfOnline_error_iff : (∃ e, bfOnline v B items = .error e) ↔ ∃ x ∈ items, B < v x := by
  rw [bfOnline_eq_gen]
  exact gen_error_iff

theorem bfOnline_error_kind {e : Err} (h : bfOnline v B items = .error e) : e = Err.valueError := by
  rw [bfOnline_eq_gen] at h
  exact gen_error_kind h

theorem ffDecreasing_error_iff : (∃ e, ffDecreasing v B items = .error e) ↔ ∃ x ∈ items, B < v x := by
  have hp := sortDesc_perm v items
  rw [ffDecreasing, ffOnline_error_iff]
  exact ⟨fun ⟨x, hx, h⟩ => ⟨x, hp.mem_iff.1 hx, h⟩, fun ⟨x, hx, h⟩ => ⟨x, hp.mem_iff.2 hx, h⟩⟩

theorem ffDecreasing_error_kind {e : Err} (h : ffDecreasing v B items = .error e) :
    e = Err.valueError :=
  ffOnline_error_kind h

theorem bfDecreasing_error_iff : (∃ e, bfDecreasing v B items = .error e) ↔ ∃ x ∈ items, B < v x := by
  have hp := sortDesc_perm v items
  rw [bfDecreasing, bfOnline_error_iff]
  exact ⟨fun ⟨x, hx, h⟩ => ⟨x, hp.mem_iff.1 hx, h⟩, fun ⟨x, hx, h⟩ => ⟨x, hp.mem_iff.2 hx, h⟩⟩

theorem bfDecreasing_error_kind {e : Err} (h : bfDecreasing v B items = .error e) :
    e = Err.valueError :=
  bfOnline_error_kind h

example : ∃ e, ffOnline id 10 [3, 11, 2] = .error e := ffOnline_error_iff.2 ⟨11, by decide, by decide⟩
example : ∃ e, bfOnline id 10 [3, 11, 2] = .error e := bfOnline_error_iff.2 ⟨11, by decide, by decide⟩
example : ∃ e, ffDecreasing id 10 [3, 11, 2] = .error e :=
  ffDecreasing_error_iff.2 ⟨11, by decide, by decide⟩
example : ∃ e, bfDecreasing id 10 [3, 11, 2] = .error e :=
  bfDecreasing_error_iff.2 ⟨11, by decide, by decide⟩
example : ∃ x ∈ [3, 11, 2], 10 < id x := ffOnline_error_iff.1 ⟨.valueError, rfl⟩
example : ∃ e, ffOnline id 10 [3, 11, 2] = .error e ∧ e = Err.valueError :=
  ⟨_, rfl, ffOnline_error_kind (rfl : ffOnline id 10 [3, 11, 2] = .error .valueError)⟩
example : ∃ e, bfOnline id 10 [3, 11, 2] = .error e ∧ e = Err.valueError :=
  ⟨_, rfl, bfOnline_error_kind (rfl : bfOnline id 10 [3, 11, 2] = .error .valueError)⟩
example : ∃ e, ffDecreasing id 10 [3, 11, 2] = .error e ∧ e = Err.valueError :=
  ⟨_, rfl, ffDecreasing_error_kind (rfl : ffDecreasing id 10 [3, 11, 2] = .error .valueError)⟩
example : ∃ e, bfDecreasing id 10 [3, 11, 2] = .error e ∧ e = Err.valueError :=
  ⟨_, rfl, bfDecreasing_error_kind (rfl : bfDecreasing id 10 [3, 11, 2] = .error .valueError)⟩

/-! ### the any-fit invariant (C09) -/

theorem ffOnline_anyfit (h : ffOnline v B items = .ok b) : AnyFit v B b := (ffOnline_inv h).af

theorem bfOnline_anyfit (h : bfOnline v B items = .ok b) : AnyFit v B b := (bfOnline_inv h).af

theorem ffDecreasing_anyfit (h : ffDecreasing v B items = .ok b) : AnyFit v B b := ffOnline_anyfit h

theorem bfDecreasing_anyfit (h : bfDecreasing v B items = .ok b) : AnyFit v B b := bfOnline_anyfit h

example : AnyFit id 10 (⟨[6, 10, 6], [[6], [5, 5], [6]]⟩ : Bins Nat) :=
  ffOnline_anyfit (items := [6, 5, 6, 5]) rfl
example : AnyFit id 10 (⟨[10, 9], [[6, 4], [5, 4]]⟩ : Bins Nat) :=
  bfOnline_anyfit (items := [6, 5, 4, 4]) rfl
example : AnyFit id 10 (⟨[10, 10, 2], [[6, 4], [5, 5], [2]]⟩ : Bins Nat) :=
  ffDecreasing_anyfit (items := [5, 4, 6, 2, 5]) rfl
example : AnyFit id 10 (⟨[10, 10, 2], [[6, 4], [5, 5], [2]]⟩ : Bins Nat) :=
  bfDecreasing_anyfit (items := [5, 4, 6, 2, 5]) rfl

end main

/-! ### the bin-count bound (C09) -/

theorem head_le_binSum (v : α → Nat) {l : List α} {x : α} (h : l.head? = some x) : v x ≤ binSum v l := by
  cases l with
  | nil => simp at h
  | cons y ys =>
    simp only [List.head?_cons, Option.some.injEq] at h
    subst h
    rw [binSum_cons]; omega

theorem anyfit_pairwise {v : α → Nat} {B : Nat} {b : Bins α} (hc : b.sums = b.lists.map (binSum v))
    (h : AnyFit v B b) : b.sums.Pairwise (fun a c => B < a + c) := by
  rw [hc, List.pairwise_map]
  refine ((anyfit_iff_pairwise hc).1 h).imp (fun ⟨x, hx, hlt⟩ => ?_)
  have := head_le_binSum v hx
  omega

/-- with at least two bins, any two bins of an any-fit packing together hold at least `B + 1` -/
theorem anyfit_two_total {v : α → Nat} {B : Nat} {items : List α} {b : Bins α}
    (hp : IsPacking v B items b) (ha : AnyFit v B b) (h2 : 2 ≤ b.lists.length) :
    b.lists.length * (B + 1) ≤ 2 * binSum v items := by
  -- `B < a + c` is `B + 1 ≤ a + c` by definition
  have := pairwise_sum_bound (B + 1) b.sums ((anyfit_pairwise hp.2.1 ha).imp (fun h => h))
    (by rw [hp.2.1, List.length_map]; exact h2)
  rwa [hp.2.1, sumL_map_binSum, binSum_perm v hp.1, List.length_map] at this

/-- with at least two bins, an any-fit packing fills the bins more than half on average -/
theorem anyfit_lt_two_total {v : α → Nat} {B : Nat} {items : List α} {b : Bins α}
    (hp : IsPacking v B items b) (ha : AnyFit v B b) (h2 : 2 ≤ b.lists.length) :
    b.lists.length * B < 2 * binSum v items := by
  have := anyfit_two_total hp ha h2
  rw [Nat.mul_succ] at this
  omega

example : 4 * 10 < 2 * binSum id [4, 4, 4, 6, 6, 6] :=
  anyfit_lt_two_total (b := ⟨[8, 10, 6, 6], [[4, 4], [4, 6], [6], [6]]⟩)
    (ffOnline_ok_isPacking (items := [4, 4, 4, 6, 6, 6]) rfl)
    (ffOnline_anyfit (items := [4, 4, 4, 6, 6, 6]) rfl) (by decide)

/-- `m` bins of capacity `B` hold at most `m * B` -/
theorem packing_lower_bound {B m : Nat} {vals : List Nat} (h : Packable B m vals) : sumL vals ≤ m * B := by
  obtain ⟨asg, hasg, hle⟩ := h
  have := Part.sumL_le_length_mul _ B 0 (fun s hs => hle s hs)
  rw [sumsOf_length, sumL_sumsOf hasg] at this
  omega

example : sumL [4, 4, 4, 6, 6, 6] ≤ 3 * 10 :=
  packing_lower_bound ⟨[0, 1, 2, 0, 1, 2], ⟨rfl, by decide⟩, by decide⟩

/-- an any-fit packing with at least two bins uses fewer than twice the optimal number of bins -/
theorem anyfit_lt_two_opt {v : α → Nat} {B m : Nat} {items : List α} {b : Bins α}
    (hp : IsPacking v B items b) (ha : AnyFit v B b) (h2 : 2 ≤ b.lists.length)
    (hm : Packable B m (items.map v)) : b.lists.length < 2 * m := by
  have h1 := anyfit_lt_two_total hp ha h2
  have h3 : binSum v items ≤ m * B := packing_lower_bound hm
  have h4 : b.lists.length * B < (2 * m) * B := by
    rw [Nat.mul_assoc]; omega
  exact Nat.lt_of_mul_lt_mul_right h4

/-- first-fit uses 4 bins on this input, the optimum is 3 -/
example : (4 : Nat) < 2 * 3 :=
  anyfit_lt_two_opt (v := id) (B := 10) (items := [4, 4, 4, 6, 6, 6])
    (b := ⟨[8, 10, 6, 6], [[4, 4], [4, 6], [6], [6]]⟩)
    (ffOnline_ok_isPacking (items := [4, 4, 4, 6, 6, 6]) rfl)
    (ffOnline_anyfit (items := [4, 4, 4, 6, 6, 6]) rfl) (by decide)
    ⟨[0, 1, 2, 0, 1, 2], ⟨rfl, by decide⟩, by decide⟩

end Prtpy.Fit
