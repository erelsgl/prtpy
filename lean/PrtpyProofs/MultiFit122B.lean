/-
  PrtpyProofs.MultiFit122B — property C08, multifit's `1.22` ratio (Coffman, Garey, Johnson 1978): the ratio
  `61/50 + 2^−it` for inputs without an item in the band, and facts about the items of a counter-example.

  * The band depending on `k` (`MultiFit122.ffd_fold_fits_of_no_band_k` of MultiFit122.lean, from `ce_volume_mono` and
    `tight_count`): `multifit_ratio_122_partial_k` (`61/50` for every `k` when no item lies strictly
    between `0.22·k/(k−1)·OPT` and `0.26·OPT`), `MultiFit122.multifit_ratio_122_partial`.
  * `tight_two_big`: a bin with two items holds two *big* items (`> B − T + a`); PrtpyProofs.MultiFit122C counts
    these against *tiny* items.
  * Stated for their own sake, not used further: `irred_not_dominated` (no bin of a `T`-schedule of an irreducible
    counter-example, with any number of items, is dominated by a bin of the packing), `strong_later_nofit`,
    `opt_bin_one_big`, `big_companions`.
-/
import Mathlib.Tactic.Linarith
import PrtpyProofs.Feasible
import PrtpyProofs.MultiFit
import PrtpyProofs.MultiFit122
open Prtpy

namespace Prtpy.MultiFit122B
open Prtpy.LPT43 Prtpy.MaxMin Prtpy.MaxMin2 Prtpy.MultiFit122

variable {α : Type}

/-! ## Domination and the full rule -/

/-- No bin of a `T`-schedule of an irreducible counter-example is dominated by a bin of the packing. -/
theorem irred_not_dominated {v : α → Nat} {T B k : Nat} {LL : List (List α)} {a : α}
    (h : Irred v T B k LL a) (Q : List (List Nat)) (hQk : Q.length = k)
    (hQp : Q.flatten.Perm ((LL.flatten ++ [a]).map v)) (hQ : ∀ l ∈ Q, sumL l ≤ T) {O : List Nat}
    (hO : O ∈ Q) {j : Nat} {l : List α} (hl : LL[j]? = some l) {L' L'' : List Nat}
    (hL : (l.map v).Perm (L' ++ L'')) (hdom : List.Forall₂ (fun o x => o ≤ x) O L') : False := by
  obtain ⟨hs, hirr⟩ := h
  cases k with
  | zero => exact absurd hs.toCE.pos (Nat.lt_irrefl _)
  | succ k =>
    exact hirr j (List.getElem?_eq_some_iff.1 hl).1
      (hs.eraseIdx (ce_drop_of_dominated hs.toCE Q hQk hQp hQ hO hl hL hdom))

/-- an item of a later bin does not fit into an earlier bin as that bin stands at the end of the run -/
theorem strong_later_nofit {v : α → Nat} {B : Nat} {Ls : List (List α)} (h : FFDStrong v B Ls) {i j : Nat}
    {li lj : List α} {p : α} (hij : i < j) (hli : Ls[i]? = some li) (hlj : Ls[j]? = some lj) (hp : p ∈ lj) :
    B < binSum v li + v p :=
  h.rule_prefix hij (suf := []) (by simpa using hli) hlj hp (fun _ hy => absurd hy List.not_mem_nil)

/-! ## Classes of items in a tight counter-example

A value `x` is *big* if `B + a < x + T`: the items of a bin with exactly two items are. -/

theorem tight_two_big {v : α → Nat} {T B k : Nat} {LL : List (List α)} {a : α} (h : Tight v T B k LL a)
    {l : List α} (hl : l ∈ LL) (h2 : l.length = 2) {p : α} (hp : p ∈ l) : B + v a < v p + T := by
  have h1 := h.nofit l hl
  match l, h2, hl, hp, h1 with
  | [x, y], _, hl, hp, h1 =>
    have hx := h.top x (List.mem_flatten.2 ⟨_, hl, by simp⟩)
    have hy := h.top y (List.mem_flatten.2 ⟨_, hl, by simp⟩)
    simp only [binSum, List.map_cons, List.map_nil, sumL] at h1
    simp only [List.mem_cons, List.not_mem_nil, or_false] at hp
    rcases hp with rfl | rfl <;> omega

/-- for `B ≥ 6/5 · T` two big values together with `a` exceed `T` (as `a > B − T`): a bin of a `T`-schedule with at
    least three values holds at most one big value -/
theorem opt_bin_one_big {v : α → Nat} {T B k : Nat} {LL : List (List α)} {a : α} (h : CE v T B k LL a)
    (h6 : 6 * T ≤ 5 * B) {x y : Nat} {rest : List Nat} {z : Nat} (hz : v a ≤ z)
    (hsum : sumL (x :: y :: z :: rest) ≤ T) : ¬ (B + v a < x + T ∧ B + v a < y + T) := by
  rintro ⟨hx, hy⟩
  have := ce_large h
  simp only [sumL] at hsum
  omega

/-- the companions of a big value in a bin of a `T`-schedule sum to less than `2T − B − a` -/
theorem big_companions {T B a x : Nat} {rest : List Nat} (hx : B + a < x + T)
    (hsum : sumL (x :: rest) ≤ T) : sumL rest + B + a < 2 * T := by
  simp only [sumL] at hsum
  omega

/-! ## The band, depending on `k`

The sharp volume bound narrows the band from below: the failing item of a counter-example with at most `k` bins
satisfies `k·(B + 1 − T) ≤ (k − 1)·a`.  For `B = 1.22·T` the band is `0.22·k/(k−1)·T < a < 0.26·T`: empty for
`k ≤ 6`, `(0.2567·T, 0.26·T)` for `k = 7`, `(0.2514·T, 0.26·T)` for `k = 8`. -/

section BandK
variable (v : α → Nat)

/-- **C08: multifit, `61/50 + 2^−it`, for inputs without an item strictly between `0.22·k/(k−1)·OPT` and
    `0.26·OPT`** (the first alternative of `hband` reads `(k − 1)·x ≤ 0.22·k·OPT`).  For `k ≤ 6` the hypothesis
    always holds.  Not proved: the bound without `hband` for `k ≥ 12`, that is, the case analysis of Coffman, Garey
    and Johnson for a failing item in the band, where the bins of the optimal schedule hold up to four items
    (`k ≤ 11`: `MultiFit122C.multifit_ratio_122_k11`). -/
theorem multifit_ratio_122_partial_k {k : Nat} {items : List α} {it : Nat} {b : Bins α} (hk : 0 < k)
    {opt : Int} (hopt : IsOptimalValue .minLargest k (items.map v) opt)
    (hband : ∀ x ∈ items, 50 * (k : Int) * (v x : Int) ≤ 11 * (k : Int) * opt + 50 * (v x : Int) ∨
      13 * opt ≤ 50 * (v x : Int))
    (h : multifit v k items it = .ok b) :
    ((maxL b.sums : Nat) : Rat) ≤ (61 / 50 + 1 / 2 ^ it) * opt := by
  refine multifit_ratio_of_fold_fits v hk hopt (p := 61) (q := 50) (by decide) (by decide) (by norm_num) ?_ h
  intro T B e hp hTB hB hall
  subst e
  refine ffd_fold_fits_of_no_band_k v hk hTB _ (Part.sortDesc_sorted v items) hp hall fun x hx => ?_
  rcases hband x ((Part.sortDesc_perm v items).mem_iff.1 hx) with h1 | h1
  · left
    have h1' : 50 * k * v x ≤ 11 * k * T + 50 * v x := by exact_mod_cast h1
    have h2 : k * (61 * T + 1) ≤ k * (50 * (B + 1)) := Nat.mul_le_mul_left k hB
    rw [Nat.mul_assoc 50, Nat.mul_assoc 11] at h1'
    rw [Nat.mul_add, Nat.mul_left_comm k 61, Nat.mul_one, Nat.mul_left_comm k 50] at h2
    omega
  · have h1' : 13 * T ≤ 50 * v x := by exact_mod_cast h1
    have hxT := packable_item_le hp (List.mem_map_of_mem hx)
    rcases Nat.eq_zero_or_pos T with hT | hT
    · left
      have hx0 : v x = 0 := by omega
      have := Nat.mul_pos hk (Nat.succ_pos B)
      rw [hT, hx0]
      omega
    · right
      omega

end BandK

/-! ## Non-vacuity -/

/-- domination with three values: `[2, 2, 2] ≤ [3, 2, 2]` pointwise; the values `[3, 2, 2] ++ [2, 2, 1]` are
    scheduled as `[2, 2, 2] ++ [3, 2, 1]`, and the bin of `[3, 2, 1]` takes `[2, 2, 1]` -/
example : Packable 6 1 [2, 2, 1] :=
  packable_of_dom (O := [2, 2, 2]) (L' := [3, 2, 2]) (L'' := []) (X := [3, 2, 1])
    (List.Forall₂.cons (by decide) (List.Forall₂.cons (by decide) (List.Forall₂.cons (by decide) List.Forall₂.nil)))
    (partition_packable [[3, 2, 1]] rfl (by decide) (by decide)) (by decide)

/-- in the tight counter-example `[3, 3], [2, 2, 2]` / `2` (`T = B = 7`) the bin `[3, 3]` holds two big items -/
example : 7 + id 2 < id 3 + 7 ∧ 7 + id 2 < id 3 + 7 :=
  ⟨tight_two_big stight_example.toTight (l := [3, 3]) (by simp) rfl (by simp),
    tight_two_big stight_example.toTight (l := [3, 3]) (by simp) rfl (by simp)⟩

/-- dropping the bin `[6]` of the packing, which dominates the bin `[6]` of the schedule -/
example : CE id 7 7 2 (([[6], [3, 3], [2, 2, 2]] : List (List Nat)).eraseIdx 0) 2 := by
  have hs : SCE id 7 7 3 [[6], [3, 3], [2, 2, 2]] 2 := by
    refine ⟨rfl, ?_, by decide, by decide, by decide, ?_⟩
    · have := ffdStrong_fold (v := id) (B := 7) [6, 3, 3, 2, 2, 2] (by decide) (by decide)
      exact this
    · exact partition_packable [[6], [3, 2, 2], [3, 2, 2]] rfl (by decide) (by decide)
  exact ce_drop_of_dominated hs.toCE [[6], [3, 2, 2], [3, 2, 2]] rfl (by decide) (by decide) (O := [6])
    (by decide) (j := 0) (l := [6]) rfl (L' := [6]) (L'' := []) (by decide)
    (List.Forall₂.cons (by decide) List.Forall₂.nil)

/-- seven bins, `OPT = 100`: the items `26` are not below `0.26·OPT`, the items `25` satisfy
    `50·7·25 = 8750 ≤ 11·7·100 + 50·25 = 8950` (they are below `0.22·7/6·OPT = 25.67`), although `25` lies in
    the band `(22, 26)` of `multifit_ratio_122_partial` -/
example : ∀ x ∈ [48, 48, 26, 26, 25, 25], 50 * ((7 : Nat) : Int) * ((id x : Nat) : Int) ≤
    11 * ((7 : Nat) : Int) * 100 + 50 * ((id x : Nat) : Int) ∨ 13 * (100 : Int) ≤ 50 * ((id x : Nat) : Int) := by
  decide

example : ∃ b, multifit id 2 [3, 3, 2, 2, 2] 10 = .ok b ∧
    ((maxL b.sums : Nat) : Rat) ≤ (61 / 50 + 1 / 2 ^ 10) * ((6 : Int) : Rat) := by
  obtain ⟨b, h, _⟩ := Part.multifit_perm (v := id) (k := 2) (items := [3, 3, 2, 2, 2]) (it := 10)
    (by decide) (by decide)
  exact ⟨b, h, multifit_ratio_122_partial_k id (by decide) opt_33222 (by decide) h⟩

/-- capacity `61` for `T = 50`, two bins: the band for `k = 2` is empty (`2·(62 − 50) > x` for every `x ≤ 16`,
    and `50 < 4x`, `100 ≤ 61 + 3x` for `x ≥ 13`) -/
example : ([20, 20, 15, 15, 15, 15].foldl (ffStep id 61) (Bins.new 1)).lists.length ≤ 2 :=
  ffd_fold_fits_of_no_band_k id (by decide) (T := 50) (by decide) _ (by decide)
    (partition_packable [[20, 15, 15], [20, 15, 15]] rfl (by decide) (by decide)) (by decide)
    (by simp)

end Prtpy.MultiFit122B

/-! ## Special cases

`Prtpy.MultiFit122.multifit_ratio_122_partial` stands here, behind the theorem it follows from. -/

namespace Prtpy.MultiFit122
open Prtpy.LPT43 Prtpy.MaxMin Prtpy.MaxMin2 Prtpy.MultiFit122B

variable {α : Type}

section Multifit
variable (v : α → Nat)

/-- C08: multifit, `61/50 + 2^−it`, the bound claimed by the documentation, for inputs without an item strictly
    between `0.22·OPT` and `0.26·OPT` (the band of `ce_band`); a special case of
    `MultiFit122B.multifit_ratio_122_partial_k`, where what is not proved is said. -/
theorem multifit_ratio_122_partial {k : Nat} {items : List α} {it : Nat} {b : Bins α} (hk : 0 < k) {opt : Int}
    (hopt : IsOptimalValue .minLargest k (items.map v) opt)
    (hband : ∀ x ∈ items, 50 * (v x : Int) ≤ 11 * opt ∨ 13 * opt ≤ 50 * (v x : Int))
    (h : multifit v k items it = .ok b) :
    ((maxL b.sums : Nat) : Rat) ≤ (61 / 50 + 1 / 2 ^ it) * opt := by
  refine multifit_ratio_122_partial_k v hk hopt (fun x hx => (hband x hx).imp_left fun h1 => ?_) h
  have h2 := mul_le_mul_of_nonneg_left h1 (Int.natCast_nonneg k)
  have h3 : (0 : Int) ≤ (v x : Int) := Int.natCast_nonneg _
  linarith

end Multifit

example : ∃ b, multifit id 2 [3, 3, 2, 2, 2] 10 = .ok b ∧
    ((maxL b.sums : Nat) : Rat) ≤ (61 / 50 + 1 / 2 ^ 10) * ((6 : Int) : Rat) := by
  obtain ⟨b, h, _⟩ := Part.multifit_perm (v := id) (k := 2) (items := [3, 3, 2, 2, 2]) (it := 10)
    (by decide) (by decide)
  exact ⟨b, h, multifit_ratio_122_partial id (by decide) opt_33222 (by decide) h⟩

end Prtpy.MultiFit122
