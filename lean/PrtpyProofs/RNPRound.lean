/-
  PrtpyProofs.RNPRound — one round of `rec_generate_sets` of recursive number partitioning, with the recursive call
  as a parameter (`child`).  `rnpRec` (before F10) and `rnpRecF` (after) are both "the round applied to the
  recursion with one unit of fuel less" (`rnpRec_succ`, `rnpRecF_succ`); they differ only in the score `key` that
  the even round gives a candidate.  Every property of either recursion is a property of `oddLevel child`,
  `evenLevel key child` under a hypothesis on `child`, proved once.  The odd level is a traversal of the in/ex tree
  (`oddLevel_eq_treeFold`), so its properties come from the rules for `treeFold` that SNP uses.
-/
import PrtpyProofs.SNP

namespace Prtpy.RNPRound
open Prtpy

variable {α : Type}

/-- a recursive call as a round sees it: prior bins, incumbent, items -/
abbrev Call (α : Type) := Bins α → Bins α → List α → Except Err (Bins α)

/-- the loop body of the odd round -/
def oddStep (v : α → Nat) [BEq α] (child : Call α) (prior : Bins α) (items : List α)
    (best : Bins α) (sub : List α) : Except Err (Bins α) :=
  let prior2 : Bins α := ⟨prior.sums ++ [binSum v sub], prior.lists ++ [sub]⟩
  match child prior2 best (findDiff items sub) with
  | .error e => .error e
  | .ok nb =>
    if spread (nb.sums ++ prior2.sums) < spread best.sums then .ok (prior2.concat nb) else .ok best

/-- the odd round: one sub-collection inside the window fixed at creation becomes a prior bin -/
def oddLevel (v : α → Nat) [BEq α] (child : Call α) (cur : Nat) (prior best : Bins α) (items : List α) :
    Except Err (Bins α) :=
  foldE (oddStep v child prior items) best
    (genTree v cur (((binSum v items : Nat) : Int) - ((cur : Int) - 1) * ((spread best.sums : Nat) : Int))
      ((binSum v items : Nat) : Int) items)

theorem oddLevel_eq_treeFold (v : α → Nat) [BEq α] (child : Call α) (cur : Nat) (prior best : Bins α)
    (items : List α) :
    oddLevel v child cur prior best items =
      treeFold v cur ((binSum v items : Nat) : Int)
        (fun _ => ((binSum v items : Nat) : Int) - ((cur : Int) - 1) * ((spread best.sums : Nat) : Int))
        (oddStep v child prior items) best [] (sortDesc v items) :=
  (SNPProofs.treeFold_const ..).symm

/-- the loop body of the even round; `key` scores the sums of a candidate -/
def evenStep (key : List Nat → Nat) (child : Bins α → List α → Except Err (Bins α))
    (st : Bins α × Nat) (top : Bins α) : Except Err (Bins α × Nat) :=
  match child st.1 (top.lists.getD 0 []) with
  | .error e => .error e
  | .ok nb1 =>
    match child st.1 (top.lists.getD 1 []) with
    | .error e => .error e
    | .ok nb2 =>
      let d := key (nb1.sums ++ nb2.sums)
      if d < st.2 then .ok (nb1.concat nb2, d) else .ok st

/-- the even round: every 2-way split below the incumbent's spread, both halves by `child` -/
def evenLevel (v nm : α → Nat) [BEq α] (fuel : Nat) (key : List Nat → Nat)
    (child : Bins α → List α → Except Err (Bins α)) (best : Bins α) (items : List α) : Except Err (Bins α) :=
  match (if items.isEmpty then .error .valueError
         else ckkGen v nm 2 true items (some (spread best.sums)) fuel) with
  | .error e => .error e
  | .ok tops => (foldE (evenStep key child) (best, spread best.sums) tops).map (·.1)

/-- one round, as a function of the recursion below it -/
def round (v nm : α → Nat) [BEq α] (c : Bool) (fuel : Nat) (key : Bins α → List Nat → Nat)
    (below : Nat → Call α) (cur : Nat) : Call α := fun prior best items =>
  if cur == 2 then ckk2 v nm c items fuel
  else if cur % 2 == 1 then oddLevel v (below (cur - 1)) cur prior best items
  else evenLevel v nm fuel (key prior) (below (cur / 2) prior) best items

theorem rnpRecF_succ (v nm : α → Nat) [BEq α] (c : Bool) (fuel rf cur : Nat) (prior best : Bins α)
    (items : List α) :
    rnpRecF v nm c fuel (rf + 1) cur prior best items
      = round v nm c fuel (fun prior s => spread (s ++ prior.sums)) (rnpRecF v nm c fuel rf) cur
          prior best items := by
  rw [rnpRecF]; rfl

theorem rnpRec_succ (v nm : α → Nat) [BEq α] (c : Bool) (fuel rf cur : Nat) (prior best : Bins α)
    (items : List α) :
    rnpRec v nm c fuel (rf + 1) cur prior best items
      = round v nm c fuel (fun _ => spread) (rnpRec v nm c fuel rf) cur prior best items := by
  rw [rnpRec]; rfl

/-! ### the rounds by the number of bins -/

theorem round_two (v nm : α → Nat) [BEq α] (c : Bool) (fuel : Nat) (key : Bins α → List Nat → Nat)
    (below : Nat → Call α) (prior best : Bins α) (items : List α) :
    round v nm c fuel key below 2 prior best items = ckk2 v nm c items fuel := rfl

theorem round_odd (v nm : α → Nat) [BEq α] (c : Bool) (fuel : Nat) (key : Bins α → List Nat → Nat)
    (below : Nat → Call α) {cur : Nat} (hodd : cur % 2 = 1) (prior best : Bins α) (items : List α) :
    round v nm c fuel key below cur prior best items = oddLevel v (below (cur - 1)) cur prior best items := by
  have h2 : (cur == 2) = false := by
    cases hc : cur == 2 with
    | false => rfl
    | true => have := eq_of_beq hc; omega
  simp only [round, h2, hodd, BEq.rfl, Bool.false_eq_true, if_false, if_true]

theorem round_four (v nm : α → Nat) [BEq α] (c : Bool) (fuel : Nat) (key : Bins α → List Nat → Nat)
    (below : Nat → Call α) (prior best : Bins α) (items : List α) :
    round v nm c fuel key below 4 prior best items
      = evenLevel v nm fuel (key prior) (below 2 prior) best items := rfl

/-- with two bins both recursions are the 2-way search -/
theorem rnpRec_two_eq (v nm : α → Nat) [BEq α] (c : Bool) (fuel rf : Nat) :
    rnpRec v nm c fuel (rf + 1) 2 = rnpRecF v nm c fuel (rf + 1) 2 := by
  funext prior best items
  rw [rnpRec_succ, rnpRecF_succ]
  rfl

/-- Up to four bins the even round only runs without prior bins, where the scores before and after F10 agree: the code
    before F10 and the repaired code are the same function. -/
theorem rnp_eq_rnpF (v nm : α → Nat) [BEq α] {k : Nat} (hk2 : 2 ≤ k) (hk4 : k ≤ 4) (c : Bool) (items : List α)
    (fuel : Nat) : rnp v nm k c items fuel = rnpF v nm k c items fuel := by
  unfold rnp rnpF
  cases kk v k items with
  | error e => rfl
  | ok best =>
    simp only
    split
    · rfl
    · rw [if_neg (by omega), if_neg (by omega), rnpRec_succ, rnpRecF_succ]
      obtain rfl | rfl | rfl : k = 2 ∨ k = 3 ∨ k = 4 := by omega
      · rfl
      · rw [round_odd _ _ _ _ _ _ rfl, round_odd _ _ _ _ _ _ rfl, rnpRec_two_eq]
      · rw [round_four, round_four, rnpRec_two_eq]
        simp only [List.append_nil]

/-! ### what a successful pass of a loop body says -/

theorem oddStep_cases {v : α → Nat} [BEq α] {child : Call α} {prior : Bins α} {items : List α}
    {st st' : Bins α} {sub : List α} (h : oddStep v child prior items st sub = .ok st') :
    ∃ nb, child ⟨prior.sums ++ [binSum v sub], prior.lists ++ [sub]⟩ st (findDiff items sub) = .ok nb ∧
      ((spread (nb.sums ++ (prior.sums ++ [binSum v sub])) < spread st.sums ∧
          st' = Bins.concat ⟨prior.sums ++ [binSum v sub], prior.lists ++ [sub]⟩ nb) ∨
        (¬ spread (nb.sums ++ (prior.sums ++ [binSum v sub])) < spread st.sums ∧ st' = st)) := by
  unfold oddStep at h
  simp only [] at h
  cases hr : child ⟨prior.sums ++ [binSum v sub], prior.lists ++ [sub]⟩ st (findDiff items sub) with
  | error e => rw [hr] at h; cases h
  | ok nb =>
    rw [hr] at h
    simp only at h
    refine ⟨nb, rfl, ?_⟩
    split at h
    · rename_i hlt
      cases h
      exact Or.inl ⟨hlt, rfl⟩
    · rename_i hlt
      cases h
      exact Or.inr ⟨hlt, rfl⟩

/-- the spread never grows, and afterwards it is at most that of the candidate -/
theorem oddStep_spec {v : α → Nat} [BEq α] {child : Call α} {prior : Bins α} {items : List α}
    {st st' : Bins α} {sub : List α} (h : oddStep v child prior items st sub = .ok st') :
    ∃ nb, child ⟨prior.sums ++ [binSum v sub], prior.lists ++ [sub]⟩ st (findDiff items sub) = .ok nb ∧
      spread st'.sums ≤ spread st.sums ∧
      spread st'.sums ≤ spread (nb.sums ++ (prior.sums ++ [binSum v sub])) := by
  obtain ⟨nb, hr, ⟨hlt, rfl⟩ | ⟨hge, rfl⟩⟩ := oddStep_cases h
  · have e : spread (Bins.concat ⟨prior.sums ++ [binSum v sub], prior.lists ++ [sub]⟩ nb).sums
        = spread (nb.sums ++ (prior.sums ++ [binSum v sub])) := SNPProofs.spread_perm List.perm_append_comm
    rw [e]
    exact ⟨nb, hr, Nat.le_of_lt hlt, Nat.le_refl _⟩
  · exact ⟨nb, hr, Nat.le_refl _, Nat.not_lt.1 hge⟩

theorem evenStep_cases {key : List Nat → Nat} {child : Bins α → List α → Except Err (Bins α)}
    {st st' : Bins α × Nat} {top : Bins α} (h : evenStep key child st top = .ok st') :
    ∃ nb1 nb2, child st.1 (top.lists.getD 0 []) = .ok nb1 ∧ child st.1 (top.lists.getD 1 []) = .ok nb2 ∧
      ((key (nb1.sums ++ nb2.sums) < st.2 ∧ st' = (nb1.concat nb2, key (nb1.sums ++ nb2.sums))) ∨
        (¬ key (nb1.sums ++ nb2.sums) < st.2 ∧ st' = st)) := by
  unfold evenStep at h
  cases h1 : child st.1 (top.lists.getD 0 []) with
  | error e => rw [h1] at h; cases h
  | ok nb1 =>
    rw [h1] at h
    simp only at h
    cases h2 : child st.1 (top.lists.getD 1 []) with
    | error e => rw [h2] at h; cases h
    | ok nb2 =>
      rw [h2] at h
      simp only at h
      refine ⟨nb1, nb2, rfl, rfl, ?_⟩
      split at h
      · rename_i hlt
        cases h
        exact Or.inl ⟨hlt, rfl⟩
      · rename_i hlt
        cases h
        exact Or.inr ⟨hlt, rfl⟩

theorem evenLevel_ok {v nm : α → Nat} [BEq α] {fuel : Nat} {key : List Nat → Nat}
    {child : Bins α → List α → Except Err (Bins α)} {best r : Bins α} {items : List α}
    (h : evenLevel v nm fuel key child best items = .ok r) :
    ∃ tops st, items ≠ [] ∧ ckkGen v nm 2 true items (some (spread best.sums)) fuel = .ok tops ∧
      foldE (evenStep key child) (best, spread best.sums) tops = .ok st ∧ r = st.1 := by
  unfold evenLevel at h
  by_cases hemp : items.isEmpty = true
  · rw [if_pos hemp] at h; cases h
  · rw [if_neg hemp] at h
    cases hg : ckkGen v nm 2 true items (some (spread best.sums)) fuel with
    | error e => rw [hg] at h; cases h
    | ok tops =>
      rw [hg] at h
      simp only at h
      cases hf : foldE (evenStep key child) (best, spread best.sums) tops with
      | error e => rw [hf] at h; cases h
      | ok st =>
        rw [hf] at h
        cases h
        exact ⟨tops, st, by simpa using hemp, rfl, hf, rfl⟩

/-! ### validity (C01), either manager (`Answer v p`): every recursion whose step is `round` -/

section Validity
open Prtpy.SNPProofs
variable {v nm : α → Nat} [BEq α]

/-- what the rounds need of the call below them, with `n` bins: a valid answer for its items, or its incumbent -/
def ChildValid (v : α → Nat) (p : Bool) (n : Nat) (child : Call α) : Prop :=
  ∀ (prior2 best' : Bins α) (rest : List α) (nb : Bins α), child prior2 best' rest = .ok nb →
    Answer v p rest n nb ∨ nb = best'

omit [BEq α] in
theorem top_lists_perm {items : List α} {top : Bins α} (h : IsPartition v items 2 top) :
    (top.lists.getD 0 [] ++ top.lists.getD 1 []).Perm items := by
  obtain ⟨tp, tl, _⟩ := h
  match hl : top.lists, tl with
  | [a, b], _ =>
    rw [hl] at tp
    simpa using tp

/-- four bins: the incumbent, or the concatenation of two valid 2-way answers for the two halves of a yield -/
theorem evenLevel_valid {p : Bool} (hgen : CkkGenValid v nm) {fuel : Nat} {key : List Nat → Nat}
    {child : Bins α → List α → Except Err (Bins α)}
    (h2 : ∀ b its two, child b its = .ok two → Answer v p its 2 two) {best r : Bins α} {items : List α}
    (h : evenLevel v nm fuel key child best items = .ok r) : Answer v p items 4 r ∨ r = best := by
  obtain ⟨tops, st, hne, hg, hf, rfl⟩ := evenLevel_ok h
  have htops := hgen 2 items _ fuel tops (by omega) hne hg
  refine foldE_inv (fun st : Bins α × Nat => Answer v p items 4 st.1 ∨ st.1 = best) _ tops ?_
    (best, spread best.sums) st (Or.inr rfl) hf
  intro s top s' htop hs hstep
  obtain ⟨nb1, nb2, h1, h2', ⟨_, rfl⟩ | ⟨_, rfl⟩⟩ := evenStep_cases hstep
  · left
    exact answer_concat (h2 _ _ _ h1) (h2 _ _ _ h2') (top_lists_perm (htops top htop)) rfl
  · exact hs

/-- the odd round: one sub-collection is split off into a new prior bin, the rest is partitioned by `child`; the
    result is the incumbent or a valid answer that includes the prior bins -/
theorem oddLevel_valid [LawfulBEq α] {p : Bool} {cur : Nat} {child : Call α} (hrec : ChildValid v p (cur - 1) child)
    (hcur : 0 < cur) {prior best r : Bins α} {items : List α} (hpc : prior.Consistent v)
    (h : oddLevel v child cur prior best items = .ok r) :
    Answer v p (prior.lists.flatten ++ items) (prior.lists.length + cur) r ∨ r = best := by
  rw [oddLevel_eq_treeFold] at h
  refine treeFold_inv
    (fun b : Bins α => Answer v p (prior.lists.flatten ++ items) (prior.lists.length + cur) b ∨ b = best)
    _ _ _ _ _ [] _ ?_ best r (Or.inr rfl) h
  intro s sub s' hs hsub hstep
  rw [List.nil_append] at hstep
  obtain ⟨nb, hr, ⟨hlt, rfl⟩ | ⟨_, rfl⟩⟩ := oddStep_cases hstep
  · rcases hrec _ _ _ _ hr with hnb | rfl
    · left
      refine answer_concat (answer_prior (consistent_snoc hpc sub)) hnb ?_
        (by simp only [List.length_append, List.length_singleton]; omega)
      simp only [List.flatten_append, List.flatten_singleton, List.append_assoc]
      exact (findDiff_perm hsub (Part.sortDesc_perm v items)).append_left _
    · -- the call below returned its incumbent `s`: that cannot be strictly better than `s`
      exact absurd hlt (Nat.not_lt.2 (spread_le_append _ _))
  · exact hs

/-- **Every recursion whose step is `round`** (`rnpRec`, `rnpRecF`), two to five bins at top level, either manager,
    whatever the score of the even round: a valid answer, given that the 2-way search gives valid answers. -/
theorem rounds_valid [LawfulBEq α] {c p : Bool} {fuel : Nat}
    (h2 : ∀ its two, ckk2 v nm c its fuel = .ok two → Answer v p its 2 two) (hgen : CkkGenValid v nm)
    {key : Bins α → List Nat → Nat} {R : Nat → Nat → Call α}
    (hR : ∀ rf cur prior best items,
      R (rf + 1) cur prior best items = round v nm c fuel key (R rf) cur prior best items)
    {k : Nat} (hk2 : 2 ≤ k) (hk5 : k ≤ 5) {items : List α} {best b : Bins α} (hbest : Answer v p items k best)
    (h : R (k + 1) k ⟨[], []⟩ best items = .ok b) : Answer v p items k b := by
  have two : ∀ rf q b' its two, R (rf + 1) 2 q b' its = .ok two → Answer v p its 2 two := by
    intro rf q b' its two hr
    rw [hR, round_two] at hr
    exact h2 _ _ hr
  have four : ChildValid v p 4 (R 5 4) := by
    intro q b' rest nb hr
    rw [hR, round_four] at hr
    exact evenLevel_valid hgen (two 3 q) hr
  have hnil : (⟨[], []⟩ : Bins α).Consistent v := rfl
  have fin : ∀ {r}, Answer v p ([] ++ items) (0 + k) r ∨ r = best → Answer v p items k r := fun hr =>
    hr.elim (fun h => by simpa using h) (fun e => e ▸ hbest)
  rw [hR] at h
  obtain rfl | rfl | rfl | rfl : k = 2 ∨ k = 3 ∨ k = 4 ∨ k = 5 := by omega
  · exact two 2 _ _ _ _ (by rw [hR]; exact h)
  · rw [round_odd _ _ _ _ _ _ rfl] at h
    exact fin (oddLevel_valid (fun _ _ _ _ hr => Or.inl (two 2 _ _ _ _ hr)) (by omega) hnil h)
  · rw [round_four] at h
    exact (evenLevel_valid hgen (two 3 _) h).elim id (fun e => e ▸ hbest)
  · rw [round_odd _ _ _ _ _ _ rfl] at h
    exact fin (oddLevel_valid four (by omega) hnil h)

end Validity

end Prtpy.RNPRound
