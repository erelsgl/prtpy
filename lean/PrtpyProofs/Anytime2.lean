/-
  PrtpyProofs.Anytime2 — property C11 (anytime behaviour) under a counting clock.  CBLDM: the run with a cut is a
  prefix of every run with a later cut, so interrupting later never gives a worse result and the unlimited run is the
  limit of the cuts.  Complete greedy: the first incumbent it ever installs has the bin sums of the greedy (LPT)
  partition (with heuristic 3 and min-largest: its largest sum).
  "Greedy" is the model's `Prtpy.greedy`/`greedyStep` (`Part.greedy_fold_valid`); "an LPT run" is `Textbook.IsLPTRun`
  (`Textbook.min_step_perm`), not `LPT43.Lpt`.  The CBLDM half rests on `CBLDMProofs.cbPart_induct` and on the state
  invariants `sdLE`, `Coh`, `OptOK`, `cbPart_mono`, which belong to this namespace but stand in CBLDM.lean (CBLDMOpt
  needs them too); the complete-greedy half on `CGValid.cgStep_inner`, `Kept` and `CGValid.cgRun_none_of_le`.  The other
  C11 results of complete greedy (`cg_cut_safe`, `cg_cut_monotone`, `cg_cut_eventually`) are in CGValid.lean.
-/
import PrtpyProofs.CBLDM
import PrtpyProofs.Textbook
import PrtpyProofs.CGOpt
open Prtpy Prtpy.CBLDMProofs

namespace Prtpy.Anytime2

variable {α : Type}

attribute [local instance] decEqBins decEqExcept

/-! ## CBLDM: the run with cut `c` is a prefix of every run with a later cut, or none -/

theorem cbPart_tick_le (n d : Nat) (cut : Option Nat) :
    ∀ fuel (st : CbState α) subs, st.tick ≤ (cbPart n d cut fuel st subs).tick := by
  refine cbPart_induct n d cut (fun _ st _ out => st.tick ≤ out.tick) ?_ ?_ ?_ ?_ ?_ ?_
  · intro st _; exact Nat.le_refl _
  · intro _ st _ _; exact Nat.le_succ _
  · intro _ st _; exact Nat.le_succ _
  · intro _ st p _
    unfold cbLeaf
    split
    · exact Nat.le_succ _
    · exact Nat.le_succ _
  · intro _ st _ _ _ _; exact Nat.le_succ _
  · intro _ st _ a b rest st1 st2 _ _ _ _ _ _ ih1 ih2
    have : st.tick ≤ (tickSt st).tick := Nat.le_succ _
    omega

/-- after the time is up nothing happens: once the next call would see `c ≤ tick`, the incumbent is frozen -/
theorem cbPart_frozen (n d c : Nat) :
    ∀ fuel (st : CbState α) subs, c ≤ st.tick + 1 →
      (cbPart n d (some c) fuel st subs).best = st.best ∧ (cbPart n d (some c) fuel st subs).sd = st.sd ∧
      st.tick ≤ (cbPart n d (some c) fuel st subs).tick := by
  intro fuel st subs h
  cases fuel with
  | zero => exact ⟨rfl, rfl, Nat.le_refl _⟩
  | succ fuel =>
    have hs : stopNow (some c) st = true := stopNow_some_iff.2 (Or.inl h)
    rw [cbPart_stop hs]
    exact ⟨rfl, rfl, Nat.le_succ _⟩

/-- how the run with cut `c` (left) and a run with a later cut, or none (right), compare: both are coherent, the
    right one is at least as good, and either they are still in lock-step or the left one has run out of time.
    A call entered with tick `t` is stopped when `c ≤ t + 1`; so `c ≤ o1.tick + 1` says that every further call of
    the left run is stopped, and since the right run went through the state where the left was first stopped and
    ticks only grow, its clock shows the same. -/
def LaterCut (c : Nat) (o1 o2 : CbState α) : Prop :=
  Coh o1 ∧ Coh o2 ∧ sdLE o2.sd o1.sd ∧ (o1 = o2 ∨ (c ≤ o1.tick + 1 ∧ c ≤ o2.tick + 1))

theorem stopNow_later {c c' : Nat} (hc : c ≤ c') {st : CbState α} (h : stopNow (some c) st = false) :
    stopNow (some c') st = false := by
  rw [← Bool.not_eq_true, stopNow_some_iff, not_or] at h ⊢
  exact ⟨by omega, h.2⟩

theorem stopNow_none {c : Nat} {st : CbState α} (h : stopNow (some c) st = false) :
    stopNow none st = false := by
  rw [← Bool.not_eq_true, stopNow_some_iff, not_or] at h
  rw [stopNow_none_eq]
  exact Bool.not_eq_true _ ▸ h.2

/-- Prefix lemma: from the same state, a run whose clock `cut'` stops no call that the cut `c` lets through
    ends at least as well as the run with cut `c`. -/
theorem cbPart_sync (n d c : Nat) (cut' : Option Nat)
    (hl : ∀ st : CbState α, stopNow (some c) st = false → stopNow cut' st = false) :
    ∀ fuel (st : CbState α) subs, Coh st →
      LaterCut c (cbPart n d (some c) fuel st subs) (cbPart n d cut' fuel st subs) := by
  -- the run with cut `c` is analysed by `cbPart_induct`; while it is not stopped, the other run takes the same case
  refine cbPart_induct n d (some c) (fun fuel st subs out => Coh st → LaterCut c out (cbPart n d cut' fuel st subs))
    ?_ ?_ ?_ ?_ ?_ ?_
  · intro st subs h; exact ⟨h, h, sdLE_refl _, Or.inl rfl⟩
  · intro fuel st subs hs h
    obtain ⟨c2, m2, _⟩ := cbPart_mono n d cut' (fuel + 1) st subs h
    refine ⟨h, c2, m2, ?_⟩
    by_cases hopt : st.opt = true
    · left
      rw [cbPart_stop (stopNow_of_opt cut' hopt)]
    · right
      rcases stopNow_some_iff.1 hs with hs | hs
      · have := cbPart_tick_le n d cut' (fuel + 1) st subs
        exact ⟨Nat.le_succ_of_le hs, by omega⟩
      · exact absurd hs hopt
  · intro fuel st hs h; rw [cbPart_nil (hl st hs)]; exact ⟨h, h, sdLE_refl _, Or.inl rfl⟩
  · intro fuel st p hs h
    rw [cbPart_leaf (hl st hs)]
    have := (leaf_coh_mono d (tickSt st) p h).1
    exact ⟨this, this, sdLE_refl _, Or.inl rfl⟩
  · intro fuel st subs hs h2 hp h
    rw [cbPart_pruned (hl st hs) h2 hp]; exact ⟨h, h, sdLE_refl _, Or.inl rfl⟩
  · intro fuel st subs a b rest st1 st2 hs hsp hcp ho e1 e2 ih1 ih2 h
    rw [cbPart_node (hl st hs) hsp hcp ho]
    obtain ⟨k1, k2, le1, hcase⟩ := ih1 h
    rcases hcase with heq | hup
    · rw [← heq]; exact ih2 k1
    · -- the left run is out of time: its second child changes nothing, the right run only improves
      obtain ⟨f1, f2, f3⟩ := cbPart_frozen n d c fuel st1 (rest ++ [cbCombine a b]) hup.1
      rw [← e2] at f1 f2 f3
      generalize cbPart n d cut' fuel (tickSt st) (rest ++ [cbSplit a b]) = t1 at k2 le1 hup ⊢
      obtain ⟨c2, m2, _⟩ := cbPart_mono n d cut' fuel t1 (rest ++ [cbCombine a b]) k2
      have f4 := cbPart_tick_le n d cut' fuel t1 (rest ++ [cbCombine a b])
      refine ⟨?_, c2, ?_, Or.inr ⟨by omega, by omega⟩⟩
      · unfold Coh; rw [f1, f2]; exact k1
      · rw [f2]; exact sdLE_trans m2 le1

/-- the run that `cbldm` makes -/
def cbRun (v : α → Nat) (items : List α) (d : Option Nat) (cut : Option Nat) : CbState α :=
  cbPart (sortDesc v items).length (d.getD ((sortDesc v items).length + 1)) cut ((sortDesc v items).length + 1)
    { best := none, sd := none, opt := false, tick := 0 } ((sortDesc v items).map fun x => (Bins.new 2).add v x 1)

theorem cbldm_eq (v : α → Nat) (items : List α) (d : Option Nat) (cut : Option Nat) :
    cbldm v items d cut = (cbRun v items d cut).best := rfl

theorem cbRun_sync (v : α → Nat) (items : List α) (d : Option Nat) (c : Nat) (cut' : Option Nat)
    (hl : ∀ st : CbState α, stopNow (some c) st = false → stopNow cut' st = false) :
    LaterCut c (cbRun v items d (some c)) (cbRun v items d cut') :=
  cbPart_sync _ _ c cut' hl _ _ _ rfl

/-- the prefix lemma for `cbldm`: a result under the cut `c` is matched or beaten under a later cut, or none -/
theorem cbldm_cut_later (v : α → Nat) (items : List α) (d : Option Nat) (c : Nat) (cut' : Option Nat)
    (hl : ∀ st : CbState α, stopNow (some c) st = false → stopNow cut' st = false) (b1 : Bins α)
    (h : cbldm v items d (some c) = some b1) :
    ∃ b2, cbldm v items d cut' = some b2 ∧ sumDiff b2 ≤ sumDiff b1 := by
  obtain ⟨k1, k2, le, _⟩ := cbRun_sync v items d c cut' hl
  rw [cbldm_eq] at h ⊢
  obtain ⟨x, hx, hle⟩ := le (sumDiff b1) (by rw [k1, h]; rfl)
  obtain ⟨b2, hb2, rfl⟩ := k2.best_of_sd hx
  exact ⟨b2, hb2, hle⟩

/-- **C11, anytime monotonicity of CBLDM.**  If the run interrupted at the `c`-th call of `part` has a
    partition to return, so has the run interrupted one call later, and its sum difference is not larger. -/
theorem cbldm_cut_monotone (v : α → Nat) (items : List α) (d : Option Nat) (c : Nat) (b1 : Bins α)
    (h : cbldm v items d (some c) = some b1) :
    ∃ b2, cbldm v items d (some (c + 1)) = some b2 ∧ sumDiff b2 ≤ sumDiff b1 :=
  cbldm_cut_later v items d c _ (fun _ => stopNow_later (Nat.le_succ c)) b1 h

/-- the same with `none` (no solution yet) counting as `+∞` -/
theorem cbldm_cut_monotone_val (v : α → Nat) (items : List α) (d : Option Nat) (c : Nat) :
    let val := fun (r : Option (Bins α)) => r.map sumDiff
    ∀ r1 r2, cbldm v items d (some c) = r1 → cbldm v items d (some (c + 1)) = r2 → sdLE (val r2) (val r1) := by
  intro val r1 r2 h1 h2 y hy
  cases r1 with
  | none => cases hy
  | some b1 =>
    obtain ⟨b2, e2, hle⟩ := cbldm_cut_monotone v items d c b1 h1
    rw [h2] at e2; subst e2
    simp only [val, Option.map_some, Option.some.injEq] at hy
    exact ⟨sumDiff b2, rfl, by omega⟩

/-- C11: the same for any two limits `c ≤ c'` -/
theorem cbldm_cut_monotone_le (v : α → Nat) (items : List α) (d : Option Nat) {c c' : Nat} (hc : c ≤ c')
    (b1 : Bins α) (h : cbldm v items d (some c) = some b1) :
    ∃ b2, cbldm v items d (some c') = some b2 ∧ sumDiff b2 ≤ sumDiff b1 :=
  cbldm_cut_later v items d c _ (fun _ => stopNow_later hc) b1 h

/-- C11: the unlimited run equals every sufficiently late cut -/
theorem cbldm_cut_eventually (v : α → Nat) (items : List α) (d : Option Nat) :
    ∃ c, ∀ c' ≥ c, cbldm v items d (some c') = cbldm v items d none := by
  refine ⟨(cbRun v items d none).tick + 2, fun c' hc' => ?_⟩
  obtain ⟨_, _, _, heq | ⟨_, h2⟩⟩ := cbRun_sync v items d c' none (fun _ => stopNow_none)
  · rw [cbldm_eq, cbldm_eq, heq]
  · omega

/-- C11: the unlimited run is at least as good as every interrupted one -/
theorem cbldm_cut_le_unlimited (v : α → Nat) (items : List α) (d : Option Nat) (c : Nat) (b1 : Bins α)
    (h : cbldm v items d (some c) = some b1) :
    ∃ b2, cbldm v items d none = some b2 ∧ sumDiff b2 ≤ sumDiff b1 :=
  cbldm_cut_later v items d c none (fun _ => stopNow_none) b1 h

/-- C11: a result under a time limit is `none` or a complete valid partition (by `cbldm_isPartition`) -/
theorem cbldm_cut_safe (v : α → Nat) (items : List α) (d : Option Nat) (c : Nat) :
    cbldm v items d (some c) = none ∨ ∃ b, cbldm v items d (some c) = some b ∧ IsPartition v items 2 b := by
  cases h : cbldm v items d (some c) with
  | none => exact Or.inl rfl
  | some b => exact Or.inr ⟨b, rfl, cbldm_isPartition v items d (some c) b h⟩

/-! non-vacuity: `[8, 7, 6, 5, 4]`: no solution before the 6th call, difference 2 from cut 6 on, the optimum
    (difference 0) from cut 14 on -/
example : (cbldm (id : Nat → Nat) [8, 7, 6, 5, 4] none (some 5)).map sumDiff = none := by decide +kernel
example : (cbldm (id : Nat → Nat) [8, 7, 6, 5, 4] none (some 6)).map sumDiff = some 2 := by decide +kernel
example : (cbldm (id : Nat → Nat) [8, 7, 6, 5, 4] none (some 13)).map sumDiff = some 2 := by decide +kernel
example : (cbldm (id : Nat → Nat) [8, 7, 6, 5, 4] none (some 14)).map sumDiff = some 0 := by decide +kernel
example : ∃ b2, cbldm (id : Nat → Nat) [8, 7, 6, 5, 4] none (some 14) = some b2 ∧
    sumDiff b2 ≤ sumDiff (⟨[14, 16], [[8, 6], [4, 7, 5]]⟩ : Bins Nat) :=
  cbldm_cut_monotone id [8, 7, 6, 5, 4] none 13 _ (by decide +kernel)
example : ∃ b2, cbldm (id : Nat → Nat) [8, 7, 6, 5, 4] none none = some b2 ∧
    sumDiff b2 ≤ sumDiff (⟨[14, 16], [[8, 6], [4, 7, 5]]⟩ : Bins Nat) :=
  cbldm_cut_le_unlimited id [8, 7, 6, 5, 4] none 6 _ (by decide +kernel)

/-! ## Complete greedy: the first incumbent is the greedy (LPT) partition, up to the order of the bins -/

section FirstSolution
variable (v : α → Nat)

theorem cgFast_ne_posInf (o : Objective) (k : Nat) (cs : List Nat) (b x r : Nat) :
    cgFast o k cs b x r ≠ .posInf := by
  cases o <;> simp [cgFast]

theorem lowerBound_ne_posInf (o : Objective) (sums : List Nat) (rem : Nat) (flag : Bool) :
    o.lowerBound sums rem flag ≠ .posInf := by
  cases o <;> simp [Objective.lowerBound]

/-- `s` is (a rearrangement of) the sums after putting a value `w` into a bin of minimum sum -/
def LptStepSums (cs : List Nat) (w : Nat) (s : List Nat) : Prop :=
  ∃ i, ∃ hi : i < cs.length, (∀ y ∈ cs, cs[i] ≤ y) ∧ s.Perm (cs.modify i (· + w))

/-- putting a positive value into a bin that is not minimum never gives the sums of an LPT step -/
theorem not_lptStepSums_of_ne {cs : List Nat} {w m : Nat} (hw : 0 < w) (hm : ∀ y ∈ cs, m ≤ y) (hmem : m ∈ cs)
    {b : Nat} (hb : b < cs.length) (hne : cs[b] ≠ m) {s : List Nat} (hs : s.Perm (cs.modify b (· + w))) :
    ¬ LptStepSums cs w s := by
  rintro ⟨i, hi, hmin, hp⟩
  have hib : cs[i] = m := Nat.le_antisymm (hmin m hmem) (hm _ (List.getElem_mem hi))
  have hbm : m < cs[b] := Nat.lt_of_le_of_ne (hm _ (List.getElem_mem hb)) (Ne.symm hne)
  -- count the entries `≤ m`: raising a minimum bin loses one, raising another bin loses none
  let p : Nat → Bool := fun y => decide (y ≤ m)
  have cnt : ∀ j (hj : j < cs.length),
      List.countP p (cs.modify j (· + w)) + (if p cs[j] = true then 1 else 0) = List.countP p cs := by
    intro j hj
    rw [(Part.modify_perm_cons_eraseIdx (· + w) cs j hj).countP_eq,
      (Part.perm_getElem_cons_eraseIdx cs j hj).countP_eq p, List.countP_cons, List.countP_cons]
    have e1 : p (cs[j] + w) = false := by
      have := hm _ (List.getElem_mem hj)
      simp only [p, decide_eq_false_iff_not]; omega
    rw [e1, if_neg Bool.false_ne_true, Nat.add_zero]
  have c1 := cnt b hb
  have c2 := cnt i hi
  rw [if_neg (by simp only [p, decide_eq_true_eq]; omega)] at c1
  rw [if_pos (by simp only [p, decide_eq_true_eq]; omega)] at c2
  have := (hs.symm.trans hp).countP_eq p
  omega

/-- the child of bin `b` is an LPT step -/
def IsLptChild (cur : Bins α) (x : α) (b : Nat) : Prop := LptStepSums cur.sums (v x) ((cur.add v x b).sortAsc).sums

/-- Which bins have an LPT child when the sums are in ascending order (bin 0 has the least): all of them if the
    item has value 0, else those with the least sum. -/
theorem isLptChild_iff {cur : Bins α} (hl : cur.sums.length = cur.lists.length)
    (hsorted : cur.sums.Pairwise (· ≤ ·)) (x : α) {b : Nat} (hb : b < cur.sums.length) :
    IsLptChild v cur x b ↔ v x = 0 ∨ cur.sums[b] = cur.sums[0]'(Nat.lt_of_le_of_lt (Nat.zero_le b) hb) := by
  have h0 : 0 < cur.sums.length := Nat.lt_of_le_of_lt (Nat.zero_le b) hb
  have hmin : ∀ y ∈ cur.sums, cur.sums[0] ≤ y := by
    intro y hy
    obtain ⟨j, hj, rfl⟩ := List.mem_iff_getElem.1 hy
    exact Part.getElem_le_of_sorted hsorted hj (Nat.zero_le j)
  constructor
  · intro hg
    by_cases hx : v x = 0
    · exact Or.inl hx
    · exact Or.inr (Classical.not_not.1 fun hne => not_lptStepSums_of_ne (Nat.pos_of_ne_zero hx) hmin
        (List.getElem_mem h0) hb hne (CGValid.cgChild_sums_perm v cur hl x b) hg)
  · rintro (hx | he)
    · refine ⟨0, h0, hmin, (CGValid.cgChild_sums_perm v cur hl x b).trans ?_⟩
      rw [hx, Part.modify_add_zero, Part.modify_add_zero]
    · exact ⟨b, hb, fun y hy => he ▸ hmin y hy, CGValid.cgChild_sums_perm v cur hl x b⟩

/-- Expansion while there is no incumbent, no key of the next depth is recorded yet and the sums are in ascending
    order: the child pushed last (the top of the stack) is an LPT child.  The bin that stands for bin 0 in
    `Kept.settled` is kept, or shares its key with a kept bin; and by `isLptChild_iff` every kept bin before an LPT
    one is LPT. -/
theorem expand_top {cfg : CgCfg} {k : Nat} (hk : 0 < k) {sorted : List α} {s : CgState α} {cur : Bins α}
    {depth : Nat} {x : α} {kept : List Nat} (hK : CGValid.Kept v cfg k sorted s cur depth x kept)
    (hbV : s.bestV = .posInf) (hlen : cur.sums.length = k) (hl : cur.lists.length = k)
    (hsorted : cur.sums.Pairwise (· ≤ ·)) (hseen : ∀ e ∈ s.seen, e.1 ≤ depth) :
    ∃ b tl, kept.reverse = b :: tl ∧ b < k ∧ IsLptChild v cur x b := by
  have hl' : cur.sums.length = cur.lists.length := by rw [hlen, hl]
  have h0 : 0 < cur.sums.length := by omega
  have hgd := fun b hb => isLptChild_iff v hl' hsorted x (b := b) hb
  have hpw : kept.reverse.Pairwise (fun b' b => IsLptChild v cur x b → IsLptChild v cur x b') := by
    rw [List.pairwise_reverse]
    refine List.Pairwise.sublist hK.sub ?_
    rw [List.pairwise_reverse]
    refine (List.pairwise_lt_range (n := k)).imp_of_mem ?_
    intro a b ha hb hab hg
    rw [List.mem_range] at ha hb
    refine (hgd a (by omega)).2 (((hgd b (by omega)).1 hg).imp_right fun he => ?_)
    exact Nat.le_antisymm (he ▸ Part.getElem_le_of_sorted hsorted (by omega) (Nat.le_of_lt hab))
      (Part.getElem_le_of_sorted hsorted (by omega) (Nat.zero_le a))
  obtain ⟨g, hg, hgg⟩ : ∃ g ∈ kept, IsLptChild v cur x g := by
    obtain ⟨j, hj, hj0, hset⟩ := hK.settled 0 hk
    have hj' : j < cur.sums.length := by omega
    have hgj : IsLptChild v cur x j := (hgd j hj').2 (Or.inr (by
      rw [← Part.getD_eq_getElem hj', ← Part.getD_eq_getElem h0]; exact hj0))
    cases hset with
    | kept hin => exact ⟨j, hin, hgj⟩
    | fast _ hf => rw [hbV, CGOpt.posInf_le_false (cgFast_ne_posInf _ _ _ _ _ _)] at hf; cases hf
    | bound _ hb => rw [hbV, CGOpt.posInf_le_false (lowerBound_ne_posInf _ _ _ _)] at hb; cases hb
    | seen hse => exact absurd (hseen _ hse) (Nat.not_succ_le_self depth)
    | dup j' hj' e => exact ⟨j', hj', by unfold IsLptChild; rw [show ((cur.add v x j').sortAsc).sums = _ from e]; exact hgj⟩
  cases hr : kept.reverse with
  | nil => rw [List.reverse_eq_nil_iff.1 hr] at hg; cases hg
  | cons b tl =>
    rw [hr] at hpw
    have hb : b ∈ kept := List.mem_reverse.1 (by rw [hr]; exact List.mem_cons_self ..)
    refine ⟨b, tl, rfl, hK.lt b hb, ?_⟩
    rcases List.mem_cons.1 (hr ▸ List.mem_reverse.2 hg) with rfl | hgt
    · exact hgg
    · exact (List.pairwise_cons.1 hpw).1 g hgt hgg

/-- the greedy (LPT) partition of the first `t` items of `sorted` -/
def greedyPrefix (k : Nat) (sorted : List α) (t : Nat) : Bins α := (sorted.take t).foldl (greedyStep v) (Bins.new k)

theorem greedyPrefix_succ (k : Nat) {sorted : List α} {t : Nat} {x : α} (hx : sorted[t]? = some x) :
    greedyPrefix v k sorted (t + 1) = greedyStep v (greedyPrefix v k sorted t) x := by
  unfold greedyPrefix
  rw [List.take_add_one, hx]
  simp only [Option.toList_some, List.foldl_append, List.foldl_cons, List.foldl_nil]

theorem greedyPrefix_length (k : Nat) (sorted : List α) :
    greedyPrefix v k sorted sorted.length = sorted.foldl (greedyStep v) (Bins.new k) := by
  simp only [greedyPrefix, List.take_length]

theorem greedyPrefix_sums_ne_nil {k : Nat} (hk : 0 < k) (sorted : List α) (t : Nat) : (greedyPrefix v k sorted t).sums ≠ [] := by
  intro h0
  have := CGValid.valid_sums_length v
    (Part.greedy_fold_valid v hk (sorted.take t) (Bins.new k) [] (Part.valid_new v k))
  rw [show (sorted.take t).foldl (greedyStep v) (Bins.new k) = greedyPrefix v k sorted t from rfl, h0] at this
  exact Nat.ne_of_lt hk this

/-- the state before the first leaf is evaluated, after `t` iterations: no incumbent, and the top of the
    stack is a vertex of depth `t` whose sums are those of the greedy partition of the first `t` items -/
structure BeforeFirstLeaf (k : Nat) (sorted : List α) (t : Nat) (s : CgState α) : Prop where
  best : s.best = none
  bestV : s.bestV = .posInf
  notDone : s.done = false
  top : ∃ cur rest, s.stack = (cur, t) :: rest ∧ cur.sums.Pairwise (· ≤ ·) ∧
    cur.sums.Perm (greedyPrefix v k sorted t).sums
  seen : ∀ e ∈ s.seen, e.1 ≤ t

theorem beforeFirstLeaf_init (k : Nat) (sorted : List α) : BeforeFirstLeaf v k sorted 0 (cgInit k : CgState α) :=
  ⟨rfl, rfl, rfl, ⟨Bins.new k, [], rfl, List.pairwise_replicate.2 (Or.inr (Nat.le_refl _)), List.Perm.refl _⟩,
    fun _ he => nomatch he⟩

/-- the state right after heuristic 3 has jumped to a leaf: no incumbent, the leaf is on top -/
structure AtH3Leaf (k : Nat) (sorted : List α) (s : CgState α) : Prop where
  best : s.best = none
  bestV : s.bestV = .posInf
  notDone : s.done = false
  top : ∃ nb rest, s.stack = (nb, sorted.length) :: rest ∧
    maxL nb.sums = maxL (greedyPrefix v k sorted sorted.length).sums

/-- once the remaining items fit on the least-loaded bin without exceeding the largest one, greedy never raises
    the largest sum -/
theorem greedy_keeps_max : ∀ (xs : List α) (g : Bins α), g.sums ≠ [] →
    binSum v xs + minL g.sums ≤ maxL g.sums → maxL (xs.foldl (greedyStep v) g).sums = maxL g.sums
  | [], g, _, _ => rfl
  | x :: xs, g, hne, h => by
    have hi := Part.argmin_lt hne
    have hmin := Part.getElem_argmin hi
    have hx : binSum v (x :: xs) = v x + binSum v xs := rfl
    have hstep : maxL (greedyStep v g x).sums = maxL g.sums := by
      simp only [greedyStep, Bins.add]
      rw [Part.maxL_modify_add _ _ _ hi, hmin]; exact Nat.max_eq_left (by omega)
    have hne' : (greedyStep v g x).sums ≠ [] := by
      intro h0
      have := congrArg List.length h0
      simp only [greedyStep, Bins.add, List.length_modify, List.length_nil] at this
      omega
    have hmem := List.getElem_mem (l := g.sums.modify (argmin g.sums) (· + v x)) (n := argmin g.sums)
      (by rw [List.length_modify]; exact hi)
    rw [List.getElem_modify_eq] at hmem
    have hle : minL (greedyStep v g x).sums ≤ minL g.sums + v x := by
      rw [← hmin]; exact Part.minL_le hmem
    rw [List.foldl_cons, greedy_keeps_max xs _ hne' (by rw [hstep]; omega), hstep]

/-- the leaf heuristic 3 jumps to has the largest sum of the greedy partition -/
theorem h3_max {cfg : CgCfg} {k : Nat} (hk : 0 < k) {sorted : List α} {cur : Bins α} {t : Nat}
    (hvi : CGValid.VInv v k sorted (cur, t)) (hperm : cur.sums.Perm (greedyPrefix v k sorted t).sums)
    (hc : CGValid.h3Cond v cfg sorted cur t = true) :
    maxL (CGValid.h3Vertex v sorted cur t).sums = maxL (greedyPrefix v k sorted sorted.length).sums := by
  rw [CGOpt.h3Vertex_maxL hk hvi hc, Part.maxL_eq_of_perm hperm]
  have hc := CGValid.h3Cond_eq_true_iff.1 hc
  have hhead : minL cur.sums ≤ cur.sums.headD 0 := by
    cases hcs : cur.sums with
    | nil => rw [hcs] at hperm; exact absurd hperm.symm.eq_nil (greedyPrefix_sums_ne_nil v hk sorted t)
    | cons a l => exact Part.minL_le (List.mem_cons_self ..)
  have hlast := Obj.lastD_le_maxL cur.sums
  have : greedyPrefix v k sorted sorted.length = (sorted.drop t).foldl (greedyStep v) (greedyPrefix v k sorted t) := by
    unfold greedyPrefix
    rw [← List.foldl_append, List.take_length, List.take_append_drop]
  rw [this]
  refine (greedy_keeps_max v _ _ (greedyPrefix_sums_ne_nil v hk sorted t) ?_).symm
  rw [← Part.minL_eq_of_perm hperm, ← Part.maxL_eq_of_perm hperm]
  have : binSum v (sorted.drop t) = remFrom v sorted t := rfl
  omega

/-- one iteration below the leaves: the search descends into the child of a least-loaded bin, or heuristic 3
    jumps to a leaf -/
theorem beforeFirstLeaf_step {cfg : CgCfg} {k : Nat} (hk : 0 < k)
    {sorted : List α} {glb : EInt} {t : Nat} (ht : t < sorted.length) {s : CgState α}
    (hsi : CGValid.SInv v k sorted s) (h : BeforeFirstLeaf v k sorted t s) :
    BeforeFirstLeaf v k sorted (t + 1) (cgStep v cfg k sorted glb s) ∨
    ((cfg.useH3 = true ∧ cfg.obj = .minLargest) ∧ AtH3Leaf v k sorted (cgStep v cfg k sorted glb s)) := by
  obtain ⟨hbest, hbestV, hdone, ⟨cur, rest, hstack, hsorted, hperm⟩, hseen⟩ := h
  have hvi : CGValid.VInv v k sorted (cur, t) := hsi.top hstack
  have hx : sorted[t]? = some sorted[t] := List.getElem?_eq_getElem ht
  obtain ⟨kept, hK, he⟩ := CGValid.cgStep_inner (cfg := cfg) (k := k) (glb := glb) v hstack hx
  rw [he]
  split
  · rename_i hc
    refine Or.inr ⟨?_, hbest, hbestV, hdone, _, rest, rfl, h3_max v hk hvi hperm hc⟩
    exact (CGValid.h3Cond_eq_true_iff.1 hc).1
  · obtain ⟨b, tl, hr, _, i, hi, hmin, hp⟩ := expand_top v hk hK hbestV
      (CGValid.valid_sums_length v hvi.2) hvi.2.2.1 hsorted hseen
    refine Or.inl ⟨hbest, hbestV, hdone, ⟨(cur.add v sorted[t] b).sortAsc,
      tl.map (CGValid.cgChild v cur t sorted[t]) ++ rest, ?_, Part.sortAsc_sums_sorted _, ?_⟩, ?_⟩
    · show (kept.map _).reverse ++ rest = _
      rw [← List.map_reverse, hr]; rfl
    · rw [greedyPrefix_succ v k hx]
      refine hp.trans ?_
      have hj := Part.argmin_lt (greedyPrefix_sums_ne_nil v hk sorted t)
      simp only [greedyStep, Bins.add]
      refine Textbook.min_step_perm hperm hi hj hmin ?_ (v sorted[t])
      intro y hy
      rw [Part.getElem_argmin hj]
      exact Part.minL_le hy
    · intro e he'
      rcases CGValid.mem_seenAfter he' with h | ⟨b', _, rfl⟩
      · exact Nat.le_succ_of_le (hseen e h)
      · exact Nat.le_refl _

/-- with no incumbent yet, the iteration that pops a leaf installs it -/
theorem cgStep_first_leaf {cfg : CgCfg} {k : Nat} {sorted : List α} {glb : EInt} {s : CgState α} {cur : Bins α}
    {rest : List (Bins α × Nat)} (hs : s.stack = (cur, sorted.length) :: rest) (hb : s.bestV = .posInf) :
    (cgStep v cfg k sorted glb s).best = some cur := by
  unfold cgStep
  rw [hs]
  simp only [beq_self_eq_true, if_true, hb]
  have : EInt.lt (.fin (cfg.obj.value cur.sums false)) .posInf = true := rfl
  rw [if_pos this]
  split <;> rfl

/-- the run up to the first leaf: after `t ≤ n` iterations `BeforeFirstLeaf` holds (in particular there is no incumbent, hence
    none earlier: `CGValid.cgRun_none_of_le`), or heuristic 3 has jumped at some `c ≤ t` -/
theorem first_solution_run {cfg : CgCfg} {k : Nat} (hk : 0 < k) (sorted : List α) (glb : EInt) :
    ∀ t ≤ sorted.length,
      BeforeFirstLeaf v k sorted t (cgRun v cfg k sorted glb t (cgInit k)) ∨
      ((cfg.useH3 = true ∧ cfg.obj = .minLargest) ∧
        ∃ c, c ≤ t ∧ AtH3Leaf v k sorted (cgRun v cfg k sorted glb c (cgInit k))) := by
  intro t
  induction t with
  | zero => exact fun _ => Or.inl (beforeFirstLeaf_init v k sorted)
  | succ t ih =>
    intro ht
    rcases ih (by omega) with hpre | ⟨hcfg, c, hc, h⟩
    · rcases beforeFirstLeaf_step v (cfg := cfg) (glb := glb) hk (by omega) (CGValid.cgRun_sinv v hk cfg sorted glb t) hpre
        with h | ⟨hcfg, h⟩ <;> rw [← CGValid.cgRun_succ_step v hpre.notDone] at h
      · exact Or.inl h
      · exact Or.inr ⟨hcfg, t + 1, Nat.le_refl _, h⟩
    · exact Or.inr ⟨hcfg, c, by omega, h⟩

/-- a leaf on top of the stack at cut `c` and no incumbent yet: none at any earlier cut either, and the next
    iteration installs that leaf -/
theorem cgRun_leaf_on_top {cfg : CgCfg} {k : Nat} {sorted : List α} {glb : EInt} {c : Nat} {cur : Bins α}
    {rest : List (Bins α × Nat)} (hb : (cgRun v cfg k sorted glb c (cgInit k)).best = none)
    (hbV : (cgRun v cfg k sorted glb c (cgInit k)).bestV = .posInf)
    (hnd : (cgRun v cfg k sorted glb c (cgInit k)).done = false)
    (hst : (cgRun v cfg k sorted glb c (cgInit k)).stack = (cur, sorted.length) :: rest) :
    (∀ c' ≤ c, (cgRun v cfg k sorted glb c' (cgInit k)).best = none) ∧
      (cgRun v cfg k sorted glb (c + 1) (cgInit k)).best = some cur := by
  refine ⟨fun c' hc' => CGValid.cgRun_none_of_le v cfg k sorted glb hc' hb, ?_⟩
  rw [CGValid.cgRun_succ_step v hnd]
  exact cgStep_first_leaf v hst hbV

/-- No solution before the first leaf, and the first leaf is greedy's, on the level of the machine
    (any list `sorted`, any global lower bound). -/
theorem cgRun_first_solution {cfg : CgCfg} {k : Nat} (hk : 0 < k)
    (hcfg : cfg.useH3 = false ∨ cfg.obj ≠ .minLargest) (sorted : List α) (glb : EInt) :
    (∀ c ≤ sorted.length, (cgRun v cfg k sorted glb c (cgInit k)).best = none) ∧
    ∃ b, (cgRun v cfg k sorted glb (sorted.length + 1) (cgInit k)).best = some b ∧
      b.sums.Perm (sorted.foldl (greedyStep v) (Bins.new k)).sums := by
  rcases first_solution_run v (cfg := cfg) hk sorted glb sorted.length (Nat.le_refl _) with
    ⟨hb, hbV, hnd, ⟨cur, rest, hst, _, hperm⟩, _⟩ | ⟨⟨h1, h2⟩, _⟩
  · obtain ⟨hnone, hcur⟩ := cgRun_leaf_on_top v hb hbV hnd hst
    exact ⟨hnone, cur, hcur, by rw [← greedyPrefix_length]; exact hperm⟩
  · -- heuristic 3 jumps only when it is switched on and the objective is min-largest
    rcases hcfg with h' | h'
    · rw [h'] at h1; cases h1
    · exact absurd h2 h'

/-- Every configuration (heuristic 3 included): the run installs its first incumbent after at most `n + 1`
    iterations, and that incumbent has the largest sum of the greedy (LPT) partition. -/
theorem cgRun_first_solution_gen {cfg : CgCfg} {k : Nat} (hk : 0 < k) (sorted : List α) (glb : EInt) :
    ∃ c0, c0 ≤ sorted.length + 1 ∧ (∀ c < c0, (cgRun v cfg k sorted glb c (cgInit k)).best = none) ∧
      ∃ b, (cgRun v cfg k sorted glb c0 (cgInit k)).best = some b ∧
        maxL b.sums = maxL (sorted.foldl (greedyStep v) (Bins.new k)).sums := by
  rcases first_solution_run v (cfg := cfg) hk sorted glb sorted.length (Nat.le_refl _) with
    ⟨hb, hbV, hnd, ⟨cur, rest, hst, _, hperm⟩, _⟩ | ⟨_, c, hc, hb, hbV, hnd, nb, rest, hst, hmax⟩
  · obtain ⟨hnone, hcur⟩ := cgRun_leaf_on_top v hb hbV hnd hst
    exact ⟨sorted.length + 1, Nat.le_refl _, fun c hc => hnone c (Nat.le_of_lt_succ hc), cur, hcur,
      by rw [Part.maxL_eq_of_perm hperm, greedyPrefix_length]⟩
  · obtain ⟨hnone, hnb⟩ := cgRun_leaf_on_top v hb hbV hnd hst
    exact ⟨c + 1, by omega, fun c' hc' => hnone c' (Nat.le_of_lt_succ hc'), nb, hnb,
      by rw [hmax, greedyPrefix_length]⟩

end FirstSolution

/-- the least time limit under which a solution is returned, and that solution, are unique -/
theorem first_solution_unique {v : α → Nat} {cfg : CgCfg} {k : Nat} {items : List α} {fuel : Nat} {c c₀ : Nat}
    {b b₀ : Bins α} (hb : cg v cfg k items (some c) fuel = .ok (some b))
    (hleast : ∀ c' < c, cg v cfg k items (some c') fuel = .ok none)
    (hb₀ : cg v cfg k items (some c₀) fuel = .ok (some b₀))
    (hleast₀ : ∀ c' < c₀, cg v cfg k items (some c') fuel = .ok none) : c = c₀ ∧ b = b₀ := by
  have h1 : ¬ c < c₀ := fun h => by rw [hleast₀ c h] at hb; cases hb
  have h2 : ¬ c₀ < c := fun h => by rw [hleast c₀ h] at hb₀; cases hb₀
  have : c = c₀ := by omega
  subst this
  rw [hb] at hb₀
  cases hb₀
  exact ⟨rfl, rfl⟩

/-- C11: under every time limit up to the number of items complete greedy has no solution yet
    (heuristic 3 off, or an objective other than min-largest). -/
theorem cg_no_solution_before {v : α → Nat} {cfg : CgCfg} {k : Nat} {items : List α} {fuel : Nat} (hk : 0 < k)
    (hcfg : cfg.useH3 = false ∨ cfg.obj ≠ .minLargest) {c : Nat} (hc : c ≤ items.length) :
    cg v cfg k items (some c) fuel = .ok none := by
  simp only [cg]
  rw [(cgRun_first_solution v hk hcfg (sortDesc v items) _).1 c (by rw [Part.sortDesc_length]; exact hc)]

/-- with the time limit `n + 1` complete greedy returns its first solution, and it has the bin sums of the greedy
    (LPT) partition (same restriction) -/
theorem cg_first_solution_at {v : α → Nat} {cfg : CgCfg} {k : Nat} {items : List α} {fuel : Nat} (hk : 0 < k)
    (hcfg : cfg.useH3 = false ∨ cfg.obj ≠ .minLargest) :
    ∃ b, cg v cfg k items (some (items.length + 1)) fuel = .ok (some b) ∧
      b.sums.Perm (greedy v k items).sums := by
  obtain ⟨b, hb, hp⟩ := (cgRun_first_solution v hk hcfg (sortDesc v items)
    (cfg.obj.lowerBound (List.replicate k 0) (remFrom v (sortDesc v items) 0) true)).2
  rw [Part.sortDesc_length] at hb
  refine ⟨b, ?_, hp⟩
  simp only [cg, hb]

/-- **C11, complete greedy's first solution is the greedy (LPT) one.**  If `c` is the least time limit under
    which a solution `b` is returned, then `b` has the bin sums of `greedy`, up to the order of the bins
    (heuristic 3 off, or an objective other than min-largest). -/
theorem cg_first_solution_lpt {v : α → Nat} {cfg : CgCfg} {k : Nat} {items : List α} {fuel : Nat} (hk : 0 < k)
    (hcfg : cfg.useH3 = false ∨ cfg.obj ≠ .minLargest) {c : Nat} {b : Bins α}
    (hb : cg v cfg k items (some c) fuel = .ok (some b))
    (hleast : ∀ c' < c, cg v cfg k items (some c') fuel = .ok none) :
    c = items.length + 1 ∧ b.sums.Perm (greedy v k items).sums := by
  obtain ⟨b', hb', hp⟩ := cg_first_solution_at (v := v) (cfg := cfg) (items := items) (fuel := fuel) hk hcfg
  obtain ⟨rfl, rfl⟩ := first_solution_unique hb hleast hb'
    (fun c' hc' => cg_no_solution_before hk hcfg (Nat.le_of_lt_succ hc'))
  exact ⟨rfl, hp⟩

/-- hence the first solution is an LPT solution in the sense of `Textbook.lpt_runs_same_sums`: it has the sums
    of every LPT run, whatever the tie-breaking -/
theorem cg_first_solution_lpt_run {v : α → Nat} {cfg : CgCfg} {k : Nat} {items : List α} {fuel : Nat} (hk : 0 < k)
    (hcfg : cfg.useH3 = false ∨ cfg.obj ≠ .minLargest) {c : Nat} {b b' : Bins α}
    (hb : cg v cfg k items (some c) fuel = .ok (some b))
    (hleast : ∀ c' < c, cg v cfg k items (some c') fuel = .ok none)
    (hrun : Textbook.IsLPTRun v k items b') : b.sums.Perm b'.sums :=
  (cg_first_solution_lpt hk hcfg hb hleast).2.trans
    (Textbook.lpt_runs_same_sums (Textbook.greedy_is_lpt_run hk) hrun)

/-- C11: a first solution always exists within `n + 1` iterations, in every configuration -/
theorem cg_first_solution_exists {v : α → Nat} {cfg : CgCfg} {k : Nat} {items : List α} {fuel : Nat} (hk : 0 < k) :
    ∃ c b, c ≤ items.length + 1 ∧ cg v cfg k items (some c) fuel = .ok (some b) ∧
      (∀ c' < c, cg v cfg k items (some c') fuel = .ok none) ∧
      maxL b.sums = maxL (greedy v k items).sums := by
  obtain ⟨c0, hc0, hnone, b0, hb0, hmax⟩ := cgRun_first_solution_gen v (cfg := cfg) hk (sortDesc v items)
    (cfg.obj.lowerBound (List.replicate k 0) (remFrom v (sortDesc v items) 0) true)
  rw [Part.sortDesc_length] at hc0
  refine ⟨c0, b0, hc0, ?_, ?_, hmax⟩
  · simp only [cg, hb0]
  · intro c' hc'; simp only [cg, hnone c' hc']

/-- C11, every configuration (heuristic 3 with min-largest included).  If `c` is the least time limit under
    which complete greedy returns a solution `b`, then `c ≤ n + 1` and the largest sum of `b` is the largest sum
    of the greedy (LPT) partition.  (With heuristic 3 the other sums may differ from greedy's, see the example
    below.) -/
theorem cg_first_solution_h3 {v : α → Nat} {cfg : CgCfg} {k : Nat} {items : List α} {fuel : Nat} (hk : 0 < k)
    {c : Nat} {b : Bins α} (hb : cg v cfg k items (some c) fuel = .ok (some b))
    (hleast : ∀ c' < c, cg v cfg k items (some c') fuel = .ok none) :
    c ≤ items.length + 1 ∧ maxL b.sums = maxL (greedy v k items).sums := by
  obtain ⟨c₀, b₀, hc₀, hb₀, hleast₀, hmax⟩ :=
    cg_first_solution_exists (v := v) (cfg := cfg) (items := items) (fuel := fuel) hk
  obtain ⟨rfl, rfl⟩ := first_solution_unique hb hleast hb₀ hleast₀
  exact ⟨hc₀, hmax⟩

/-! non-vacuity: three bins, `[4, 5, 6, 7, 8]`, all prunes and the seen-set on, heuristic 3 off: no solution up to
    the limit 5, the LPT partition `{8}, {7, 4}, {6, 5}` at the limit 6 -/
example : (⟨[8, 11, 11], [[8], [7, 4], [6, 5]]⟩ : Bins Nat).sums.Perm (greedy id 3 [4, 5, 6, 7, 8]).sums :=
  (cg_first_solution_lpt (v := id) (cfg := ⟨.minLargest, true, true, false, true⟩) (k := 3)
    (items := [4, 5, 6, 7, 8]) (fuel := 0) (c := 6) (by decide) (Or.inl rfl) (by decide +kernel)
    (by
      intro c' hc'
      have : c' = 0 ∨ c' = 1 ∨ c' = 2 ∨ c' = 3 ∨ c' = 4 ∨ c' = 5 := by omega
      rcases this with rfl | rfl | rfl | rfl | rfl | rfl <;> decide +kernel)).2
example : (greedy id 3 [4, 5, 6, 7, 8]).sums = [8, 11, 11] := by decide +kernel
/-- heuristic 3 on, but another objective -/
example : ∃ b, cg id ⟨.maxSmallest, true, true, true, true⟩ 3 [4, 5, 6, 7, 8] (some 6) 0 = .ok (some b) ∧
    b.sums.Perm (greedy id 3 [4, 5, 6, 7, 8]).sums :=
  cg_first_solution_at (by decide) (Or.inr (by decide))
/-- items of value 0 and the seen-set: the first leaf puts the zeros into the *fullest* bin (all children of a
    zero item have the same key, only the first one pushed survives), greedy into an empty one; the sums agree -/
example : cg id ⟨.minLargest, true, true, false, true⟩ 3 [0, 5, 0, 7, 0] (some 6) 0
    = .ok (some ⟨[0, 5, 7], [[], [5], [7, 0, 0, 0]]⟩) := by decide +kernel
example : (greedy id 3 [0, 5, 0, 7, 0]).lists = [[7], [5], [0, 0, 0]] := by decide +kernel
/-- with heuristic 3 and min-largest the hypothesis of `cg_first_solution_lpt` is needed: on `[10, 4, 3, 2, 2]`
    the first solution comes at the limit 4 (not 6), with sums `[4, 7, 10]`; greedy has `[10, 6, 5]`; only the
    largest sum agrees, as `cg_first_solution_h3` says -/
example : cg id ⟨.minLargest, true, true, true, true⟩ 3 [10, 4, 3, 2, 2] (some 4) 0
    = .ok (some ⟨[4, 7, 10], [[4], [3, 2, 2], [10]]⟩) := by decide +kernel
example : cg id ⟨.minLargest, true, true, true, true⟩ 3 [10, 4, 3, 2, 2] (some 3) 0 = .ok none := by decide +kernel
example : (greedy id 3 [10, 4, 3, 2, 2]).sums = [10, 6, 5] := by decide +kernel
example : maxL (⟨[4, 7, 10], [[4], [3, 2, 2], [10]]⟩ : Bins Nat).sums = maxL (greedy id 3 [10, 4, 3, 2, 2]).sums :=
  (cg_first_solution_h3 (v := id) (cfg := ⟨.minLargest, true, true, true, true⟩) (k := 3)
    (items := [10, 4, 3, 2, 2]) (fuel := 0) (c := 4) (by decide) (by decide +kernel)
    (by
      intro c' hc'
      have : c' = 0 ∨ c' = 1 ∨ c' = 2 ∨ c' = 3 := by omega
      rcases this with rfl | rfl | rfl | rfl <;> decide +kernel)).2

end Prtpy.Anytime2
