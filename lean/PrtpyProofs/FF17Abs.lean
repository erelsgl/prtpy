/-
  First fit / best fit: towards the absolute bound `#bins ≤ ⌊1.7 · OPT⌋` (Dósa and Sgall 2013 for first fit, 2014
  for best fit).  Same weight function, same invariant `Inv2`, bins related by `Rel` as in `PrtpyProofs.FF17`,
  where `10 · #bins ≤ 17 · m + 10` is proved.

  All for a non-empty input (the model returns one empty bin for the empty input, so every bound below `+ 10`
  needs `items ≠ []`, see the examples at the end of FF17.lean).  With `k = nBig v B items` items above `B/2`
  (`k ≤ m`, `nBig_le`), for first fit and best fit (`ff_…`, `bf_…`; `gen_seventeen_tenths_plus_6` for every
  `Step2` loop):

      …_seventeen_tenths_plus_6          :  10 · #bins ≤ 17 · m + 6
      …_fifteen_tenths_big               :  10 · #bins ≤ 15 · m + 2 · k + 7   (`+ 6` when `k ≥ 1`)
      …_seventeen_tenths_plus_4_partial  :  10 · #bins ≤ 17 · m + 4   provided `k < m`
      …_seventeen_tenths_abs_partial     :  10 · #bins ≤ 17 · m   provided
                                            m ≤ 2  ∨  m ≡ 0, 3, 6, 9 (mod 10)  ∨  k + 3 ≤ m

  What remains open of the absolute bound after this file, FF17AbsB and FF17AbsC is listed once, at the head of
  FF17AbsC.lean.

  How.  In units of `1/(10·B)`: FF17 shows `10·B·n ≤ W + 10·B` (`W` the total weight, `n` the number of bins) and
  `W ≤ 17·B·m`.  Here both sides are refined.
  The optimum's side: `W ≤ 15·B·m + 2·B·k` (`packable_weight_le_count`), and `k ≤ #big bins` (`nBig_le_bigbins`).
  The loss `10·B·n − W`, by the cases of `FF17.bins_cases` (`bins_loss`); with the big bins (an item above
      `B/2`; weight `≥ 12·s + 4·B`), at most one small bin `S` (at most one item `x ≤ B/2`) and a chain bin `L'`:
        * no chain: loss `< 4·B` (the small bin and a big bin overflow together);
        * chain, no small bin: loss `≤ 10·B − 12·s(L')`; either `s(L') > B/3` (loss `< 6·B`), or every other bin
          is more than `2/3` full and the *volume* bound `2·(n − 1) < 3·m` is stronger than what is wanted;
        * chain and small bin: loss `< 8·B − bonus(x) − (12·s(L) − 6·B)` for every big bin `L`, and
          `s(L) + x > B`: a *half singleton* `5·B/12 < x ≤ B/2` has bonus `B` (loss `< 7·B`), otherwise the
          loss is `< 6·B` as soon as there is a big bin, and without big bin no item exceeds `B/2`.
  `inv2_grid` puts the two sides together, once; every theorem of this file and of FF17AbsB.lean is an arithmetic
  consequence of it.

  The section "Lemma B, refined" (`HalfSingleton`, `bins_loss`, `bins_weight5`) carries the namespace of
  FF17AbsB.lean; it stands here because `inv2_grid` rests on `bins_loss`.
  Stands on FF17.lean and, besides, on `LPT43.packable_weight_le_add_map` (the slack for the big items),
  `packable_weight_le_map`, `items_per_bin`, `Fit.anyfit_lt_two_opt`, `Part.binSum_ite`.
-/
import PrtpyProofs.FF17
open Prtpy

namespace Prtpy.FF17Abs

open Prtpy.FF17

variable {α : Type}

/-! ## The optimum's side, counting the items above `B/2` -/

/-- the number of items above `B/2` -/
def nBig (v : α → Nat) (B : Nat) (items : List α) : Nat := items.countP (fun x => decide (B < 2 * v x))

theorem nBig_map (v : α → Nat) (B : Nat) (items : List α) :
    nBig v B items = (items.map v).countP (fun a => decide (B < 2 * a)) := by
  simp only [nBig, List.countP_map]; rfl

theorem nBig_eq_zero {v : α → Nat} {B : Nat} {items : List α} (h : ∀ x ∈ items, 2 * v x ≤ B) :
    nBig v B items = 0 := by
  rw [nBig, List.countP_eq_zero]
  intro x hx
  have := h x hx
  simp only [decide_eq_true_eq]
  omega

/-- Lemma A, counting the big values: `15/10` (no value above `B/2`: `bonusL_le_three`) plus `2/10` for every
    value above `B/2` -/
theorem weight_bin_le_count {B : Nat} {l : List Nat} (h : sumL l ≤ B) :
    sumL (l.map (wt B)) ≤ 15 * B + 2 * (B * l.countP (fun a => decide (B < 2 * a))) := by
  by_cases hc : l.countP (fun a => decide (B < 2 * a)) = 0
  · have hs : ∀ a ∈ l, 2 * a ≤ B := by
      intro a ha
      have := (List.countP_eq_zero.1 hc) a ha
      simp only [decide_eq_true_eq] at this
      omega
    have := bonusL_le_three B l hs
    rw [sumL_map_wt]
    omega
  · have h1 : B * 1 ≤ B * l.countP (fun a => decide (B < 2 * a)) := Nat.mul_le_mul_left B (by omega)
    have := weight_bin_le h
    omega

/-- the optimum's side: `15/10` per bin plus `2/10` per item above `B/2` -/
theorem packable_weight_le_count {v : α → Nat} {B m : Nat} {items : List α}
    (hm : Packable B m (items.map v)) :
    binSum (W v B) items ≤ 15 * (B * m) + 2 * (B * nBig v B items) := by
  -- the slack: `2·B` for every item above `B/2`
  have := LPT43.packable_weight_le_add_map (w := W v B) (g := fun x => if B < 2 * v x then 2 * B else 0)
    (c := 15 * B) hm fun l _ h => by
      have := weight_bin_le_count (l := l.map v) h
      rwa [← binSum_W, ← nBig_map, ← Nat.mul_assoc, nBig, ← Part.binSum_ite] at this
  rwa [Part.binSum_ite, Nat.mul_comm m, Nat.mul_assoc, Nat.mul_assoc] at this

example : binSum (W id 10) [6, 5, 4, 3] ≤ 15 * (10 * 2) + 2 * (10 * nBig id 10 [6, 5, 4, 3]) :=
  packable_weight_le_count (v := id) ⟨[0, 1, 0, 1], ⟨rfl, by decide⟩, by decide⟩

example : binSum (W id 10) [5, 5, 4, 3, 3] ≤ 15 * (10 * 2) :=
  Nat.le_trans (packable_weight_le_count (v := id) (m := 2) ⟨[0, 0, 1, 1, 1], ⟨rfl, by decide⟩, by decide⟩) (by decide)

/-- a bin holds at most one value above `B/2` (`LPT43.items_per_bin` for the values above `B/2`) -/
theorem countP_big_le_one (B : Nat) (l : List Nat) (h : sumL l ≤ B) :
    l.countP (fun a => decide (B < 2 * a)) ≤ 1 := by
  rw [List.countP_eq_length_filter]
  refine LPT43.items_per_bin (B := B) (a := B / 2 + 1) (c := 1) (fun y hy => ?_) (by omega) ?_
  · have := (List.mem_filter.1 hy).2
    simp only [decide_eq_true_eq] at this
    omega
  · have := Part.binSum_sublist id (List.filter_sublist (l := l) (p := fun a => decide (B < 2 * a)))
    rw [Part.binSum_id, Part.binSum_id] at this
    omega

theorem nBig_le {v : α → Nat} {B m : Nat} {items : List α} (hm : Packable B m (items.map v)) :
    nBig v B items ≤ m := by
  -- the indicator of "above `B/2`" as a weight: a bin that fits weighs at most `1`
  have := LPT43.packable_weight_le_map (w := fun x => if B < 2 * v x then 1 else 0) (c := 1) hm fun l _ h => by
    rw [Part.binSum_ite, Nat.one_mul, ← nBig, nBig_map]
    exact countP_big_le_one B (l.map v) h
  rwa [Part.binSum_ite, Nat.one_mul, Nat.mul_one] at this

example : nBig id 100 badItems ≤ 6 := nBig_le bad_packable

/-- at least as many big bins as items above `B/2`: a bin within the capacity holds at most one, and none unless
    it is a big bin -/
theorem nBig_le_bigbins {v : α → Nat} {B : Nat} (Ls : List (List α)) (h : ∀ L ∈ Ls, binSum v L ≤ B) :
    nBig v B Ls.flatten ≤ (Ls.filter (FF17.isBig v B)).length := by
  have := Part.binSum_le_binSum (l := Ls) (f := nBig v B) (g := fun L => if FF17.isBig v B L then 1 else 0)
    fun L hL => by
      by_cases hb : FF17.isBig v B L = true
      · rw [if_pos hb, nBig_map]
        exact countP_big_le_one B (L.map v) (h L hL)
      · rw [if_neg hb, nBig_eq_zero (not_big (Bool.eq_false_iff.2 hb))]
        exact Nat.le_refl 0
  rw [show binSum (nBig v B) Ls = nBig v B Ls.flatten from (Part.countP_flatten_eq _ Ls).symm, Part.binSum_ite,
    Nat.one_mul, List.countP_eq_length_filter] at this
  simpa only [Bool.decide_eq_true] using this

end Prtpy.FF17Abs

/-! ## Lemma B, refined -/

namespace Prtpy.FF17AbsB

open Prtpy.FF17 Prtpy.FF17Abs

variable {α : Type}

section Bins
variable {v : α → Nat} {B : Nat}

/-- bins that are all more than `2/3` full -/
theorem vol23_all (Ls : List (List α)) (h : ∀ M ∈ Ls, 2 * B < 3 * binSum v M) :
    2 * (B * Ls.length) + Ls.length ≤ 3 * binSum v Ls.flatten := by
  have := Part.binSum_le_binSum (f := fun _ => 2 * B + 1) (g := fun M => 3 * binSum v M) h
  rw [Part.binSum_const, Part.binSum_mul_left, ← Part.binSum_flatten, Nat.mul_add, Nat.mul_left_comm,
    Nat.mul_comm _ B] at this
  omega

/-- bins that pairwise overflow, each more than `2/3` full or at most `1/3` full: all but one are `2/3` full -/
theorem vol23_one : ∀ Ls : List (List α), (∀ M ∈ Ls, 2 * B < 3 * binSum v M ∨ 3 * binSum v M ≤ B) →
    Ls.Pairwise (fun L M => B < binSum v L + binSum v M) →
    2 * (B * Ls.length) + Ls.length ≤ 3 * binSum v Ls.flatten + 2 * B + 1
  | [], _, _ => by simp
  | M :: Ls, h, hp => by
    rw [List.pairwise_cons] at hp
    simp only [List.length_cons, List.flatten_cons, Part.binSum_append, Nat.mul_succ]
    rcases h M (by simp) with h1 | h1
    · have h2 := vol23_one Ls (fun M hM => h M (List.mem_cons_of_mem _ hM)) hp.2
      omega
    · have h2 := vol23_all (v := v) (B := B) Ls (fun M' hM' => by have := hp.1 M' hM'; omega)
      omega

/-- next to a bin `L'` at most `1/3` full, every other bin is more than `2/3` full -/
theorem vol23_beside {Ls : List (List α)} (hp : Ls.Pairwise (Rel v B)) {L' : List α} (hL' : L' ∈ Ls)
    (ht : 3 * binSum v L' ≤ B) :
    2 * (B * Ls.length) + Ls.length ≤ 3 * binSum v Ls.flatten + 2 * B + 1 := by
  refine vol23_one Ls (fun M hM => ?_) (hp.imp (fun h => rel_sum h))
  by_cases hML : M = L'
  · subst hML
    exact Or.inr ht
  · have := pairwise_sum hp hM hL' hML
    exact Or.inl (by omega)

/-- a bin holding a single item between `5/12` and `1/2` of the capacity -/
def HalfSingleton (v : α → Nat) (B : Nat) (Ls : List (List α)) : Prop :=
  ∃ x, [x] ∈ Ls ∧ 5 * B < 12 * v x ∧ 2 * v x ≤ B

theorem halfSingleton_of_small {Ls : List (List α)} {S : List α} (hS : S ∈ Ls) (hb : FF17.isBig v B S = false)
    (h1 : S.length ≤ 1) (h5 : 5 * B < 12 * binSum v S) : HalfSingleton v B Ls := by
  match S, h1 with
  | [], _ => simp [binSum, sumL] at h5
  | [x], _ => exact ⟨x, hS, by simpa [binSum, sumL] using h5, not_big hb x (by simp)⟩

/-- Lemma B for at least two bins, the strongest form used: with `K` big bins, either all bins but one are more
    than `2/3` full, or some bin holds a single item between `5/12` and `1/2` and fewer than `7/10` is lost, or
    there is no big bin and fewer than `8/10` is lost, or `K ≥ 1` and fewer than `(7 − j)/10` is lost for every
    `j ≤ min K 3`.  By the cases of `bins_cases`; next to a bin `T` without big item every big bin is more than
    `B − s(T)` full (`big_total_beside`, `big_total_ge_beside`).  The last alternative uses the surplus
    `12·s + 4·B − 10·B` of *every* big bin: next to a small bin `[x]` every big bin is more than `B − x` full, i.e. weighs
    `≥ 12·B` (`x < B/3`) or `≥ 11·B` (`x ≤ 5B/12`); in the chain-only case a chain bin `L'` with `B/3 < s(L') ≤ B/2`
    forces a big bin of weight `> 16·B − 12·s(L')`. -/
theorem bins_loss {Ls : List (List α)} (hp : Ls.Pairwise (Rel v B)) (h2 : 2 ≤ Ls.length) (hB : 0 < B) :
    2 * (B * Ls.length) + Ls.length ≤ 3 * binSum v Ls.flatten + 2 * B + 1 ∨
    (HalfSingleton v B Ls ∧ 10 * (B * Ls.length) + 1 ≤ binSum (W v B) Ls.flatten + 7 * B) ∨
    ((Ls.filter (FF17.isBig v B)).length = 0 ∧
      10 * (B * Ls.length) + 1 ≤ binSum (W v B) Ls.flatten + 8 * B) ∨
    (1 ≤ (Ls.filter (FF17.isBig v B)).length ∧ ∀ j, j ≤ 3 → j ≤ (Ls.filter (FF17.isBig v B)).length →
      10 * (B * Ls.length) + 1 + B * j ≤ binSum (W v B) Ls.flatten + 7 * B) := by
  have hb := big_total (v := v) (B := B) Ls
  -- the last alternative, from `K ≥ 1` and a loss below `4/10`
  have plain : 1 ≤ (Ls.filter (FF17.isBig v B)).length →
      10 * (B * Ls.length) + 1 ≤ binSum (W v B) Ls.flatten + 4 * B →
      1 ≤ (Ls.filter (FF17.isBig v B)).length ∧ ∀ j, j ≤ 3 → j ≤ (Ls.filter (FF17.isBig v B)).length →
        10 * (B * Ls.length) + 1 + B * j ≤ binSum (W v B) Ls.flatten + 7 * B :=
    fun hK h => ⟨hK, fun j hj3 _ => by have := Nat.mul_le_mul_left B hj3; omega⟩
  rcases bins_cases hp with ⟨_, hn, hw⟩ | ⟨S, hS, hSb, hS1, hn, hw⟩ | ⟨_, L', hL', hL'b, hw⟩ |
    ⟨S, hS, hSb, hS1, L', _, _, hov, hw⟩
  · exact Or.inr (Or.inr (Or.inr (plain (by omega) (by rw [hn, hw]; omega))))
  · have hwS := weight_ge (v := v) (B := B) S
    have := big_total_beside hp hS hSb (by omega)
    exact Or.inr (Or.inr (Or.inr (plain (by omega) (by rw [hn, hw, Nat.mul_add]; omega))))
  · by_cases ht : B < 3 * binSum v L'
    · by_cases hK : (Ls.filter (FF17.isBig v B)).length = 0
      · exact Or.inr (Or.inr (Or.inl ⟨hK, by omega⟩))
      · -- a big bin next to `L'` is more than `B − s(L')` full
        refine Or.inr (Or.inr (Or.inr (plain (by omega) ?_)))
        by_cases ht2 : B < 2 * binSum v L'
        · omega
        · have := big_total_beside hp hL' hL'b (by omega)
          omega
    · exact Or.inl (vol23_beside hp hL' (by omega))
  · have hwS := weight_ge (v := v) (B := B) S
    have hwS3 := (small_weight hSb hS1).2
    by_cases hx5 : 5 * B < 12 * binSum v S
    · exact Or.inr (Or.inl ⟨halfSingleton_of_small hS hSb hS1 hx5, by omega⟩)
    · by_cases hK : (Ls.filter (FF17.isBig v B)).length = 0
      · exact Or.inr (Or.inr (Or.inl ⟨hK, by omega⟩))
      · -- `S` is at most `5/12` full, so every big bin is at least `7/12` full (`2/3` if `S` is below `1/3`)
        refine Or.inr (Or.inr (Or.inr ⟨by omega, fun j _ hjK => ?_⟩))
        have hBjK := Nat.mul_le_mul_left B hjK
        have hBK := Nat.mul_le_mul_left B (show 1 ≤ (Ls.filter (FF17.isBig v B)).length by omega)
        by_cases hx3 : B ≤ 3 * binSum v S
        · have hge := big_total_ge_beside hp hS hSb B (by omega)
          omega
        · have hge := big_total_ge_beside hp hS hSb (2 * B) (by omega)
          rw [Nat.mul_assoc] at hge
          omega

/-- Lemma B, refined (C09): with at least two bins, either fewer than `6/10` of a bin is lost, or all bins
    but one are more than `2/3` full, or no bin is big and fewer than `8/10` is lost, or some bin holds a single
    item between `5/12` and `1/2` (and fewer than `7/10` is lost) -/
theorem bins_weight5 {Ls : List (List α)} (hp : Ls.Pairwise (Rel v B)) (h2 : 2 ≤ Ls.length) (hB : 0 < B) :
    10 * (B * Ls.length) + 1 ≤ binSum (W v B) Ls.flatten + 6 * B ∨
    2 * (B * Ls.length) + Ls.length ≤ 3 * binSum v Ls.flatten + 2 * B + 1 ∨
    ((∀ L ∈ Ls, FF17.isBig v B L = false) ∧
      10 * (B * Ls.length) + 1 ≤ binSum (W v B) Ls.flatten + 8 * B) ∨
    (HalfSingleton v B Ls ∧ 10 * (B * Ls.length) + 1 ≤ binSum (W v B) Ls.flatten + 7 * B) := by
  rcases bins_loss hp h2 hB with h | h | h | ⟨hK, h⟩
  · exact Or.inr (Or.inl h)
  · exact Or.inr (Or.inr (Or.inr h))
  · exact Or.inr (Or.inr (Or.inl ⟨fun L hL => by
      simpa using List.filter_eq_nil_iff.1 (List.length_eq_zero_iff.1 h.1) L hL, h.2⟩))
  · exact Or.inl (by have := h 1 (by omega) hK; omega)

end Bins

end Prtpy.FF17AbsB

namespace Prtpy.FF17Abs

open Prtpy.FF17

variable {α : Type}

/-! ## Runs that keep the invariant -/

/-- what the bounds use of a run with at least two bins: the capacity is positive, the optimum's side
    for the weight (`packable_weight_le_count`) and for the volume, and at least as many big bins as big items -/
theorem run_facts {v : α → Nat} {B m : Nat} {items : List α} {b : Bins α} (h : Inv2 v B items b)
    (hm : Packable B m (items.map v)) (h2 : 2 ≤ b.lists.length) :
    0 < B ∧ binSum (W v B) b.lists.flatten ≤ 15 * (B * m) + 2 * (B * nBig v B items) ∧
    binSum v b.lists.flatten ≤ B * m ∧ nBig v B items ≤ (b.lists.filter (FF17.isBig v B)).length := by
  have hB : 0 < B := Nat.pos_of_ne_zero (fun hB => by have := one_bin_of_zero h hB; omega)
  have hO := packable_weight_le_count hm
  have hV : binSum v items ≤ B * m := Nat.mul_comm m B ▸ Fit.packing_lower_bound hm
  have hK := nBig_le_bigbins (v := v) (B := B) b.lists h.inv.le_lists
  have hk : nBig v B b.lists.flatten = nBig v B items := h.inv.perm.countP_eq _
  rw [Part.binSum_perm _ h.inv.perm, Part.binSum_perm _ h.inv.perm]
  exact ⟨hB, hO, hV, by omega⟩

/-- The run-level bound behind every `ff_…` / `bf_…` / `gen_…` result of this file and of FF17AbsB: for a run
    that keeps the invariant on a non-empty input, `n` bins, `k` items above `B/2`, the items packable into `m` bins:
    `10·n ≤ 15·m + 2·k + r`, where `r = 7` for `k = 0`, `r = 6` for `k ≥ 1`, and `r = 5, 4, 3` for `k = 1, 2, ≥ 3` when
    the output has no half singleton; with `k ≤ m`, `1 ≤ m` and `n < 2·m` from two bins on, every member
    of the grid is arithmetic.  Lemma B (`bins_loss`) against Lemma A (`packable_weight_le_count`), divided by `B`. -/
theorem inv2_grid {v : α → Nat} {B m : Nat} {items : List α} {b : Bins α} (h : Inv2 v B items b)
    (hne : items ≠ []) (hm : Packable B m (items.map v)) :
    10 * b.lists.length ≤ 15 * m + 2 * nBig v B items + 7 ∧
    (1 ≤ nBig v B items → 10 * b.lists.length ≤ 15 * m + 2 * nBig v B items + 6) ∧
    (¬ FF17AbsB.HalfSingleton v B b.lists →
      (1 ≤ nBig v B items → 10 * b.lists.length ≤ 15 * m + 2 * nBig v B items + 5) ∧
      (2 ≤ nBig v B items → 10 * b.lists.length ≤ 15 * m + 2 * nBig v B items + 4) ∧
      (3 ≤ nBig v B items → 10 * b.lists.length ≤ 15 * m + 2 * nBig v B items + 3)) ∧
    nBig v B items ≤ m ∧ 1 ≤ m ∧ (2 ≤ b.lists.length → b.lists.length < 2 * m) := by
  have hm1 : 1 ≤ m := LPT43.packable_pos hm (by simpa using hne)
  -- `r = 7, 5, 4, 3`, or a half singleton and `r = 6`
  have key : (10 * b.lists.length ≤ 15 * m + 2 * nBig v B items + 7 ∧
        (1 ≤ nBig v B items → 10 * b.lists.length ≤ 15 * m + 2 * nBig v B items + 5) ∧
        (2 ≤ nBig v B items → 10 * b.lists.length ≤ 15 * m + 2 * nBig v B items + 4) ∧
        (3 ≤ nBig v B items → 10 * b.lists.length ≤ 15 * m + 2 * nBig v B items + 3)) ∨
      (FF17AbsB.HalfSingleton v B b.lists ∧ 10 * b.lists.length ≤ 15 * m + 2 * nBig v B items + 6) := by
    by_cases h2 : 2 ≤ b.lists.length
    · obtain ⟨hB, hO, hV, hK⟩ := run_facts h hm h2
      rcases FF17AbsB.bins_loss h.pairwise h2 hB with hW | ⟨hhs, hW⟩ | ⟨hnb, hW⟩ | ⟨_, hW⟩
      · -- the volume: `3·V ≤ 3·B·m`, and `n ≥ 2`
        have := unscale_lt (show 2 * (B * b.lists.length) < 3 * (B * m) + 2 * B by omega)
        exact Or.inl (by omega)
      · have := unscale_lt_count
          (show 10 * (B * b.lists.length) < 15 * (B * m) + 2 * (B * nBig v B items) + 7 * B by omega)
        exact Or.inr ⟨hhs, by omega⟩
      · have := unscale_lt_count
          (show 10 * (B * b.lists.length) < 15 * (B * m) + 2 * (B * nBig v B items) + 8 * B by omega)
        exact Or.inl (by omega)
      · have hW := hW (min (nBig v B items) 3) (by omega) (by omega)
        have := unscale_lt_count
          (show 1 * (B * (10 * b.lists.length + min (nBig v B items) 3)) <
              15 * (B * m) + 2 * (B * nBig v B items) + 7 * B by
            rw [Nat.mul_add, Nat.mul_left_comm]
            omega)
        exact Or.inl (by omega)
    · exact Or.inl (by omega)
  have rest := And.intro (nBig_le hm) (And.intro hm1
    (fun h2 => Fit.anyfit_lt_two_opt h.inv.isPacking h.inv.af h2 hm))
  rcases key with h | ⟨hhs, h⟩
  · exact ⟨h.1, fun hk => Nat.le_succ_of_le (h.2.1 hk), fun _ => h.2, rest⟩
  · exact ⟨Nat.le_succ_of_le h, fun _ => h, fun hs => absurd hhs hs, rest⟩

theorem inv2_bound6 {v : α → Nat} {B m : Nat} {items : List α} {b : Bins α} (h : Inv2 v B items b)
    (hne : items ≠ []) (hm : Packable B m (items.map v)) : 10 * b.lists.length ≤ 17 * m + 6 := by
  have := inv2_grid h hne hm
  omega

/-- the absolute bound, partial: for `OPT ≤ 2` (as `#bins < 2 · OPT`), for `OPT ≡ 0, 3, 6, 9 (mod 10)` (where
    `⌊(17·m + 6)/10⌋ = ⌊17·m/10⌋`), and when at most `OPT − 3` items exceed `B/2` -/
theorem inv2_abs_partial {v : α → Nat} {B m : Nat} {items : List α} {b : Bins α} (h : Inv2 v B items b)
    (hne : items ≠ []) (hm : Packable B m (items.map v))
    (hside : m ≤ 2 ∨ m % 10 = 0 ∨ m % 10 = 3 ∨ m % 10 = 6 ∨ m % 10 = 9 ∨ nBig v B items + 3 ≤ m) :
    10 * b.lists.length ≤ 17 * m := by
  have := inv2_grid h hne hm
  omega

/-- `+ 0.4` as soon as fewer than `m` items exceed `B/2` (some optimal bin has no such item) -/
theorem inv2_plus4 {v : α → Nat} {B m : Nat} {items : List α} {b : Bins α} (h : Inv2 v B items b)
    (hne : items ≠ []) (hm : Packable B m (items.map v)) (hk : nBig v B items < m) :
    10 * b.lists.length ≤ 17 * m + 4 := by
  have := inv2_grid h hne hm
  omega

theorem lists_ne_nil {v : α → Nat} {B : Nat} {items : List α} {b : Bins α} (h : Inv2 v B items b)
    (hne : items ≠ []) : b.lists.length ≠ 0 := by
  intro h0
  have := h.inv.perm
  rw [List.length_eq_zero_iff.1 h0] at this
  exact hne (by simpa using this.symm)

variable {v : α → Nat} {B m : Nat} {items : List α} {b : Bins α}

/-! ## The theorems -/

theorem gen_seventeen_tenths_plus_7 {step : Bins α → α → Bins α} (hstep : ∀ b x, Step2 v B b x (step b x))
    (hne : items ≠ []) (hok : Fit.genLoop v B step (Bins.new 1) items = .ok b)
    (hm : Packable B m (items.map v)) : 10 * b.lists.length ≤ 17 * m + 7 :=
  Nat.le_succ_of_le (inv2_bound6 (gen_inv2 hstep hok) hne hm)

/-- C09, `1.7 · OPT + 0.6` for every loop whose step function is an "almost first fit" step (`Step2`) -/
theorem gen_seventeen_tenths_plus_6 {step : Bins α → α → Bins α} (hstep : ∀ b x, Step2 v B b x (step b x))
    (hne : items ≠ []) (hok : Fit.genLoop v B step (Bins.new 1) items = .ok b)
    (hm : Packable B m (items.map v)) : 10 * b.lists.length ≤ 17 * m + 6 :=
  inv2_bound6 (gen_inv2 hstep hok) hne hm

/-- `1.7 · OPT + 0.7`, the bound of Xia and Tan 2010 -/
theorem ff_seventeen_tenths_plus_7 (hne : items ≠ []) (hok : ffOnline v B items = .ok b)
    (hm : Packable B m (items.map v)) : 10 * b.lists.length ≤ 17 * m + 7 :=
  Nat.le_succ_of_le (inv2_bound6 (ffOnline_inv2 hok) hne hm)

theorem bf_seventeen_tenths_plus_7 (hne : items ≠ []) (hok : bfOnline v B items = .ok b)
    (hm : Packable B m (items.map v)) : 10 * b.lists.length ≤ 17 * m + 7 :=
  Nat.le_succ_of_le (inv2_bound6 (bfOnline_inv2 hok) hne hm)

/-- **C09, first fit**: at most `1.7 · OPT + 0.6` bins on a non-empty input -/
theorem ff_seventeen_tenths_plus_6 (hne : items ≠ []) (hok : ffOnline v B items = .ok b)
    (hm : Packable B m (items.map v)) : 10 * b.lists.length ≤ 17 * m + 6 :=
  inv2_bound6 (ffOnline_inv2 hok) hne hm

/-- **C09, best fit**: at most `1.7 · OPT + 0.6` bins on a non-empty input -/
theorem bf_seventeen_tenths_plus_6 (hne : items ≠ []) (hok : bfOnline v B items = .ok b)
    (hm : Packable B m (items.map v)) : 10 * b.lists.length ≤ 17 * m + 6 :=
  inv2_bound6 (bfOnline_inv2 hok) hne hm

/-- `⌈1.7 · OPT⌉` (Garey, Graham, Johnson, Yao 1976) -/
theorem ff_seventeen_tenths_plus_9 (hne : items ≠ []) (hok : ffOnline v B items = .ok b)
    (hm : Packable B m (items.map v)) : 10 * b.lists.length ≤ 17 * m + 9 := by
  have := ff_seventeen_tenths_plus_6 hne hok hm
  omega

theorem bf_seventeen_tenths_plus_9 (hne : items ≠ []) (hok : bfOnline v B items = .ok b)
    (hm : Packable B m (items.map v)) : 10 * b.lists.length ≤ 17 * m + 9 := by
  have := bf_seventeen_tenths_plus_6 hne hok hm
  omega

/-- C09, first fit: `1.5 · OPT + 0.2 · k + 0.7`, where `k` is the number of items above `B/2`
    (and `+ 0.6` when there is such an item) -/
theorem ff_fifteen_tenths_big (hne : items ≠ []) (hok : ffOnline v B items = .ok b)
    (hm : Packable B m (items.map v)) :
    10 * b.lists.length ≤ 15 * m + 2 * nBig v B items + 7 ∧
    (1 ≤ nBig v B items → 10 * b.lists.length ≤ 15 * m + 2 * nBig v B items + 6) :=
  have h := inv2_grid (ffOnline_inv2 hok) hne hm
  ⟨h.1, h.2.1⟩

theorem bf_fifteen_tenths_big (hne : items ≠ []) (hok : bfOnline v B items = .ok b)
    (hm : Packable B m (items.map v)) :
    10 * b.lists.length ≤ 15 * m + 2 * nBig v B items + 7 ∧
    (1 ≤ nBig v B items → 10 * b.lists.length ≤ 15 * m + 2 * nBig v B items + 6) :=
  have h := inv2_grid (bfOnline_inv2 hok) hne hm
  ⟨h.1, h.2.1⟩

/-- C09, first fit: `+ 0.4` when fewer than `m` items exceed `B/2`; so the bounds `+ 0.5` and `+ 0.6` can only be
    attained when every bin of the optimum holds an item above `B/2` -/
theorem ff_seventeen_tenths_plus_4_partial (hne : items ≠ []) (hok : ffOnline v B items = .ok b)
    (hm : Packable B m (items.map v)) (hk : nBig v B items < m) : 10 * b.lists.length ≤ 17 * m + 4 :=
  inv2_plus4 (ffOnline_inv2 hok) hne hm hk

theorem bf_seventeen_tenths_plus_4_partial (hne : items ≠ []) (hok : bfOnline v B items = .ok b)
    (hm : Packable B m (items.map v)) (hk : nBig v B items < m) : 10 * b.lists.length ≤ 17 * m + 4 :=
  inv2_plus4 (bfOnline_inv2 hok) hne hm hk

/-- C09, the absolute bound `#bins ≤ ⌊1.7 · OPT⌋` for first fit under the side conditions of `inv2_abs_partial`; the
    cases that stay open are listed at the head of FF17AbsC.lean -/
theorem ff_seventeen_tenths_abs_partial (hne : items ≠ []) (hok : ffOnline v B items = .ok b)
    (hm : Packable B m (items.map v))
    (hside : m ≤ 2 ∨ m % 10 = 0 ∨ m % 10 = 3 ∨ m % 10 = 6 ∨ m % 10 = 9 ∨ nBig v B items + 3 ≤ m) :
    10 * b.lists.length ≤ 17 * m :=
  inv2_abs_partial (ffOnline_inv2 hok) hne hm hside

theorem bf_seventeen_tenths_abs_partial (hne : items ≠ []) (hok : bfOnline v B items = .ok b)
    (hm : Packable B m (items.map v))
    (hside : m ≤ 2 ∨ m % 10 = 0 ∨ m % 10 = 3 ∨ m % 10 = 6 ∨ m % 10 = 9 ∨ nBig v B items + 3 ≤ m) :
    10 * b.lists.length ≤ 17 * m :=
  inv2_abs_partial (bfOnline_inv2 hok) hne hm hside

/-! ### C09, small cases: `OPT = 1` gives one bin, `OPT = 2` at most three bins, `OPT = 3` at most five (first fit, then
best fit) -/

theorem ff_opt_one (hne : items ≠ []) (hok : ffOnline v B items = .ok b)
    (hm : Packable B 1 (items.map v)) : b.lists.length = 1 := by
  have := ff_seventeen_tenths_abs_partial hne hok hm (Or.inl (by omega))
  have := lists_ne_nil (ffOnline_inv2 hok) hne
  omega

theorem ff_opt_two (hne : items ≠ []) (hok : ffOnline v B items = .ok b)
    (hm : Packable B 2 (items.map v)) : b.lists.length ≤ 3 := by
  have := ff_seventeen_tenths_abs_partial hne hok hm (Or.inl (by omega))
  omega

theorem ff_opt_three (hne : items ≠ []) (hok : ffOnline v B items = .ok b)
    (hm : Packable B 3 (items.map v)) : b.lists.length ≤ 5 := by
  have := ff_seventeen_tenths_abs_partial hne hok hm (Or.inr (Or.inr (Or.inl rfl)))
  omega

theorem bf_opt_three (hne : items ≠ []) (hok : bfOnline v B items = .ok b)
    (hm : Packable B 3 (items.map v)) : b.lists.length ≤ 5 := by
  have := bf_seventeen_tenths_abs_partial hne hok hm (Or.inr (Or.inr (Or.inl rfl)))
  omega

theorem bf_opt_one (hne : items ≠ []) (hok : bfOnline v B items = .ok b)
    (hm : Packable B 1 (items.map v)) : b.lists.length = 1 := by
  have := bf_seventeen_tenths_abs_partial hne hok hm (Or.inl (by omega))
  have := lists_ne_nil (bfOnline_inv2 hok) hne
  omega

theorem bf_opt_two (hne : items ≠ []) (hok : bfOnline v B items = .ok b)
    (hm : Packable B 2 (items.map v)) : b.lists.length ≤ 3 := by
  have := bf_seventeen_tenths_abs_partial hne hok hm (Or.inl (by omega))
  omega

/-! ## Non-vacuity -/

attribute [local instance] decEqBins decEqExcept

example : 10 * 10 ≤ 17 * 6 + 7 := ff_seventeen_tenths_plus_7 (by decide) bad_ff bad_packable
example : 10 * 10 ≤ 17 * 6 + 7 := bf_seventeen_tenths_plus_7 (by decide) bad_bf bad_packable
example : 10 * 10 ≤ 17 * 6 + 6 := ff_seventeen_tenths_plus_6 (by decide) bad_ff bad_packable
example : 10 * 10 ≤ 17 * 6 + 6 := bf_seventeen_tenths_plus_6 (by decide) bad_bf bad_packable
/-- on the classical bad instance (`OPT = 6`) the absolute bound is obtained, and it is tight: `10 = ⌊10.2⌋` -/
example : 10 * 10 ≤ 17 * 6 := ff_seventeen_tenths_abs_partial (by decide) bad_ff bad_packable (by decide)
example : 10 * 10 ≤ 17 * 6 := bf_seventeen_tenths_abs_partial (by decide) bad_bf bad_packable (by decide)

example : 10 * 10 ≤ 17 * 6 + 9 := ff_seventeen_tenths_plus_9 (by decide) bad_ff bad_packable
example : 10 * 10 ≤ 17 * 6 + 9 := bf_seventeen_tenths_plus_9 (by decide) bad_bf bad_packable
example : 10 * 10 ≤ 17 * 6 + 6 :=
  gen_seventeen_tenths_plus_6 (items := badItems) (b := ⟨[90, 68, 68, 68, 51, 51, 51, 51, 51, 51],
    [[15, 15, 15, 15, 15, 15], [34, 34], [34, 34], [34, 34], [51], [51], [51], [51], [51], [51]]⟩)
    (ffStep_step2 id 100) (by decide) (by decide +kernel) bad_packable
example : 10 * 10 ≤ 17 * 6 + 7 :=
  gen_seventeen_tenths_plus_7 (items := badItems) (b := ⟨[90, 68, 68, 68, 51, 51, 51, 51, 51, 51],
    [[15, 15, 15, 15, 15, 15], [34, 34], [34, 34], [34, 34], [51], [51], [51], [51], [51], [51]]⟩)
    (bfStep_step2 id 100) (by decide) (by decide +kernel) bad_packable

/-- six items above `B/2` in the bad instance: `100 ≤ 90 + 12 + 6` -/
example : nBig id 100 badItems = 6 := by decide
example : 10 * 10 ≤ 15 * 6 + 2 * nBig id 100 badItems + 6 :=
  (ff_fifteen_tenths_big (by decide) bad_ff bad_packable).2 (by decide)
example : 10 * 10 ≤ 15 * 6 + 2 * nBig id 100 badItems + 7 :=
  (bf_fifteen_tenths_big (by decide) bad_bf bad_packable).1

/-- `OPT = 4` is not one of the residues; the side condition holds because no item exceeds `B/2` -/
example : 10 * 4 ≤ 17 * 4 :=
  ff_seventeen_tenths_abs_partial (v := id) (B := 10) (items := [4, 4, 4, 4, 4, 4, 4, 4])
    (b := ⟨[8, 8, 8, 8], [[4, 4], [4, 4], [4, 4], [4, 4]]⟩) (by decide) rfl
    ⟨[0, 0, 1, 1, 2, 2, 3, 3], ⟨rfl, by decide⟩, by decide⟩ (by decide)
example : 10 * 4 ≤ 17 * 4 :=
  bf_seventeen_tenths_abs_partial (v := id) (B := 10) (items := [4, 4, 4, 4, 4, 4, 4, 4])
    (b := ⟨[8, 8, 8, 8], [[4, 4], [4, 4], [4, 4], [4, 4]]⟩) (by decide) rfl
    ⟨[0, 0, 1, 1, 2, 2, 3, 3], ⟨rfl, by decide⟩, by decide⟩ (by decide)

example : 10 * 4 ≤ 17 * 4 + 4 :=
  ff_seventeen_tenths_plus_4_partial (v := id) (B := 10) (items := [4, 4, 4, 4, 4, 4, 4, 4])
    (b := ⟨[8, 8, 8, 8], [[4, 4], [4, 4], [4, 4], [4, 4]]⟩) (by decide) rfl
    ⟨[0, 0, 1, 1, 2, 2, 3, 3], ⟨rfl, by decide⟩, by decide⟩ (by decide)
example : 10 * 2 ≤ 17 * 2 + 4 :=
  bf_seventeen_tenths_plus_4_partial (v := id) (B := 10) (items := [5, 6, 4, 5])
    (b := ⟨[10, 10], [[5, 5], [6, 4]]⟩) (by decide) rfl ⟨[0, 1, 1, 0], ⟨rfl, by decide⟩, by decide⟩ (by decide)

/-- small cases; `OPT = 2` with three first-fit bins is attained -/
example : ([[3, 3, 4]] : List (List Nat)).length = 1 :=
  ff_opt_one (v := id) (B := 10) (items := [3, 3, 4]) (b := ⟨[10], [[3, 3, 4]]⟩) (by decide) rfl
    ⟨[0, 0, 0], ⟨rfl, by decide⟩, by decide⟩
example : ([[3, 3, 4]] : List (List Nat)).length = 1 :=
  bf_opt_one (v := id) (B := 10) (items := [3, 3, 4]) (b := ⟨[10], [[3, 3, 4]]⟩) (by decide) rfl
    ⟨[0, 0, 0], ⟨rfl, by decide⟩, by decide⟩
example : ([[5, 4], [6], [5]] : List (List Nat)).length ≤ 3 :=
  ff_opt_two (v := id) (B := 10) (items := [5, 6, 4, 5]) (b := ⟨[9, 6, 5], [[5, 4], [6], [5]]⟩) (by decide) rfl
    ⟨[0, 1, 1, 0], ⟨rfl, by decide⟩, by decide⟩
example : ([[5, 5], [6, 4]] : List (List Nat)).length ≤ 3 :=
  bf_opt_two (v := id) (B := 10) (items := [5, 6, 4, 5]) (b := ⟨[10, 10], [[5, 5], [6, 4]]⟩) (by decide) rfl
    ⟨[0, 1, 1, 0], ⟨rfl, by decide⟩, by decide⟩
example : ([[4, 4], [4, 6], [6], [6]] : List (List Nat)).length ≤ 5 :=
  ff_opt_three (v := id) (B := 10) (items := [4, 4, 4, 6, 6, 6]) (b := ⟨[8, 10, 6, 6], [[4, 4], [4, 6], [6], [6]]⟩)
    (by decide) rfl ⟨[0, 1, 2, 0, 1, 2], ⟨rfl, by decide⟩, by decide⟩

/-- `items ≠ []` cannot be dropped: the empty input gets one (empty) bin and is packable into `0` bins -/
example : ffOnline id 10 ([] : List Nat) = .ok ⟨[0], [[]]⟩ ∧ Packable 10 0 (([] : List Nat).map id) ∧
    ¬ 10 * 1 ≤ 17 * 0 + 9 :=
  ⟨rfl, ⟨[], ⟨rfl, by simp⟩, by simp [sumsOf]⟩, by decide⟩


end Prtpy.FF17Abs
