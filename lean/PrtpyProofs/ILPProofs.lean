/-
  PrtpyProofs.ILPProofs — C17: the integer-programming partitioner (`partitioning/integer_programming.py`,
  model `Prtpy.ILP`).  The MIP solver is trusted to return an optimal point of the formulation; everything
  here is about the formulation (rows, objective row), the read-back of the solver's answer, and the optimum
  `ilpBest` of the formulation over its finite space of points; `solver_answer_spec` assembles it.

  Rational arithmetic: plain `decide` does not evaluate `Rat`; the concrete examples are evaluated by the
  kernel (`decide +kernel`).  Finite sums are the file's own `rsum` (a recursion on the bound): none of
  Mathlib's big operators is imported.
-/
import PrtpyProofs.Oracle
import PrtpyProofs.Obj
import PrtpyProofs.BinsOps
import Mathlib.Tactic.Ring
import Mathlib.Tactic.Linarith
import Mathlib.Algebra.Order.Field.Rat
import Mathlib.Tactic.NormNum
import Mathlib.Data.List.Perm.Basic
open Prtpy Prtpy.ILP

namespace Prtpy.ILPProofs

/-! ## finite sums of rationals -/

/-- `Σ_{j < N} h j` -/
def rsum : Nat → (Nat → Rat) → Rat
  | 0, _ => 0
  | N + 1, h => rsum N h + h N

@[simp] theorem rsum_zero (h : Nat → Rat) : rsum 0 h = 0 := rfl
theorem rsum_succ (N : Nat) (h : Nat → Rat) : rsum (N + 1) h = rsum N h + h N := rfl

theorem rsum_congr {N : Nat} {f g : Nat → Rat} (h : ∀ j, j < N → f j = g j) : rsum N f = rsum N g := by
  induction N with
  | zero => rfl
  | succ N ih =>
    rw [rsum_succ, rsum_succ, ih (fun j hj => h j (by omega)), h N (by omega)]

theorem rsum_add (N : Nat) (f g : Nat → Rat) : rsum N (fun j => f j + g j) = rsum N f + rsum N g := by
  induction N with
  | zero => simp
  | succ N ih => rw [rsum_succ, rsum_succ, rsum_succ, ih]; ring

theorem rsum_neg (N : Nat) (f : Nat → Rat) : rsum N (fun j => -f j) = -rsum N f := by
  induction N with
  | zero => simp
  | succ N ih => rw [rsum_succ, rsum_succ, ih]; ring

theorem rsum_mul_right (N : Nat) (f : Nat → Rat) (c : Rat) : rsum N (fun j => f j * c) = rsum N f * c := by
  induction N with
  | zero => simp
  | succ N ih => rw [rsum_succ, rsum_succ, ih]; ring

theorem rsum_const_zero (N : Nat) : rsum N (fun _ => 0) = 0 := by
  induction N with
  | zero => rfl
  | succ N ih => rw [rsum_succ, ih]; ring

theorem rsum_append (A B : Nat) (h : Nat → Rat) :
    rsum (A + B) h = rsum A h + rsum B (fun j => h (A + j)) := by
  induction B with
  | zero => simp
  | succ B ih => rw [← Nat.add_assoc, rsum_succ, rsum_succ, ih]; ring

theorem rsum_mul (n k : Nat) (h : Nat → Rat) :
    rsum (n * k) h = rsum n (fun i => rsum k (fun c => h (i * k + c))) := by
  induction n with
  | zero => simp
  | succ n ih => rw [Nat.succ_mul, rsum_append, ih, rsum_succ]

theorem rsum_ite_eq (N b : Nat) (hb : b < N) (f : Nat → Rat) :
    rsum N (fun j => if j = b then f j else 0) = f b := by
  induction N with
  | zero => omega
  | succ N ih =>
    rw [rsum_succ]
    by_cases h : b = N
    · subst h
      rw [rsum_congr (g := fun _ => 0) (fun j hj => by simp; intro; omega), rsum_const_zero]
      simp
    · rw [ih (by omega), if_neg (fun e => h e.symm)]; ring

/-! ## `dot` and the vector operations -/

theorem foldl_add_init (l : List Rat) (c : Rat) : l.foldl (· + ·) c = c + l.foldl (· + ·) 0 := by
  induction l generalizing c with
  | nil => simp
  | cons a l ih => rw [List.foldl_cons, List.foldl_cons, ih, ih (0 + a)]; ring

@[simp] theorem dot_nil_left (x : List Rat) : dot [] x = 0 := by simp [dot]
@[simp] theorem dot_nil_right (a : List Rat) : dot a [] = 0 := by simp [dot]

@[simp] theorem sumRat_nil : sumRat [] = 0 := rfl

theorem sumRat_cons (a : Rat) (l : List Rat) : sumRat (a :: l) = a + sumRat l := by
  unfold sumRat
  rw [List.foldl_cons, foldl_add_init]; ring

theorem sumRat_map_range (N : Nat) (f : Nat → Rat) : sumRat ((List.range N).map f) = rsum N f := by
  induction N with
  | zero => rfl
  | succ N ih =>
    unfold sumRat at ih ⊢
    rw [List.range_succ, List.map_append, List.foldl_append, ih]
    rfl

theorem sumRat_map_cast (L : List Nat) : sumRat (L.map fun x => ((x : Nat) : Rat)) = ((sumL L : Nat) : Rat) := by
  induction L with
  | nil => simp [sumL]
  | cons x L ih => rw [List.map_cons, sumRat_cons, ih]; simp [sumL]

theorem rsum_natCast (N : Nat) (f : Nat → Nat) :
    rsum N (fun j => ((f j : Nat) : Rat)) = ((sumL ((List.range N).map f) : Nat) : Rat) := by
  rw [← sumRat_map_cast, List.map_map, sumRat_map_range]; rfl

theorem dot_cons (a : Rat) (as : List Rat) (x : Rat) (xs : List Rat) :
    dot (a :: as) (x :: xs) = a * x + dot as xs := by
  simp only [dot, List.zipWith_cons_cons, List.foldl_cons]
  rw [foldl_add_init]; ring

theorem addV_cons (a : Rat) (as : List Rat) (b : Rat) (bs : List Rat) :
    addV (a :: as) (b :: bs) = (a + b) :: addV as bs := rfl

theorem negV_cons (a : Rat) (as : List Rat) : negV (a :: as) = -a :: negV as := rfl

theorem dot_map {ι : Type} (l : List ι) (f g : ι → Rat) :
    dot (l.map f) (l.map g) = sumRat (l.map fun j => f j * g j) := by
  induction l with
  | nil => rfl
  | cons j l ih => rw [List.map_cons, List.map_cons, List.map_cons, dot_cons, sumRat_cons, ih]

theorem dot_addV (a b x : List Rat) (h : a.length = b.length) :
    dot (addV a b) x = dot a x + dot b x := by
  induction a generalizing b x with
  | nil =>
    have : b = [] := List.length_eq_zero_iff.1 h.symm
    subst this; simp [addV]
  | cons a as ih =>
    cases b with
    | nil => simp at h
    | cons b bs =>
      cases x with
      | nil => simp
      | cons x xs =>
        rw [addV_cons, dot_cons, dot_cons, dot_cons, ih bs xs (by simpa using h)]; ring

theorem dot_negV (a x : List Rat) : dot (negV a) x = -dot a x := by
  induction a generalizing x with
  | nil => simp [negV]
  | cons a as ih =>
    cases x with
    | nil => simp
    | cons x xs => rw [negV_cons, dot_cons, dot_cons, ih]; ring

theorem dot_zeros (N : Nat) (x : List Rat) : dot (List.replicate N 0) x = 0 := by
  induction N generalizing x with
  | zero => simp
  | succ N ih =>
    cases x with
    | nil => simp
    | cons x xs => rw [List.replicate_succ, dot_cons, ih]; ring

@[simp] theorem length_addV (a b : List Rat) : (addV a b).length = min a.length b.length := by
  simp [addV]
@[simp] theorem length_negV (a : List Rat) : (negV a).length = a.length := by simp [negV]
@[simp] theorem length_unit (s : Spec) (i b : Nat) : (unit s i b).length = nvars s := by simp [unit]
@[simp] theorem length_binSumExpr (s : Spec) (b : Nat) : (binSumExpr s b).length = nvars s := by
  simp [binSumExpr]
@[simp] theorem length_zeroV (s : Spec) : (zeroV s).length = nvars s := by simp [zeroV]
@[simp] theorem length_flat (s : Spec) (p : Point) : (flat s p).length = nvars s := by simp [flat]

theorem foldl_addV_spec (N : Nat) (l : List (List Rat)) (acc x : List Rat) (hacc : acc.length = N)
    (hl : ∀ a ∈ l, a.length = N) :
    (l.foldl addV acc).length = N ∧
      dot (l.foldl addV acc) x = l.foldl (fun r a => r + dot a x) (dot acc x) := by
  induction l generalizing acc with
  | nil => exact ⟨hacc, rfl⟩
  | cons a l ih =>
    have ha := hl a (by simp)
    simp only [List.foldl_cons]
    rw [← dot_addV acc a x (by omega)]
    exact ih (addV acc a) (by simp [hacc, ha]) (fun a' h' => hl a' (List.mem_cons_of_mem _ h'))

theorem dot_sumV (s : Spec) (l : List (List Rat)) (x : List Rat) (hl : ∀ a ∈ l, a.length = nvars s) :
    dot (sumV s l) x = sumRat (l.map (fun a => dot a x)) := by
  unfold sumV sumRat
  rw [(foldl_addV_spec (nvars s) l (zeroV s) x (by simp) hl).2, List.foldl_map]
  simp [zeroV, dot_zeros]

theorem length_sumV (s : Spec) (l : List (List Rat)) (hl : ∀ a ∈ l, a.length = nvars s) :
    (sumV s l).length = nvars s :=
  (foldl_addV_spec (nvars s) l (zeroV s) [] (by simp) hl).1

/-- entry `counts[i][b]` of a point (0 outside the shape) -/
def entry (p : Point) (i b : Nat) : Nat := (p.getD i []).getD b 0

theorem flat_eq (s : Spec) (p : Point) :
    flat s p = (List.range (nvars s)).map fun j => ((entry p (j / s.k) (j % s.k) : Nat) : Rat) := rfl

theorem rawSum_eq (s : Spec) (p : Point) (b : Nat) :
    rawSum s p b = sumL ((List.range s.vals.length).map fun i => entry p i b * s.vals.getD i 0) := rfl

theorem map_range_zip {β γ δ : Type} (F : β → γ → δ) (d₁ : β) (d₂ : γ) (l₁ : List β) (l₂ : List γ)
    (h : l₁.length = l₂.length) :
    (List.range l₁.length).map (fun i => F (l₁.getD i d₁) (l₂.getD i d₂)) = (l₁.zip l₂).map fun x => F x.1 x.2 := by
  induction l₁ generalizing l₂ with
  | nil => rfl
  | cons a l₁ ih =>
    cases l₂ with
    | nil => simp at h
    | cons c l₂ =>
      rw [List.length_cons, List.range_succ_eq_map, List.map_cons, List.map_map, List.zip_cons_cons, List.map_cons]
      congr 1
      exact ih l₂ (by simpa using h)

theorem rawSum_eq_zip (s : Spec) (p : Point) (b : Nat) (hp : p.length = s.vals.length) :
    rawSum s p b = sumL ((s.vals.zip p).map fun vr => vr.2.getD b 0 * vr.1) := by
  rw [rawSum, map_range_zip (fun v (r : List Nat) => r.getD b 0 * v) 0 [] s.vals p hp.symm]

theorem index_lt {n k i b : Nat} (hi : i < n) (hb : b < k) : i * k + b < n * k := by
  calc i * k + b < i * k + k := by omega
    _ = (i + 1) * k := by rw [Nat.succ_mul]
    _ ≤ n * k := Nat.mul_le_mul_right k hi

theorem index_div {k i b : Nat} (hb : b < k) : (i * k + b) / k = i := by
  rw [Nat.mul_comm, Nat.mul_add_div (by omega), Nat.div_eq_of_lt hb]; rfl

theorem index_mod {k i b : Nat} (hb : b < k) : (i * k + b) % k = b := by
  rw [Nat.mul_comm, Nat.mul_add_mod, Nat.mod_eq_of_lt hb]

theorem dot_unit (s : Spec) (p : Point) {i b : Nat} (hi : i < s.vals.length) (hb : b < s.k) :
    dot (unit s i b) (flat s p) = ((entry p i b : Nat) : Rat) := by
  rw [flat_eq, unit, dot_map, sumRat_map_range]
  rw [rsum_congr (g := fun j => if j = i * s.k + b then
      ((entry p (j / s.k) (j % s.k) : Nat) : Rat) else 0) (fun j _ => by split <;> simp)]
  rw [rsum_ite_eq _ _ (show i * s.k + b < nvars s from index_lt hi hb), index_div hb, index_mod hb]

theorem dot_binSumExpr (s : Spec) (p : Point) {b : Nat} (hb : b < s.k) :
    dot (binSumExpr s b) (flat s p) = wSum s p b := by
  have hk : s.k ≠ 0 := by omega
  rw [flat_eq, binSumExpr, dot_map, sumRat_map_range, nvars, rsum_mul]
  rw [rsum_congr (g := fun i => ((entry p i b * s.vals.getD i 0 : Nat) : Rat) *
      (((s.weights.getD b 1 : Nat) : Rat))⁻¹)]
  · rw [rsum_mul_right, rsum_natCast, wSum, rawSum_eq, div_eq_mul_inv]
  · intro i _
    rw [rsum_congr (g := fun c => if c = b then
        ((s.vals.getD i 0 : Nat) : Rat) / ((s.weights.getD b 1 : Nat) : Rat) * ((entry p i c : Nat) : Rat)
        else 0)]
    · rw [rsum_ite_eq _ _ hb]; push_cast; ring
    · intro c hc
      rw [index_div hc, index_mod hc]
      by_cases h : c = b
      · simp [h, hk]
      · simp [h]

/-- the left side of the row `Σ_b counts[i][b] = copies[i]` -/
theorem dot_itemRow (s : Spec) (p : Point) {i : Nat} (hi : i < s.vals.length)
    (hrow : (p.getD i []).length = s.k) :
    dot (sumV s ((List.range s.k).map fun b => unit s i b)) (flat s p) = ((sumL (p.getD i []) : Nat) : Rat) := by
  rw [dot_sumV _ _ _ (by intro a ha; obtain ⟨b, _, rfl⟩ := List.mem_map.1 ha; simp), List.map_map,
    sumRat_map_range]
  rw [rsum_congr (g := fun b => ((entry p i b : Nat) : Rat))
    (fun b hb => by simp only [Function.comp]; exact dot_unit s p hi hb), rsum_natCast]
  congr 2
  unfold entry
  rw [← hrow, Part.map_getD_range]

/-! ### `ascending` -/

theorem ascending_cons_cons (a b : Rat) (l : List Rat) :
    ascending (a :: b :: l) = (decide (a ≤ b) && ascending (b :: l)) := rfl

theorem ascending_iff_isChain (l : List Rat) : ascending l = true ↔ l.IsChain (· ≤ ·) := by
  induction l with
  | nil => simp [ascending]
  | cons a l ih =>
    cases l with
    | nil => simp [ascending]
    | cons b l => rw [ascending_cons_cons, Bool.and_eq_true, ih, decide_eq_true_iff, List.isChain_cons_cons]

theorem ascending_iff_pairwise (l : List Rat) : ascending l = true ↔ l.Pairwise (· ≤ ·) :=
  (ascending_iff_isChain l).trans List.isChain_iff_pairwise

theorem ascending_map_range (k : Nat) (f : Nat → Rat) :
    ascending ((List.range k).map f) = true ↔ ∀ b, b + 1 < k → f b ≤ f (b + 1) := by
  rw [ascending_iff_isChain, List.isChain_iff_getElem]
  simp only [List.length_map, List.length_range, List.getElem_map, List.getElem_range]

theorem wSums_headD (s : Spec) (p : Point) (hk : 0 < s.k) : (wSums s p).headD 0 = wSum s p 0 := by
  unfold wSums
  obtain ⟨k, hk'⟩ : ∃ k, s.k = k + 1 := ⟨s.k - 1, by omega⟩
  rw [hk', List.range_succ_eq_map]; rfl

theorem wSums_getLast (s : Spec) (p : Point) (hk : 0 < s.k) :
    (wSums s p).getLast?.getD 0 = wSum s p (s.k - 1) := by
  unfold wSums
  obtain ⟨k, hk'⟩ : ∃ k, s.k = k + 1 := ⟨s.k - 1, by omega⟩
  rw [hk', List.range_succ, List.map_append]; simp

/-! ## the rows say exactly what is documented -/

theorem feasible_iff (s : Spec) (p : Point) :
    feasible s p = true ↔
      shaped s p = true ∧ (∀ i, i < s.vals.length → sumL (p.getD i []) = s.copies.getD i 0) ∧
      (∀ b, b + 1 < s.k → wSum s p b ≤ wSum s p (b + 1)) ∧ ∀ c ∈ s.cons, c.holdsOn (wSums s p) = true := by
  unfold feasible
  rw [Bool.and_eq_true, Bool.and_eq_true, Bool.and_eq_true, List.all_eq_true, List.all_eq_true, wSums,
    ascending_map_range]
  simp only [List.mem_range, beq_iff_eq]
  tauto

theorem shaped_iff (s : Spec) (p : Point) :
    shaped s p = true ↔ p.length = s.vals.length ∧ ∀ r ∈ p, r.length = s.k := by
  simp [shaped]

theorem shaped_row {s : Spec} {p : Point} (h : shaped s p = true) {i : Nat} (hi : i < s.vals.length) :
    (p.getD i []).length = s.k := by
  obtain ⟨hl, hr⟩ := (shaped_iff s p).1 h
  have hi' : i < p.length := by omega
  rw [Part.getD_eq_getElem hi']
  exact hr _ (List.getElem_mem hi')

theorem signRow_holds (s : Spec) (p : Point) {i b : Nat} (hi : i < s.vals.length) (hb : b < s.k) :
    (⟨unit s i b, .ge, 0⟩ : Row).holds (flat s p) = true := by
  simp only [Row.holds, decide_eq_true_iff, dot_unit s p hi hb]
  exact Nat.cast_nonneg _

theorem itemRow_holds (s : Spec) (p : Point) {i : Nat} (hi : i < s.vals.length)
    (hrow : (p.getD i []).length = s.k) :
    (⟨sumV s ((List.range s.k).map fun b => unit s i b), .eq, ((s.copies.getD i 0 : Nat) : Rat)⟩ : Row).holds
      (flat s p) = true ↔ sumL (p.getD i []) = s.copies.getD i 0 := by
  simp only [Row.holds, decide_eq_true_iff, dot_itemRow s p hi hrow, Nat.cast_inj]

theorem orderRow_holds (s : Spec) (p : Point) {b : Nat} (hb : b + 1 < s.k) :
    (⟨addV (binSumExpr s (b + 1)) (negV (binSumExpr s b)), .ge, 0⟩ : Row).holds (flat s p) = true ↔
      wSum s p b ≤ wSum s p (b + 1) := by
  simp only [Row.holds, decide_eq_true_iff, dot_addV (binSumExpr s (b + 1)) (negV (binSumExpr s b)) _ (by simp),
    dot_negV, dot_binSumExpr s p hb, dot_binSumExpr s p (by omega : b < s.k)]
  constructor <;> intro h <;> linarith

theorem conRow_holds (s : Spec) (p : Point) (hk : 0 < s.k) (c : Con) :
    (conRow s c).holds (flat s p) = c.holdsOn (wSums s p) := by
  cases c with
  | smallestEq c =>
    simp only [conRow, Row.holds, Con.holdsOn, dot_binSumExpr s p hk, wSums_headD s p hk]
  | largestLe c =>
    simp only [conRow, Row.holds, Con.holdsOn, dot_binSumExpr s p (by omega : s.k - 1 < s.k),
      wSums_getLast s p hk]
  | smallestGe c =>
    simp only [conRow, Row.holds, Con.holdsOn, dot_binSumExpr s p hk, wSums_headD s p hk]

/-- C17, the formulation: the linear rows say exactly that each item is placed `copies[i]` times, the
    weighted sums are ascending and the caller's constraints hold.  Only `0 < k` is needed. -/
theorem rows_iff_feasible' (s : Spec) (p : Point) (hk : 0 < s.k) :
    satisfies s p = feasible s p := by
  rw [Bool.eq_iff_iff, feasible_iff, satisfies, Bool.and_eq_true, List.all_eq_true]
  refine and_congr_right fun hsh => ?_
  simp only [rows, List.mem_append, List.mem_flatMap, List.mem_map, List.mem_range]
  constructor
  · intro h
    refine ⟨fun i hi => ?_, fun b hb => ?_, fun c hc => ?_⟩
    · exact (itemRow_holds s p hi (shaped_row hsh hi)).1 (h _ (Or.inl (Or.inl (Or.inr ⟨i, hi, rfl⟩))))
    · exact (orderRow_holds s p hb).1 (h _ (Or.inl (Or.inr ⟨b, by omega, rfl⟩)))
    · rw [← conRow_holds s p hk c]
      exact h _ (Or.inr ⟨c, hc, rfl⟩)
  · rintro ⟨h1, h2, h3⟩ r (((⟨b, hb, i, hi, rfl⟩ | ⟨i, hi, rfl⟩) | ⟨b, hb, rfl⟩) | ⟨c, hc, rfl⟩)
    · exact signRow_holds s p hi hb
    · exact (itemRow_holds s p hi (shaped_row hsh hi)).2 (h1 i hi)
    · exact (orderRow_holds s p (by omega)).2 (h2 b (by omega))
    · rw [conRow_holds s p hk c]
      exact h3 c hc

/-- C17: `rows_iff_feasible'` under the side conditions of the interface (unused, except `0 < k`). -/
theorem rows_iff_feasible (s : Spec) (p : Point) (_hc : s.copies.length = s.vals.length)
    (_hw : s.weights.length = s.k) (_hpos : ∀ w ∈ s.weights, 0 < w) (hk : 0 < s.k)
    (_hp : shaped s p = true) :
    satisfies s p = true ↔ feasible s p = true := by
  rw [rows_iff_feasible' s p hk]

/-- the running example: two bins with weights 2 and 1 -/
def exSpec : Spec :=
  { k := 2, vals := [11, 11, 11, 11, 22], copies := [1, 1, 1, 1, 1], weights := [2, 1], obj := .maxSmallest, cons := [] }

def exPoint : Point := [[1, 0], [1, 0], [1, 0], [1, 0], [0, 1]]

theorem exPoint_feasible : feasible exSpec exPoint = true := by decide +kernel

/-- non-vacuity: the point of the running example satisfies all 16 rows of its formulation (10 sign, 5 item, 1 order) -/
example : satisfies exSpec exPoint = true :=
  (rows_iff_feasible exSpec exPoint rfl rfl (by decide) (by decide) (by decide)).2 exPoint_feasible

/-- ... and a point that breaks the symmetry-breaking row (everything in bin 0: `66/2 ≤ 0/1` fails) does not -/
example : satisfies exSpec [[1, 0], [1, 0], [1, 0], [1, 0], [1, 0]] = false := by
  rw [rows_iff_feasible' _ _ (by decide)]
  decide +kernel

/-! ## the objective expression -/

theorem dot_sumV_binSums (s : Spec) (p : Point) (l : List Nat) (hl : ∀ b ∈ l, b < s.k) :
    dot (sumV s (l.map (binSumExpr s))) (flat s p) = sumRat (l.map (wSum s p)) := by
  rw [dot_sumV _ _ _ (by intro a ha; obtain ⟨b, _, rfl⟩ := List.mem_map.1 ha; simp), List.map_map]
  congr 1
  apply List.map_congr_left
  intro b hb
  exact dot_binSumExpr s p (hl b hb)

/-- C17: the linear objective evaluates to the documented function of the ascending weighted sums.
    Only `0 < k` is needed. -/
theorem objValue_eq_docValue (s : Spec) (p : Point) (hk : 0 < s.k) :
    objValue s p = docValue s.obj (wSums s p) := by
  have h0 := dot_binSumExpr s p hk
  have hl := dot_binSumExpr s p (by omega : s.k - 1 < s.k)
  unfold objValue objExpr
  cases ho : s.obj with
  | maxSmallest =>
    simp only [docValue, dot_negV, h0, wSums_headD s p hk]
  | minLargest =>
    simp only [docValue, hl, wSums_getLast s p hk]
  | minDiff =>
    simp only [docValue, dot_addV _ _ _ (by simp : (binSumExpr s (s.k - 1)).length = (negV (binSumExpr s 0)).length),
      dot_negV, h0, hl, wSums_headD s p hk, wSums_getLast s p hk]
    ring
  | maxKSmallest n =>
    simp only [docValue, dot_negV]
    rw [dot_sumV_binSums s p _ (by intro b hb; have := List.mem_range.1 hb; omega), wSums, ← List.map_take,
      List.take_range]
  | minKLargest n =>
    simp only [docValue]
    rw [dot_sumV_binSums s p _ (by intro b hb; exact List.mem_range.1 (List.mem_of_mem_drop hb)), wSums,
      ← List.map_drop, List.length_map, List.length_range]

/-! ### unit weights: the documented objective of the raw sums -/

theorem headD_map {β : Type} (g : β → Rat) {d : β} (hd : g d = 0) (L : List β) :
    (L.map g).headD 0 = g (L.headD d) := by
  cases L
  exacts [hd.symm, rfl]

theorem getLast_map {β : Type} (g : β → Rat) {d : β} (hd : g d = 0) (L : List β) :
    (L.map g).getLast?.getD 0 = g (L.getLast?.getD d) := by
  rw [List.getLast?_map]
  cases L.getLast?
  exacts [hd.symm, rfl]

/-- the documented objective of a vector of natural sums (read as rationals) is the sorted fast path of the
    objective -/
theorem docValue_map_cast (o : Objective) (L : List Nat) :
    docValue o (L.map fun x => ((x : Nat) : Rat)) = ((o.value L true : Int) : Rat) := by
  cases o with
  | maxSmallest => simp only [docValue, Objective.value, if_true, headD_map _ Nat.cast_zero]; push_cast; rfl
  | minLargest => simp only [docValue, Objective.value, if_true, getLast_map _ Nat.cast_zero]; push_cast; rfl
  | minDiff =>
    simp only [docValue, Objective.value, if_true, headD_map _ Nat.cast_zero, getLast_map _ Nat.cast_zero]
    push_cast; rfl
  | maxKSmallest n =>
    simp only [docValue, Objective.value, if_true, ← List.map_take, sumRat_map_cast]; push_cast; rfl
  | minKLargest n =>
    simp only [docValue, Objective.value, if_true, lastK, ← List.map_drop, sumRat_map_cast, List.length_map]
    push_cast; rfl

def UnitWeights (s : Spec) : Prop := ∀ b, b < s.k → s.weights.getD b 1 = 1

theorem unitWeights_of_replicate {s : Spec} (h : s.weights = List.replicate s.k 1) : UnitWeights s := by
  intro b hb
  rw [h, List.getD_eq_getElem?_getD, List.getElem?_replicate]
  split <;> rfl

theorem wSums_unit {s : Spec} (h : UnitWeights s) (p : Point) :
    wSums s p = ((List.range s.k).map (rawSum s p)).map fun x => ((x : Nat) : Rat) := by
  rw [wSums, List.map_map]
  apply List.map_congr_left
  intro b hb
  rw [wSum, h b (List.mem_range.1 hb)]; simp

theorem feasible_ascending {s : Spec} {p : Point} (h : feasible s p = true) :
    (wSums s p).Pairwise (· ≤ ·) := by
  rw [← ascending_iff_pairwise]
  unfold feasible at h
  simp only [Bool.and_eq_true] at h
  exact h.1.2

theorem rawSums_sorted_of_equal {s : Spec} {c : Nat} (hc : 0 < c) (hw : ∀ b, b < s.k → s.weights.getD b 1 = c)
    {p : Point} (h : feasible s p = true) : SortedAsc ((List.range s.k).map (rawSum s p)) := by
  have hasc := feasible_ascending h
  unfold wSums at hasc
  rw [List.pairwise_map] at hasc
  unfold SortedAsc
  rw [List.pairwise_map]
  refine List.Pairwise.imp_of_mem ?_ hasc
  intro a b ha hb hab
  have hc' : (0 : Rat) < (c : Rat) := by exact_mod_cast hc
  rw [wSum, wSum, hw a (List.mem_range.1 ha), hw b (List.mem_range.1 hb), div_le_div_iff_of_pos_right hc'] at hab
  exact_mod_cast hab

/-- C17: with unit weights and a feasible point the documented objective of the weighted sums is the
    general (order-independent) objective of the raw bin sums. -/
theorem docValue_unit {s : Spec} (hu : UnitWeights s) {p : Point} (h : feasible s p = true) :
    docValue s.obj (wSums s p) = ((s.obj.value ((List.range s.k).map (rawSum s p)) false : Int) : Rat) := by
  rw [wSums_unit hu, docValue_map_cast, Obj.value_sorted_fast_gen _ (rawSums_sorted_of_equal Nat.one_pos hu h)]

/-- C17: `objValue_eq_docValue` and `docValue_unit` under the side conditions of the interface (unused,
    except `0 < k`). -/
theorem objective_is_documented (s : Spec) (p : Point) (_hc : s.copies.length = s.vals.length)
    (_hw : s.weights.length = s.k) (_hpos : ∀ w ∈ s.weights, 0 < w) (hk : 0 < s.k)
    (_hp : shaped s p = true) :
    objValue s p = docValue s.obj (wSums s p) ∧
    (s.weights = List.replicate s.k 1 → feasible s p = true →
      docValue s.obj (wSums s p) = ((s.obj.value ((List.range s.k).map (rawSum s p)) false : Int) : Rat)) :=
  ⟨objValue_eq_docValue s p hk, fun hu h => docValue_unit (unitWeights_of_replicate hu) h⟩

/-- non-vacuity: in the running example the objective row evaluates to `-(44 / 2) = -22` -/
example : objValue exSpec exPoint = -22 := by
  rw [(objective_is_documented exSpec exPoint rfl rfl (by decide) (by decide) (by decide)).1]
  decide +kernel

/-- the same items with unit weights and the difference objective -/
def exSpecU : Spec :=
  { k := 2, vals := [11, 11, 11, 11, 22], copies := [1, 1, 1, 1, 1], weights := [1, 1], obj := .minDiff, cons := [] }

def exPointU : Point := [[1, 0], [1, 0], [0, 1], [0, 1], [0, 1]]

theorem exPointU_feasible : feasible exSpecU exPointU = true := by decide +kernel

/-- non-vacuity of the unit-weight part: the objective is the difference `44 - 22` of the raw sums -/
example : objValue exSpecU exPointU = 22 := by
  obtain ⟨h1, h2⟩ := objective_is_documented exSpecU exPointU rfl rfl (by decide) (by decide) (by decide)
  rw [h1, h2 rfl exPointU_feasible]
  decide +kernel

/-! ## the read-back -/

section Decode
variable {α : Type}

/-- what the read-back loop puts into bin `b`: item by item, `counts[i][b]` copies -/
def binOf (items : List α) (p : Point) (b : Nat) : List α :=
  (items.zip p).flatMap fun ip => List.replicate (ip.2.getD b 0) ip.1

theorem foldl_preserves {β γ : Type} {P : β → Prop} {f : β → γ → β} (h : ∀ a x, P a → P (f a x))
    (l : List γ) {a : β} (ha : P a) : P (l.foldl f a) :=
  List.foldlRecOn l f ha fun b hb x _ => h b x hb

/-- a loop whose every step appends `g y` to bin `b` appends all of them, in order -/
theorem foldl_modify_append {γ : Type} (b : Nat) (g : γ → List α) (f : Bins α → γ → Bins α)
    (h : ∀ acc y, (f acc y).lists = acc.lists.modify b (· ++ g y)) (l : List γ) (acc : Bins α) :
    (l.foldl f acc).lists = acc.lists.modify b (· ++ l.flatMap g) := by
  induction l generalizing acc with
  | nil =>
    simp only [List.foldl_nil, List.flatMap_nil, List.append_nil]
    exact (List.modify_id b acc.lists).symm
  | cons y l ih =>
    rw [List.foldl_cons, ih, h, List.modify_modify_eq, List.flatMap_cons]
    congr 1
    funext l'
    exact List.append_assoc l' (g y) _

/-- the two inner loops of the read-back, for one bin `b` -/
theorem fill_lists (v : α → Nat) (b : Nat) (z : List (α × List Nat)) (acc : Bins α) :
    (z.foldl (fun (acc : Bins α) (ip : α × List Nat) =>
      (List.range (ip.2.getD b 0)).foldl (fun (acc : Bins α) _ => acc.add v ip.1 b) acc) acc).lists =
      acc.lists.modify b (· ++ z.flatMap fun ip => List.replicate (ip.2.getD b 0) ip.1) := by
  refine foldl_modify_append b _ _ (fun acc ip => ?_) z acc
  rw [foldl_modify_append b (fun _ => [ip.1]) _ (fun _ _ => rfl), ← List.map_eq_flatMap (f := fun _ => ip.1),
    List.map_const', List.length_range]

/-- a loop over the bins `0, …, m - 1` whose step `b` appends `h b` to bin `b`, started with empty bins -/
theorem foldl_range_modify (f : Bins α → Nat → Bins α) (h : Nat → List α)
    (hf : ∀ acc b, (f acc b).lists = acc.lists.modify b (· ++ h b)) (k m : Nat) :
    ((List.range m).foldl f (Bins.new k)).lists = (List.range k).map fun b => if b < m then h b else [] := by
  induction m with
  | zero =>
    simp only [List.range_zero, List.foldl_nil, Bins.new, Nat.not_lt_zero, if_false]
    apply List.ext_getElem <;> simp
  | succ m ih =>
    rw [List.range_succ, List.foldl_append, List.foldl_cons, List.foldl_nil, hf, ih]
    apply List.ext_getElem
    · simp
    · intro j h1 h2
      simp only [List.getElem_modify, List.getElem_map, List.getElem_range]
      by_cases hj : m = j
      · subst hj; simp
      · have : (j < m + 1) = (j < m) := by apply propext; omega
        simp [hj, this]

/-- the contents of the returned bins, literally (not only up to order) -/
theorem decodeRaw_lists (v : α → Nat) (k : Nat) (items : List α) (p : Point) :
    (decodeRaw v k items p).lists = (List.range k).map (binOf items p) := by
  unfold decodeRaw
  rw [foldl_range_modify _ (binOf items p) (fun acc b => fill_lists v b (items.zip p) acc) k k]
  exact List.map_congr_left fun b hb => if_pos (List.mem_range.1 hb)

theorem decodeRaw_consistent (v : α → Nat) (k : Nat) (items : List α) (p : Point) :
    (decodeRaw v k items p).Consistent v :=
  foldl_preserves (P := Bins.Consistent v)
    (fun _ b ha => foldl_preserves (P := Bins.Consistent v)
      (fun _ ip ha => foldl_preserves (P := Bins.Consistent v)
        (fun a _ ha => Part.add_consistent v a ip.1 b ha) _ ha) _ ha)
    _ (Part.new_consistent v k)

theorem decodeRaw_length (v : α → Nat) (k : Nat) (items : List α) (p : Point) :
    (decodeRaw v k items p).lists.length = k ∧ (decodeRaw v k items p).sums.length = k := by
  have h := decodeRaw_lists v k items p
  have hc := decodeRaw_consistent v k items p
  unfold Bins.Consistent at hc
  rw [hc, h]; simp

theorem binSum_replicate (v : α → Nat) (c : Nat) (x : α) : binSum v (List.replicate c x) = c * v x := by
  rw [binSum, List.map_replicate, Part.sumL_replicate]

theorem binSum_binOf_eq_rawSum (v : α → Nat) (s : Spec) (items : List α) (p : Point) (b : Nat)
    (hv : items.map v = s.vals) (hp : p.length = items.length) :
    binSum v (binOf items p b) = rawSum s p b := by
  rw [binOf, List.flatMap_def, Part.binSum_flatten, Part.binSum_map,
    rawSum_eq_zip s p b (by rw [hp, ← hv, List.length_map]), ← hv, List.zip_map_left, List.map_map]
  exact Part.binSum_congr fun ip _ => binSum_replicate v _ _

theorem decodeRaw_sums (v : α → Nat) (s : Spec) (items : List α) (p : Point)
    (hv : items.map v = s.vals) (hp : p.length = items.length) :
    (decodeRaw v s.k items p).sums = (List.range s.k).map (rawSum s p) := by
  have hc := decodeRaw_consistent v s.k items p
  unfold Bins.Consistent at hc
  rw [hc, decodeRaw_lists, List.map_map]
  apply List.map_congr_left
  intro b _
  exact binSum_binOf_eq_rawSum v s items p b hv hp


/-! ### how often every item is placed -/

theorem flatMap_swap_perm {β γ : Type} (l : List β) (z : List γ) (f : β → γ → List α) :
    (l.flatMap fun b => z.flatMap fun c => f b c).Perm (z.flatMap fun c => l.flatMap fun b => f b c) := by
  induction z with
  | nil => simp
  | cons c z ih =>
    simp only [List.flatMap_cons]
    exact (List.flatMap_append_perm l (fun b => f b c) (fun b => z.flatMap fun c => f b c)).symm.trans
      (List.Perm.append_left _ ih)

theorem range_flatMap_replicate (x : α) (row : List Nat) :
    (List.range row.length).flatMap (fun b => List.replicate (row.getD b 0) x) = List.replicate (sumL row) x := by
  induction row with
  | nil => rfl
  | cons r row ih =>
    rw [List.length_cons, List.range_succ_eq_map, List.flatMap_cons, List.flatMap_map]
    simp only [List.getD_cons_zero, List.getD_cons_succ]
    rw [ih, List.replicate_append_replicate]; rfl

/-- the multiset of all placed items: item `i` repeated `Σ_b counts[i][b]` times -/
theorem decodeRaw_flatten_perm (v : α → Nat) (k : Nat) (items : List α) (p : Point)
    (hrows : ∀ r ∈ p, r.length = k) :
    (decodeRaw v k items p).lists.flatten.Perm
      ((items.zip p).flatMap fun ip => List.replicate (sumL ip.2) ip.1) := by
  rw [decodeRaw_lists, ← List.flatMap_def]
  unfold binOf
  refine (flatMap_swap_perm (List.range k) (items.zip p)
    (fun b ip => List.replicate (ip.2.getD b 0) ip.1)).trans ?_
  apply List.Perm.of_eq
  apply List.flatMap_congr
  intro ip hip
  have := hrows ip.2 (List.of_mem_zip hip).2
  rw [← this, range_flatMap_replicate]

theorem map_sumL_eq_copies {s : Spec} {p : Point} (hc : s.copies.length = s.vals.length)
    (h : feasible s p = true) : p.map sumL = s.copies := by
  obtain ⟨hsh, hrow, -, -⟩ := (feasible_iff s p).1 h
  have hl := ((shaped_iff s p).1 hsh).1
  apply List.ext_getElem
  · simp [hl, hc]
  · intro i h1 h2
    have hi : i < p.length := by simpa using h1
    have := hrow i (by omega)
    rw [Part.getD_eq_getElem hi, Part.getD_eq_getElem h2] at this
    simpa using this

theorem zip_replicate_one (items : List α) :
    ((items.zip (List.replicate items.length 1)).flatMap fun ic => List.replicate ic.2 ic.1) = items := by
  induction items with
  | nil => rfl
  | cons x xs ih =>
    rw [List.length_cons, List.replicate_succ, List.zip_cons_cons, List.flatMap_cons, ih]; rfl

/-- C17: the read-back of a shaped point.  Bin `b` holds, item by item, `counts[i][b]` copies of item `i`
    (literally, not only up to order); altogether item `i` is placed `Σ_b counts[i][b]` times; the sums are
    consistent with the contents, there are `k` bins, and the sums are the raw bin sums of the point. -/
theorem decode_copies (v : α → Nat) (s : Spec) (items : List α) (p : Point)
    (hv : items.map v = s.vals) (hp : shaped s p = true) :
    let out := decodeRaw v s.k items p
    (∀ b, b < s.k → out.lists.getD b [] =
        (items.zip p).flatMap fun ip => List.replicate (ip.2.getD b 0) ip.1) ∧
    out.lists.flatten.Perm ((items.zip p).flatMap fun ip => List.replicate (sumL ip.2) ip.1) ∧
    out.Consistent v ∧ out.lists.length = s.k ∧ out.sums = (List.range s.k).map (rawSum s p) := by
  obtain ⟨hl, hr⟩ := (shaped_iff s p).1 hp
  have hlen : p.length = items.length := by rw [hl, ← hv]; simp
  refine ⟨?_, decodeRaw_flatten_perm v s.k items p hr, decodeRaw_consistent v s.k items p,
    (decodeRaw_length v s.k items p).1, decodeRaw_sums v s items p hv hlen⟩
  intro b hb
  rw [decodeRaw_lists, List.getD_eq_getElem?_getD, List.getElem?_map, List.getElem?_range hb]; rfl

/-- C17: for a feasible point every item is placed exactly `copies[i]` times -/
theorem decode_copies_feasible (v : α → Nat) (s : Spec) (items : List α) (p : Point)
    (_hv : items.map v = s.vals) (hc : s.copies.length = s.vals.length) (h : feasible s p = true) :
    (decodeRaw v s.k items p).lists.flatten.Perm
      ((items.zip s.copies).flatMap fun ic => List.replicate ic.2 ic.1) := by
  have hsh := ((feasible_iff s p).1 h).1
  refine (decodeRaw_flatten_perm v s.k items p ((shaped_iff s p).1 hsh).2).trans (List.Perm.of_eq ?_)
  rw [← map_sumL_eq_copies hc h, List.zip_map_right, List.flatMap_map]
  rfl

/-- C01 for the ILP partitioner, given a feasible point from the trusted solver: with one copy of every
    item its read-back is a partition -/
theorem decode_isPartition (v : α → Nat) (s : Spec) (items : List α) (p : Point)
    (hv : items.map v = s.vals) (hc : s.copies = List.replicate s.vals.length 1) (h : feasible s p = true) :
    IsPartition v items s.k (decodeRaw v s.k items p) := by
  refine ⟨?_, (decodeRaw_length v s.k items p).1, decodeRaw_consistent v s.k items p⟩
  have := decode_copies_feasible v s items p hv (by rw [hc]; simp) h
  rw [hc, ← hv, List.length_map, zip_replicate_one] at this
  exact this

/-- distinct items, item `i` given `g q[i]` copies: it occurs `g q[i]` times -/
theorem count_flatMap_replicate_zip [DecidableEq α] {β : Type} (g : β → Nat) :
    ∀ (items : List α) (q : List β), items.Nodup → ∀ (i : Nat) (hi : i < items.length) (hq : i < q.length),
      ((items.zip q).flatMap fun ic => List.replicate (g ic.2) ic.1).count items[i] = g q[i]
  | [], _, _, i, hi, _ => by simp at hi
  | _ :: _, [], _, i, _, hq => by simp at hq
  | x :: xs, y :: ys, hnd, i, hi, hq => by
    obtain ⟨hx, hnd'⟩ := List.nodup_cons.1 hnd
    rw [List.zip_cons_cons, List.flatMap_cons, List.count_append, List.count_replicate]
    cases i with
    | zero =>
      have h0 : ((xs.zip ys).flatMap fun ic => List.replicate (g ic.2) ic.1).count x = 0 := by
        rw [List.count_eq_zero, List.mem_flatMap]
        rintro ⟨ic, hic, hxic⟩
        rw [(List.mem_replicate.1 hxic).2] at hx
        exact hx (List.of_mem_zip hic).1
      simp [h0]
    | succ i =>
      have hi' : i < xs.length := by simpa using hi
      have hne : ¬ x = xs[i] := fun e => hx (e ▸ List.getElem_mem hi')
      simpa [hne] using count_flatMap_replicate_zip g xs ys hnd' i hi' (by simpa using hq)

theorem count_bin_nodup [DecidableEq α] (v : α → Nat) (k : Nat) (items : List α) (p : Point)
    (hnd : items.Nodup) (hp : p.length = items.length) {i b : Nat} (hi : i < items.length) (hb : b < k) :
    ((decodeRaw v k items p).lists.getD b []).count items[i] = entry p i b := by
  rw [decodeRaw_lists, List.getD_eq_getElem?_getD, List.getElem?_map, List.getElem?_range hb]
  have hi' : i < p.length := by omega
  have e : p.getD i [] = p[i] := Part.getD_eq_getElem hi'
  rw [entry, e]
  exact count_flatMap_replicate_zip (fun r : List Nat => r.getD b 0) items p hnd i hi hi'

theorem count_total_nodup [DecidableEq α] (v : α → Nat) (s : Spec) (items : List α) (p : Point)
    (hv : items.map v = s.vals) (hc : s.copies.length = s.vals.length) (h : feasible s p = true)
    (hnd : items.Nodup) {i : Nat} (hi : i < items.length) :
    (decodeRaw v s.k items p).lists.flatten.count items[i] = s.copies.getD i 0 := by
  have hi' : i < s.copies.length := by rw [hc, ← hv, List.length_map]; exact hi
  rw [(decode_copies_feasible v s items p hv hc h).count_eq, Part.getD_eq_getElem hi']
  exact count_flatMap_replicate_zip id items s.copies hnd i hi hi'


example : (decodeRaw id 2 [11, 11, 11, 11, 22] exPoint).sums = [44, 22] ∧
    (decodeRaw id 2 [11, 11, 11, 11, 22] exPoint).lists = [[11, 11, 11, 11], [22]] := by decide

example := decode_copies id exSpec [11, 11, 11, 11, 22] exPoint rfl (by decide)

example : IsPartition id [11, 11, 11, 11, 22] 2 (decodeRaw id 2 [11, 11, 11, 11, 22] exPoint) :=
  decode_isPartition id exSpec [11, 11, 11, 11, 22] exPoint rfl rfl exPoint_feasible

/-- two copies of every item: `counts = [[1, 1], [0, 2]]` puts `a` once in each bin and `b` twice in bin 1 -/
example : (decodeRaw (fun c => if c = 'a' then 3 else 5) 2 ['a', 'b'] [[1, 1], [0, 2]]).lists
    = [['a'], ['a', 'b', 'b']] := by decide

/-! ## the order of the returned bins -/

theorem allEqual_getD {l : List Nat} (h : allEqual l = true) {b : Nat} (hb : b < l.length) :
    l.getD b 1 = l.headD 0 := by
  unfold allEqual at h
  rw [List.all_eq_true] at h
  rw [Part.getD_eq_getElem hb]
  simpa using h _ (List.getElem_mem hb)

theorem rawSums_sorted_of_allEqual {s : Spec} {p : Point} (hw : s.weights.length = s.k)
    (hpos : ∀ w ∈ s.weights, 0 < w) (he : allEqual s.weights = true) (h : feasible s p = true) :
    SortedAsc ((List.range s.k).map (rawSum s p)) := by
  rcases Nat.eq_zero_or_pos s.k with h0 | hk
  · unfold SortedAsc
    rw [h0]
    exact List.Pairwise.nil
  · refine rawSums_sorted_of_equal (c := s.weights.headD 0) ?_ (fun b hb => allEqual_getD he (by omega)) h
    rw [← allEqual_getD he (by omega : 0 < s.weights.length), Part.getD_eq_getElem (by omega)]
    exact hpos _ (List.getElem_mem _)

/-- for a feasible point the final sort is the identity -/
theorem decode_eq_decodeRaw {α : Type} (v : α → Nat) (s : Spec) (items : List α) (p : Point)
    (hv : items.map v = s.vals) (hw : s.weights.length = s.k) (hpos : ∀ w ∈ s.weights, 0 < w)
    (h : feasible s p = true) : decode v s items p = decodeRaw v s.k items p := by
  obtain ⟨-, -, -, hlen, hsums⟩ := decode_copies v s items p hv ((feasible_iff s p).1 h).1
  unfold decode
  split
  · rename_i he
    refine BinsOps.sortAsc_stable _ (by rw [hlen, (decodeRaw_length v s.k items p).2]) ?_
    rw [hsums]; exact rawSums_sorted_of_allEqual hw hpos he h
  · rfl

/-- C17: for a feasible point the final sort never moves a bin.  With equal weights the returned sums are
    non-decreasing and the (stable) sort leaves the bins-array of the read-back untouched, because the raw
    sums are already ascending; with unequal weights no sort happens.  In both cases bin `b` of the result is
    the bin whose raw sum `rawSum s p b` was divided by `weights[b]`, and the weighted sums are non-decreasing
    in `b`.  The block under `allEqual s.weights = true` adds nothing to the first two conjuncts except that the
    raw sums are ascending: it re-reads them in the words of the Python comment ("sorted", "a permutation"). -/
theorem result_order {α : Type} (v : α → Nat) (s : Spec) (items : List α) (p : Point)
    (hv : items.map v = s.vals) (hw : s.weights.length = s.k) (hpos : ∀ w ∈ s.weights, 0 < w)
    (h : feasible s p = true) :
    decode v s items p = decodeRaw v s.k items p ∧
    (decode v s items p).sums = (List.range s.k).map (rawSum s p) ∧
    (∀ b, b + 1 < s.k →
      ((rawSum s p b : Nat) : Rat) / ((s.weights.getD b 1 : Nat) : Rat) ≤
        ((rawSum s p (b + 1) : Nat) : Rat) / ((s.weights.getD (b + 1) 1 : Nat) : Rat)) ∧
    (allEqual s.weights = true →
      SortedAsc (decode v s items p).sums ∧
      (decode v s items p).sums.Perm ((List.range s.k).map (rawSum s p)) ∧
      (decode v s items p).lists.Perm (decodeRaw v s.k items p).lists) := by
  obtain ⟨hsh, -, hstep, -⟩ := (feasible_iff s p).1 h
  have hsums := (decode_copies v s items p hv hsh).2.2.2.2
  rw [decode_eq_decodeRaw v s items p hv hw hpos h, hsums]
  exact ⟨rfl, rfl, hstep, fun he => ⟨rawSums_sorted_of_allEqual hw hpos he h, .refl _, .refl _⟩⟩

/-- unequal weights (no sort): bin 0, whose sum was divided by 2, keeps the larger raw sum -/
example : (decode id exSpec [11, 11, 11, 11, 22] exPoint).sums = [44, 22] := by
  rw [(result_order id exSpec [11, 11, 11, 11, 22] exPoint rfl rfl (by decide) exPoint_feasible).2.1]
  decide

/-- equal weights: the sort branch is taken and moves nothing -/
example : SortedAsc (decode id exSpecU [11, 11, 11, 11, 22] exPointU).sums :=
  ((result_order id exSpecU [11, 11, 11, 11, 22] exPointU rfl rfl (by decide) exPointU_feasible).2.2.2
    (by decide)).1

/-- the positivity of the weights is needed for "the sort is a no-op": with weights `[0, 0]` every point with
    the right row sums is feasible (all weighted sums are `0`), and the sort does move bins -/
example : (decode id { exSpecU with weights := [0, 0] } [11, 11, 11, 11, 22]
      [[1, 0], [1, 0], [1, 0], [1, 0], [1, 0]]).sums = [0, 66] ∧
    (decodeRaw id 2 [11, 11, 11, 11, 22] [[1, 0], [1, 0], [1, 0], [1, 0], [1, 0]]).sums = [66, 0] := by decide

end Decode

/-! ## the brute-force optimum of the formulation -/

/-- `minRatOpt` is core's `List.min?` (a left fold of `min`); its specification is `List.min?_eq_some_iff`. -/
theorem minRatOpt_eq_min? (l : List Rat) : minRatOpt l = l.min? := by
  cases l with
  | nil => rfl
  | cons x xs =>
    show some _ = some _
    congr 2
    funext m y
    by_cases h : y < m
    · rw [if_pos h, min_eq_right (le_of_lt h)]
    · rw [if_neg h, min_eq_left (not_lt.1 h)]

theorem minRatOpt_eq_none (l : List Rat) : minRatOpt l = none ↔ l = [] := by
  rw [minRatOpt_eq_min?, List.min?_eq_none_iff]

theorem minRatOpt_eq_some (l : List Rat) (x : Rat) :
    minRatOpt l = some x ↔ x ∈ l ∧ ∀ y ∈ l, x ≤ y := by
  rw [minRatOpt_eq_min?, List.min?_eq_some_iff]

theorem mem_compositions (k c : Nat) (row : List Nat) :
    row ∈ compositions k c ↔ row.length = k ∧ sumL row = c := by
  induction k generalizing c row with
  | zero =>
    unfold compositions
    split
    · rename_i h
      subst h
      simp only [List.mem_singleton, List.length_eq_zero_iff]
      constructor
      · rintro rfl; exact ⟨rfl, rfl⟩
      · exact fun h => h.1
    · rename_i h
      simp only [List.not_mem_nil, false_iff, List.length_eq_zero_iff]
      rintro ⟨rfl, h'⟩
      exact h h'.symm
  | succ k ih =>
    unfold compositions
    simp only [List.mem_flatMap, List.mem_range, List.mem_map]
    constructor
    · rintro ⟨x, hx, r, hr, rfl⟩
      obtain ⟨h1, h2⟩ := (ih _ _).1 hr
      refine ⟨by simp [h1], ?_⟩
      simp only [sumL]; omega
    · rintro ⟨h1, h2⟩
      cases row with
      | nil => simp at h1
      | cons x r =>
        simp only [sumL] at h2
        exact ⟨x, by omega, r, (ih _ _).2 ⟨by simpa using h1, by omega⟩, rfl⟩

theorem mem_points_aux (k : Nat) (c : Nat → Nat) (idx : List Nat) (p : Point) :
    p ∈ idx.foldr (fun i acc => (compositions k (c i)).flatMap fun row => acc.map (row :: ·)) [[]] ↔
      List.Forall₂ (fun i row => row.length = k ∧ sumL row = c i) idx p := by
  induction idx generalizing p with
  | nil => rw [List.foldr_nil, List.mem_singleton, List.forall₂_nil_left_iff]
  | cons i idx ih =>
    simp only [List.foldr_cons, List.mem_flatMap, List.mem_map, List.forall₂_cons_left_iff, mem_compositions, ih]
    constructor
    · rintro ⟨row, hrow, q, hq, rfl⟩
      exact ⟨row, q, hrow, hq, rfl⟩
    · rintro ⟨row, q, hrow, hq, rfl⟩
      exact ⟨row, hrow, q, hq, rfl⟩

theorem mem_allPoints (s : Spec) (p : Point) :
    p ∈ allPoints s ↔ shaped s p = true ∧ ∀ i, i < s.vals.length → sumL (p.getD i []) = s.copies.getD i 0 := by
  unfold allPoints
  rw [mem_points_aux s.k (fun i => s.copies.getD i 0), shaped_iff, List.forall₂_iff_get]
  have hget : ∀ i (h : i < p.length), p.getD i [] = p.get ⟨i, h⟩ := fun i h => Part.getD_eq_getElem h
  constructor
  · rintro ⟨h1, h2⟩
    rw [List.length_range] at h1
    refine ⟨⟨h1.symm, fun r hr => ?_⟩, fun i hi => ?_⟩
    · obtain ⟨j, hj, rfl⟩ := List.getElem_of_mem hr
      exact (h2 j (by rw [List.length_range]; omega) hj).1
    · have := (h2 i (by rw [List.length_range]; exact hi) (by omega)).2
      rwa [← hget, List.get_eq_getElem, List.getElem_range] at this
  · rintro ⟨⟨h1, h2⟩, h3⟩
    refine ⟨by rw [List.length_range, h1], fun i hi hi' => ⟨h2 _ (List.get_mem _ _), ?_⟩⟩
    rw [← hget, List.get_eq_getElem, List.getElem_range]
    exact h3 i (by omega)

theorem feasible_mem_allPoints {s : Spec} {p : Point} (h : feasible s p = true) : p ∈ allPoints s := by
  obtain ⟨h1, h2, -, -⟩ := (feasible_iff s p).1 h
  exact (mem_allPoints s p).2 ⟨h1, h2⟩

/-- C17: `ilpBest` is the optimum of the formulation (the value the trusted solver must report) -/
theorem ilpBest_spec (s : Spec) (x : Rat) :
    ilpBest s = some x ↔
      (∃ p, feasible s p = true ∧ docValue s.obj (wSums s p) = x) ∧
      ∀ p, feasible s p = true → x ≤ docValue s.obj (wSums s p) := by
  unfold ilpBest
  rw [minRatOpt_eq_some]
  simp only [List.mem_map, List.mem_filter]
  constructor
  · rintro ⟨⟨p, ⟨-, hp⟩, rfl⟩, h2⟩
    exact ⟨⟨p, hp, rfl⟩, fun q hq => h2 _ ⟨q, ⟨feasible_mem_allPoints hq, hq⟩, rfl⟩⟩
  · rintro ⟨⟨p, hp, rfl⟩, h2⟩
    refine ⟨⟨p, ⟨feasible_mem_allPoints hp, hp⟩, rfl⟩, ?_⟩
    rintro y ⟨q, ⟨-, hq⟩, rfl⟩
    exact h2 q hq

/-- C17: `ilpBest s = none` exactly when the formulation is infeasible (the code must raise `ValueError`) -/
theorem ilpBest_none (s : Spec) : ilpBest s = none ↔ ∀ p, feasible s p = false := by
  unfold ilpBest
  rw [minRatOpt_eq_none, List.map_eq_nil_iff, List.filter_eq_nil_iff]
  constructor
  · intro h p
    rw [← Bool.not_eq_true]
    intro hp
    exact h p (feasible_mem_allPoints hp) hp
  · intro h p _
    rw [h p]; simp

/-- `ilpBest_spec` in the solver's terms: rows and objective row instead of `feasible` and `docValue` -/
theorem ilpBest_rows (s : Spec) (hk : 0 < s.k) (x : Rat) :
    ilpBest s = some x ↔
      (∃ p, satisfies s p = true ∧ objValue s p = x) ∧ ∀ p, satisfies s p = true → x ≤ objValue s p := by
  rw [ilpBest_spec]
  simp only [rows_iff_feasible' s _ hk, objValue_eq_docValue s _ hk]

/-- non-vacuity: the running example is feasible, so `ilpBest` is `some x` with `x ≤ -22` -/
example : ∃ x, ilpBest exSpec = some x ∧ x ≤ -22 := by
  cases h : ilpBest exSpec with
  | none =>
    have := (ilpBest_none exSpec).1 h exPoint
    rw [exPoint_feasible] at this
    cases this
  | some x =>
    refine ⟨x, rfl, ?_⟩
    have := ((ilpBest_spec exSpec x).1 h).2 exPoint exPoint_feasible
    have hd : docValue exSpec.obj (wSums exSpec exPoint) = -22 := by decide +kernel
    rwa [hd] at this

example : [0, 2, 1] ∈ compositions 3 3 := (mem_compositions 3 3 [0, 2, 1]).2 (by decide)
example : exPoint ∈ allPoints exSpec := (mem_allPoints exSpec exPoint).2 (by decide)

/-! ## unit weights: the symmetry breaker loses nothing -/

/-- the sum of the values sent to bin `b` -/
def colSum (b : Nat) (vals asg : List Nat) : Nat :=
  sumL ((vals.zip asg).map fun va => if va.2 = b then va.1 else 0)

theorem getD_modify_add (S : List Nat) (a b v : Nat) (hb : b < S.length) :
    (S.modify a (· + v)).getD b 0 = S.getD b 0 + if a = b then v else 0 := by
  rw [List.getD_eq_getElem?_getD, List.getD_eq_getElem?_getD, List.getElem?_modify,
    List.getElem?_eq_getElem hb]
  by_cases h : a = b <;> simp [h]

theorem sumsFrom_getD (S vals asg : List Nat) (b : Nat) (hb : b < S.length) :
    (Oracle.sumsFrom S vals asg).getD b 0 = S.getD b 0 + colSum b vals asg := by
  induction vals generalizing S asg with
  | nil => simp [colSum]
  | cons v vals ih =>
    cases asg with
    | nil => simp [colSum]
    | cons a asg =>
      rw [Oracle.sumsFrom_cons, ih _ _ (by simpa using hb), getD_modify_add S a b v hb]
      simp only [colSum, List.zip_cons_cons, List.map_cons, sumL]
      omega

theorem sumsOf_getD (k : Nat) (vals asg : List Nat) (b : Nat) (hb : b < k) :
    (sumsOf k vals asg).getD b 0 = colSum b vals asg := by
  rw [Oracle.sumsOf_eq, sumsFrom_getD _ _ _ _ (by simpa using hb)]
  simp [List.getD_eq_getElem?_getD, hb]

/-- the 0/1 point of an assignment -/
def pointOf (k : Nat) (asg : List Nat) : Point :=
  asg.map fun a => (List.range k).map fun b => if b = a then 1 else 0

theorem sumL_range_ite (k a : Nat) (ha : a < k) :
    sumL ((List.range k).map fun b => if b = a then 1 else 0) = 1 := by
  have h := Part.binSum_ite (fun b => b = a) 1 (List.range k)
  rw [binSum, Nat.one_mul] at h
  rw [h, ← if_pos ha (t := 1) (e := 0), ← List.count_range]
  exact List.countP_congr (by simp)

theorem rawSum_pointOf (s : Spec) (asg : List Nat) (hl : asg.length = s.vals.length) {b : Nat} (hb : b < s.k) :
    rawSum s (pointOf s.k asg) b = colSum b s.vals asg := by
  rw [rawSum_eq_zip _ _ _ (by rw [pointOf, List.length_map, hl]), colSum, pointOf, List.zip_map_right, List.map_map]
  congr 1
  apply List.map_congr_left
  rintro ⟨v, a⟩ _
  show ((List.range s.k).map fun b' => if b' = a then 1 else 0).getD b 0 * v = if a = b then v else 0
  rw [List.getD_eq_getElem?_getD, List.getElem?_map, List.getElem?_range hb]
  by_cases h : a = b <;> simp [h, eq_comm]

theorem rawSums_pointOf (s : Spec) (asg : List Nat) (hl : asg.length = s.vals.length) :
    (List.range s.k).map (rawSum s (pointOf s.k asg)) = sumsOf s.k s.vals asg := by
  apply List.ext_getElem
  · simp [Part.sumsOf_length]
  · intro b h1 h2
    have hb : b < s.k := by simpa using h1
    rw [List.getElem_map, List.getElem_range, rawSum_pointOf s asg hl hb, ← sumsOf_getD s.k s.vals asg b hb,
      Part.getD_eq_getElem h2]

/-- every assignment can be renumbered so that its bin sums are ascending -/
theorem exists_sorted_assignment (k : Nat) (vals asg : List Nat) (h : IsAssignment k vals.length asg) :
    ∃ asg', IsAssignment k vals.length asg' ∧ sumsOf k vals asg' = sortAsc id (sumsOf k vals asg) := by
  obtain ⟨L, hk, hp, hs⟩ := Oracle.assignment_lists id vals h
  have hperm : (sortAsc (fun a => id (binSum id a)) L).Perm L := Part.sortAsc_perm _ _
  obtain ⟨asg', ha', hs'⟩ := Oracle.lists_sums_assignment id vals _ (hperm.flatten.trans hp)
  rw [hperm.length_eq, hk] at ha' hs'
  rw [List.map_id] at hs hs'
  exact ⟨asg', ha', by rw [hs', BinsOps.map_sortAsc (binSum id) id L, hs]⟩

/-- the hypotheses of the unit-weight case -/
structure Plain (s : Spec) : Prop where
  weights : s.weights = List.replicate s.k 1
  copies : s.copies = List.replicate s.vals.length 1
  cons : s.cons = []

theorem pointOf_feasible {s : Spec} (hs : Plain s) (asg : List Nat) (h : IsAssignment s.k s.vals.length asg)
    (hsorted : SortedAsc (sumsOf s.k s.vals asg)) : feasible s (pointOf s.k asg) = true := by
  rw [feasible_iff]
  have hu := unitWeights_of_replicate hs.weights
  refine ⟨?_, ?_, ?_, by rw [hs.cons]; simp⟩
  · rw [shaped_iff]
    refine ⟨by simp [pointOf, h.1], ?_⟩
    intro r hr
    obtain ⟨a, _, rfl⟩ := List.mem_map.1 hr
    simp
  · intro i hi
    have hi' : i < asg.length := by rw [h.1]; exact hi
    rw [hs.copies, List.getD_eq_getElem?_getD (l := List.replicate _ _), List.getElem?_replicate, if_pos hi]
    simp only [pointOf, List.getD_eq_getElem?_getD, List.getElem?_map, List.getElem?_eq_getElem hi',
      Option.map_some, Option.getD_some]
    exact sumL_range_ite s.k _ (h.2 _ (List.getElem_mem hi'))
  · have hasc : ascending (wSums s (pointOf s.k asg)) = true := by
      rw [ascending_iff_pairwise, wSums_unit hu, rawSums_pointOf s asg h.1, List.pairwise_map]
      exact hsorted.imp (fun h => by exact_mod_cast h)
    rw [wSums, ascending_map_range] at hasc
    exact hasc

/-- **C17 (and C02 for the ILP partitioner, the solver being trusted to reach the formulation's optimum):
    with unit weights, one copy of every item and no caller constraints, the optimum of the formulation is the
    optimum over all partitions** — the ascending-sums symmetry breaker loses nothing. -/
theorem unit_weights_wlog (s : Spec) (hw : s.weights = List.replicate s.k 1)
    (hc : s.copies = List.replicate s.vals.length 1) (hcons : s.cons = []) (_hk : 0 < s.k)
    (x : Rat) (h : ilpBest s = some x) :
    ∃ x' : Int, x = (x' : Rat) ∧ IsOptimalValue s.obj s.k s.vals x' := by
  have hs : Plain s := ⟨hw, hc, hcons⟩
  have hu := unitWeights_of_replicate hs.weights
  obtain ⟨⟨p, hp, hx⟩, hmin⟩ := (ilpBest_spec s x).1 h
  -- the optimal point is a partition, hence an assignment
  have hpart := decode_isPartition id s s.vals p (List.map_id _) hs.copies hp
  have hsh := ((feasible_iff s p).1 hp).1
  have hsums := decodeRaw_sums id s s.vals p (List.map_id _) ((shaped_iff s p).1 hsh).1
  obtain ⟨asg, hasg, hso⟩ := Oracle.partition_sums_assignment id s.vals _ hpart
  rw [List.map_id, hsums] at hso
  refine ⟨s.obj.value (sumsOf s.k s.vals asg) false, ?_, ⟨asg, hasg, rfl⟩, ?_⟩
  · rw [← hx, docValue_unit hu hp, hso]
  · intro asg₂ hasg₂
    obtain ⟨asg', hasg', hsorted⟩ := exists_sorted_assignment s.k s.vals asg₂ hasg₂
    have hfeas := pointOf_feasible hs asg' hasg' (by rw [hsorted]; exact Part.sortAsc_sorted id _)
    have := hmin _ hfeas
    rw [docValue_unit hu hfeas, rawSums_pointOf s asg' hasg'.1, hsorted,
      Oracle.value_sortAsc, ← hx, docValue_unit hu hp, ← hso] at this
    exact_mod_cast this

/-- the value computed: for the items `[11, 11, 11, 11, 22]` and two bins the formulation's
    optimum of the difference objective is `0` (the partition `33 | 33`), obtained from the DP oracle through
    `unit_weights_wlog` -/
theorem exSpecU_best : ilpBest exSpecU = some 0 := by
  cases h : ilpBest exSpecU with
  | none =>
    have := (ilpBest_none exSpecU).1 h exPointU
    rw [exPointU_feasible] at this
    cases this
  | some x =>
    obtain ⟨x', hx, hopt⟩ := unit_weights_wlog exSpecU rfl rfl rfl (by decide) x h
    have : x' = 0 := Oracle.isOptimalValue_unique hopt
      (Oracle.dpBestValue_eq_some_iff (o := .minDiff) (k := 2) (vals := [11, 11, 11, 11, 22]).1 (by decide))
    rw [hx, this]; simp

/-! ### scaling all weights by the same positive constant -/

def scaleWeights (c : Nat) (s : Spec) : Spec := { s with weights := s.weights.map (c * ·) }

theorem wSum_scale (c : Nat) (s : Spec) (p : Point) {b : Nat} (hb : b < s.weights.length) :
    wSum (scaleWeights c s) p b = wSum s p b / (c : Rat) := by
  have hr : rawSum (scaleWeights c s) p b = rawSum s p b := rfl
  have hw : (scaleWeights c s).weights.getD b 1 = c * s.weights.getD b 1 := by
    simp [scaleWeights, List.getD_eq_getElem?_getD, List.getElem?_map, List.getElem?_eq_getElem hb]
  rw [wSum, wSum, hr, hw, Nat.cast_mul, div_div, mul_comm]

theorem wSums_scale (c : Nat) (s : Spec) (p : Point) (hw : s.weights.length = s.k) :
    wSums (scaleWeights c s) p = (wSums s p).map (· / (c : Rat)) := by
  unfold wSums
  rw [List.map_map]
  apply List.map_congr_left
  intro b hb
  exact wSum_scale c s p (by rw [hw]; exact List.mem_range.1 hb)

theorem ascending_map_div (l : List Rat) (c : Rat) (hc : 0 < c) :
    ascending (l.map (· / c)) = ascending l := by
  rw [Bool.eq_iff_iff, ascending_iff_pairwise, ascending_iff_pairwise, List.pairwise_map]
  constructor
  · intro h; exact h.imp (fun h => (div_le_div_iff_of_pos_right hc).1 h)
  · intro h; exact h.imp (fun h => (div_le_div_iff_of_pos_right hc).2 h)

theorem sumRat_map_div (l : List Rat) (c : Rat) : sumRat (l.map (· / c)) = sumRat l / c := by
  induction l with
  | nil => simp
  | cons a l ih => rw [List.map_cons, sumRat_cons, sumRat_cons, ih]; ring

/-- every objective is positively homogeneous -/
theorem docValue_map_div (o : Objective) (l : List Rat) (c : Rat) :
    docValue o (l.map (· / c)) = docValue o l / c := by
  cases o with
  | maxSmallest => simp only [docValue, headD_map (· / c) (zero_div c)]; ring
  | minLargest => simp only [docValue, getLast_map (· / c) (zero_div c)]
  | minDiff => simp only [docValue, headD_map (· / c) (zero_div c), getLast_map (· / c) (zero_div c)]; ring
  | maxKSmallest n => simp only [docValue, ← List.map_take, sumRat_map_div]; ring
  | minKLargest n => simp only [docValue, ← List.map_drop, sumRat_map_div, List.length_map]

/-- C17: multiplying all weights by the same positive constant `c` divides every weighted sum by `c`;
    the feasible points are the same and every objective value is divided by `c`.  The weights are arbitrary
    here; equal weights are the case `s.weights = replicate k 1`, which is `equal_weights_same_as_none`. -/
theorem equal_weights_scale (c : Nat) (hc : 0 < c) (s : Spec) (hw : s.weights.length = s.k)
    (hcons : s.cons = []) (p : Point) :
    feasible (scaleWeights c s) p = feasible s p ∧
    docValue (scaleWeights c s).obj (wSums (scaleWeights c s) p) = docValue s.obj (wSums s p) / (c : Rat) := by
  have hc' : (0 : Rat) < (c : Rat) := by exact_mod_cast hc
  constructor
  · have hcons' : (scaleWeights c s).cons = [] := hcons
    unfold feasible
    rw [wSums_scale c s p hw, ascending_map_div _ _ hc', hcons, hcons']
    rfl
  · rw [wSums_scale c s p hw, docValue_map_div]; rfl

theorem minRatOpt_map_div (l : List Rat) (c : Rat) (hc : 0 < c) :
    minRatOpt (l.map (· / c)) = (minRatOpt l).map (· / c) := by
  cases h : minRatOpt l with
  | none =>
    rw [(minRatOpt_eq_none l).1 h]; rfl
  | some x =>
    obtain ⟨h1, h2⟩ := (minRatOpt_eq_some l x).1 h
    rw [Option.map_some, minRatOpt_eq_some]
    refine ⟨List.mem_map.2 ⟨x, h1, rfl⟩, ?_⟩
    intro y hy
    obtain ⟨z, hz, rfl⟩ := List.mem_map.1 hy
    exact (div_le_div_iff_of_pos_right hc).2 (h2 z hz)

theorem ilpBest_scale (c : Nat) (hc : 0 < c) (s : Spec) (hw : s.weights.length = s.k) (hcons : s.cons = []) :
    ilpBest (scaleWeights c s) = (ilpBest s).map (· / (c : Rat)) := by
  have hc' : (0 : Rat) < (c : Rat) := by exact_mod_cast hc
  have hpts : allPoints (scaleWeights c s) = allPoints s := rfl
  unfold ilpBest
  rw [hpts, ← minRatOpt_map_div _ _ hc', List.map_map]
  have hf : (allPoints s).filter (feasible (scaleWeights c s)) = (allPoints s).filter (feasible s) :=
    List.filter_congr fun p _ => (equal_weights_scale c hc s hw hcons p).1
  rw [hf]
  congr 1
  apply List.map_congr_left
  intro p _
  exact (equal_weights_scale c hc s hw hcons p).2

/-- scaling leaves the set of optimal points (the answers the solver may give) unchanged -/
theorem argmin_scale (c : Nat) (hc : 0 < c) (s : Spec) (hw : s.weights.length = s.k) (hcons : s.cons = [])
    (p : Point) :
    (feasible (scaleWeights c s) p = true ∧
        ilpBest (scaleWeights c s) = some (docValue (scaleWeights c s).obj (wSums (scaleWeights c s) p))) ↔
      (feasible s p = true ∧ ilpBest s = some (docValue s.obj (wSums s p))) := by
  have hc' : (c : Rat) ≠ 0 := by exact_mod_cast (Nat.pos_iff_ne_zero.1 hc)
  obtain ⟨h1, h2⟩ := equal_weights_scale c hc s hw hcons p
  rw [h1, h2, ilpBest_scale c hc s hw hcons]
  apply and_congr_right
  intro _
  cases ilpBest s with
  | none => simp
  | some x =>
    simp only [Option.map_some, Option.some.injEq]
    constructor
    · intro h; exact (div_left_inj' hc').1 h
    · intro h; rw [h]

/-- C17, equal weights never change the result: with all weights equal to `c > 0` (and no caller constraints)
    the feasible points are those of the unweighted problem and the objective is the unweighted one divided by
    `c`; as the final sort moves nothing for either call (`decode_eq_decodeRaw`), the returned bins are those of
    the unweighted call for every answer of the solver. -/
theorem equal_weights_same_as_none (c : Nat) (hc : 0 < c) (s : Spec) (hw : s.weights = List.replicate s.k c)
    (hcons : s.cons = []) (p : Point) :
    let s₁ : Spec := { s with weights := List.replicate s.k 1 }
    feasible s p = feasible s₁ p ∧
    docValue s.obj (wSums s p) = docValue s₁.obj (wSums s₁ p) / (c : Rat) ∧
    ∀ {α : Type} (v : α → Nat) (items : List α), items.map v = s.vals → feasible s p = true →
      decode v s items p = decode v s₁ items p := by
  intro s₁
  have hs : s = scaleWeights c s₁ := by
    cases s
    simp only [scaleWeights, s₁, List.map_replicate, Nat.mul_one] at hw ⊢
    rw [hw]
  have hw₁ : s₁.weights.length = s₁.k := by simp [s₁]
  obtain ⟨h1, h2⟩ := equal_weights_scale c hc s₁ hw₁ hcons p
  rw [← hs] at h1 h2
  refine ⟨h1, h2, ?_⟩
  intro α v items hv hf
  rw [decode_eq_decodeRaw v s items p hv (by rw [hw]; simp)
      (by rw [hw]; intro w hw'; rw [(List.mem_replicate.1 hw').2]; exact hc) hf,
    decode_eq_decodeRaw v s₁ items p hv hw₁
      (by intro w hw'; rw [(List.mem_replicate.1 hw').2]; exact Nat.one_pos) (h1 ▸ hf)]

/-- non-vacuity: the running example with weights `[6, 3]` instead of `[2, 1]` -/
example : feasible (scaleWeights 3 exSpec) exPoint = true := by
  rw [(equal_weights_scale 3 (by decide) exSpec rfl rfl exPoint).1]; exact exPoint_feasible

example : (scaleWeights 3 exSpec).weights = [6, 3] := by decide

/-- the weights `[0, 0]` of the last example after `result_order` do make the unsorted point feasible -/
example : feasible { exSpecU with weights := [0, 0] } [[1, 0], [1, 0], [1, 0], [1, 0], [1, 0]] = true := by
  decide +kernel

/-! ## summary: what the caller gets from an optimal answer of the solver -/

/-- **C17, assembled.**  Assume the (trusted) solver returns a point `p` that satisfies all rows and whose
    objective row is minimal among such points.  Then the returned bins-array (a) has `k` bins whose sums are
    consistent with their contents, (b) places item `i` exactly `copies[i]` times, (c) is the read-back itself —
    the final sort moves nothing — so bin `b` is the bin whose sum `rawSum s p b` was divided by `weights[b]`,
    and the weighted sums are non-decreasing, (d) satisfies every caller constraint, and (e) its documented
    objective value is `ilpBest s`, the least one among all feasible points. -/
theorem solver_answer_spec {α : Type} (v : α → Nat) (s : Spec) (items : List α) (p : Point)
    (hv : items.map v = s.vals) (hc : s.copies.length = s.vals.length) (hw : s.weights.length = s.k)
    (hpos : ∀ w ∈ s.weights, 0 < w) (hk : 0 < s.k)
    (hsat : satisfies s p = true) (hopt : ∀ q, satisfies s q = true → objValue s p ≤ objValue s q) :
    let out := decode v s items p
    (out.Consistent v ∧ out.lists.length = s.k) ∧
    out.lists.flatten.Perm ((items.zip s.copies).flatMap fun ic => List.replicate ic.2 ic.1) ∧
    (out.sums = (List.range s.k).map (rawSum s p) ∧ (wSums s p).Pairwise (· ≤ ·)) ∧
    (∀ c ∈ s.cons, c.holdsOn (wSums s p) = true) ∧
    (ilpBest s = some (docValue s.obj (wSums s p)) ∧
      ∀ q, feasible s q = true → docValue s.obj (wSums s p) ≤ docValue s.obj (wSums s q)) := by
  have hf : feasible s p = true := by rw [← rows_iff_feasible' s p hk]; exact hsat
  have hbest : ilpBest s = some (docValue s.obj (wSums s p)) := by
    rw [← objValue_eq_docValue s p hk]
    exact (ilpBest_rows s hk _).2 ⟨⟨p, hsat, rfl⟩, hopt⟩
  obtain ⟨hsh, -, -, hcons⟩ := (feasible_iff s p).1 hf
  obtain ⟨-, -, hcst, hlen, hsums⟩ := decode_copies v s items p hv hsh
  rw [decode_eq_decodeRaw v s items p hv hw hpos hf]
  exact ⟨⟨hcst, hlen⟩, decode_copies_feasible v s items p hv hc hf, ⟨hsums, feasible_ascending hf⟩, hcons,
    hbest, ((ilpBest_spec s _).1 hbest).2⟩

/-- an optimal point of the unit-weight example: `33 | 33` -/
def exPointOpt : Point := [[1, 0], [1, 0], [1, 0], [0, 1], [0, 1]]

theorem exPointOpt_feasible : feasible exSpecU exPointOpt = true := by decide +kernel

theorem exPointOpt_value : objValue exSpecU exPointOpt = 0 := by
  rw [objValue_eq_docValue _ _ (by decide), docValue_unit (unitWeights_of_replicate rfl) exPointOpt_feasible]
  decide +kernel

/-- non-vacuity of the summary: all hypotheses hold for the point `33 | 33` of the unit-weight example (its
    optimality comes from `exSpecU_best`, i.e. from the DP oracle through `unit_weights_wlog`) -/
example := solver_answer_spec id exSpecU [11, 11, 11, 11, 22] exPointOpt rfl rfl rfl (by decide) (by decide)
  (by rw [rows_iff_feasible' _ _ (by decide)]; exact exPointOpt_feasible)
  (by
    intro q hq
    rw [exPointOpt_value]
    exact ((ilpBest_rows exSpecU (by decide) 0).1 exSpecU_best).2 q hq)

example : (decode id exSpecU [11, 11, 11, 11, 22] exPointOpt).lists = [[11, 11, 11], [11, 22]] := by decide

end Prtpy.ILPProofs
