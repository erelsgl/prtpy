/-
  PrtpyProofs.Gaps — corollaries of results proved in other files, one section per subject: `Packable` and `optBins`
  under permutation and scaling (C18; Feasible, Scale), bin completion against the fit heuristics and under
  permutation and scaling (C04, C18; from `BCProofs.bc_optimal`), `dp` (C01, C02; ExactSym),
  the solver status of the ILP (C17; ILPProofs — the model of that last step of `integer_programming.optimal`,
  `SolverStatus` and `ilpFinish`, is defined here and not in Prtpy/Model/ILP.lean, which stops at `decode`), when
  first fit and best fit open a bin (C09; `Fit.Step`), dyadic fractions (C03; Scale).
-/
import PrtpyProofs.BCProofs
import PrtpyProofs.ExactSym
import PrtpyProofs.Scale
import PrtpyProofs.Feasible
import PrtpyProofs.ILPProofs
import Mathlib.Algebra.Order.Field.Rat
import Mathlib.Tactic.Positivity

namespace Prtpy.Gaps
open Prtpy

variable {α : Type}

/-! ## C18: `Packable` and `optBins` under permutation and scaling -/

/-- both directions of `LPT43.packable_perm` (Feasible.lean) -/
theorem packable_perm {B m : Nat} {vals₁ vals₂ : List Nat} (hp : vals₁.Perm vals₂) :
    Packable B m vals₁ ↔ Packable B m vals₂ :=
  ⟨LPT43.packable_perm hp, LPT43.packable_perm hp.symm⟩

example : Packable 10 2 [6, 5, 4, 3] ↔ Packable 10 2 [3, 4, 5, 6] := packable_perm (by decide)

/-- C18: multiplying the values and the capacity by `c > 0` does not change what can be packed into `m` bins -/
theorem packable_scale {c : Nat} (hc : 0 < c) (B m : Nat) (vals : List Nat) :
    Packable B m vals ↔ Packable (c * B) m (vals.map (c * ·)) := by
  unfold Packable
  simp only [List.length_map, Scale.sumsOf_scale, List.mem_map, forall_exists_index, and_imp]
  constructor
  · rintro ⟨asg, hasg, h⟩
    refine ⟨asg, hasg, ?_⟩
    intro s t ht hs
    subst hs
    exact Nat.mul_le_mul_left c (h t ht)
  · rintro ⟨asg, hasg, h⟩
    refine ⟨asg, hasg, ?_⟩
    intro s hs
    exact Nat.le_of_mul_le_mul_left (h (c * s) s hs rfl) hc

example : Packable 10 2 [6, 5, 4, 3] ↔ Packable 30 2 [18, 15, 12, 9] :=
  packable_scale (c := 3) (by decide) 10 2 [6, 5, 4, 3]

/-- C18: the minimum number of bins does not depend on the order of the values -/
theorem optBins_perm (B : Nat) {vals₁ vals₂ : List Nat} (hp : vals₁.Perm vals₂) :
    optBins B vals₁ = optBins B vals₂ :=
  Checkers.optBins_congr fun _ => packable_perm hp

example : optBins 10 [6, 5, 4, 3] = optBins 10 [3, 4, 5, 6] := optBins_perm 10 (by decide)
example : optBins 10 [6, 5, 4, 3] = some 2 := by
  refine Checkers.optBins_eq_some_iff.2 ⟨⟨[0, 1, 0, 1], ⟨rfl, by decide⟩, by decide⟩, fun m hpk => ?_⟩
  have h2 := Fit.packing_lower_bound hpk
  have h3 : sumL [6, 5, 4, 3] = 18 := by decide
  omega
/-- the `none` case is covered -/
example : optBins 10 [6, 11, 4] = optBins 10 [4, 6, 11] := optBins_perm 10 (by decide)
example : optBins 10 [6, 11, 4] = none := Checkers.optBins_none_iff.2 ⟨11, by decide, by decide⟩

/-- C18: the minimum number of bins is invariant under scaling values and capacity by `c > 0` -/
theorem optBins_scale {c : Nat} (hc : 0 < c) (B : Nat) (vals : List Nat) :
    optBins (c * B) (vals.map (c * ·)) = optBins B vals :=
  (Checkers.optBins_congr fun m => packable_scale hc B m vals).symm

example : optBins 30 [18, 15, 12, 9] = optBins 10 [6, 5, 4, 3] :=
  optBins_scale (c := 3) (by decide) 10 [6, 5, 4, 3]

/-! ## C04: bin completion never uses more bins than first-fit-decreasing, or any other packing -/

theorem packable_of_isPacking {B : Nat} {vals : List Nat} {b : Bins Nat} (h : IsPacking id B vals b) :
    Packable B b.lists.length vals :=
  BCProofs.packable_of_arrangement h.1 (BCProofs.isPacking_sumL_le h)

/-- C04, general form: with enough fuel, bin completion uses no more bins than any packing of the non-zero
    items -/
theorem bc_le_isPacking {B : Nat} {items : List Nat} {fuel : Nat} {bins : List (List Nat)} {b : Bins Nat}
    (hB : 0 < B) (hfuel : BCProofs.enoughFuel (items.filter (· != 0)).length ≤ fuel)
    (h : BC.binCompletion B items fuel = .ok bins) (hb : IsPacking id B (items.filter (· != 0)) b) :
    bins.length ≤ b.lists.length :=
  BCProofs.bc_le_packable hB hfuel h (packable_of_isPacking hb)

/-- C04: "never more bins than first-fit-decreasing" (with enough fuel) -/
theorem bc_le_ffd {B : Nat} {items : List Nat} {fuel : Nat} {bins : List (List Nat)} {ffd : Bins Nat}
    (hB : 0 < B) (hfuel : BCProofs.enoughFuel (items.filter (· != 0)).length ≤ fuel)
    (h : BC.binCompletion B items fuel = .ok bins)
    (hf : ffDecreasing id B (items.filter (· != 0)) = .ok ffd) :
    bins.length ≤ ffd.lists.length :=
  bc_le_isPacking hB hfuel h (Fit.ffDecreasing_ok_isPacking hf)

/-- here first-fit-decreasing needs 5 bins, bin completion 4 -/
example : ([[10, 10], [10, 10], [8, 4, 4, 4], [6, 5, 5, 4]] : List (List Nat)).length ≤
    ([[10, 10], [10, 10], [8, 6, 5], [5, 4, 4, 4], [4]] : List (List Nat)).length :=
  bc_le_ffd (ffd := ⟨[20, 20, 19, 17, 4], [[10, 10], [10, 10], [8, 6, 5], [5, 4, 4, 4], [4]]⟩)
    (by decide) (Nat.le_refl _) BCProofs.ex_run_enough rfl

/-- against best-fit-decreasing this is `BCProofs.bc_le_bfd`, which needs neither `0 < B` nor any fuel: the search
    starts from the best-fit-decreasing packing -/
theorem bc_le_bfd {B : Nat} {items : List Nat} {fuel : Nat} {bins : List (List Nat)} {bfd : Bins Nat}
    (h : BC.binCompletion B items fuel = .ok bins)
    (hb : bfDecreasing id B (items.filter (· != 0)) = .ok bfd) :
    bins.length ≤ bfd.lists.length :=
  BCProofs.bc_le_bfd h hb

example : ([[10, 10], [10, 10], [8, 4, 4, 4], [6, 5, 5, 4]] : List (List Nat)).length ≤
    ([[10, 10], [10, 10], [8, 6, 5], [5, 4, 4, 4], [4]] : List (List Nat)).length :=
  bc_le_bfd (bfd := ⟨[20, 20, 19, 17, 4], [[10, 10], [10, 10], [8, 6, 5], [5, 4, 4, 4], [4]]⟩)
    BCProofs.ex_run rfl

/-- … and against the two online heuristics -/
theorem bc_le_ffOnline {B : Nat} {items : List Nat} {fuel : Nat} {bins : List (List Nat)} {ff : Bins Nat}
    (hB : 0 < B) (hfuel : BCProofs.enoughFuel (items.filter (· != 0)).length ≤ fuel)
    (h : BC.binCompletion B items fuel = .ok bins)
    (hf : ffOnline id B (items.filter (· != 0)) = .ok ff) :
    bins.length ≤ ff.lists.length :=
  bc_le_isPacking hB hfuel h (Fit.ffOnline_ok_isPacking hf)

theorem bc_le_bfOnline {B : Nat} {items : List Nat} {fuel : Nat} {bins : List (List Nat)} {bf : Bins Nat}
    (hB : 0 < B) (hfuel : BCProofs.enoughFuel (items.filter (· != 0)).length ≤ fuel)
    (h : BC.binCompletion B items fuel = .ok bins)
    (hf : bfOnline id B (items.filter (· != 0)) = .ok bf) :
    bins.length ≤ bf.lists.length :=
  bc_le_isPacking hB hfuel h (Fit.bfOnline_ok_isPacking hf)

/-! ## C18 for bin completion -/

theorem filter_ne_zero_scale {c : Nat} (hc : 0 < c) (l : List Nat) :
    (l.map (c * ·)).filter (· != 0) = (l.filter (· != 0)).map (c * ·) := by
  induction l with
  | nil => rfl
  | cons x xs ih =>
    by_cases hx : x = 0
    · subst hx
      simpa using ih
    · have hcx : c * x ≠ 0 := Nat.mul_ne_zero (by omega) hx
      simp only [List.map_cons, List.filter_cons, bne_iff_ne, ne_eq, hcx, not_false_eq_true, if_true, hx, ih]

/-- C18 (bin completion): with enough fuel, permuting the items does not change the number of bins -/
theorem bc_count_perm {B : Nat} {items₁ items₂ : List Nat} {fuel₁ fuel₂ : Nat} {bins₁ bins₂ : List (List Nat)}
    (hB : 0 < B) (hp : items₁.Perm items₂)
    (hf₁ : BCProofs.enoughFuel (items₁.filter (· != 0)).length ≤ fuel₁)
    (hf₂ : BCProofs.enoughFuel (items₂.filter (· != 0)).length ≤ fuel₂)
    (h₁ : BC.binCompletion B items₁ fuel₁ = .ok bins₁) (h₂ : BC.binCompletion B items₂ fuel₂ = .ok bins₂) :
    bins₁.length = bins₂.length := by
  have e₁ := BCProofs.bc_optimal hB hf₁ h₁
  have e₂ := BCProofs.bc_optimal hB hf₂ h₂
  rw [optBins_perm B (hp.filter _), e₂] at e₁
  exact (Option.some.inj e₁).symm

theorem enoughFuel_perm {items₁ items₂ : List Nat} (hp : items₁.Perm items₂) :
    BCProofs.enoughFuel (items₁.filter (· != 0)).length = BCProofs.enoughFuel (items₂.filter (· != 0)).length := by
  rw [(hp.filter _).length_eq]

/-- an input and its reversal; whatever the bins of the second run are, there are 4 of them -/
example (b : List (List Nat))
    (h₂ : BC.binCompletion 20 [10, 4, 4, 5, 10, 4, 6, 8, 10, 4, 10, 5] (BCProofs.enoughFuel 12) = .ok b) :
    ([[10, 10], [10, 10], [8, 4, 4, 4], [6, 5, 5, 4]] : List (List Nat)).length = b.length :=
  bc_count_perm (by decide) (by decide) (Nat.le_refl _) (Nat.le_refl _) BCProofs.ex_run_enough h₂

/-- … and the second run does succeed -/
example : ∃ b, BC.binCompletion 20 [10, 4, 4, 5, 10, 4, 6, 8, 10, 4, 10, 5] (BCProofs.enoughFuel 12) = .ok b :=
  BCProofs.bc_ok_of_all_le _ (by decide)

/-- C18 (bin completion): with enough fuel, scaling the items and the bin size by `c > 0` does not change the
    number of bins -/
theorem bc_count_scale {c B : Nat} {items : List Nat} {fuel fuel' : Nat} {bins bins' : List (List Nat)}
    (hc : 0 < c) (hB : 0 < B)
    (hf : BCProofs.enoughFuel (items.filter (· != 0)).length ≤ fuel)
    (hf' : BCProofs.enoughFuel (items.filter (· != 0)).length ≤ fuel')
    (h : BC.binCompletion B items fuel = .ok bins)
    (h' : BC.binCompletion (c * B) (items.map (c * ·)) fuel' = .ok bins') :
    bins'.length = bins.length := by
  have e := BCProofs.bc_optimal hB hf h
  have e' := BCProofs.bc_optimal (Nat.mul_pos hc hB)
    (by rw [filter_ne_zero_scale hc, List.length_map]; exact hf') h'
  rw [filter_ne_zero_scale hc, optBins_scale hc, e] at e'
  exact (Option.some.inj e').symm

/-- the scaled input is accepted iff the original is, so the hypothesis `h'` above is never the obstacle -/
theorem bc_ok_scale {c B : Nat} {items : List Nat} (hc : 0 < c) (fuel fuel' : Nat) :
    (∃ bins, BC.binCompletion B items fuel = .ok bins) ↔
      ∃ bins', BC.binCompletion (c * B) (items.map (c * ·)) fuel' = .ok bins' := by
  constructor
  · rintro ⟨bins, h⟩
    refine BCProofs.bc_ok_of_all_le fuel' ?_
    intro y hy
    obtain ⟨x, hx, rfl⟩ := List.mem_map.1 hy
    exact Nat.mul_le_mul_left c (BCProofs.bc_ok_all_le h x hx)
  · rintro ⟨bins', h'⟩
    refine BCProofs.bc_ok_of_all_le fuel ?_
    intro x hx
    exact Nat.le_of_mul_le_mul_left (BCProofs.bc_ok_all_le h' (c * x) (List.mem_map_of_mem hx)) hc

/-- everything times 3 -/
example (bins' : List (List Nat))
    (h' : BC.binCompletion 60 ([5, 10, 4, 10, 8, 6, 4, 10, 5, 4, 4, 10].map (3 * ·)) (BCProofs.enoughFuel 12)
      = .ok bins') :
    bins'.length = ([[10, 10], [10, 10], [8, 4, 4, 4], [6, 5, 5, 4]] : List (List Nat)).length :=
  bc_count_scale (c := 3) (by decide) (by decide) (Nat.le_refl _) (Nat.le_refl _)
    BCProofs.ex_run_enough h'

example : ∃ bins', BC.binCompletion 60 ([5, 10, 4, 10, 8, 6, 4, 10, 5, 4, 4, 10].map (3 * ·))
    (BCProofs.enoughFuel 12) = .ok bins' :=
  (bc_ok_scale (c := 3) (by decide) 100 _).1 ⟨_, BCProofs.ex_run⟩

/-! ## C01 / C02 for the model function `dp` -/

/-- C01 for `dp` (any `k`): whatever `dp` returns is a partition of the items into `k` bins -/
theorem dp_isPartition' {v : α → Nat} {o : Objective} {k : Nat} {items : List α} {b : Bins α}
    (h : dp v o k items = .ok b) : IsPartition v items k b := by
  obtain ⟨r, hr, rfl⟩ := ExactSym.dp_ok_min h
  exact (Oracle.dpReplay_isPartition v items hr.1).1

/-- (`0 < k` is not needed: `dp_isPartition'`) -/
theorem dp_isPartition {v : α → Nat} {o : Objective} {k : Nat} {items : List α} {b : Bins α}
    (_hk : 0 < k) (h : dp v o k items = .ok b) : IsPartition v items k b :=
  dp_isPartition' h

example : IsPartition id [1, 2, 3] 2 (⟨[3, 3], [[1, 2], [3]]⟩ : Bins Nat) :=
  dp_isPartition (o := .minLargest) (by decide) (by rfl)

/-- `dp` is total for `k > 0`: it never raises -/
theorem dp_total (v : α → Nat) (o : Objective) {k : Nat} (hk : 0 < k) (items : List α) :
    ∃ b, dp v o k items = .ok b := by
  obtain ⟨x, hx, _⟩ := Oracle.dpBestValue_spec o (items.map v) hk
  obtain ⟨⟨r, hr, he⟩, _⟩ := Oracle.dpBestValue_eq_some_iff_rec.1 hx
  unfold dp
  simp only [hx]
  cases hf : (dpFinal k (items.map v)).find? (fun r => o.value r.state false == x) with
  | none =>
    rw [List.find?_eq_none] at hf
    exact absurd (by simpa using he) (hf r hr)
  | some r' => exact ⟨_, rfl⟩

example : ∃ b, dp id .minDiff 3 [4, 5, 6, 7, 8] = .ok b := dp_total id .minDiff (by decide) _

/-- without `0 < k` the statement fails: no bin to put the item into -/
example : dp id .minLargest 0 [1] = .error .valueError := by rfl

/-- C01 + C02 + totality in one statement: for `k > 0`, `dp` returns a partition into `k` bins whose objective value
    is the optimum over all partitions -/
theorem dp_spec (v : α → Nat) (o : Objective) {k : Nat} (hk : 0 < k) (items : List α) :
    ∃ b, dp v o k items = .ok b ∧ IsPartition v items k b ∧
      IsOptimalValue o k (items.map v) (o.value b.sums false) := by
  obtain ⟨b, hb⟩ := dp_total v o hk items
  exact ⟨b, hb, dp_isPartition' hb, ExactSym.dp_ok_optimal hb⟩

example : ∃ b, dp id .minDiff 3 [4, 5, 6, 7, 8] = .ok b ∧ IsPartition id [4, 5, 6, 7, 8] 3 b ∧
    IsOptimalValue .minDiff 3 ([4, 5, 6, 7, 8].map id) (Objective.minDiff.value b.sums false) :=
  dp_spec id .minDiff (by decide) _

/-! ## C17: "raises an error instead of returning a partition when the solver does not prove optimality" -/

/-- what python-mip's `model.optimize()` can report (`OptimizationStatus`), as far as the code distinguishes:
    `OPTIMAL`, `FEASIBLE` (a point, optimality not proved), `INFEASIBLE`, `NO_SOLUTION_FOUND`, anything else
    (`ERROR`, `UNBOUNDED`, `INT_INFEASIBLE`, `CUTOFF`, `LOADED`) -/
inductive SolverStatus where
  | optimal | feasible | infeasible | noSolutionFound | other
  deriving Repr, DecidableEq

/-- the end of `integer_programming.optimal`: `if status != OPTIMAL: raise ValueError`, else read the point back.
    (The model `Prtpy.ILP` stops at `decode`.) -/
def ilpFinish {α : Type} (v : α → Nat) (s : ILP.Spec) (items : List α) (st : SolverStatus) (p : ILP.Point) :
    Except Err (Bins α) :=
  if st = .optimal then .ok (ILP.decode v s items p) else .error .valueError

/-- a partition is returned exactly when the solver reports `OPTIMAL`, and then it is the read-back of its point -/
theorem ilpFinish_ok_iff {v : α → Nat} {s : ILP.Spec} {items : List α} {st : SolverStatus} {p : ILP.Point}
    {b : Bins α} : ilpFinish v s items st p = .ok b ↔ st = .optimal ∧ b = ILP.decode v s items p := by
  by_cases h : st = .optimal
  · simp [ilpFinish, h, eq_comm]
  · simp [ilpFinish, h]

/-- C17: any other status — in particular `FEASIBLE`, a point whose optimality is not proved — gives
    `ValueError`, never a partition -/
theorem ilpFinish_refuses {v : α → Nat} {s : ILP.Spec} {items : List α} {st : SolverStatus} {p : ILP.Point}
    (h : st ≠ .optimal) : ilpFinish v s items st p = .error .valueError := by
  unfold ilpFinish
  rw [if_neg h]

theorem ilpFinish_error_kind {v : α → Nat} {s : ILP.Spec} {items : List α} {st : SolverStatus} {p : ILP.Point}
    {e : Err} (h : ilpFinish v s items st p = .error e) : e = .valueError ∧ st ≠ .optimal := by
  unfold ilpFinish at h
  split at h
  · cases h
  · rename_i hst; cases h; exact ⟨rfl, hst⟩

example : ilpFinish id ILPProofs.exSpecU [11, 11, 11, 11, 22] .feasible ILPProofs.exPointOpt
    = .error .valueError := ilpFinish_refuses (by decide)
example : ilpFinish id ILPProofs.exSpecU [11, 11, 11, 11, 22] .optimal ILPProofs.exPointOpt
    = .ok ⟨[33, 33], [[11, 11, 11], [11, 22]]⟩ := by rfl
example : ilpFinish id ILPProofs.exSpecU [11, 11, 11, 11, 22] .optimal ILPProofs.exPointOpt
    = .ok (ILP.decode id ILPProofs.exSpecU [11, 11, 11, 11, 22] ILPProofs.exPointOpt) :=
  ilpFinish_ok_iff.2 ⟨rfl, rfl⟩

/-- C17, end to end.  The trusted solver contract: *if* the status is `optimal`, the point satisfies all rows
    of the formulation and minimises the objective row among such points.  Then
    * status `optimal`: a bins-array is returned, and it has all the properties of `ILPProofs.solver_answer_spec`
      ((a) `k` consistent bins, (b) item `i` exactly `copies[i]` times, (c) sums = the raw sums of the point, weighted
      sums non-decreasing, (d) the caller's constraints hold, (e) the documented objective value is the least one
      over all feasible points, `ilpBest s`);
    * any other status: the result is `ValueError` (no partition is returned). -/
theorem ilp_end_to_end {α : Type} (v : α → Nat) (s : ILP.Spec) (items : List α) (st : SolverStatus)
    (p : ILP.Point)
    (hv : items.map v = s.vals) (hc : s.copies.length = s.vals.length) (hw : s.weights.length = s.k)
    (hpos : ∀ w ∈ s.weights, 0 < w) (hk : 0 < s.k)
    (hsolver : st = .optimal → ILP.satisfies s p = true ∧
      ∀ q, ILP.satisfies s q = true → ILP.objValue s p ≤ ILP.objValue s q) :
    (st = .optimal → ∃ out, ilpFinish v s items st p = .ok out ∧
      (out.Consistent v ∧ out.lists.length = s.k) ∧
      out.lists.flatten.Perm ((items.zip s.copies).flatMap fun ic => List.replicate ic.2 ic.1) ∧
      (out.sums = (List.range s.k).map (ILP.rawSum s p) ∧ (ILP.wSums s p).Pairwise (· ≤ ·)) ∧
      (∀ c ∈ s.cons, c.holdsOn (ILP.wSums s p) = true) ∧
      (ILP.ilpBest s = some (ILP.docValue s.obj (ILP.wSums s p)) ∧
        ∀ q, ILP.feasible s q = true →
          ILP.docValue s.obj (ILP.wSums s p) ≤ ILP.docValue s.obj (ILP.wSums s q))) ∧
    (st ≠ .optimal → ilpFinish v s items st p = .error .valueError) := by
  refine ⟨?_, ilpFinish_refuses⟩
  intro hst
  obtain ⟨hsat, hopt⟩ := hsolver hst
  exact ⟨ILP.decode v s items p, ilpFinish_ok_iff.2 ⟨hst, rfl⟩,
    ILPProofs.solver_answer_spec v s items p hv hc hw hpos hk hsat hopt⟩

/-- the unit-weight example of `ILPProofs` with its optimal point `33 | 33` and status `optimal`: the hypotheses
    of `ilp_end_to_end` can be met, and its first component then yields the decoded partition (the statement is the
    instance of `ilp_end_to_end` at these arguments) -/
example := ilp_end_to_end id ILPProofs.exSpecU [11, 11, 11, 11, 22] .optimal ILPProofs.exPointOpt
  rfl rfl rfl (by decide) (by decide)
  (fun _ => ⟨by rw [ILPProofs.rows_iff_feasible' _ _ (by decide)]; exact ILPProofs.exPointOpt_feasible, by
    intro q hq
    rw [ILPProofs.exPointOpt_value]
    exact ((ILPProofs.ilpBest_rows ILPProofs.exSpecU (by decide) 0).1 ILPProofs.exSpecU_best).2 q hq⟩)

/-- … and with status `feasible` (the same point, but the solver did not prove it optimal): the contract is void,
    the result is `ValueError` -/
example : ilpFinish id ILPProofs.exSpecU [11, 11, 11, 11, 22] .feasible ILPProofs.exPointOpt
    = .error .valueError :=
  (ilp_end_to_end id ILPProofs.exSpecU [11, 11, 11, 11, 22] .feasible ILPProofs.exPointOpt
    rfl rfl rfl (by decide) (by decide) (fun h => by cases h)).2 (by decide)

/-! ## C09: first fit and best fit open a new bin only when the item fits into no open bin -/

/-- what C09 says of any step that satisfies `Fit.Step` -/
theorem step_new_bin_no_fit {v : α → Nat} {B : Nat} {b b' : Bins α} {x : α} (h : Fit.Step v B b x b') :
    ((∀ s ∈ b.sums, B < s + v x) ∧ b' = (b.addEmpty 1).add v x b.sums.length ∧
        b'.sums.length = b.sums.length + 1 ∧ b'.lists.length = b.lists.length + 1) ∨
    ((∃ s ∈ b.sums, s + v x ≤ B) ∧ b'.sums.length = b.sums.length ∧ b'.lists.length = b.lists.length) := by
  rcases h with ⟨i, hi, hfit, rfl⟩ | ⟨hno, rfl⟩
  · exact Or.inr ⟨⟨b.sums[i], List.getElem_mem hi, hfit⟩, by simp [Bins.add]⟩
  · exact Or.inl ⟨fun s hs => Nat.lt_of_not_le (hno s hs), rfl,
      by simp [Bins.add, Bins.addEmpty, Bins.concat, Bins.new]⟩

theorem step_new_bin_iff {v : α → Nat} {B : Nat} {b b' : Bins α} {x : α} (h : Fit.Step v B b x b') :
    b'.sums.length = b.sums.length + 1 ↔ ∀ s ∈ b.sums, B < s + v x := by
  rcases step_new_bin_no_fit h with ⟨h1, _, h2, _⟩ | ⟨⟨s, hs, hfit⟩, h2, _⟩
  · exact ⟨fun _ => h1, fun _ => h2⟩
  · constructor
    · intro h; omega
    · intro h; have := h s hs; omega

theorem step_numbins {v : α → Nat} {B : Nat} {b b' : Bins α} {x : α} (h : Fit.Step v B b x b') :
    b'.sums.length = if ∀ s ∈ b.sums, B < s + v x then b.sums.length + 1 else b.sums.length := by
  split <;> rename_i h1
  · exact (step_new_bin_iff h).2 h1
  · rcases step_new_bin_no_fit h with ⟨h2, _⟩ | ⟨_, h2, _⟩
    · exact absurd h2 h1
    · exact h2

/-- C09 (first fit): one step of first fit either opens a new bin — and then the item fits in no existing bin: every
    existing sum plus the item's value exceeds the bin size — or some existing bin has room, and then the number of
    bins is unchanged. -/
theorem ff_new_bin_no_fit (v : α → Nat) (B : Nat) (b : Bins α) (x : α) :
    ((∀ s ∈ b.sums, B < s + v x) ∧ ffStep v B b x = (b.addEmpty 1).add v x b.sums.length ∧
        (ffStep v B b x).sums.length = b.sums.length + 1 ∧ (ffStep v B b x).lists.length = b.lists.length + 1) ∨
    ((∃ s ∈ b.sums, s + v x ≤ B) ∧ (ffStep v B b x).sums.length = b.sums.length ∧
        (ffStep v B b x).lists.length = b.lists.length) :=
  step_new_bin_no_fit (Fit.ffStep_step v B b x)

/-- C09: a new bin is opened iff the item fits in no existing bin -/
theorem ff_new_bin_iff (v : α → Nat) (B : Nat) (b : Bins α) (x : α) :
    (ffStep v B b x).sums.length = b.sums.length + 1 ↔ ∀ s ∈ b.sums, B < s + v x :=
  step_new_bin_iff (Fit.ffStep_step v B b x)

theorem ff_numbins_step (v : α → Nat) (B : Nat) (b : Bins α) (x : α) :
    (ffStep v B b x).sums.length = if ∀ s ∈ b.sums, B < s + v x then b.sums.length + 1 else b.sums.length :=
  step_numbins (Fit.ffStep_step v B b x)

/-- `4` fits in neither `8` nor `7` (capacity 10): new bin; `2` fits: no new bin -/
example : ∀ s ∈ (⟨[8, 7], [[8], [7]]⟩ : Bins Nat).sums, 10 < s + id 4 :=
  (ff_new_bin_iff id 10 ⟨[8, 7], [[8], [7]]⟩ 4).1 (by decide)
example : (ffStep id 10 ⟨[8, 7], [[8], [7]]⟩ 4 : Bins Nat).sums.length = 3 := by decide
example : (ffStep id 10 ⟨[8, 7], [[8], [7]]⟩ 2 : Bins Nat).sums.length = 2 := by
  rw [ff_numbins_step]; decide

/-- C09 (best fit), as `ff_new_bin_no_fit` -/
theorem bf_new_bin_no_fit (v : α → Nat) (B : Nat) (b : Bins α) (x : α) :
    ((∀ s ∈ b.sums, B < s + v x) ∧ bfStep v B b x = (b.addEmpty 1).add v x b.sums.length ∧
        (bfStep v B b x).sums.length = b.sums.length + 1 ∧ (bfStep v B b x).lists.length = b.lists.length + 1) ∨
    ((∃ s ∈ b.sums, s + v x ≤ B) ∧ (bfStep v B b x).sums.length = b.sums.length ∧
        (bfStep v B b x).lists.length = b.lists.length) :=
  step_new_bin_no_fit (Fit.bfStep_step v B b x)

theorem bf_new_bin_iff (v : α → Nat) (B : Nat) (b : Bins α) (x : α) :
    (bfStep v B b x).sums.length = b.sums.length + 1 ↔ ∀ s ∈ b.sums, B < s + v x :=
  step_new_bin_iff (Fit.bfStep_step v B b x)

theorem bf_numbins_step (v : α → Nat) (B : Nat) (b : Bins α) (x : α) :
    (bfStep v B b x).sums.length = if ∀ s ∈ b.sums, B < s + v x then b.sums.length + 1 else b.sums.length :=
  step_numbins (Fit.bfStep_step v B b x)

example : ∀ s ∈ (⟨[8, 7], [[8], [7]]⟩ : Bins Nat).sums, 10 < s + id 4 :=
  (bf_new_bin_iff id 10 ⟨[8, 7], [[8], [7]]⟩ 4).1 (by decide)
example : (bfStep id 10 ⟨[8, 7], [[8], [7]]⟩ 2 : Bins Nat).sums.length = 2 := by
  rw [bf_numbins_step]; decide

/-! ## C03: exactly representable (dyadic) fractions -/

/-- How fractional inputs are covered.  The models compute on naturals.  A binary floating-point input whose values
    and bin size are multiples of `2^-j` (every finite `float` is such a dyadic fraction, and sums of such fractions
    below `2^53 · 2^-j` are computed exactly, without rounding) is the integer instance obtained by multiplying
    everything by `2^j`: all the algorithm ever does with the values is add them and compare a sum with the bin size,
    and `s/2^j + x/2^j ≤ B/2^j ↔ s + x ≤ B` (`dyadic_fit_iff`).  The statement, for integer data `v`, `B`: the run on
    `2^j · v` with bin size `2^j · B` puts the same items into the same bins in the same order as the run on `v`, `B`,
    with every bin sum multiplied by `2^j`.  Instance `c = 2^j` of `Scale.ffOnline_scale`.
    (What is said about `float` above is the reason why this statement covers the floating-point inputs; floats,
    rounding and the bound `2^53` are not part of the formal development.) -/
theorem ff_dyadic (v : α → Nat) (j B : Nat) (items : List α) :
    ffOnline (fun a => 2 ^ j * v a) (2 ^ j * B) items = (ffOnline v B items).map (Scale.scaleBins (2 ^ j)) :=
  Scale.ffOnline_scale v (Nat.two_pow_pos j) B items

/-- the same for first-fit-decreasing (the sort order of the fractions is that of the integers) -/
theorem ffd_dyadic (v : α → Nat) (j B : Nat) (items : List α) :
    ffDecreasing (fun a => 2 ^ j * v a) (2 ^ j * B) items =
      (ffDecreasing v B items).map (Scale.scaleBins (2 ^ j)) :=
  Scale.ffDecreasing_scale v (Nat.two_pow_pos j) B items

theorem bf_dyadic (v : α → Nat) (j B : Nat) (items : List α) :
    bfOnline (fun a => 2 ^ j * v a) (2 ^ j * B) items = (bfOnline v B items).map (Scale.scaleBins (2 ^ j)) :=
  Scale.bfOnline_scale v (Nat.two_pow_pos j) B items

theorem bfd_dyadic (v : α → Nat) (j B : Nat) (items : List α) :
    bfDecreasing (fun a => 2 ^ j * v a) (2 ^ j * B) items =
      (bfDecreasing v B items).map (Scale.scaleBins (2 ^ j)) :=
  Scale.bfDecreasing_scale v (Nat.two_pow_pos j) B items

/-- in particular the bins (contents) are literally the same, whatever the common denominator `2^j` -/
theorem ff_dyadic_lists (v : α → Nat) (j B : Nat) (items : List α) :
    (ffOnline (fun a => 2 ^ j * v a) (2 ^ j * B) items).map (·.lists) = (ffOnline v B items).map (·.lists) := by
  rw [ff_dyadic]
  cases ffOnline v B items <;> rfl

/-- the only comparison the fit heuristics make, on the fractions themselves -/
theorem dyadic_fit_iff (j s x B : Nat) :
    ((s : Rat) / 2 ^ j + (x : Rat) / 2 ^ j ≤ (B : Rat) / 2 ^ j) ↔ s + x ≤ B := by
  have h2 : (0 : Rat) < 2 ^ j := by positivity
  rw [← add_div, div_le_div_iff_of_pos_right h2]
  exact_mod_cast Iff.rfl

/-- the fractions `0.75, 0.5, 0.25, 0.5` with bin size `1.0` are the integers `3, 2, 1, 2` with bin
    size `4` (`j = 2`): bins `[0.75, 0.25], [0.5, 0.5]` -/
example : ffOnline id 4 [3, 2, 1, 2] = .ok ⟨[4, 4], [[3, 1], [2, 2]]⟩ := by rfl
example : ffOnline (fun a => 2 ^ 3 * id a) (2 ^ 3 * 4) [3, 2, 1, 2] =
    (ffOnline id 4 [3, 2, 1, 2]).map (Scale.scaleBins (2 ^ 3)) := ff_dyadic id 3 4 [3, 2, 1, 2]
example : ffOnline (fun a => 2 ^ 3 * id a) (2 ^ 3 * 4) [3, 2, 1, 2] = .ok ⟨[32, 32], [[3, 1], [2, 2]]⟩ := by
  rfl
example : ((3 : Nat) : Rat) / 2 ^ 2 + ((1 : Nat) : Rat) / 2 ^ 2 ≤ ((4 : Nat) : Rat) / 2 ^ 2 :=
  (dyadic_fit_iff 2 3 1 4).2 (by decide)

end Prtpy.Gaps
