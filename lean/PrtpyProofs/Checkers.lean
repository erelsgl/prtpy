/-
  PrtpyProofs.Checkers — the executable checkers and oracles of `Prtpy/Spec.lean`, which the harness runs on the
  implementation's outputs, decide exactly the specification predicates: `checkPartition` (C01), `checkPacking` (C03),
  `checkCover` (C05); `optBins` (least number of bins: C04, C09), `optCover` (most covered bins: C10),
  `optBalanced` (C12).  Facts about `Packable` and `Coverable` themselves go through their list-of-bins forms
  (`LPT43.packable_partition`/`partition_packable` of Oracle.lean; `Cover.CoverableL`, `coverable_coverableL`,
  `coverableL_coverable`, here: the block `namespace Prtpy.Cover` in the covering section, because Cover.lean imports
  this file) and the summation lemmas `Part.le_length_flatten`, `Part.SplitInto.weight_ge` of Basic.lean
  (`coverable_le_length`, `coverable_mul_le_total`).
-/
import PrtpyProofs.Basic
import PrtpyProofs.Oracle
open Prtpy Prtpy.Part
namespace Prtpy.Checkers

/-! ## Checkers -/

section Checks
variable {α : Type} [DecidableEq α]

theorem checkPartition_iff {v : α → Nat} {items : List α} {k : Nat} {b : Bins α} :
    checkPartition v items k b = true ↔ IsPartition v items k b := by
  simp only [checkPartition, IsPartition, Bool.and_eq_true, List.isPerm_iff, beq_iff_eq, and_assoc]

example : checkPartition id [1, 2, 3] 2 ⟨[3, 3], [[1, 2], [3]]⟩ = true := by decide
example : IsPartition id [1, 2, 3] 2 ⟨[3, 3], [[2, 1], [3]]⟩ :=
  checkPartition_iff.1 (by decide)

theorem checkPacking_iff {v : α → Nat} {B : Nat} {items : List α} {b : Bins α} :
    checkPacking v B items b = true ↔ IsPacking v B items b := by
  simp only [checkPacking, IsPacking, Bool.and_eq_true, List.isPerm_iff, beq_iff_eq, and_assoc,
    List.all_eq_true, decide_eq_true_eq, Bool.or_eq_true, List.isEmpty_iff, Bool.not_eq_true']
  constructor
  · rintro ⟨h1, h2, h3, h4⟩
    refine ⟨h1, h2, h3, ?_⟩
    intro hne l hl
    rcases h4 with h4 | h4
    · exact absurd h4 hne
    · have := h4 l hl
      intro h; subst h; simp at this
  · rintro ⟨h1, h2, h3, h4⟩
    refine ⟨h1, h2, h3, ?_⟩
    by_cases hne : items = []
    · exact Or.inl hne
    · right
      intro l hl
      have := h4 hne l hl
      cases l with
      | nil => exact absurd rfl this
      | cons a t => rfl

example : IsPacking id 4 [1, 2, 3] ⟨[3, 3], [[2, 1], [3]]⟩ :=
  checkPacking_iff.1 (by decide)

theorem subtractAll_some {l sub rest : List α} (h : subtractAll l sub = some rest) :
    (sub ++ rest).Perm l := by
  induction sub generalizing l with
  | nil =>
    simp only [subtractAll, Option.some.injEq] at h
    subst h; exact List.Perm.refl _
  | cons x xs ih =>
    simp only [subtractAll] at h
    split at h
    · rename_i hx
      have := ih h
      exact ((List.perm_cons x).2 this).trans (List.perm_cons_erase hx).symm
    · exact absurd h (by simp)

theorem subtractAll_of_perm {l sub rest' : List α} (h : (sub ++ rest').Perm l) :
    ∃ rest, subtractAll l sub = some rest ∧ rest.Perm rest' := by
  induction sub generalizing l with
  | nil => exact ⟨l, rfl, h.symm⟩
  | cons x xs ih =>
    have hx : x ∈ l := h.subset (List.mem_cons_self)
    have h' : (xs ++ rest').Perm (l.erase x) := by
      have := List.cons_perm_iff_perm_erase.1 h
      exact this.2
    obtain ⟨rest, h1, h2⟩ := ih h'
    exact ⟨rest, by simp only [subtractAll, hx, if_true, h1], h2⟩

theorem checkCover_iff {v : α → Nat} {B : Nat} {items : List α} {b : Bins α} :
    checkCover v B items b = true ↔ IsCover v B items b := by
  simp only [checkCover, IsCover, Bool.and_eq_true, beq_iff_eq, List.all_eq_true,
    decide_eq_true_eq, and_assoc]
  constructor
  · rintro ⟨h1, h2, h3⟩
    refine ⟨h1, h2, ?_⟩
    split at h3
    · exact absurd h3 (by simp)
    · rename_i rest hrest
      exact ⟨rest, subtractAll_some hrest, of_decide_eq_true h3⟩
  · rintro ⟨h1, h2, rest', hp, hlt⟩
    refine ⟨h1, h2, ?_⟩
    obtain ⟨rest, hs, hperm⟩ := subtractAll_of_perm hp
    rw [hs]
    simp only [decide_eq_true_eq]
    rw [binSum_perm v hperm]; exact hlt

example : IsCover id 3 [1, 2, 3, 1] ⟨[3, 3], [[2, 1], [3]]⟩ :=
  checkCover_iff.1 (by decide)

end Checks

/-- `Part.sortAsc_idem`: the states of the oracles are kept sorted, and sorting again changes nothing -/
theorem sortAsc_idem (l : List Nat) : sortAsc id (sortAsc id l) = sortAsc id l := Part.sortAsc_idem l

/-! ## Bin-packing oracle -/

theorem le_of_modify_add {l : List Nat} {j x B : Nat} (h : ∀ s ∈ l.modify j (· + x), s ≤ B) :
    ∀ s ∈ l, s ≤ B := by
  intro s hs
  obtain ⟨i, hi, rfl⟩ := List.mem_iff_getElem.1 hs
  have hi' : i < (l.modify j (· + x)).length := by simpa using hi
  have := h _ (List.getElem_mem hi')
  rw [List.getElem_modify] at this
  split at this <;> omega

theorem mem_packLayer {B m : Nat} (value : Nat) (cur : List (List Nat)) (st : List Nat) :
    st ∈ packLayer B m value cur ↔
      ∃ st0 ∈ cur, (∃ i, i < m ∧ st = sortAsc id (st0.modify i (· + value))) ∧ ∀ s ∈ st, s ≤ B := by
  simp only [packLayer, mem_dedupAdj, List.mem_mergeSort, List.mem_filter, List.mem_flatMap,
    List.mem_map, List.mem_range, List.all_eq_true, decide_eq_true_eq]
  constructor
  · rintro ⟨⟨st0, h0, i, hi, rfl⟩, hB⟩
    exact ⟨st0, h0, ⟨i, hi, rfl⟩, hB⟩
  · rintro ⟨st0, h0, ⟨i, hi, rfl⟩, hB⟩
    exact ⟨⟨st0, h0, i, hi, rfl⟩, hB⟩

/-- the layers hold the sorted sum vectors of the assignments that respect the capacity -/
theorem mem_packFold (B m : Nat) (p : List Nat) (st : List Nat) :
    st ∈ p.foldl (fun cur value => packLayer B m value cur) [List.replicate m 0] ↔
      ∃ asg, IsAssignment m p.length asg ∧ (∀ s ∈ sumsOf m p asg, s ≤ B) ∧
        st = sortAsc id (sumsOf m p asg) := by
  refine mem_foldl_layer (k := m) (mem := fun st (cur : List (List Nat)) => st ∈ cur) (rep := sortAsc id)
    (ok := fun s => ∀ t ∈ s, t ≤ B) (hlayer := mem_packLayer) (hnext := ?_)
    (hok := fun x s j => le_of_modify_add) (h0 := by simp)
    (hinit := fun st => by rw [List.mem_singleton, sortAsc_replicate]) p st
  intro x s st hs
  rw [← hs, sort_modify_sort_iff]
  constructor
  · rintro ⟨⟨j, hj, rfl⟩, hB⟩
    exact ⟨j, hj, fun t ht => hB t ((sortAsc_perm id _).mem_iff.2 ht), rfl⟩
  · rintro ⟨j, hj, hB, rfl⟩
    exact ⟨⟨j, hj, rfl⟩, fun t ht => hB t ((sortAsc_perm id _).mem_iff.1 ht)⟩

theorem packableB_iff {B m : Nat} {vals : List Nat} :
    packableB B m vals = true ↔ Packable B m vals := by
  simp only [packableB, Bool.not_eq_true', Packable]
  constructor
  · intro h
    cases hl : vals.foldl (fun cur value => packLayer B m value cur) [List.replicate m 0] with
    | nil => rw [hl] at h; simp at h
    | cons st rest =>
      have : st ∈ vals.foldl (fun cur value => packLayer B m value cur) [List.replicate m 0] := by
        rw [hl]; exact List.mem_cons_self
      obtain ⟨asg, h1, h2, _⟩ := (mem_packFold B m vals st).1 this
      exact ⟨asg, h1, h2⟩
  · rintro ⟨asg, h1, h2⟩
    have := (mem_packFold B m vals _).2 ⟨asg, h1, h2, rfl⟩
    cases hl : vals.foldl (fun cur value => packLayer B m value cur) [List.replicate m 0] with
    | nil => rw [hl] at this; simp at this
    | cons st rest => rfl

example : packableB 10 2 [6, 5, 4, 3] = true :=
  packableB_iff.2 ⟨[0, 1, 1, 0], ⟨rfl, by decide⟩, by decide⟩


/-- one bin per item -/
theorem packable_length {B : Nat} {vals : List Nat} (h : ∀ x ∈ vals, x ≤ B) : Packable B vals.length vals := by
  refine LPT43.partition_packable (vals.map fun x => [x]) (List.length_map _) ?_ fun l hl => ?_
  · rw [← List.flatMap_def, List.flatMap_singleton']
  · obtain ⟨x, hx, rfl⟩ := List.mem_map.1 hl
    exact Nat.le_trans (Nat.le_of_eq (Nat.add_zero x)) (h x hx)

theorem optBinsFrom_some {B : Nat} {vals : List Nat} {fuel m r : Nat}
    (h : optBinsFrom B vals fuel m = some r) :
    m ≤ r ∧ r < m + fuel ∧ packableB B r vals = true ∧
      ∀ m', m ≤ m' → m' < r → packableB B m' vals = false := by
  induction fuel generalizing m with
  | zero => simp [optBinsFrom] at h
  | succ fuel ih =>
    simp only [optBinsFrom] at h
    split at h
    · rename_i hp
      simp only [Option.some.injEq] at h
      subst h
      exact ⟨Nat.le_refl _, by omega, hp, fun m' h1 h2 => by omega⟩
    · rename_i hp
      obtain ⟨h1, h2, h3, h4⟩ := ih h
      refine ⟨by omega, by omega, h3, ?_⟩
      intro m' hm hm'
      by_cases hmm : m' = m
      · subst hmm; simpa using hp
      · exact h4 m' (by omega) hm'

theorem optBinsFrom_none {B : Nat} {vals : List Nat} {fuel m : Nat}
    (h : optBinsFrom B vals fuel m = none) :
    ∀ m', m ≤ m' → m' < m + fuel → packableB B m' vals = false := by
  induction fuel generalizing m with
  | zero => intro m' h1 h2; omega
  | succ fuel ih =>
    simp only [optBinsFrom] at h
    split at h
    · simp at h
    · rename_i hp
      intro m' hm hm'
      by_cases hmm : m' = m
      · subst hmm; simpa using hp
      · exact ih h m' (by omega) (by omega)

theorem optBins_spec {B : Nat} {vals : List Nat} (h : ∀ x ∈ vals, x ≤ B) :
    ∃ m, optBins B vals = some m ∧ Packable B m vals ∧ ∀ m', Packable B m' vals → m ≤ m' := by
  cases hopt : optBins B vals with
  | none =>
    have := optBinsFrom_none hopt vals.length (Nat.zero_le _) (by omega)
    rw [packableB_iff.2 (packable_length h)] at this
    exact absurd this (by simp)
  | some r =>
    obtain ⟨_, _, h3, h4⟩ := optBinsFrom_some hopt
    refine ⟨r, rfl, packableB_iff.1 h3, ?_⟩
    intro m' hm'
    by_cases hlt : m' < r
    · have := h4 m' (Nat.zero_le _) hlt
      rw [packableB_iff.2 hm'] at this
      exact absurd this (by simp)
    · omega

example : ∃ m, optBins 10 [6, 5, 4, 3] = some m ∧ Packable 10 m [6, 5, 4, 3] ∧
    ∀ m', Packable 10 m' [6, 5, 4, 3] → m ≤ m' := optBins_spec (by decide)

theorem optBins_none_iff {B : Nat} {vals : List Nat} :
    optBins B vals = none ↔ ∃ x ∈ vals, B < x := by
  constructor
  · intro hnone
    apply Classical.byContradiction
    intro hno
    have : ∀ x ∈ vals, x ≤ B := fun x hx => Nat.le_of_not_lt fun hlt => hno ⟨x, hx, hlt⟩
    obtain ⟨m, hm, _⟩ := optBins_spec this
    rw [hnone] at hm; simp at hm
  · rintro ⟨x, hx, hBx⟩
    cases hopt : optBins B vals with
    | none => rfl
    | some r =>
      obtain ⟨_, _, h3, _⟩ := optBinsFrom_some hopt
      have := LPT43.packable_item_le (packableB_iff.1 h3) hx
      omega

example : optBins 10 [6, 11, 4] = none := optBins_none_iff.2 ⟨11, by decide, by decide⟩

/-- **the oracle, as an equivalence** (the `none` case included): `optBins` answers `m` exactly if `m` is the least
    number of bins that will do.  (A packing leaves no item above the capacity: `LPT43.packable_item_le`.) -/
theorem optBins_eq_some_iff {B m : Nat} {vals : List Nat} :
    optBins B vals = some m ↔ Packable B m vals ∧ ∀ m', Packable B m' vals → m ≤ m' := by
  constructor
  · intro h
    obtain ⟨m0, h0, hp, hm⟩ := optBins_spec fun x hx => Nat.le_of_not_lt fun hlt => by
      have := optBins_none_iff.2 ⟨x, hx, hlt⟩
      rw [h] at this
      cases this
    rw [h] at h0
    cases h0
    exact ⟨hp, hm⟩
  · rintro ⟨hp, hm⟩
    obtain ⟨m0, h0, hp0, hm0⟩ := optBins_spec fun _ => LPT43.packable_item_le hp
    rw [h0, Nat.le_antisymm (hm0 _ hp) (hm _ hp0)]

/-- `optBins` is determined by the `Packable` predicate -/
theorem optBins_congr {B B' : Nat} {vals vals' : List Nat} (h : ∀ m, Packable B m vals ↔ Packable B' m vals') :
    optBins B vals = optBins B' vals' :=
  Option.ext fun m => by simp only [optBins_eq_some_iff, h]


/-! ## Bin-covering oracle -/

/-- the first `m` sums, capped at `B` -/
def capS (B m : Nat) (l : List Nat) : List Nat := (l.take m).map (min B)

theorem capS_modify (B m x : Nat) (l : List Nat) (j : Nat) :
    capS B m (l.modify j (· + x)) = (capS B m l).modify j (fun s => min B (s + x)) := by
  simp only [capS, List.take_modify]
  exact map_modify (min B) (· + x) (fun s => min B (s + x)) (fun a => by omega) _ j

theorem capS_modify_ge (B m x : Nat) (l : List Nat) {j : Nat} (hj : m ≤ j) :
    capS B m (l.modify j (· + x)) = capS B m l := by
  simp only [capS, List.take_modify]
  rw [List.modify_eq_self]
  simp only [List.length_take]; omega

theorem length_capS (B m : Nat) {l : List Nat} (h : l.length = m + 1) : (capS B m l).length = m := by
  simp only [capS, List.length_map, List.length_take, h]; omega

theorem mem_coverLayer {B m : Nat} (value : Nat) (cur : List (List Nat)) (st : List Nat) :
    st ∈ coverLayer B m value cur ↔
      ∃ st0 ∈ cur, st = st0 ∨
        ∃ i, i < m ∧ st = sortAsc id (st0.modify i (fun s => min B (s + value))) := by
  simp only [coverLayer, mem_dedupAdj, List.mem_mergeSort, List.mem_flatMap, List.mem_cons,
    List.mem_map, List.mem_range]
  constructor
  · rintro ⟨st0, h0, h | ⟨i, hi, rfl⟩⟩
    · exact ⟨st0, h0, Or.inl h⟩
    · exact ⟨st0, h0, Or.inr ⟨i, hi, rfl⟩⟩
  · rintro ⟨st0, h0, h | ⟨i, hi, rfl⟩⟩
    · exact ⟨st0, h0, Or.inl h⟩
    · exact ⟨st0, h0, Or.inr ⟨i, hi, rfl⟩⟩

/-- the layers hold the sorted capped sum vectors of all assignments; bin `m` takes the items left over -/
theorem mem_coverFold (B m : Nat) (p : List Nat) (st : List Nat) :
    st ∈ p.foldl (fun cur value => coverLayer B m value cur) [List.replicate m 0] ↔
      ∃ asg, IsAssignment (m + 1) p.length asg ∧
        st = sortAsc id (capS B m (sumsOf (m + 1) p asg)) := by
  have h0 : List.replicate m 0 = sortAsc id (capS B m (List.replicate (m + 1) 0)) := by
    have : capS B m (List.replicate (m + 1) 0) = List.replicate m 0 := by
      simp [capS, List.take_replicate]
    rw [this, sortAsc_replicate]
  refine (mem_foldl_layer (k := m + 1) (mem := fun st (cur : List (List Nat)) => st ∈ cur)
    (rep := fun s => sortAsc id (capS B m s)) (ok := fun _ => True)
    (hlayer := mem_coverLayer (B := B) (m := m)) (hnext := ?_) (hok := fun _ _ _ _ => trivial) (h0 := trivial)
    (hinit := fun st => by rw [List.mem_singleton, h0]) p st).trans (by simp)
  intro x s st hs
  have key := sort_modify_sort_iff (fun t => min B (t + x)) (capS B m s) st
  rw [length_capS B m hs] at key
  rw [key]
  constructor
  · rintro (rfl | ⟨j, hj, rfl⟩)
    · exact ⟨m, Nat.lt_succ_self m, trivial, by rw [capS_modify_ge B m x s (Nat.le_refl m)]⟩
    · exact ⟨j, Nat.lt_succ_of_lt hj, trivial, by rw [capS_modify]⟩
  · rintro ⟨j, hj, -, rfl⟩
    by_cases hjm : j < m
    · exact Or.inr ⟨j, hjm, by rw [capS_modify]⟩
    · exact Or.inl (by rw [capS_modify_ge B m x s (Nat.le_of_not_lt hjm)])

/-- no assumption on `B` is needed; `coverableB_iff` below keeps an unused `0 < B` -/
theorem coverableB_eq_true_iff {B m : Nat} {vals : List Nat} :
    coverableB B m vals = true ↔ Coverable B m vals := by
  simp only [coverableB, Coverable, List.any_eq_true, List.all_eq_true, decide_eq_true_eq]
  have key : ∀ l : List Nat, (∀ s ∈ sortAsc id (capS B m l), B ≤ s) ↔ ∀ s ∈ l.take m, B ≤ s := by
    intro l
    constructor
    · intro h s hs
      have : min B s ∈ sortAsc id (capS B m l) :=
        (sortAsc_perm id _).symm.subset (List.mem_map.2 ⟨s, hs, rfl⟩)
      have := h _ this
      omega
    · intro h s hs
      obtain ⟨t, ht, rfl⟩ := List.mem_map.1 ((sortAsc_perm id _).subset hs)
      have := h t ht
      omega
  constructor
  · rintro ⟨st, hst, hall⟩
    obtain ⟨asg, hasg, rfl⟩ := (mem_coverFold B m vals st).1 hst
    exact ⟨asg, hasg, (key _).1 hall⟩
  · rintro ⟨asg, hasg, hall⟩
    exact ⟨_, (mem_coverFold B m vals _).2 ⟨asg, hasg, rfl⟩, (key _).2 hall⟩

theorem coverableB_iff {B m : Nat} {vals : List Nat} (_hB : 0 < B) :
    coverableB B m vals = true ↔ Coverable B m vals := coverableB_eq_true_iff

example : coverableB 7 2 [6, 5, 4, 3, 1] = true :=
  (coverableB_iff (by decide)).2 ⟨[0, 1, 1, 0, 2], ⟨rfl, by decide⟩, by decide⟩


end Prtpy.Checkers

/-! ### a cover as a list of groups

(in the namespace `Prtpy.Cover`, where Cover.lean continues: that file imports this one, and the lemmas on
`Coverable` below need the two directions) -/

namespace Prtpy.Cover

/-- list formulation of "`m` bins can be covered" -/
def CoverableL (B m : Nat) (vals : List Nat) : Prop :=
  ∃ groups : List (List Nat), groups.length = m ∧ (∀ g ∈ groups, B ≤ sumL g) ∧
    ∃ rest, (groups.flatten ++ rest).Perm vals

/-- `CoverableL` through `Part.SplitInto`: a part `cov` of the values splits into `m` groups of sum `≥ B`, the rest is
    left over -/
theorem coverableL_iff_splitInto {B m : Nat} {vals : List Nat} :
    CoverableL B m vals ↔ ∃ cov rest, SplitInto (fun l => B ≤ sumL l) m cov ∧ (cov ++ rest).Perm vals :=
  ⟨fun ⟨G, hm, hG, rest, hp⟩ => ⟨G.flatten, rest, ⟨G, hm, List.Perm.refl _, hG⟩, hp⟩,
   fun ⟨_, rest, ⟨G, hm, hc, hG⟩, hp⟩ => ⟨G, hm, hG, rest, (hc.append_right rest).trans hp⟩⟩

/-- groups of values that are, with a remainder, a permutation of `vals` give an assignment: the remainder is
    the last bin (`Oracle.lists_sums_assignment`) -/
theorem coverableL_coverable {B m : Nat} {vals : List Nat} (h : CoverableL B m vals) :
    Coverable B m vals := by
  obtain ⟨G, rfl, hG, rest, hp⟩ := h
  obtain ⟨asg, hasg, hs⟩ := Oracle.lists_sums_assignment id vals (G ++ [rest])
    (by simpa using hp)
  rw [List.map_id, List.length_append, List.length_singleton] at hs
  rw [List.length_append, List.length_singleton] at hasg
  refine ⟨asg, hasg, ?_⟩
  rw [hs, List.map_append, List.take_left' (List.length_map _)]
  intro s hs'
  obtain ⟨g, hg, rfl⟩ := List.mem_map.1 hs'
  rw [binSum_id]
  exact hG g hg

/-- the converse: the first `m` of the `m + 1` bins of the assignment (`Oracle.assignment_lists`) are the groups -/
theorem coverable_coverableL {B m : Nat} {vals : List Nat} (h : Coverable B m vals) :
    CoverableL B m vals := by
  obtain ⟨asg, hasg, hs⟩ := h
  obtain ⟨Q, hk, hp, hQ⟩ := Oracle.assignment_lists id vals hasg
  rw [List.map_id] at hQ
  refine ⟨Q.take m, by rw [List.length_take, hk]; omega, fun g hg => hs _ ?_, (Q.drop m).flatten, ?_⟩
  · rw [← hQ, ← List.map_take, ← binSum_id]
    exact List.mem_map_of_mem hg
  · rw [← List.flatten_append, List.take_append_drop]
    exact hp

end Prtpy.Cover

namespace Prtpy.Checkers
open Prtpy.Cover

/-- fewer bins: the groups that are dropped join the rest -/
theorem coverable_mono {B m m' : Nat} {vals : List Nat} (hm : m' ≤ m) (h : Coverable B m vals) :
    Coverable B m' vals := by
  obtain ⟨G, hl, hG, rest, hp⟩ := coverable_coverableL h
  refine coverableL_coverable ⟨G.take m', by rw [List.length_take, hl]; omega,
    fun g hg => hG g (List.mem_of_mem_take hg), (G.drop m').flatten ++ rest, ?_⟩
  rwa [← List.append_assoc, ← List.flatten_append, List.take_append_drop]

theorem coverable_zero (B : Nat) (vals : List Nat) : Coverable B 0 vals :=
  coverableL_coverable ⟨[], rfl, fun _ h => (nomatch h), vals, List.Perm.refl _⟩

/-- every group holds an item -/
theorem coverable_le_length {B m : Nat} {vals : List Nat} (hB : 0 < B) (h : Coverable B m vals) :
    m ≤ vals.length := by
  obtain ⟨G, rfl, hG, rest, hp⟩ := coverable_coverableL h
  have := le_length_flatten (c := 1) (Q := G) fun g hg => by
    cases g with
    | nil => exact absurd (hG _ hg) (Nat.not_le_of_lt hB)
    | cons _ _ => exact Nat.succ_le_succ (Nat.zero_le _)
  rw [← hp.length_eq, List.length_append]
  omega

/-- every group weighs `B` -/
theorem coverable_mul_le_total {B m : Nat} {vals : List Nat} (h : Coverable B m vals) : m * B ≤ sumL vals := by
  obtain ⟨cov, rest, hc, hp⟩ := coverableL_iff_splitInto.1 (coverable_coverableL h)
  have := hc.weight_ge (w := id) (K := B) rfl (fun _ _ => Nat.le_refl _) fun _ hz => hz
  rw [binSum_id] at this
  rw [← sumL_perm hp, sumL_append]
  omega

theorem optCoverFrom_spec (B : Nat) (vals : List Nat) (n : Nat) :
    Coverable B (optCoverFrom B vals n) vals ∧
      ∀ m, m ≤ n → Coverable B m vals → m ≤ optCoverFrom B vals n := by
  induction n with
  | zero => exact ⟨coverable_zero B vals, fun m hm _ => hm⟩
  | succ n ih =>
    simp only [optCoverFrom]
    split
    · rename_i hc
      exact ⟨coverableB_eq_true_iff.1 hc, fun m hm _ => hm⟩
    · rename_i hc
      refine ⟨ih.1, fun m hm hcov => ?_⟩
      by_cases hmn : m = n + 1
      · subst hmn
        exact absurd (coverableB_eq_true_iff.2 hcov) hc
      · exact ih.2 m (by omega) hcov

theorem optCover_spec {B : Nat} {vals : List Nat} (hB : 0 < B) :
    Coverable B (optCover B vals) vals ∧ ∀ m, Coverable B m vals → m ≤ optCover B vals := by
  unfold optCover
  refine ⟨(optCoverFrom_spec B vals _).1, fun m hm => (optCoverFrom_spec B vals _).2 m ?_ hm⟩
  have h1 := coverable_le_length hB hm
  have h2 := coverable_mul_le_total hm
  have h3 : m ≤ sumL vals / B := (Nat.le_div_iff_mul_le hB).2 h2
  omega

example : Coverable 7 2 [6, 5, 4, 3, 1] ∧ 2 ≤ optCover 7 [6, 5, 4, 3, 1] :=
  have h : Coverable 7 2 [6, 5, 4, 3, 1] := ⟨[0, 1, 1, 0, 2], ⟨rfl, by decide⟩, by decide⟩
  ⟨h, (optCover_spec (by decide)).2 2 h⟩


/-! ## Balanced oracle -/

theorem mem_subsetFold (vals : List Nat) (cur : List (Nat × Nat)) (p : Nat × Nat) :
    p ∈ vals.foldl (fun cur x => (cur ++ cur.map fun (p : Nat × Nat) => (p.1 + 1, p.2 + x)).eraseDups) cur ↔
      ∃ q ∈ cur, ∃ sub : List Nat, sub.Sublist vals ∧ p = (q.1 + sub.length, q.2 + sumL sub) := by
  induction vals generalizing cur with
  | nil =>
    simp only [List.foldl_nil, List.sublist_nil]
    constructor
    · intro h; exact ⟨p, h, [], rfl, by simp [sumL]⟩
    · rintro ⟨q, hq, sub, rfl, rfl⟩; simpa [sumL] using hq
  | cons x xs ih =>
    rw [List.foldl_cons, ih]
    simp only [List.mem_eraseDups, List.mem_append, List.mem_map]
    constructor
    · rintro ⟨q, hq | ⟨q', hq', rfl⟩, sub, hsub, rfl⟩
      · exact ⟨q, hq, sub, List.Sublist.cons _ hsub, rfl⟩
      · refine ⟨q', hq', x :: sub, hsub.cons_cons _, ?_⟩
        simp only [List.length_cons, sumL, Prod.mk.injEq]; omega
    · rintro ⟨q, hq, sub, hsub, rfl⟩
      rcases List.sublist_cons_iff.1 hsub with h | ⟨r, rfl, h⟩
      · exact ⟨q, Or.inl hq, sub, h, rfl⟩
      · refine ⟨(q.1 + 1, q.2 + x), Or.inr ⟨q, hq, rfl⟩, r, h, ?_⟩
        simp only [List.length_cons, sumL, Prod.mk.injEq]; omega

theorem mem_subsetPairs {vals : List Nat} {p : Nat × Nat} :
    p ∈ subsetPairs vals ↔ ∃ sub : List Nat, sub.Sublist vals ∧ p = (sub.length, sumL sub) := by
  simp only [subsetPairs, mem_subsetFold, List.mem_singleton]
  constructor
  · rintro ⟨q, rfl, sub, hsub, rfl⟩; exact ⟨sub, hsub, by simp⟩
  · rintro ⟨sub, hsub, rfl⟩; exact ⟨(0, 0), rfl, sub, hsub, by simp⟩

example : (2, 9) ∈ subsetPairs [6, 5, 4, 3] :=
  mem_subsetPairs.2 ⟨[6, 3], by decide, rfl⟩

theorem optBalanced_spec {d : Nat} {vals : List Nat} {x : Nat} :
    optBalanced d vals = some x ↔
      ((∃ sub : List Nat, sub.Sublist vals ∧
          optBalanced.absDiffN (2 * sub.length) vals.length ≤ d ∧
          optBalanced.absDiffN (2 * sumL sub) (sumL vals) = x) ∧
        ∀ sub : List Nat, sub.Sublist vals →
          optBalanced.absDiffN (2 * sub.length) vals.length ≤ d →
          x ≤ optBalanced.absDiffN (2 * sumL sub) (sumL vals)) := by
  unfold optBalanced
  simp only
  generalize hys : List.map _ _ = ys
  have hmem : ∀ y, y ∈ ys ↔ ∃ sub : List Nat, sub.Sublist vals ∧
      optBalanced.absDiffN (2 * sub.length) vals.length ≤ d ∧
      optBalanced.absDiffN (2 * sumL sub) (sumL vals) = y := by
    intro y
    simp only [← hys, List.mem_map, List.mem_filter, mem_subsetPairs, decide_eq_true_eq]
    constructor
    · rintro ⟨p, ⟨⟨sub, hsub, rfl⟩, hd⟩, rfl⟩
      exact ⟨sub, hsub, hd, rfl⟩
    · rintro ⟨sub, hsub, hd, rfl⟩
      exact ⟨(sub.length, sumL sub), ⟨⟨sub, hsub, rfl⟩, hd⟩, rfl⟩
  -- the specification says that `x` is the least element of `ys`
  refine Iff.trans (b := x ∈ ys ∧ ∀ y ∈ ys, x ≤ y) ?_
    ⟨fun ⟨h1, h2⟩ => ⟨(hmem x).1 h1, fun sub hs hd => h2 _ ((hmem _).2 ⟨sub, hs, hd, rfl⟩)⟩,
      fun ⟨h1, h2⟩ => ⟨(hmem x).2 h1, fun y hy => by
        obtain ⟨sub, hs, hd, rfl⟩ := (hmem y).1 hy
        exact h2 sub hs hd⟩⟩
  cases ys with
  | nil => simp
  | cons y ys => rw [Option.some.injEq, foldl_min_eq_iff]

/-- cardinality difference 0: `{6, 3}` against `{5, 4}`, difference of the sums 0 -/
example : optBalanced 0 [6, 5, 4, 3] = some 0 :=
  optBalanced_spec.2 ⟨⟨[6, 3], by decide, by decide, by decide⟩, fun _ _ _ => Nat.zero_le _⟩

end Prtpy.Checkers
