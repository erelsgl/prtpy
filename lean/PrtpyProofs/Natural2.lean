/-
  PrtpyProofs.Natural2 — C07, second part: naturality in the item type of the dynamic program and of the complete
  Karmarkar–Karp search, the lemmas about the in/ex tree, `foldE` and `findDiff` that sequential and recursive number
  partitioning need (their theorems `snp_natural`, `rnp_natural` are in PrtpyProofs/CKKFSwitch.lean, because `snp` and
  `rnp` call `ckkF`, whose naturality is proved in PrtpyProofs/CKKF.lean, which imports this file), and C06 ("the sums
  depend only on the values") for DP, complete greedy and CBLDM.  The search is natural once, for the loop
  `CKKValid.searchStep` with natural combinations (`searchStep_natural`); `ckk`, `ckkGen` and `ckkF` are instances.
-/
import PrtpyProofs.Natural
import PrtpyProofs.CKKValid
open Prtpy Prtpy.Natural

namespace Prtpy.Natural2

variable {α β : Type}

attribute [local instance] decEqExcept

/-! ## Dynamic programming -/

section DP
variable (f : α → β) (vα : α → Nat) (vβ : β → Nat) (hf : ∀ a, vβ (f a) = vα a)
include hf

theorem dpReplay_natural (k : Nat) (items : List α) (path : List Nat) :
    dpReplay vβ k (items.map f) path = (dpReplay vα k items path).mapItems f := by
  unfold dpReplay
  rw [List.zip_map_left, ← BinsOps.mapItems_new f k]
  exact foldl_natural (Prod.map f id) (Bins.mapItems f)
    (fun b (p : α × Nat) => b.add vα p.1 p.2) (fun b (p : β × Nat) => b.add vβ p.1 p.2)
    (fun s x => (BinsOps.mapItems_add f vα vβ hf s x.1 x.2).symm) _ _

/-- C07 for the dynamic program: it works on the values only, and the replay distributes the renamed items
    along the same path. -/
theorem dp_natural (o : Objective) (k : Nat) (items : List α) :
    dp vβ o k (items.map f) = (dp vα o k items).map (Bins.mapItems f) := by
  simp only [dp, List.map_map, (funext hf : vβ ∘ f = vα)]
  cases dpBestValue o k (items.map vα) with
  | none => rfl
  | some best =>
    simp only
    cases (dpFinal k (items.map vα)).find? (fun r => o.value r.state false == best) with
    | none => rfl
    | some r => simp only [dpReplay_natural f vα vβ hf]; rfl

omit hf in
example : dp id .minLargest 2 (exItems.map Prod.fst)
    = (dp Prod.fst .minLargest 2 exItems).map (Bins.mapItems Prod.fst) :=
  dp_natural Prod.fst Prod.fst id (fun _ => rfl) .minLargest 2 exItems
omit hf in
example : (dp Prod.fst .minLargest 2 exItems).map (·.sums) = .ok [13, 13] := by decide +kernel

end DP

/-! ## The sums depend only on the values: DP, complete greedy, CBLDM -/

section Values
variable (v : α → Nat)

theorem dp_sums_values (o : Objective) (k : Nat) (items : List α) :
    (dp v o k items).map (·.sums) = (dp id o k (items.map v)).map (·.sums) := by
  rw [dp_natural v v id (fun _ => rfl), except_map_sums]

example : (dp Prod.fst .maxSmallest 3 exItems).map (·.sums)
    = (dp id .maxSmallest 3 [4, 7, 4, 2, 5, 4]).map (·.sums) :=
  dp_sums_values Prod.fst .maxSmallest 3 exItems

/-- also under a time limit -/
theorem cg_sums_values (cfg : CgCfg) (k : Nat) (items : List α) (cut : Option Nat) (fuel : Nat) :
    (cg v cfg k items cut fuel).map (Option.map (·.sums))
      = (cg id cfg k (items.map v) cut fuel).map (Option.map (·.sums)) := by
  rw [cg_natural v v id (fun _ => rfl), except_option_map_sums]

example : (cg Prod.fst ⟨.minLargest, true, true, true, true⟩ 3 exItems none 1000).map (Option.map (·.sums))
    = (cg id ⟨.minLargest, true, true, true, true⟩ 3 [4, 7, 4, 2, 5, 4] none 1000).map (Option.map (·.sums)) :=
  cg_sums_values Prod.fst _ 3 exItems none 1000

/-- also under a time limit -/
theorem cbldm_sums_values (items : List α) (d cut : Option Nat) :
    (cbldm v items d cut).map (·.sums) = (cbldm id (items.map v) d cut).map (·.sums) := by
  rw [cbldm_natural v v id (fun _ => rfl), option_map_sums]

example : (cbldm Prod.fst exItems (some 1) none).map (·.sums)
    = (cbldm id [4, 7, 4, 2, 5, 4] (some 1) none).map (·.sums) :=
  cbldm_sums_values Prod.fst exItems (some 1) none

end Values

/-! ## Complete Karmarkar–Karp -/

/-- rename the items of a CKK search state -/
def mapCkkState (f : α → β) (s : CkkState α) : CkkState β :=
  ⟨s.stack.map (List.map (mapEntry f)), s.cnt, s.best, s.bestP.map (Bins.mapItems f),
   s.yields.map (Bins.mapItems f), s.done⟩

section CKK
variable (f : α → β)

theorem pairBy_natural (b₁ b₂ : Bins α) (perm : List Nat) :
    pairBy (b₁.mapItems f) (b₂.mapItems f) perm = (pairBy b₁ b₂ perm).mapItems f := by
  simp only [pairBy, Bins.mapItems, BinsOps.getD_map_map]
  congr 1
  generalize b₂.lists = l₂
  induction perm generalizing l₂ with
  | nil => rfl
  | cons p ps ih =>
    cases l₂ with
    | nil => rfl
    | cons l ls => simp only [List.map_cons, List.zipWith_cons_cons, List.map_append, ih]

theorem ckkBound_natural (h : Heap α) (k : Nat) : ckkBound (h.map (mapEntry f)) k = ckkBound h k := by
  have : (h.map (mapEntry f)).flatMap (·.bins.sums) = h.flatMap (·.bins.sums) := by
    rw [List.flatMap_map]; rfl
  simp only [ckkBound, this]

theorem topDiffOf_natural (h : Heap α) : topDiffOf (h.map (mapEntry f)) = topDiffOf h := by
  simp only [topDiffOf, htop_natural]
  cases htop h <;> rfl

/-- pushing a list of combinations on clones of a heap -/
theorem clones_natural (h₂ : Heap α) (c : Nat) (combs : List (Bins α)) :
    CKKValid.clones (h₂.map (mapEntry f)) c (combs.map (Bins.mapItems f))
      = (CKKValid.clones h₂ c combs).map (List.map (mapEntry f)) := by
  induction combs generalizing c with
  | nil => rfl
  | cons nb combs ih => simp only [List.map_cons, CKKValid.clones, hpush_natural, ih]

/-- the search loop is natural if the combinations it pushes are: `ckk`, `ckkGen` (all of `allComb`) and `ckkF` (what
    `dedupSums` keeps of it) are the instances -/
theorem searchStep_natural {combs : Bins α → Bins α → List (Bins α)} {combs' : Bins β → Bins β → List (Bins β)}
    (hcombs : ∀ b₁ b₂, combs' (b₁.mapItems f) (b₂.mapItems f) = (combs b₁ b₂).map (Bins.mapItems f))
    (k : Nat) (gen isBest : Bool) (s : CkkState α) :
    CKKValid.searchStep combs' k gen isBest (mapCkkState f s)
      = mapCkkState f (CKKValid.searchStep combs k gen isBest s) := by
  obtain ⟨stack, cnt, best, bestP, yields, done⟩ := s
  match stack with
  | [] => rfl
  | h :: stack =>
    rw [show mapCkkState f ⟨h :: stack, cnt, best, bestP, yields, done⟩
        = ⟨h.map (mapEntry f) :: stack.map (List.map (mapEntry f)), cnt, best, bestP.map (Bins.mapItems f),
           yields.map (Bins.mapItems f), done⟩ from rfl]
    simp only [CKKValid.searchStep, CKKValid.searchBody, CKKValid.prunedB, ckkBound_natural, List.length_map,
      topDiffOf_natural, htop_natural, hpop_natural]
    refine ite_map _ rfl (ite_map _ (ite_map _ ?_ rfl) ?_)
    · cases htop h with
      | none => exact ite_map _ rfl rfl
      | some e => exact ite_map _ rfl rfl
    · cases hpop h with
      | none => rfl
      | some p₁ =>
        obtain ⟨e₁, h₁⟩ := p₁
        simp only [Option.map_some, hpop_natural]
        cases hpop h₁ with
        | none => rfl
        | some p₂ =>
          obtain ⟨e₂, h₂⟩ := p₂
          simp only [Option.map_some]
          have e1 : (mapEntry f e₁).bins = e₁.bins.mapItems f := rfl
          have e2 : (mapEntry f e₂).bins = e₂.bins.mapItems f := rfl
          simp only [e1, e2, hcombs, CKKValid.foldl_push_eq, List.nil_append, clones_natural, List.length_map,
            sortDesc_map (List.map (mapEntry f)) topDiffOf topDiffOf (topDiffOf_natural f)]
          simp only [mapCkkState, List.map_append, List.map_reverse]

theorem searchRun_natural {combs : Bins α → Bins α → List (Bins α)} {combs' : Bins β → Bins β → List (Bins β)}
    (hcombs : ∀ b₁ b₂, combs' (b₁.mapItems f) (b₂.mapItems f) = (combs b₁ b₂).map (Bins.mapItems f))
    (k : Nat) (gen isBest : Bool) (fuel : Nat) (s : CkkState α) :
    Iter.run (·.done) (CKKValid.searchStep combs' k gen isBest) fuel (mapCkkState f s)
      = mapCkkState f (Iter.run (·.done) (CKKValid.searchStep combs k gen isBest) fuel s) :=
  Iter.run_rel (fun s t => t = mapCkkState f s) (fun _ _ h => h ▸ rfl)
    (fun s _ h _ => h ▸ searchStep_natural f hcombs k gen isBest s) fuel s _ rfl

variable [BEq α] [LawfulBEq α] [BEq β] [LawfulBEq β] (hinj : ∀ a b, f a = f b → a = b)
include hinj

/-- de-duplication compares contents with `==`: this is where injectivity is needed -/
theorem beq_map_map (l₁ l₂ : List (List α)) :
    (l₁.map (·.map f) == l₂.map (·.map f)) = (l₁ == l₂) := by
  rw [Bool.eq_iff_iff, beq_iff_eq, beq_iff_eq]
  exact List.map_inj_right (fun x y h => (List.map_inj_right hinj).1 h)

variable (nmα : α → Nat) (nmβ : β → Nat) (hnm : ∀ a, nmβ (f a) = nmα a)
include hnm

theorem allCombContentsAux_natural (b₁ b₂ : Bins α) (perms : List (List Nat)) (acc : List (Bins α)) :
    allCombContentsAux nmβ (b₁.mapItems f) (b₂.mapItems f) perms (acc.map (Bins.mapItems f))
      = (allCombContentsAux nmα b₁ b₂ perms acc).map (Bins.mapItems f) := by
  induction perms generalizing acc with
  | nil => simp only [allCombContentsAux, List.map_reverse]
  | cons perm rest ih =>
    have hnb : (Bins.mk (pairBy (b₁.mapItems f) (b₂.mapItems f) perm).sums
          ((pairBy (b₁.mapItems f) (b₂.mapItems f) perm).lists.map (Prtpy.sortAsc nmβ))).sortAsc
        = ((Bins.mk (pairBy b₁ b₂ perm).sums ((pairBy b₁ b₂ perm).lists.map (Prtpy.sortAsc nmα))).sortAsc).mapItems f := by
      rw [BinsOps.mapItems_sortAsc, pairBy_natural]
      congr 1
      simp only [Bins.mapItems, List.map_map]
      congr 1
      apply List.map_congr_left
      intro l _
      simp only [Function.comp, sortAsc_map f nmα nmβ hnm]
    simp only [allCombContentsAux, hnb]
    have hany : ∀ nb : Bins α, (acc.map (Bins.mapItems f)).any (fun o => o.lists == (nb.mapItems f).lists)
        = acc.any (fun o => o.lists == nb.lists) := by
      intro nb
      rw [List.any_map]
      congr 1
      funext o
      simp only [Function.comp, mapItems_lists, beq_map_map f hinj]
    rw [hany]
    split
    · exact ih acc
    · rw [← List.map_cons]; exact ih _

theorem allComb_natural (contents : Bool) (b₁ b₂ : Bins α) :
    allComb nmβ contents (b₁.mapItems f) (b₂.mapItems f)
      = (allComb nmα contents b₁ b₂).map (Bins.mapItems f) := by
  cases contents with
  | true =>
    simp only [allComb, if_true, allCombContents, mapItems_sums]
    have := allCombContentsAux_natural f hinj nmα nmβ hnm b₁ b₂ (lexPerms (List.range b₁.sums.length)) []
    simpa only [List.map_nil] using this
  | false =>
    simp only [allComb, Bool.false_eq_true, if_false, mapItems_sums, List.map_map]
    apply List.map_congr_left
    intro s _
    simp only [Function.comp, Bins.mapItems, List.map_replicate, List.map_nil]

theorem ckkRun_natural (k : Nat) (contents gen isBest : Bool) (fuel : Nat) (s : CkkState α) :
    ckkRun nmβ k contents gen isBest fuel (mapCkkState f s)
      = mapCkkState f (ckkRun nmα k contents gen isBest fuel s) := by
  rw [CKKValid.ckkRun_eq_search, CKKValid.ckkRun_eq_search]
  exact searchRun_natural f (allComb_natural f hinj nmα nmβ hnm contents) k gen isBest fuel s

omit hinj hnm [BEq α] [LawfulBEq α] [BEq β] [LawfulBEq β] in
theorem resultOf_natural (s : CkkState α) :
    CKKValid.resultOf (mapCkkState f s) = (CKKValid.resultOf s).map (Bins.mapItems f) := by
  obtain ⟨stack, cnt, best, bestP, yields, done⟩ := s
  simp only [CKKValid.resultOf, mapCkkState]
  cases done with
  | false => rfl
  | true =>
    cases bestP with
    | none => rfl
    | some b => simp only [Bool.not_true, Bool.false_eq_true, if_false, Option.map_some, ← BinsOps.mapItems_sortAsc]; rfl

variable (vα : α → Nat) (vβ : β → Nat) (hf : ∀ a, vβ (f a) = vα a)
include hf

omit hinj hnm [BEq α] [LawfulBEq α] [BEq β] [LawfulBEq β] in
theorem ckkInit_natural (k : Nat) (items : List α) (best : EInt) :
    ckkInit vβ k (items.map f) best = mapCkkState f (ckkInit vα k items best) := by
  have h := pushAll_natural f vα vβ hf k (sortDesc vα items) [] 0
  simp only [List.map_nil] at h
  simp only [ckkInit, sortDesc_map f vα vβ hf, h, mapCkkState, List.map_cons, List.map_nil, Option.map_none]

/-- Complete Karmarkar–Karp is natural for *injective* renamings that preserve values and name keys. -/
theorem ckk_natural (k : Nat) (contents : Bool) (items : List α) (fuel : Nat) :
    ckk vβ nmβ k contents (items.map f) fuel
      = (ckk vα nmα k contents items fuel).map (Bins.mapItems f) := by
  rw [CKKValid.ckk_eq_resultOf, CKKValid.ckk_eq_resultOf, ckkInit_natural f vα vβ hf, ckkRun_natural f hinj nmα nmβ hnm]
  exact resultOf_natural f _

theorem ckkGen_natural (k : Nat) (contents : Bool) (items : List α) (bound : Option Nat) (fuel : Nat) :
    ckkGen vβ nmβ k contents (items.map f) bound fuel
      = (ckkGen vα nmα k contents items bound fuel).map (List.map (Bins.mapItems f)) := by
  simp only [ckkGen, ckkInit_natural f vα vβ hf, ckkRun_natural f hinj nmα nmβ hnm]
  generalize ckkRun nmα k contents true bound.isNone fuel (ckkInit vα k items _) = s
  obtain ⟨stack, cnt, best, bestP, yields, done⟩ := s
  simp only [mapCkkState]
  cases done with
  | false => rfl
  | true =>
    simp only [Bool.not_true, Bool.false_eq_true, if_false]
    show Except.ok _ = Except.ok (List.map (Bins.mapItems f) yields.reverse)
    rw [List.map_reverse]

end CKK

/-- input of the examples: names with a value function … -/
def exNames : List Char := ['a', 'b', 'c', 'd', 'e', 'f']
def exVal (c : Char) : Nat := if c = 'b' then 7 else if c = 'd' then 2 else if c = 'e' then 5 else 4
/-- … and the same items as dict entries `(value, name)`; `entry` is injective -/
def entry (c : Char) : Nat × Char := (exVal c, c)

example : exNames.map entry = exItems := by decide

example : ckk Prod.fst (fun p => p.2.toNat) 3 true (exNames.map entry) 1000
    = (ckk exVal Char.toNat 3 true exNames 1000).map (Bins.mapItems entry) :=
  ckk_natural entry (fun _ _ h => congrArg Prod.snd h) Char.toNat (fun p => p.2.toNat) (fun _ => rfl)
    exVal Prod.fst (fun _ => rfl) 3 true exNames 1000
example : (ckk exVal Char.toNat 3 true exNames 1000).map (·.lists)
    = .ok [['a', 'f'], ['b', 'd'], ['c', 'e']] := by decide +kernel
example : ckkGen Prod.fst (fun p => p.2.toNat) 3 true (exNames.map entry) (some 3) 1000
    = (ckkGen exVal Char.toNat 3 true exNames (some 3) 1000).map (List.map (Bins.mapItems entry)) :=
  ckkGen_natural entry (fun _ _ h => congrArg Prod.snd h) Char.toNat (fun p => p.2.toNat) (fun _ => rfl)
    exVal Prod.fst (fun _ => rfl) 3 true exNames (some 3) 1000

/-- **injectivity is necessary**: replacing the named items `(1,a), (1,b), (2,c), (2,d)` by their bare values
    (values and sort keys are preserved) makes the content de-duplication merge more candidates: the generator
    yields 5 partitions of the values but 7 of the named items -/
example : (ckkGen id id 2 true ([(1, 'a'), (1, 'b'), (2, 'c'), (2, 'd')].map Prod.fst) (some 5) 1000).map List.length
    = .ok 5 := by decide +kernel
example : (ckkGen Prod.fst Prod.fst 2 true [(1, 'a'), (1, 'b'), (2, 'c'), (2, 'd')] (some 5) 1000).map List.length
    = .ok 7 := by decide +kernel

/-! ## Sequential and recursive number partitioning: the tree, `foldE`, `findDiff` -/

theorem map_ok {ε σ τ : Type} (g : σ → τ) (a : σ) : (Except.ok a : Except ε σ).map g = .ok (g a) := rfl

theorem map_error {ε σ τ : Type} (g : σ → τ) (e : ε) : (Except.error e : Except ε σ).map g = .error e := rfl

section SNP
variable (f : α → β) (vα : α → Nat) (vβ : β → Nat) (hf : ∀ a, vβ (f a) = vα a)

section Trees
include hf

theorem inexPrune_natural (den : Nat) (lb ub : Int) (cur rest : List α) :
    inexPrune vβ den lb ub (cur.map f) (rest.map f) = inexPrune vα den lb ub cur rest := by
  simp only [inexPrune, BinsOps.binSum_map f vα vβ hf]

/-- the in/ex-tree fold is natural as soon as its lower-bound reader and its body are -/
theorem treeFold_natural {σ τ : Type} (g : σ → τ) (den : Nat) (ub : Int) (lbOf : σ → Int) (lbOf' : τ → Int)
    (body : σ → List α → Except Err σ) (body' : τ → List β → Except Err τ)
    (hlb : ∀ s, lbOf' (g s) = lbOf s)
    (hbody : ∀ s cur, body' (g s) (cur.map f) = (body s cur).map g)
    (st : σ) (cur rest : List α) :
    treeFold vβ den ub lbOf' body' (g st) (cur.map f) (rest.map f)
      = (treeFold vα den ub lbOf body st cur rest).map g := by
  induction rest generalizing st cur with
  | nil =>
    have := inexPrune_natural f vα vβ hf den (lbOf st) ub cur []
    simp only [List.map_nil] at this
    simp only [List.map_nil, treeFold, hlb, this]
    exact ite_map _ rfl (hbody st cur)
  | cons x xs ih =>
    have := inexPrune_natural f vα vβ hf den (lbOf st) ub cur (x :: xs)
    simp only [List.map_cons] at this
    simp only [List.map_cons, treeFold, hlb, this]
    refine ite_map _ rfl ?_
    have happ : cur.map f ++ [f x] = (cur ++ [x]).map f := by
      simp only [List.map_append, List.map_cons, List.map_nil]
    rw [happ, ih]
    cases treeFold vα den ub lbOf body st (cur ++ [x]) xs with
    | error e => rfl
    | ok st1 => exact ih st1 cur

end Trees

theorem foldE_natural {σ τ γ δ : Type} (g : σ → τ) (h : γ → δ) (F : σ → γ → Except Err σ)
    (F' : τ → δ → Except Err τ) (hF : ∀ s x, F' (g s) (h x) = (F s x).map g) (s : σ) (l : List γ) :
    foldE F' (g s) (l.map h) = (foldE F s l).map g := by
  induction l generalizing s with
  | nil => rfl
  | cons x xs ih =>
    simp only [List.map_cons, foldE, hF]
    cases F s x with
    | error e => rfl
    | ok s' => exact ih s'

variable [BEq α] [LawfulBEq α] [BEq β] [LawfulBEq β] (hinj : ∀ a b, f a = f b → a = b)

section Erase
include hinj

theorem erase_map (l : List α) (x : α) : (l.map f).erase (f x) = (l.erase x).map f := by
  induction l with
  | nil => rfl
  | cons y ys ih =>
    have : (f y == f x) = (y == x) := by
      rw [Bool.eq_iff_iff, beq_iff_eq, beq_iff_eq]
      exact ⟨hinj _ _, congrArg f⟩
    simp only [List.map_cons, List.erase_cons, this]
    split
    · rfl
    · rw [List.map_cons, ih]

/-- `find_diff` erases by `==`: injectivity again -/
theorem findDiff_natural (items sub : List α) :
    findDiff (items.map f) (sub.map f) = (findDiff items sub).map f := by
  unfold findDiff
  induction sub generalizing items with
  | nil => rfl
  | cons x xs ih => simp only [List.map_cons, List.foldl_cons, erase_map f hinj, ih]

end Erase

end SNP

end Prtpy.Natural2
