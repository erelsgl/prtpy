/-
  PrtpyProofs.PermSums — property C18 ("results respect problem symmetries") for the exact difference-minimising
  partitioners `ckkF` (complete Karmarkar–Karp after fix F11, Prtpy/Model/CKKF.lean), `snp` and `rnpF` (after fix
  F10, Prtpy/Model/RNP.lean; k ≤ 5): the vector of bin sums does not depend on the order in which the items are given
  (nor on the bins manager, the name keys, the fuels) — `ckkF_perm_sums`, `snp_perm_sums`, `rnpF_perm_sums`.

  All three are instances of one statement per algorithm about two runs, on items of any two types, whose values are
  the same up to order: `CKKF.ckkF_sums_congr` (same fuel; `CKKF.ckkF_sums_any` for any two fuels),
  `ValueSim.snp_sums_congr`, `RNPDict.rnpF_sums_congr`.

  With the identity permutation this is property C06 (the same items, the two managers) for `snp` and `rnpF`; those
  theorems stand at the end of the file, in the namespaces `RNPDict` (`rnpF_sums_any`) and `SumsOnly` (independence of
  the manager) of the statements they complete.
-/
import PrtpyProofs.Runs
import PrtpyProofs.CKKF
import PrtpyProofs.SumsOnly
import PrtpyProofs.ValueSim
import PrtpyProofs.RNPDict
open Prtpy

namespace Prtpy.PermSums

variable {α : Type}

/-! ## C18 for the three partitioners -/

/-- **C18 for complete Karmarkar–Karp** (`optimal` after F11): permuting the items (and changing the manager, the
    name key, the fuel) leaves the whole vector of sums unchanged -/
theorem ckkF_perm_sums {v nm nm' : α → Nat} [BEq α] [LawfulBEq α] {c₁ c₂ : Bool} {k : Nat} {items items' : List α}
    {f₁ f₂ : Nat} {b₁ b₂ : Bins α} (hp : items.Perm items') (hk : 0 < k)
    (h₁ : ckkF v nm k c₁ items f₁ = .ok b₁) (h₂ : ckkF v nm' k c₂ items' f₂ = .ok b₂) :
    b₂.sums = b₁.sums :=
  (CKKF.ckkF_sums_any (hp.map v) hk h₁ h₂).symm

/-- **C18 for sequential number partitioning** -/
theorem snp_perm_sums {v nm nm' : α → Nat} [BEq α] [LawfulBEq α] {c₁ c₂ : Bool} {k : Nat} {items items' : List α}
    {f₁ f₂ : Nat} {b₁ b₂ : Bins α} (hp : items.Perm items')
    (h₁ : snp v nm k c₁ items f₁ = .ok b₁) (h₂ : snp v nm' k c₂ items' f₂ = .ok b₂) :
    b₂.sums = b₁.sums :=
  (ValueSim.snp_sums_congr (hp.map v) h₁ h₂).symm

/-- **C18 for recursive number partitioning** (after F10, `k ≤ 5`) -/
theorem rnpF_perm_sums {v nm nm' : α → Nat} [BEq α] [LawfulBEq α] {c₁ c₂ : Bool} {k : Nat} {items items' : List α}
    {f₁ f₂ : Nat} {b₁ b₂ : Bins α} (hp : items.Perm items') (hk5 : k ≤ 5) (hk : 0 < k)
    (h₁ : rnpF v nm k c₁ items f₁ = .ok b₁) (h₂ : rnpF v nm' k c₂ items' f₂ = .ok b₂) :
    b₂.sums = b₁.sums :=
  (RNPDict.rnpF_sums_congr (hp.map v) hk5 hk h₁ h₂).symm

/-! ### the same in the phrasing of `ExactSym` (`cg_value_perm`, `dp_fn_value_perm`): any objective has the same value -/

theorem ckkF_value_perm {v nm nm' : α → Nat} [BEq α] [LawfulBEq α] {c₁ c₂ : Bool} {k : Nat} {items items' : List α}
    {f₁ f₂ : Nat} {b₁ b₂ : Bins α} (o : Objective) (hp : items.Perm items') (hk : 0 < k)
    (h₁ : ckkF v nm k c₁ items f₁ = .ok b₁) (h₂ : ckkF v nm' k c₂ items' f₂ = .ok b₂) :
    o.value b₁.sums false = o.value b₂.sums false := by
  rw [ckkF_perm_sums hp hk h₁ h₂]

theorem snp_value_perm {v nm nm' : α → Nat} [BEq α] [LawfulBEq α] {c₁ c₂ : Bool} {k : Nat} {items items' : List α}
    {f₁ f₂ : Nat} {b₁ b₂ : Bins α} (o : Objective) (hp : items.Perm items')
    (h₁ : snp v nm k c₁ items f₁ = .ok b₁) (h₂ : snp v nm' k c₂ items' f₂ = .ok b₂) :
    o.value b₁.sums false = o.value b₂.sums false := by
  rw [snp_perm_sums hp h₁ h₂]

theorem rnpF_value_perm {v nm nm' : α → Nat} [BEq α] [LawfulBEq α] {c₁ c₂ : Bool} {k : Nat} {items items' : List α}
    {f₁ f₂ : Nat} {b₁ b₂ : Bins α} (o : Objective) (hp : items.Perm items') (hk5 : k ≤ 5) (hk : 0 < k)
    (h₁ : rnpF v nm k c₁ items f₁ = .ok b₁) (h₂ : rnpF v nm' k c₂ items' f₂ = .ok b₂) :
    o.value b₁.sums false = o.value b₂.sums false := by
  rw [rnpF_perm_sums hp hk5 hk h₁ h₂]

/-! ## non-vacuity: permuted inputs with repeated values, different managers / name keys / fuels -/

/-- (name, value) pairs; values `9 7 7 6 5 5 4`: Karmarkar–Karp gives `13 14 16`, the optimum is `14 14 15` -/
def exA : List (Nat × Nat) := [(0, 9), (1, 7), (2, 7), (3, 6), (4, 5), (5, 5), (6, 4)]
def exA' : List (Nat × Nat) := [(5, 5), (2, 7), (6, 4), (0, 9), (4, 5), (1, 7), (3, 6)]
/-- values `2 10 7 3 3 7 6 4`, four bins: Karmarkar–Karp gives `10 10 10 12`, the optimum is `10 10 11 11` -/
def exB : List (Nat × Nat) := [(0, 2), (1, 10), (2, 7), (3, 3), (4, 3), (5, 7), (6, 6), (7, 4)]
def exB' : List (Nat × Nat) := [(4, 3), (5, 7), (0, 2), (7, 4), (2, 7), (6, 6), (1, 10), (3, 3)]

attribute [local instance] Prtpy.decEqBins

/-- decidable equality on results, for the kernel-evaluated runs of the examples (local to this file) -/
@[instance_reducible] def decEqResult : DecidableEq (Except Err (Bins (Nat × Nat)))
  | .ok a, .ok b => if h : a = b then isTrue (by rw [h]) else isFalse (fun h' => h (Except.ok.inj h'))
  | .error a, .error b =>
    if h : a = b then isTrue (by rw [h]) else isFalse (fun h' => h (Except.error.inj h'))
  | .ok _, .error _ => isFalse (fun h => by cases h)
  | .error _, .ok _ => isFalse (fun h => by cases h)

attribute [local instance] decEqResult

theorem exA_perm : exA.Perm exA' := by decide
theorem exB_perm : exB.Perm exB' := by decide

/-- the runs on `exA`, `exB` against which the runs on the permuted inputs are compared -/
theorem ckkF_exA : ckkF Prod.snd Prod.fst 3 true exA 400
    = .ok ⟨[14, 14, 15], [[(0, 9), (5, 5)], [(1, 7), (2, 7)], [(3, 6), (4, 5), (6, 4)]]⟩ := by
  decide +kernel

theorem snp_exA : snp Prod.snd Prod.fst 3 true exA 400
    = .ok ⟨[14, 15, 14], [[(1, 7), (2, 7)], [(3, 6), (5, 5), (6, 4)], [(0, 9), (4, 5)]]⟩ := by
  decide +kernel

theorem rnpF_exB : rnpF Prod.snd Prod.fst 4 true exB 400
    = .ok ⟨[10, 11, 10, 11], [[(1, 10)], [(5, 7), (7, 4)], [(2, 7), (3, 3)], [(0, 2), (4, 3), (6, 6)]]⟩ := by
  decide +kernel

set_option maxRecDepth 100000 in
/-- the two runs return different partitions (ties are broken by input order and name key) with the same sums -/
example : (⟨[14, 14, 15], [[(4, 5), (0, 9)], [(2, 7), (1, 7)], [(6, 4), (5, 5), (3, 6)]]⟩ : Bins (Nat × Nat)).sums
    = (⟨[14, 14, 15], [[(0, 9), (5, 5)], [(1, 7), (2, 7)], [(3, 6), (4, 5), (6, 4)]]⟩ : Bins (Nat × Nat)).sums :=
  ckkF_perm_sums (nm' := fun p => 10 - p.1) (c₂ := true) (f₂ := 300) exA_perm (by decide) ckkF_exA
    (by decide +kernel)

set_option maxRecDepth 100000 in
/-- … and against the sums-only manager -/
example : (⟨[14, 14, 15], [[], [], []]⟩ : Bins (Nat × Nat)).sums
    = (⟨[14, 14, 15], [[(0, 9), (5, 5)], [(1, 7), (2, 7)], [(3, 6), (4, 5), (6, 4)]]⟩ : Bins (Nat × Nat)).sums :=
  ckkF_perm_sums (nm' := fun p => 10 - p.1) (c₂ := false) (f₂ := 300) exA_perm (by decide) ckkF_exA
    (by decide +kernel)

set_option maxRecDepth 100000 in
/-- SNP: the vector of sums is not sorted (`14 15 14`), and it is the same vector for the permuted input -/
example : (⟨[14, 15, 14], [[(2, 7), (1, 7)], [(6, 4), (4, 5), (3, 6)], [(0, 9), (5, 5)]]⟩ : Bins (Nat × Nat)).sums
    = (⟨[14, 15, 14], [[(1, 7), (2, 7)], [(3, 6), (5, 5), (6, 4)], [(0, 9), (4, 5)]]⟩ : Bins (Nat × Nat)).sums :=
  snp_perm_sums (nm' := fun p => 10 - p.1) (c₂ := true) (f₂ := 300) exA_perm snp_exA (by decide +kernel)

set_option maxRecDepth 100000 in
example : (⟨[14, 15, 14], [[], [], [(0, 9), (5, 5)]]⟩ : Bins (Nat × Nat)).sums
    = (⟨[14, 15, 14], [[(1, 7), (2, 7)], [(3, 6), (5, 5), (6, 4)], [(0, 9), (4, 5)]]⟩ : Bins (Nat × Nat)).sums :=
  snp_perm_sums (nm' := fun p => 10 - p.1) (c₂ := false) (f₂ := 300) exA_perm snp_exA (by decide +kernel)

set_option maxRecDepth 100000 in
/-- RNP, four bins, eight items -/
example : (⟨[10, 11, 10, 11], [[(1, 10)], [(7, 4), (2, 7)], [(5, 7), (4, 3)], [(6, 6), (3, 3), (0, 2)]]⟩ :
      Bins (Nat × Nat)).sums
    = (⟨[10, 11, 10, 11], [[(1, 10)], [(5, 7), (7, 4)], [(2, 7), (3, 3)], [(0, 2), (4, 3), (6, 6)]]⟩ :
      Bins (Nat × Nat)).sums :=
  rnpF_perm_sums (nm' := fun p => 10 - p.1) (c₂ := true) (f₂ := 300) exB_perm (by decide) (by decide) rnpF_exB
    (by decide +kernel)

set_option maxRecDepth 100000 in
example : (⟨[10, 11, 10, 11], [[], [], [], []]⟩ : Bins (Nat × Nat)).sums
    = (⟨[10, 11, 10, 11], [[(1, 10)], [(5, 7), (7, 4)], [(2, 7), (3, 3)], [(0, 2), (4, 3), (6, 6)]]⟩ :
      Bins (Nat × Nat)).sums :=
  rnpF_perm_sums (nm' := fun p => 10 - p.1) (c₂ := false) (f₂ := 300) exB_perm (by decide) (by decide) rnpF_exB
    (by decide +kernel)

/-- the bare-values runs are literally equal -/
example : snp id id 3 true [9, 7, 7, 6, 5, 5, 4] 400 = snp id id 3 true [5, 7, 4, 9, 5, 7, 6] 400 := by
  decide +kernel

end Prtpy.PermSums

/-! ## C06 for `snp` and `rnpF`: the same items, the two managers -/

attribute [local instance] Prtpy.decEqBins

namespace Prtpy.RNPDict
variable {α : Type}

/-- C06 for recursive number partitioning (`k ≤ 5`), independent fuels: two runs on the same items, whatever their
    managers and fuels, return the same vector of sums -/
theorem rnpF_sums_any {v nm : α → Nat} [BEq α] [LawfulBEq α] {c₁ c₂ : Bool} {k : Nat} {items : List α}
    {fuel₁ fuel₂ : Nat} {b₁ b₂ : Bins α} (hk5 : k ≤ 5) (hk : 0 < k)
    (h₁ : rnpF v nm k c₁ items fuel₁ = .ok b₁) (h₂ : rnpF v nm k c₂ items fuel₂ = .ok b₂) :
    b₂.sums = b₁.sums :=
  (rnpF_sums_congr (List.Perm.refl _) hk5 hk h₁ h₂).symm

set_option maxRecDepth 100000 in
example : (⟨[4, 5, 5, 6], [[(1, 4)], [(0, 5)], [(7, 1), (3, 2), (4, 2)], [(6, 2), (2, 2), (5, 2)]]⟩ :
      Bins (Nat × Nat)).sums
    = (⟨[4, 5, 5, 6], [[(1, 4)], [(0, 5)], [(7, 1), (3, 2), (4, 2)], [(6, 2), (2, 2), (5, 2)]]⟩ :
      Bins (Nat × Nat)).sums :=
  rnpF_sums_any (c₂ := false) (fuel₂ := 500) (by decide) (by decide) rnpF_exItems (by decide +kernel)

end Prtpy.RNPDict

namespace Prtpy.SumsOnly
variable {α : Type}

/-- C06 for SNP, the whole vector of sums: it does not depend on the manager.  If `snp` answers with the contents
    manager and with the sums-only manager (the fuels may differ), the two answers have the same `sums`, in the same
    order.  So `out.Sums` and the sums of `out.PartitionAndSums` agree exactly, not only in value. -/
theorem snp_sums_manager_independent {v nm : α → Nat} [BEq α] [LawfulBEq α] {k : Nat} {items : List α}
    {fuel₁ fuel₂ : Nat} {b₁ b₂ : Bins α} (h₁ : snp v nm k true items fuel₁ = .ok b₁)
    (h₂ : snp v nm k false items fuel₂ = .ok b₂) : b₂.sums = b₁.sums :=
  PermSums.snp_perm_sums (List.Perm.refl _) h₁ h₂

/-- non-vacuity: the two runs on eight items and five bins -/
example : (⟨[12, 12, 9, 11, 9], [[], [], [9], [11], [9]]⟩ : Bins Nat).sums
    = (⟨[12, 12, 9, 11, 9], [[4, 4, 4], [6, 6], [9], [11], [9]]⟩ : Bins Nat).sums :=
  snp_sums_manager_independent Runs.snp_five Runs.snp_five_sums

/-- C06 for RNP, the whole vector of sums: it does not depend on the manager (any `numbins`: outside
    `1 ≤ numbins ≤ 5` both runs answer with KK's partition or fail, `rnpF_unmodelled`; inside, the fuels may even
    differ, `RNPDict.rnpF_sums_any`). -/
theorem rnpF_sums_manager_independent {v nm : α → Nat} [BEq α] [LawfulBEq α] {k : Nat} {items : List α}
    {fuel : Nat} {b₁ b₂ : Bins α} (h₁ : rnpF v nm k true items fuel = .ok b₁)
    (h₂ : rnpF v nm k false items fuel = .ok b₂) : b₂.sums = b₁.sums := by
  by_cases hk : 0 < k ∧ k ≤ 5
  · exact RNPDict.rnpF_sums_any hk.2 hk.1 h₁ h₂
  · rw [Except.ok.inj ((rnpF_unmodelled hk h₁).symm.trans (rnpF_unmodelled hk h₂))]

/-- non-vacuity: the two runs on eight items and five bins -/
example : (⟨[9, 9, 12, 11, 12], [[9], [], [], [], []]⟩ : Bins Nat).sums
    = (⟨[9, 9, 12, 11, 12], [[9], [9], [6, 6], [11], [4, 4, 4]]⟩ : Bins Nat).sums :=
  rnpF_sums_manager_independent Runs.rnpF_five Runs.rnpF_five_sums

/-- C06 for SNP, the value: the difference between the largest and the smallest sum is the same whether the run keeps the
    contents or only the sums (both are the optimum; here even as a corollary of the equality of the sums). -/
theorem snp_value_manager_independent {v nm : α → Nat} [BEq α] [LawfulBEq α] {k : Nat} {items : List α}
    {fuel₁ fuel₂ : Nat} {b₁ b₂ : Bins α} (h₁ : snp v nm k true items fuel₁ = .ok b₁)
    (h₂ : snp v nm k false items fuel₂ = .ok b₂) : spread b₁.sums = spread b₂.sums := by
  rw [snp_sums_manager_independent h₁ h₂]

example : spread (⟨[12, 12, 9, 11, 9], [[4, 4, 4], [6, 6], [9], [11], [9]]⟩ : Bins Nat).sums
    = spread (⟨[12, 12, 9, 11, 9], [[], [], [9], [11], [9]]⟩ : Bins Nat).sums :=
  snp_value_manager_independent Runs.snp_five Runs.snp_five_sums

/-- C06 for RNP, the value, any `numbins` (see `rnpF_sums_manager_independent`) -/
theorem rnpF_value_manager_independent {v nm : α → Nat} [BEq α] [LawfulBEq α] {k : Nat} {items : List α}
    {fuel : Nat} {b₁ b₂ : Bins α} (h₁ : rnpF v nm k true items fuel = .ok b₁)
    (h₂ : rnpF v nm k false items fuel = .ok b₂) : spread b₁.sums = spread b₂.sums := by
  rw [rnpF_sums_manager_independent h₁ h₂]

example : spread (⟨[9, 9, 12, 11, 12], [[9], [9], [6, 6], [11], [4, 4, 4]]⟩ : Bins Nat).sums
    = spread (⟨[9, 9, 12, 11, 12], [[9], [], [], [], []]⟩ : Bins Nat).sums :=
  rnpF_value_manager_independent Runs.rnpF_five Runs.rnpF_five_sums

end Prtpy.SumsOnly

#print axioms Prtpy.PermSums.ckkF_perm_sums
#print axioms Prtpy.PermSums.snp_perm_sums
#print axioms Prtpy.PermSums.rnpF_perm_sums
