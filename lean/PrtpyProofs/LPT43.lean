/-
  PrtpyProofs.LPT43 — Graham's 1969 bound for LPT (`greedy`), property C08:

      largest sum of LPT  ≤  (4/3 − 1/(3k)) · optimal largest sum          (`greedy_four_thirds`),

  and the spread bound for its smallest sum (`greedy_maxmin_spread`; the exact max-min ratio is in
  PrtpyProofs.MaxMin5).

  `run v k xs` is the LPT loop on an already ordered list; `greedy v k items = run v k (sortDesc v items)`.
  Feasibility is expressed with `Packable T k vals` of `Prtpy/Spec.lean` ("`vals` fit into `k` bins of capacity `T`");
  it is closed under permutations and under removing items (the truncation lemma): PrtpyProofs.Feasible.

  The proof of `greedy_four_thirds` is an induction over the prefixes of the sorted list (`run_four_thirds`), which
  makes the classical "truncate after the critical item" step implicit: when the last (= smallest) item `x` of a
  prefix raises the largest sum (`run_snoc_critical`), either `3x ≤ T` and the averaging argument applies, or `3x > T`
  and `large_fits` (Feasible.lean) shows that it fits below `T`.  `large_fits` is a pure counting statement about
  *arbitrary* partitions; no description of the shape of the LPT schedule is needed.
  The max-min part describes the loop as a relation on the lists of the bins, `Lpt` (each item joins a bin of least
  sum; ties open, no positions): its invariants are inductions over `Lpt`, and a run with one bin erased is a run
  (`Lpt.erase`), which the exact ratio needs.
  `Lpt` is not `Textbook.Run` (on bins-arrays, with positions: tie independence, C14) and not `Fit.Run` (the any-fit
  packers); no lemma connects the three, and the head of Textbook.lean says what each is for.
  Its counting argument, `spread_core`, weighs every value by itself cut off at a level (`binSum w`;
  `Part.SplitInto.weight_ge` of Basic.lean and `weight_le_of_bins_min` of Feasible.lean do the summing) against a cover
  `Covers W k vals` (Feasible.lean).
  The file also states the classical intermediate results for their own sake — the critical item (`IsCritical`,
  `greedy_critical`), the bound when it is small (`greedy_four_thirds_small`), optimality when all items are large
  (`greedy_opt_of_large`); of these the theorem uses only `run_snoc_critical` (and `large_fits` of Feasible.lean).
-/
import Mathlib.Tactic.Linarith
import PrtpyProofs.Fit
import PrtpyProofs.Oracle
import PrtpyProofs.Part
import PrtpyProofs.Feasible
open Prtpy

namespace Prtpy.LPT43

variable {α : Type}

/-! ## The LPT loop on an ordered list -/

/-- the `for item in sorted(...)` loop of `greedy`, on a list that is already in processing order -/
def run (v : α → Nat) (k : Nat) (xs : List α) : Bins α := xs.foldl (greedyStep v) (Bins.new k)

theorem greedy_eq_run (v : α → Nat) (k : Nat) (items : List α) :
    greedy v k items = run v k (sortDesc v items) := rfl

theorem run_snoc (v : α → Nat) (k : Nat) (P : List α) (x : α) :
    run v k (P ++ [x]) = greedyStep v (run v k P) x := by
  simp [run, List.foldl_append]

theorem run_isPartition (v : α → Nat) {k : Nat} (hk : 0 < k) (xs : List α) :
    IsPartition v xs k (run v k xs) := by
  simpa [run] using Part.greedy_fold_valid v hk xs (Bins.new k) [] (Part.valid_new v k)

theorem run_sums_ne_nil (v : α → Nat) {k : Nat} (hk : 0 < k) (P : List α) : (run v k P).sums ≠ [] := by
  intro h0
  have := (Part.isPartition_sumL (run_isPartition v hk P)).2
  rw [h0] at this
  simp at this
  omega

theorem run_nil_max (v : α → Nat) (k : Nat) : maxL (run v k ([] : List α)).sums = 0 :=
  Nat.le_zero.1 (Part.maxL_le fun _ ha => Nat.le_of_eq (List.eq_of_mem_replicate ha))

theorem run_snoc_max (v : α → Nat) {k : Nat} (hk : 0 < k) (P : List α) (x : α) :
    maxL (run v k (P ++ [x])).sums =
      max (maxL (run v k P).sums) (minL (run v k P).sums + v x) := by
  have hlt := Part.argmin_lt (run_sums_ne_nil v hk P)
  rw [run_snoc, greedyStep, Part.add_sums, Part.maxL_modify_add _ _ _ hlt, Part.getElem_argmin hlt]

theorem greedy_of_sorted (v : α → Nat) (k : Nat) (l : List α) (h : l.Pairwise (fun a c => v c ≤ v a)) :
    greedy v k l = run v k l := by
  rw [greedy_eq_run, Part.sortDesc_of_sorted v l h]

/-! ## The critical item -/

/-- One step of LPT.  Either the largest sum does not change, or the new item `x` has been put on a least
    loaded bin which thereby became the largest; then `k · C ≤ (total so far) + (k − 1) · x`.
    (No assumption on the order of the items.) -/
theorem run_snoc_critical (v : α → Nat) {k : Nat} (hk : 0 < k) (P : List α) (x : α) :
    maxL (run v k (P ++ [x])).sums = maxL (run v k P).sums ∨
    (maxL (run v k (P ++ [x])).sums = minL (run v k P).sums + v x ∧
      k * maxL (run v k (P ++ [x])).sums + v x ≤ binSum v (P ++ [x]) + k * v x) := by
  rw [run_snoc_max v hk P x]
  by_cases h : minL (run v k P).sums + v x ≤ maxL (run v k P).sums
  · left; omega
  · right
    refine ⟨by omega, ?_⟩
    have h1 := length_mul_minL_le (run v k P).sums
    obtain ⟨e1, e2⟩ := Part.isPartition_sumL (run_isPartition v hk P)
    rw [e2, e1] at h1
    have h2 : max (maxL (run v k P).sums) (minL (run v k P).sums + v x) = minL (run v k P).sums + v x := by
      omega
    rw [h2, Part.binSum_append, Part.binSum_cons, Part.binSum_nil, Nat.mul_add]
    omega

/-- `x` is a *critical item* of the LPT run on `items`: the sorted list is `pre ++ x :: post`, the item `x` is
    put on a least loaded bin, this bin becomes the largest one, and the largest sum never changes afterwards
    (so the instance can be truncated after `x`). -/
def IsCritical (v : α → Nat) (k : Nat) (items : List α) (x : α) : Prop :=
  ∃ pre post, sortDesc v items = pre ++ x :: post ∧
    maxL (greedy v k items).sums = maxL (greedy v k (pre ++ [x])).sums ∧
    maxL (greedy v k (pre ++ [x])).sums = minL (greedy v k pre).sums + v x ∧
    k * maxL (greedy v k (pre ++ [x])).sums + v x ≤ binSum v (pre ++ [x]) + k * v x

theorem run_exists_critical (v : α → Nat) {k : Nat} (hk : 0 < k) (xs : List α) (hne : xs ≠ []) :
    ∃ pre x post, xs = pre ++ x :: post ∧
      maxL (run v k xs).sums = maxL (run v k (pre ++ [x])).sums ∧
      maxL (run v k (pre ++ [x])).sums = minL (run v k pre).sums + v x ∧
      k * maxL (run v k (pre ++ [x])).sums + v x ≤ binSum v (pre ++ [x]) + k * v x := by
  induction xs using Part.snoc_induction with
  | nil => exact absurd rfl hne
  | snoc P x ih =>
    rcases run_snoc_critical v hk P x with h | ⟨h1, h2⟩
    · by_cases hP : P = []
      · subst hP
        refine ⟨[], x, [], rfl, rfl, ?_, ?_⟩
        · have h0 := run_nil_max v k
          have := run_snoc_max v hk [] x
          rw [List.nil_append] at h this ⊢
          omega
        · have h0 := run_nil_max v k
          rw [List.nil_append] at h ⊢
          rw [h, h0]
          rw [Part.binSum_singleton]; omega
      · obtain ⟨pre, y, post, rfl, e1, e2, e3⟩ := ih hP
        exact ⟨pre, y, post ++ [x], by simp, by rw [h, e1], e2, e3⟩
    · exact ⟨P, x, [], rfl, rfl, h1, h2⟩

theorem exists_critical {v : α → Nat} {k : Nat} {items : List α} (hk : 0 < k) (hne : items ≠ []) :
    ∃ x, IsCritical v k items x := by
  obtain ⟨pre, x, post, e, e1, e2, e3⟩ := run_exists_critical v hk (sortDesc v items) (Part.sortDesc_ne_nil v hne)
  have hs := Part.sortDesc_sorted v items
  rw [e] at hs
  have hs1 : (pre ++ [x]).Pairwise (fun a c => v c ≤ v a) := by
    have : (pre ++ x :: post) = (pre ++ [x]) ++ post := by simp
    rw [this] at hs
    exact (List.pairwise_append.1 hs).1
  have hs0 : pre.Pairwise (fun a c => v c ≤ v a) := (List.pairwise_append.1 hs1).1
  refine ⟨x, pre, post, e, ?_, ?_, ?_⟩
  · rw [greedy_eq_run, greedy_of_sorted v k _ hs1, ← e1, e]
  · rw [greedy_of_sorted v k _ hs1, greedy_of_sorted v k _ hs0]; exact e2
  · rw [greedy_of_sorted v k _ hs1]; exact e3

/-- The critical-item inequality (the averaging half of C08 for `greedy`): `k · C ≤ total + (k − 1) · x` for a
    critical item `x` (written without subtraction). -/
theorem greedy_critical {v : α → Nat} {k : Nat} {items : List α} {x : α}
    (h : IsCritical v k items x) :
    k * maxL (greedy v k items).sums + v x ≤ binSum v items + k * v x := by
  obtain ⟨pre, post, e, e1, _, e3⟩ := h
  rw [e1]
  have hp : binSum v (pre ++ [x]) ≤ binSum v items := by
    rw [← Part.binSum_perm v (Part.sortDesc_perm v items), e]
    have : pre ++ x :: post = (pre ++ [x]) ++ post := by simp
    rw [this, Part.binSum_append v (pre ++ [x]) post]
    omega
  omega

theorem IsCritical.mem {v : α → Nat} {k : Nat} {items : List α} {x : α} (h : IsCritical v k items x) :
    x ∈ items := by
  obtain ⟨pre, post, e, _⟩ := h
  exact (Part.sortDesc_perm v items).mem_iff.1 (by rw [e]; simp)

/-- on Graham's instance `[3, 3, 2, 2, 2]`, `k = 2`, the critical item is the last `2`:
    `2 · 7 + 2 ≤ 12 + 2 · 2` -/
theorem critical_33222 : IsCritical id 2 [3, 3, 2, 2, 2] 2 := ⟨[3, 3, 2, 2], [], by decide, by decide, by decide, by decide⟩

example : IsCritical id 2 [3, 3, 2, 2, 2] 2 := critical_33222
example : 2 * maxL (greedy id 2 [3, 3, 2, 2, 2]).sums + 2 ≤ binSum id [3, 3, 2, 2, 2] + 2 * 2 :=
  greedy_critical (v := id) (x := 2) critical_33222


/-! ## The bound when the critical item is small -/

theorem four_thirds_of_small {k C x S T : Nat} (hk : 0 < k) (h1 : k * C + x ≤ S + k * x) (h2 : S ≤ k * T)
    (h3 : 3 * x ≤ T) : 3 * k * C + T ≤ 4 * k * T := by
  obtain ⟨k', rfl⟩ : ∃ k', k = k' + 1 := ⟨k - 1, by omega⟩
  have := Nat.mul_le_mul_left k' h3
  linarith

theorem four_thirds_of_le {k C T : Nat} (hk : 0 < k) (h : C ≤ T) : 3 * k * C + T ≤ 4 * k * T := by
  obtain ⟨k', rfl⟩ : ∃ k', k = k' + 1 := ⟨k - 1, by omega⟩
  have := Nat.mul_le_mul_left k' h
  have := Nat.zero_le (k' * T)
  linarith

/-- from the subtraction-free inequality on naturals to the integer statement of the theorem -/
theorem four_thirds_cast {k C T : Nat} {opt : Int} (hT : (T : Int) = opt) (h : 3 * k * C + T ≤ 4 * k * T) :
    3 * k * (C : Int) ≤ (4 * k - 1) * opt := by
  rw [← hT]
  have : ((3 * k * C + T : Nat) : Int) ≤ ((4 * k * T : Nat) : Int) := by exact_mod_cast h
  push_cast at this
  linarith

/-- Graham's bound holds whenever a critical item is at most a third of the optimum. -/
theorem greedy_four_thirds_small {v : α → Nat} {k : Nat} {items : List α} (hk : 0 < k) {opt : Int}
    (hopt : IsOptimalValue .minLargest k (items.map v) opt) {x : α} (hc : IsCritical v k items x)
    (hx : 3 * (v x : Int) ≤ opt) :
    3 * k * (maxL (greedy v k items).sums : Int) ≤ (4 * k - 1) * opt := by
  obtain ⟨T, hT, hp⟩ := packable_of_opt hopt
  apply four_thirds_cast hT
  exact four_thirds_of_small hk (greedy_critical hc) (Fit.packing_lower_bound hp) (by omega)

-- Graham's instance `opt_33222` (PrtpyProofs.Feasible): critical item `2`, `3 · 2 ≤ 6`, LPT gives `7`
example : 3 * (2 : Nat) * (maxL (greedy id 2 [3, 3, 2, 2, 2]).sums : Int) ≤ (4 * (2 : Nat) - 1) * 6 :=
  greedy_four_thirds_small (v := id) (x := 2) (by decide) opt_33222 critical_33222 (by decide)
example : maxL (greedy id 2 [3, 3, 2, 2, 2]).sums = 7 := by decide

/-! ## Large items: LPT is optimal (the counting, `large_fits`, is in PrtpyProofs.Feasible) -/

/-- `large_fits` for the LPT loop: if the items `P ++ [x]` are feasible for `T` and all `≥ v x > T / 3`, the least
    loaded bin after `P` has room for `x` -/
theorem run_snoc_fits {v : α → Nat} {k T : Nat} (hk : 0 < k) {P : List α} {x : α}
    (hs : ∀ a ∈ P, v x ≤ v a) (hfeas : Packable T k ((P ++ [x]).map v)) (hT : T < 3 * v x) :
    minL (run v k P).sums + v x ≤ T := by
  obtain ⟨h1, h2, h3⟩ := run_isPartition v hk P
  obtain ⟨l', hl', hfit⟩ := large_fits (T := T) (k := k) (m := v x) (vals := P.map v)
    ((run v k P).lists.map (List.map v)) (by simpa using h2)
    (by rw [← List.map_flatten]; exact h1.map v) (by simpa using hfeas)
    (fun y hy => by obtain ⟨a, ha, rfl⟩ := List.mem_map.1 hy; exact hs a ha) hT
  obtain ⟨l, hl, rfl⟩ := List.mem_map.1 hl'
  have hmem : binSum v l ∈ (run v k P).sums := by
    rw [h3]; exact List.mem_map.2 ⟨l, hl, rfl⟩
  have := Part.minL_le hmem
  have e : binSum v l = sumL (l.map v) := rfl
  omega

/-- LPT on an ordered list of large items stays within every feasible capacity -/
theorem run_le_of_large {v : α → Nat} {k T : Nat} (hk : 0 < k) :
    ∀ xs : List α, xs.Pairwise (fun a c => v c ≤ v a) → Packable T k (xs.map v) →
      (∀ x ∈ xs, T < 3 * v x) → maxL (run v k xs).sums ≤ T := by
  intro xs
  induction xs using Part.snoc_induction with
  | nil => intro _ _ _; rw [run_nil_max]; exact Nat.zero_le _
  | snoc P x ih =>
    intro hs hf hb
    obtain ⟨hs1, _, hs2⟩ := List.pairwise_append.1 hs
    have hfP : Packable T k (P.map v) := by
      rw [List.map_append] at hf; exact packable_prefix _ hf
    have h1 := ih hs1 hfP (fun y hy => hb y (by simp [hy]))
    have h2 := run_snoc_fits hk (fun a ha => hs2 a ha x (by simp)) hf (hb x (by simp))
    rw [run_snoc_max v hk P x]
    omega

/-- LPT is optimal when every item exceeds a third of the optimum. -/
theorem greedy_opt_of_large {v : α → Nat} {k : Nat} {items : List α} (hk : 0 < k) {opt : Int}
    (hopt : IsOptimalValue .minLargest k (items.map v) opt) (hbig : ∀ x ∈ items, opt < 3 * (v x : Int)) :
    (maxL (greedy v k items).sums : Int) = opt := by
  obtain ⟨T, hT, hp⟩ := packable_of_opt hopt
  have hperm := Part.sortDesc_perm v items
  have h1 := run_le_of_large (v := v) (T := T) hk (sortDesc v items) (Part.sortDesc_sorted v items)
    (packable_perm (hperm.map v).symm hp)
    (fun x hx => by have := hbig x (hperm.mem_iff.1 hx); omega)
  have h2 := Oracle.optimal_le_partition hopt (Part.greedy_isPartition (v := v) (items := items) hk)
  simp only [Objective.value, Bool.false_eq_true, if_false] at h2
  rw [greedy_eq_run]
  rw [greedy_eq_run] at h2
  omega

/-- `[5, 4, 3, 3]` on two bins: `OPT = 8`, every item exceeds `8 / 3`, LPT finds `8` -/
theorem opt_5433 : IsOptimalValue .minLargest 2 ([5, 4, 3, 3].map id) 8 :=
  isOptimal_of_total (asg := [0, 1, 0, 1]) (T := 8) ⟨rfl, by decide⟩ (by decide) (by decide)

example : (maxL (greedy id 2 [5, 4, 3, 3]).sums : Int) = 8 :=
  greedy_opt_of_large (v := id) (by decide) opt_5433 (by decide)

/-! ## Graham's theorem -/

/-- the theorem for the LPT loop on an ordered list, for every feasible capacity `T`, without subtraction -/
theorem run_four_thirds {v : α → Nat} {k T : Nat} (hk : 0 < k) :
    ∀ xs : List α, xs.Pairwise (fun a c => v c ≤ v a) → Packable T k (xs.map v) →
      3 * k * maxL (run v k xs).sums + T ≤ 4 * k * T := by
  intro xs
  induction xs using Part.snoc_induction with
  | nil =>
    intro _ _
    rw [run_nil_max]
    exact four_thirds_of_le hk (Nat.zero_le _)
  | snoc P x ih =>
    intro hs hf
    obtain ⟨hs1, _, hs2⟩ := List.pairwise_append.1 hs
    have hfP : Packable T k (P.map v) := by
      rw [List.map_append] at hf; exact packable_prefix _ hf
    have hih := ih hs1 hfP
    rcases run_snoc_critical v hk P x with h | ⟨h1, h2⟩
    · rw [h]; exact hih
    · by_cases hx : 3 * v x ≤ T
      · -- the critical item is small: the averaging argument
        exact four_thirds_of_small hk h2 (Fit.packing_lower_bound hf) hx
      · -- the critical (= smallest) item is large: it fits
        have := run_snoc_fits hk (fun a ha => hs2 a ha x (by simp)) hf (by omega)
        exact four_thirds_of_le hk (by omega)

/-- **C08, Graham 1969.**  For `k ≥ 1` bins, the largest sum of LPT is at most `4/3 − 1/(3k)` times the optimal
    largest sum. -/
theorem greedy_four_thirds {v : α → Nat} {k : Nat} {items : List α} (hk : 0 < k) {opt : Int}
    (hopt : IsOptimalValue .minLargest k (items.map v) opt) :
    3 * k * (maxL (greedy v k items).sums : Int) ≤ (4 * k - 1) * opt := by
  obtain ⟨T, hT, hp⟩ := packable_of_opt hopt
  apply four_thirds_cast hT
  rw [greedy_eq_run]
  exact run_four_thirds hk (sortDesc v items) (Part.sortDesc_sorted v items)
    (packable_perm ((Part.sortDesc_perm v items).map v).symm hp)

/-- tight on Graham's instance for `k = 2`: `[3, 3, 2, 2, 2]`, `OPT = 6`, LPT `= 7`,
    `3 · 2 · 7 = 42 = 7 · 6` -/
example : 3 * (2 : Nat) * (maxL (greedy id 2 [3, 3, 2, 2, 2]).sums : Int) ≤ (4 * (2 : Nat) - 1) * 6 :=
  greedy_four_thirds (v := id) (by decide) opt_33222
example : 3 * (2 : Nat) * (maxL (greedy id 2 [3, 3, 2, 2, 2]).sums : Int) = (4 * (2 : Nat) - 1) * 6 := by decide

/-! ## Max-min: the spread bound -/

theorem binSum_min_le (c : Nat) (l : List Nat) : binSum (fun a => min a c) l ≤ sumL l :=
  Part.binSum_id l ▸ Part.binSum_le_binSum fun a _ => Nat.min_le_left a c

theorem binSum_min_eq {c : Nat} {l : List Nat} (h : ∀ a ∈ l, a ≤ c) : binSum (fun a => min a c) l = sumL l :=
  (Part.binSum_congr fun a ha => Nat.min_eq_left (h a ha)).trans (Part.binSum_id l)

/-- LPT side, combinatorial core.  Let `LL` be `k ≥ 1` bins with least sum `L`, such that every bin with at
    least two items has sum `≤ L + y`, and let the same items be coverable to `W` in `k` bins.  Then
    `k · W ≤ k · L + (k − 1) · y`.
    Weigh every value by itself, cut off at `L + d` with `d ≥ y`, `L + d ≥ W`: a bin of the cover weighs `≥ W`, a bin
    of `LL` weighs `≤ L + d`, a least one `L`; so `k·W ≤ k·L + (k − 1)·d`.  Take `d = y`, or `L + d = W` (then `d = 0`). -/
theorem spread_core {W k L y : Nat} {vals : List Nat} (LL : List (List Nat)) (hk : LL.length = k)
    (hp : LL.flatten.Perm vals) (hL : L = minL (LL.map sumL)) (hk0 : 0 < k)
    (hinv : ∀ l ∈ LL, l.length ≤ 1 ∨ sumL l ≤ L + y) (hc : Covers W k vals) :
    k * W + y ≤ k * L + k * y := by
  have hne : LL.map sumL ≠ [] := by
    intro h0
    rw [List.map_eq_nil_iff] at h0
    rw [h0] at hk
    simp at hk; omega
  obtain ⟨l₀, hl₀, e₀⟩ := List.mem_map.1 (Part.minL_mem hne)
  rw [← hL] at e₀
  -- for every cut-off `L + d` with `y ≤ d` and `W ≤ L + d`
  have key : ∀ d, y ≤ d → W ≤ L + d → k * W + d ≤ k * L + k * d := by
    intro d hyd hWd
    have c1 := Part.SplitInto.weight_ge (w := fun a => min a (L + d)) (Nat.zero_min _) (fun a b => by omega)
      (fun z hz => Nat.le_min.2 ⟨hz, hWd⟩) hc
    have c2 := weight_le_of_bins_min (fun a => min a (L + d)) LL hk hp (L := L) (M := d)
      (fun l hl => by
        match l, hinv l hl with
        | [], _ => exact Nat.zero_le _
        | [a], _ => exact Nat.min_le_right _ _
        | a :: c :: t, h =>
          have h' : sumL (a :: c :: t) ≤ L + y := h.resolve_left (by simp)
          exact Nat.le_trans (binSum_min_le (L + d) _) (by omega))
      ⟨l₀, hl₀, by
        rw [binSum_min_eq fun a ha => Nat.le_trans (Part.le_sumL_of_mem ha) (by omega)]; exact e₀⟩
    omega
  rcases Nat.le_total W (L + y) with h | h
  · exact key y (Nat.le_refl _) h
  · -- `d = W − L`: then `k·W + d ≤ k·W`, so `W = L` and `y = 0`
    have h1 := key (W - L) (by omega) (by omega)
    have h2 : k * L + k * (W - L) = k * W := by rw [← Nat.mul_add]; congr 1; omega
    have h3 : W = L := by omega
    subst h3
    omega

/-- the `(k+1)`-th value of a non-increasing list bounds all later ones -/
theorem le_getD_of_sorted (v : α → Nat) (k : Nat) {xs : List α} (hS : xs.Pairwise (fun a c => v c ≤ v a)) :
    ∀ j (h : j < xs.length), k ≤ j → v xs[j] ≤ (xs.map v).getD k 0 := by
  intro j h hkj
  have hk : k < xs.length := by omega
  have e : (xs.map v).getD k 0 = v xs[k] := by
    simp [List.getD_eq_getElem?_getD, hk]
  rw [e]
  rcases Nat.lt_or_ge k j with hlt | hge
  · exact (List.pairwise_iff_getElem.1 hS) k j hk h hlt
  · have : j = k := by omega
    subst this; exact Nat.le_refl _

/-! ### the LPT loop as a relation on the lists of the bins

`Lpt v A xs Ls`: from the bins `A`, putting the items `xs` one after the other on a bin of least sum gives `Ls`.  No
positions, no `sums`, ties left open; the invariants of the loop are inductions over it, and `run_lpt` is where the
model's `argmin` comes in.  (`Textbook.IsLPTRun` is the same rule on bins-arrays with positions; it serves C14 and is not
connected with `Lpt` by a lemma.) -/

section Relation
open Prtpy.Part

inductive Lpt (v : α → Nat) (A : List (List α)) : List α → List (List α) → Prop
  | nil : Lpt v A [] A
  | snoc {seen : List α} {pre post : List (List α)} {L : List α} (x : α) :
      Lpt v A seen (pre ++ L :: post) → (∀ M ∈ pre ++ L :: post, binSum v L ≤ binSum v M) →
      Lpt v A (seen ++ [x]) (pre ++ (L ++ [x]) :: post)

/-- smallest sum of a list of bins -/
abbrev lmin (v : α → Nat) (Ls : List (List α)) : Nat := minL (Ls.map (binSum v))

section
variable {v : α → Nat} {A Ls : List (List α)} {xs : List α}

theorem Lpt.snoc_inv {x : α} (h : Lpt v A (xs ++ [x]) Ls) : ∃ pre L post, Ls = pre ++ (L ++ [x]) :: post ∧
    Lpt v A xs (pre ++ L :: post) ∧ ∀ M ∈ pre ++ L :: post, binSum v L ≤ binSum v M := by
  generalize hz : xs ++ [x] = zs at h
  cases h with
  | nil => simp at hz
  | @snoc seen pre post L x' h' hmin =>
    obtain ⟨rfl, hxy⟩ := List.append_inj' hz (by simp)
    obtain rfl : x = x' := by simpa using hxy
    exact ⟨pre, L, post, rfl, h', hmin⟩

/-- the model's loop is such a run -/
theorem run_lpt (v : α → Nat) {k : Nat} (hk : 0 < k) (xs : List α) :
    Lpt v (List.replicate k []) xs (run v k xs).lists := by
  induction xs using snoc_induction with
  | nil => exact Lpt.nil
  | snoc P x ih =>
    have hv := run_isPartition v hk P
    have hi : argmin (run v k P).sums < (run v k P).lists.length := by
      have := argmin_lt (run_sums_ne_nil v hk P)
      rwa [consistent_length v hv.2.2] at this
    obtain ⟨e, e'⟩ := Fit.add_lists_split (v := v) x hi
    rw [run_snoc, greedyStep, e']
    rw [e] at ih
    refine ih.snoc x fun M hM => ?_
    rw [← e] at hM
    have hc : (run v k P).sums = (run v k P).lists.map (binSum v) := hv.2.2
    -- the bin at `argmin` has the least sum
    have hmin : binSum v (run v k P).lists[argmin (run v k P).sums] = minL (run v k P).sums := by
      rw [← getElem_argmin (argmin_lt (run_sums_ne_nil v hk P))]
      simp [hc]
    rw [hmin]
    exact minL_le (by rw [hc]; exact List.mem_map_of_mem hM)

theorem run_lmin (v : α → Nat) {k : Nat} (hk : 0 < k) (xs : List α) :
    minL (run v k xs).sums = lmin v (run v k xs).lists := by
  have hc : (run v k xs).sums = (run v k xs).lists.map (binSum v) := (run_isPartition v hk xs).2.2
  rw [lmin, ← hc]

theorem lmin_le {M : List α} (h : M ∈ Ls) : lmin v Ls ≤ binSum v M := minL_le (List.mem_map_of_mem h)

theorem le_lmin {m : Nat} (hne : Ls ≠ []) (h : ∀ M ∈ Ls, m ≤ binSum v M) : m ≤ lmin v Ls :=
  le_minL (by simpa using hne) (by simpa using h)

theorem exists_mem_lmin (hne : Ls ≠ []) : ∃ M ∈ Ls, binSum v M = lmin v Ls :=
  exists_mem_minL_map (binSum v) hne

theorem lmin_le_lmin_snoc (pre post : List (List α)) (L : List α) (x : α) :
    lmin v (pre ++ L :: post) ≤ lmin v (pre ++ (L ++ [x]) :: post) := by
  refine le_lmin (by simp) fun M hM => ?_
  rcases Part.mem_replace (a := L) hM with rfl | hM
  · rw [binSum_concat]; exact Nat.le_trans (lmin_le (by simp)) (Nat.le_add_right _ _)
  · exact lmin_le hM

/-- every proper prefix of every bin weighs at most every bin: an item only ever joins a least bin. -/
theorem Lpt.pref (hr : Lpt v A xs Ls) (hA : ∀ l ∈ A, l = []) :
    ∀ l ∈ Ls, ∀ n, n < l.length → ∀ M ∈ Ls, binSum v (l.take n) ≤ binSum v M := by
  induction hr with
  | nil => intro l hl n hn; rw [hA l hl] at hn; simp at hn
  | @snoc seen pre post L x _ hmin ih =>
    have hL : L ∈ pre ++ L :: post := by simp
    -- a bound by every old bin is a bound by every new one
    have up : ∀ c, (∀ M ∈ pre ++ L :: post, c ≤ binSum v M) → ∀ M ∈ pre ++ (L ++ [x]) :: post, c ≤ binSum v M :=
      fun c h M hM => Nat.le_trans (le_lmin (by simp) h) (Nat.le_trans (lmin_le_lmin_snoc pre post L x) (lmin_le hM))
    intro l hl n hn
    rcases Part.mem_replace (a := L) hl with rfl | hl
    · rcases Nat.lt_or_ge n L.length with h | h
      · rw [List.take_append_of_le_length (by omega)]
        exact up _ (ih L hL n h)
      · rw [List.take_left' (by simp at hn; omega)]
        exact up _ hmin
    · exact up _ (ih l hl n hn)

theorem Lpt.append_inv {ys : List α} : Lpt v A (xs ++ ys) Ls → ∃ B, Lpt v A xs B ∧ Lpt v B ys Ls := by
  induction ys using snoc_induction generalizing Ls with
  | nil => intro h; exact ⟨Ls, by simpa using h, Lpt.nil⟩
  | snoc ys y ih =>
    intro h
    rw [← List.append_assoc] at h
    obtain ⟨pre, L, post, rfl, h', hmin⟩ := h.snoc_inv
    obtain ⟨B, hB, hB'⟩ := ih h'
    exact ⟨B, hB, hB'.snoc y hmin⟩

/-- **Erasing a bin.**  Whatever bin is taken out of the final state, what is left is a run, on the other bins, of the
    items that did not go to it — with no condition on the bin, because ties are left open. -/
theorem Lpt.erase (hr : Lpt v A xs Ls) :
    ∀ pre C post, Ls = pre ++ C :: post → ∃ A₁ C₀ A₂ ys, A = A₁ ++ C₀ :: A₂ ∧ A₁.length = pre.length ∧
      ys.Sublist xs ∧ Lpt v (A₁ ++ A₂) ys (pre ++ post) := by
  induction hr with
  | nil => intro pre C post e; exact ⟨pre, C, post, [], e, rfl, List.Sublist.refl _, Lpt.nil⟩
  | @snoc seen p q L x _ hmin ih =>
    intro pre C post e
    rcases List.append_eq_append_iff.1 e with ⟨a', rfl, e2⟩ | ⟨c', rfl, e2⟩
    · -- the erased bin is at or after the changed one
      cases a' with
      | nil =>
        simp only [List.nil_append, List.cons.injEq] at e2
        obtain ⟨rfl, rfl⟩ := e2
        obtain ⟨A₁, C₀, A₂, ys, eA, hl, hs, hr'⟩ := ih p L q (by simp)
        exact ⟨A₁, C₀, A₂, ys, eA, by simpa using hl, hs.trans (List.sublist_append_left _ _), by simpa using hr'⟩
      | cons a0 a' =>
        simp only [List.cons_append, List.cons.injEq] at e2
        obtain ⟨rfl, rfl⟩ := e2
        obtain ⟨A₁, C₀, A₂, ys, eA, hl, hs, hr'⟩ := ih (p ++ L :: a') C post (by simp)
        refine ⟨A₁, C₀, A₂, ys ++ [x], eA, by simpa using hl, hs.append (List.Sublist.refl _), ?_⟩
        simp only [List.append_assoc, List.cons_append] at hr' ⊢
        exact hr'.snoc x fun M hM => hmin M (by
          have := Part.mem_append_cons_of_mem (p := p ++ L :: a') (C := C) (by simpa only [List.append_assoc, List.cons_append] using hM)
          simpa only [List.append_assoc, List.cons_append] using this)
    · -- the erased bin is before the changed one
      cases c' with
      | nil =>
        simp only [List.nil_append] at e2 ⊢
        obtain ⟨rfl, rfl⟩ := List.cons.inj e2
        obtain ⟨A₁, C₀, A₂, ys, eA, hl, hs, hr'⟩ := ih pre L post (by simp)
        exact ⟨A₁, C₀, A₂, ys, eA, hl, hs.trans (List.sublist_append_left _ _), hr'⟩
      | cons c0 c' =>
        simp only [List.cons_append, List.cons.injEq] at e2
        obtain ⟨rfl, rfl⟩ := e2
        obtain ⟨A₁, C₀, A₂, ys, eA, hl, hs, hr'⟩ := ih pre C (c' ++ L :: q) (by simp)
        refine ⟨A₁, C₀, A₂, ys ++ [x], eA, hl, hs.append (List.Sublist.refl _), ?_⟩
        rw [← List.append_assoc] at hr' ⊢
        exact hr'.snoc x fun M hM => hmin M (by
          rw [List.append_assoc] at hM ⊢
          exact Part.mem_append_cons_of_mem hM)

theorem Lpt.perm (hr : Lpt v A xs Ls) : Ls.flatten.Perm (A.flatten ++ xs) := by
  induction hr with
  | nil => simp
  | @snoc seen pre post L x _ _ ih =>
    refine (flatten_snoc_at_perm pre post L x).trans ((ih.cons x).trans ?_)
    rw [← List.append_assoc]
    exact (List.perm_append_singleton x _).symm

theorem Lpt.length (hr : Lpt v A xs Ls) : Ls.length = A.length := by
  induction hr with
  | nil => rfl
  | snoc x _ _ ih => simpa using ih

/-- a run from empty bins with a bin taken out of its final state: a run from one empty bin less, of the items that are
    not in that bin -/
theorem Lpt.erase_of_empty {k : Nat} {pre post : List (List α)} {C : List α}
    (hr : Lpt v (List.replicate (k + 1) []) xs (pre ++ C :: post)) :
    ∃ ys, ys.Sublist xs ∧ Lpt v (List.replicate k []) ys (pre ++ post) ∧ xs.Perm (C ++ ys) := by
  obtain ⟨A₁, C₀, A₂, ys, eA, -, hsub, hrun⟩ := hr.erase pre C post rfl
  have hA : A₁ ++ A₂ = List.replicate k [] := by
    rw [List.eq_replicate_iff]
    have hl := congrArg List.length eA
    exact ⟨by simp at hl; simp; omega,
      fun b hb => (List.mem_replicate.1 (eA ▸ mem_append_cons_of_mem hb : b ∈ List.replicate (k + 1) [])).2⟩
  rw [hA] at hrun
  refine ⟨ys, hsub, hrun, ?_⟩
  have h1 : (pre.flatten ++ (C ++ post.flatten)).Perm xs := by simpa using hr.perm
  have h2 : (pre.flatten ++ post.flatten).Perm ys := by simpa using hrun.perm
  exact h1.symm.trans ((List.perm_append_comm_assoc _ _ _).trans (h2.append_left C))

/-- while fewer than `k` positive items have been placed, a least bin is empty -/
theorem Lpt.least_nil {k : Nat} {pre post : List (List α)} {L : List α}
    (hr : Lpt v (List.replicate k []) xs (pre ++ L :: post)) (hlen : xs.length < k) (hpos : ∀ a ∈ xs, 1 ≤ v a)
    (hmin : ∀ M ∈ pre ++ L :: post, binSum v L ≤ binSum v M) : L = [] := by
  have hp := hr.perm
  have hnil : ([] : List α) ∈ pre ++ L :: post :=
    nil_mem_of_flatten_lt _ (by rw [hp.length_eq, hr.length]; simpa using hlen)
  have h0 : binSum v L = 0 := Nat.le_zero.1 (hmin [] hnil)
  cases L with
  | nil => rfl
  | cons a t =>
    have ha : a ∈ xs := by simpa using hp.mem_iff.1 (List.mem_flatten.2 ⟨a :: t, by simp, by simp⟩)
    have := hpos a ha; have := le_binSum_of_mem v (l := a :: t) (a := a) (by simp); omega

/-- on an ordered list whose values from position `k` on are `≤ y`, every item that is not the first of its bin is
    `≤ y` -/
theorem Lpt.tail {k y : Nat} (hr : Lpt v (List.replicate k []) xs Ls) (hS : xs.Pairwise (fun a c => v c ≤ v a))
    (hy : ∀ j (h : j < xs.length), k ≤ j → v xs[j] ≤ y) : ∀ l ∈ Ls, ∀ c ∈ l.tail, v c ≤ y := by
  induction hr with
  | nil => intro l hl; rw [(List.mem_replicate.1 hl).2]; simp
  | @snoc seen pre post L x hr' hmin ih =>
    obtain ⟨hS', -, hx⟩ := List.pairwise_append.1 hS
    have ih' := ih hS' fun j h hkj => by
      have := hy j (by simp; omega) hkj
      rwa [List.getElem_append_left h] at this
    intro l hl c hc
    rcases Part.mem_replace (a := L) hl with rfl | hl
    · cases L with
      | nil => simp at hc
      | cons a t =>
        simp only [List.cons_append, List.tail_cons, List.mem_append, List.mem_cons, List.not_mem_nil,
          or_false] at hc
        rcases hc with hc | rfl
        · exact ih' (a :: t) (by simp) c (by simpa using hc)
        · -- `c` joins a non-empty bin: it is not one of the first `k` items, or it is `0`
          apply Nat.le_of_not_lt
          intro hlt
          rcases Nat.lt_or_ge seen.length k with hd | hd
          · have := hr'.least_nil hd (fun a ha => by have := hx a ha c (by simp); omega) hmin
            simp at this
          · have := hy seen.length (by simp) hd
            simp at this; omega
    · exact ih' l hl c hc

/-- a bin with at least two items is a proper prefix (`≤` every bin) and a last item (`≤ y`) -/
theorem Lpt.spread {k y : Nat} (hr : Lpt v (List.replicate k []) xs Ls) (hS : xs.Pairwise (fun a c => v c ≤ v a))
    (hy : ∀ j (h : j < xs.length), k ≤ j → v xs[j] ≤ y) :
    ∀ l ∈ Ls, l.length ≤ 1 ∨ ∀ M ∈ Ls, binSum v l ≤ binSum v M + y := by
  intro l hl
  rcases Nat.lt_or_ge 1 l.length with h2 | h1
  · right
    intro M hM
    obtain ⟨pre, c, rfl⟩ : ∃ pre c, l = pre ++ [c] := by
      rcases List.eq_nil_or_concat l with h0 | h0
      · rw [h0] at h2; simp at h2
      · obtain ⟨pre, c, e⟩ := h0; exact ⟨pre, c, by rw [e, List.concat_eq_append]⟩
    have h1 := hr.pref (fun l hl => (List.mem_replicate.1 hl).2) _ hl pre.length (by simp) M hM
    rw [List.take_left' rfl] at h1
    have h3 := hr.tail hS hy _ hl c (by
      cases pre with
      | nil => simp at h2
      | cons a q => simp)
    rw [binSum_concat]; omega
  · exact Or.inl h1

variable {k : Nat}

theorem Lpt.ne_nil (hk : 0 < k) (hr : Lpt v (List.replicate k []) xs Ls) : Ls ≠ [] := by
  intro h0; have := hr.length; rw [h0] at this; simp at this; omega

/-- `spread_core` for a run: if every bin with at least two items is within `y` of the smallest sum `L`, a cover of
    level `W` gives `k · W ≤ k · L + (k − 1) · y` -/
theorem Lpt.spread_of_inv (hk : 0 < k) (hr : Lpt v (List.replicate k []) xs Ls) {W : Nat}
    (hc : Covers W k (xs.map v)) (y : Nat) (hinv : ∀ l ∈ Ls, l.length ≤ 1 ∨ binSum v l ≤ lmin v Ls + y) :
    k * W + y ≤ k * lmin v Ls + k * y := by
  refine spread_core (vals := xs.map v) (Ls.map (List.map v)) (by simpa using hr.length)
    (by rw [← List.map_flatten]; simpa using hr.perm.map v) (by rw [List.map_map]; rfl) hk ?_ hc
  intro l' hl'
  obtain ⟨l, hl, rfl⟩ := List.mem_map.1 hl'
  rcases hinv l hl with h | h
  · left; simpa using h
  · right; exact h

/-- the spread bound, for every run: `y` the `(k+1)`-th value -/
theorem Lpt.spread_bound (hk : 0 < k) (hr : Lpt v (List.replicate k []) xs Ls)
    (hS : xs.Pairwise (fun a c => v c ≤ v a)) {W : Nat} (hc : Covers W k (xs.map v)) :
    k * W + (xs.map v).getD k 0 ≤ k * lmin v Ls + k * (xs.map v).getD k 0 := by
  obtain ⟨M, hM, e⟩ := exists_mem_lmin (v := v) (hr.ne_nil hk)
  exact hr.spread_of_inv hk hc _ fun l hl => (hr.spread hS (le_getD_of_sorted v k hS) l hl).imp_right fun h => e ▸ h M hM

/-- each of the first `k` items, if all are positive, is put on an empty bin -/
theorem Lpt.length_le_one {k : Nat} (hr : Lpt v (List.replicate k []) xs Ls) (hlen : xs.length ≤ k)
    (hpos : ∀ a ∈ xs, 1 ≤ v a) : ∀ l ∈ Ls, l.length ≤ 1 := by
  induction hr with
  | nil => intro l hl; rw [(List.mem_replicate.1 hl).2]; simp
  | @snoc seen pre post L x hr' hmin ih =>
    simp only [List.length_append, List.length_cons, List.length_nil] at hlen
    have hpos' : ∀ a ∈ seen, 1 ≤ v a := fun a ha => hpos a (List.mem_append_left _ ha)
    intro l hl
    rcases Part.mem_replace (a := L) hl with rfl | hl
    · simp [hr'.least_nil (by omega) hpos' hmin]
    · exact ih (by omega) hpos' l hl

/-- the state after `k + 1` items, the first `k` of them positive: the last one, `x`, sits on one of the first `k`,
    `a`, and the other bins are singletons of items `≥ a` (no order of the items is assumed) -/
theorem Lpt.first_pair {k : Nat} {P : List α} {x : α} {B : List (List α)}
    (hr : Lpt v (List.replicate k []) (P ++ [x]) B) (hlen : P.length = k) (hpos : ∀ a ∈ P, 1 ≤ v a) :
    ∃ pre a post, B = pre ++ [a, x] :: post ∧ P.Perm (a :: (pre ++ post).flatten) ∧
      ∀ M ∈ pre ++ post, ∃ u, M = [u] ∧ v a ≤ v u := by
  obtain ⟨pre, L, post, rfl, hP, hmin⟩ := hr.snoc_inv
  have hPperm : (pre ++ L :: post).flatten.Perm P := by simpa using hP.perm
  have hone : ∀ l ∈ pre ++ L :: post, l.length = 1 :=
    all_length_one_of_le _ (hP.length_le_one (Nat.le_of_eq hlen) hpos)
      (by rw [hPperm.length_eq, hP.length]; simp [hlen])
  obtain ⟨a, rfl⟩ := List.length_eq_one_iff.1 (hone L (by simp))
  refine ⟨pre, a, post, rfl, hPperm.symm.trans (by simp), fun M hM => ?_⟩
  have hM' : M ∈ pre ++ [a] :: post := mem_append_cons_of_mem hM
  obtain ⟨u, rfl⟩ := List.length_eq_one_iff.1 (hone M hM')
  exact ⟨u, rfl, by simpa only [Part.binSum_singleton] using hmin _ hM'⟩

/-- a bin heavier than the final smallest sum is never used again -/
theorem Lpt.closed (hr : Lpt v A xs Ls) {C : List α} (hC : C ∈ A) (h : lmin v Ls < binSum v C) :
    C ∈ Ls := by
  induction hr with
  | nil => exact hC
  | @snoc seen pre post L x hr' hmin ih =>
    have hstep := lmin_le_lmin_snoc (v := v) pre post L x
    have hCm := ih (Nat.lt_of_le_of_lt hstep h)
    -- the bin that receives `x` is a least one, hence lighter than `C`
    have hLC : C ≠ L := by
      rintro rfl
      have := le_lmin (v := v) (by simp) hmin
      omega
    exact mem_append_cons_of_mem (mem_append_of_mem_append_cons hCm hLC)

theorem lmin_erase {p q : List (List α)} {C : List α} (hne : p ++ q ≠ []) (h : lmin v (p ++ C :: q) < binSum v C) :
    lmin v (p ++ q) = lmin v (p ++ C :: q) := by
  apply Nat.le_antisymm
  · obtain ⟨M, hM, e⟩ := exists_mem_lmin (v := v) (Ls := p ++ C :: q) (by simp)
    have e' : lmin v (p ++ C :: q) = binSum v M := e.symm
    have : M ≠ C := by rintro rfl; omega
    rw [e']
    exact lmin_le (mem_append_of_mem_append_cons hM this)
  · exact le_lmin hne fun M hM => lmin_le (mem_append_cons_of_mem hM)

end

end Relation

/-- the `(k+1)`-th largest value (`0` if there are at most `k` items): no larger item is ever put on a
    non-empty bin by LPT -/
def nextValue (v : α → Nat) (k : Nat) (items : List α) : Nat := ((sortDesc v items).map v).getD k 0

theorem nextValue_spec (v : α → Nat) (k : Nat) (items : List α) :
    ∀ j (h : j < (sortDesc v items).length), k ≤ j → v (sortDesc v items)[j] ≤ nextValue v k items :=
  le_getD_of_sorted v k (Part.sortDesc_sorted v items)

/-- Spread bound for max-min (C08, a partial result: the exact ratio is `MaxMin5.greedy_maxmin`).
    `k · OPT ≤ k · min + (k − 1) · y` with `y` the `(k+1)`-th largest value (written without subtraction). -/
theorem greedy_maxmin_spread {v : α → Nat} {k : Nat} {items : List α} (hk : 0 < k) {opt : Int}
    (hopt : IsOptimalValue .maxSmallest k (items.map v) (-opt)) :
    k * opt + nextValue v k items ≤
      k * (minL (greedy v k items).sums : Int) + k * (nextValue v k items : Int) := by
  obtain ⟨W, hW, hc⟩ := cover_of_opt hopt
  have key := (run_lpt v hk _).spread_bound hk (Part.sortDesc_sorted v items)
    (hc.perm ((Part.sortDesc_perm v items).map v).symm)
  rw [← hW, greedy_eq_run, run_lmin v hk]
  unfold nextValue
  exact_mod_cast key

/-- `[3, 3, 2, 2, 2]` on two bins: optimal smallest sum `6`, LPT's smallest sum `5`, third largest
    value `2`: `2 · 6 + 2 ≤ 2 · 5 + 2 · 2` (tight) -/
theorem optmin_33222 : IsOptimalValue .maxSmallest 2 ([3, 3, 2, 2, 2].map id) (-6) :=
  isOptimalMin_of_total (asg := [0, 0, 1, 1, 1]) (W := 6) ⟨rfl, by decide⟩ (by decide) (by decide)

example : (2 : Nat) * (6 : Int) + nextValue id 2 [3, 3, 2, 2, 2] ≤
    (2 : Nat) * (minL (greedy id 2 [3, 3, 2, 2, 2]).sums : Int) + (2 : Nat) * (nextValue id 2 [3, 3, 2, 2, 2] : Int) :=
  greedy_maxmin_spread (v := id) (by decide) optmin_33222
example : nextValue id 2 [3, 3, 2, 2, 2] = 2 ∧ minL (greedy id 2 [3, 3, 2, 2, 2]).sums = 5 := by decide

end Prtpy.LPT43
