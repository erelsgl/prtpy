/-
  Property C09: first fit and best fit use at most `1.7 · OPT + 1` bins (`ff_seventeen_tenths_strong`, `bf_…`,
  `ffd_…`, `bfd_…`; `gen_seventeen_tenths` for every loop whose step satisfies `Step2`, "almost first fit"), by
  the weight function of Dósa and Sgall 2013.  The classical additive constant is `2`.

  Units.  Sizes are naturals, the capacity is `B`.  All weights are multiplied by `10 · B`, so that "weight 1"
  is `10·B` and "weight 17/10" is `17·B`; everything stays in `Nat` and is linear for `omega`.

  Weight.  `wt B a = 12·a + bonus B a` where (in units of `B`, i.e. after dividing by `10·B`)
        bonus = 0              for a ≤ 1/6
              = (3/5)(a − 1/6) for 1/6 ≤ a ≤ 1/3        (`6a − B`)
              = 1/10           for 1/3 ≤ a ≤ 1/2        (`B`)
              = 4/10           for a > 1/2               (`4B`)
      This is the Garey–Graham–Johnson–Yao function on `[0, 1/2]`; above `1/2` it is `6a/5 + 4/10 > 1` instead of
      the constant `1` (Dósa–Sgall).

  Lemma A, `weight_bin_le`: values with total `≤ B` weigh `≤ 17·B`.
      The `12·a` parts give `≤ 12·B`; without a value above `B/2` the bonus is `≤ 3·total` (`bonusL_le_three`);
      with one, the remaining values total less than `B/2`, and there the bonus is super-additive and `≤ B`
      (`bonusL_small`).  Hence `Packable B m` ⇒ total weight `≤ 17·B·m` (`packable_weight_le`).

  Lemma B, `bins_weight : 10·B·#bins ≤ weight + 10·B`, on a list of bins `Ls` (earliest bin first) with
      `Ls.Pairwise (Rel v B)`, where `Rel L L'` (for `L` earlier than `L'`) says: the first item of `L'` does not
      fit on top of `L`'s final content, and if that first item is `≤ B/2` then the second item of `L'` does not
      fit either.  Bins are of three kinds:
        * *big* (an item above `B/2`): weight `≥ 12·s + 4·B > 10·B` each (`big_weight`, `big_total_ge`);
        * *small* (no item above `B/2`, at most one item): there is at most one (`small_count`);
        * *chain* (no item above `B/2`, at least two items), in order `C₁, …, C_r`: the first two items
          `c, c'` of `C_{i+1}` do not fit into `C_i`, hence `12·s(C_i) + bonus c + bonus c' ≥ 10·B` when
          `s(C_i) ≥ 2B/3` (`pairing`); when `s(C_i) < 2B/3` every later chain bin is more than `2B/3` full and
          `bonus c = bonus c' = B` (`rel_chain`).  `chain_weight`: for some chain bin `L'`,
          `10·B·r + (bonus of the first two items of C₁) + 12·s(L') ≤ weight(chain) + 10·B`.
      `bins_cases` puts the three kinds together: what is lost is at most the weight of the small bin `S` and
      `12·s(L')`, and `s(S) + s(L') > B`.  `bins_weight` and its refinements (`FF17AbsB.bins_loss` in
      FF17Abs.lean, `FF17AbsC.bins_weight_single`) are case analyses over `bins_cases`.

  The run invariant.  `Fit.Inv` gives the any-fit property for the *first* item of every bin.  The second clause
      of `Rel` is `TwoFit`.  A `Step2` step puts the item into a bin where it fits such that every earlier bin where it
      would also fit is strictly less full; first fit satisfies this vacuously, best fit by the definition of the scan
      (`Fit.bfStep_spec`).  A run by `Step2` steps is a `Fit.Run` with the rule `Rule2` (`Step2.lists`), and its bins are
      pairwise related (`rel_of_run`, an instance of `Fit.Run.pairwise` with `Rel.grow`, `Rel.add`).  (If the bin `i`
      chosen for `x` holds the single item `c ≤ B/2` and `x` also fitted into an earlier bin `j`, then `s_j < s_i = c`,
      but `s_j + c > B` by the any-fit property, so `c > B/2`.)
      Plain any-fit is *not* enough (worst fit has ratio 2), and best fit does violate the first-fit property
      "no item of a later bin fits into an earlier one" (example near the end of the file), which is why `Rel` only
      speaks about the first two items.

  The absolute bound `#bins ≤ ⌊1.7·OPT⌋` of Dósa–Sgall is false for the model on the empty input (one empty bin,
  `OPT = 0`; see the last examples), so the additive `+ 10` in `…_strong` is optimal for the statement over all
  inputs; non-empty inputs are the subject of FF17Abs.lean, FF17AbsB.lean, FF17AbsC.lean.

  Stands on: the summation layer of Basic.lean (`Part.binSum_le_binSum`, `binSum_le_mul`, `countP_le_one`); of Fit.lean
  `listStep_of_pos` (a `Step2` step on the lists), `Run.pairwise` (`rel_of_run`), `inv_of_run`; of Feasible.lean
  `packable_weight_le_map` (the optimum's side); `Checkers.optBins_spec` for the `…_opt` results.
-/
import PrtpyProofs.Feasible
import PrtpyProofs.Checkers
open Prtpy

namespace Prtpy.FF17

variable {α : Type}

/-! ## The weight function and Lemma A -/

/-- the bonus of a value `a` (in units of `1/(10·B)`) -/
def bonus (B a : Nat) : Nat := if B < 2 * a then 4 * B else min B (6 * a - B)

/-- the weight of a value `a` (in units of `1/(10·B)`): `12·a + bonus` -/
def wt (B a : Nat) : Nat := 12 * a + bonus B a

def bonusL (B : Nat) (l : List Nat) : Nat := sumL (l.map (bonus B))

theorem bonusL_nil (B : Nat) : bonusL B [] = 0 := rfl
theorem bonusL_cons (B a : Nat) (l : List Nat) : bonusL B (a :: l) = bonus B a + bonusL B l := rfl

theorem bonusL_append (B : Nat) (l₁ l₂ : List Nat) : bonusL B (l₁ ++ l₂) = bonusL B l₁ + bonusL B l₂ := by
  simp only [bonusL, List.map_append, Part.sumL_append]

theorem bonus_big {B a : Nat} (h : B < 2 * a) : bonus B a = 4 * B := if_pos h

theorem bonus_small {B a : Nat} (h : 2 * a ≤ B) : bonus B a = min B (6 * a - B) := if_neg (Nat.not_lt.2 h)

/-- `bonus_small` without `min` and truncated subtraction -/
theorem bonus_small_le {B a : Nat} (h : 2 * a ≤ B) : bonus B a ≤ B ∧ (bonus B a = 0 ∨ bonus B a + B ≤ 6 * a) := by
  rw [bonus_small h]
  omega

theorem bonus_small_ge {B a : Nat} (h : 2 * a ≤ B) : B ≤ bonus B a ∨ 6 * a ≤ bonus B a + B := by
  rw [bonus_small h]
  omega

theorem sumL_map_wt (B : Nat) (l : List Nat) : sumL (l.map (wt B)) = 12 * sumL l + bonusL B l := by
  rw [← Part.binSum_id l, ← Part.binSum_mul_left]
  exact Part.binSum_add (fun a => 12 * id a) (bonus B) l

/-- values that together fill at most half a bin: the bonus is super-additive there, `≤ min B (6·total − B)` -/
theorem bonusL_small (B : Nat) : ∀ l : List Nat, 2 * sumL l ≤ B →
    bonusL B l ≤ B ∧ (bonusL B l = 0 ∨ bonusL B l + B ≤ 6 * sumL l)
  | [], _ => by simp [bonusL_nil]
  | a :: l, h => by
    simp only [sumL] at h
    have ih := bonusL_small B l (by omega)
    have ha := bonus_small_le (B := B) (a := a) (by omega)
    simp only [bonusL_cons, sumL]
    omega

theorem bonusL_le_three (B : Nat) (l : List Nat) (h : ∀ a ∈ l, 2 * a ≤ B) : bonusL B l ≤ 3 * sumL l := by
  have := Part.binSum_le_mul (w := bonus B) (v := id) (k := 3) l fun a ha => by
    have := bonus_small_le (h a ha)
    simp only [id]
    omega
  rwa [Part.binSum_id] at this

theorem bonusL_le (B : Nat) (l : List Nat) (h : sumL l ≤ B) : bonusL B l ≤ 5 * B := by
  by_cases hb : ∀ a ∈ l, 2 * a ≤ B
  · have := bonusL_le_three B l hb
    omega
  · -- one value exceeds `B/2`; the others total less than `B/2`, where the bonus is at most `B`
    obtain ⟨x, hx, hbig⟩ : ∃ x ∈ l, B < 2 * x := by simpa using hb
    obtain ⟨s, t, rfl⟩ := List.append_of_mem hx
    simp only [Part.sumL_append, sumL] at h
    have := bonusL_small B (s ++ t) (by rw [Part.sumL_append]; omega)
    rw [bonusL_append] at this
    rw [bonusL_append, bonusL_cons, bonus_big hbig]
    omega

/-- Lemma A (C09): values that fit into one bin weigh at most `17/10` (in units of `1/(10·B)`: `17·B`). -/
theorem weight_bin_le {B : Nat} {l : List Nat} (h : sumL l ≤ B) : sumL (l.map (wt B)) ≤ 17 * B := by
  have := bonusL_le B l h
  rw [sumL_map_wt]
  omega

/-- the bound is attained: `31 + 21 + 8 = 60`, weight `17 · 60` -/
example : sumL ([31, 21, 8].map (wt 60)) = 17 * 60 := by decide
example : sumL ([31, 21, 8].map (wt 60)) ≤ 17 * 60 := weight_bin_le (by decide)

/-! ## The optimum's side -/

/-- weight of an item -/
def W (v : α → Nat) (B : Nat) (x : α) : Nat := wt B (v x)

theorem binSum_W (v : α → Nat) (B : Nat) (l : List α) : binSum (W v B) l = sumL ((l.map v).map (wt B)) :=
  (Part.binSum_map (wt B) v l).symm

/-- the optimum's side (C09): items that can be packed into `m` bins weigh at most `17·B·m` -/
theorem packable_weight_le {v : α → Nat} {B m : Nat} {items : List α}
    (hm : Packable B m (items.map v)) : binSum (W v B) items ≤ 17 * (B * m) := by
  have := LPT43.packable_weight_le_map (w := W v B) (c := 17 * B) hm fun l _ h => by
    rw [binSum_W]
    exact weight_bin_le h
  rwa [Nat.mul_left_comm, Nat.mul_comm m B] at this

example : binSum (W id 10) [6, 5, 4, 3] ≤ 17 * (10 * 2) :=
  packable_weight_le (v := id) ⟨[0, 1, 0, 1], ⟨rfl, by decide⟩, by decide⟩

/-! ## Lemma B, on a list of bins -/

section Bins
variable (v : α → Nat) (B : Nat)

/-- what first fit and best fit guarantee for a bin `L` and a *later* bin `L'`: the first item of `L'`
    does not fit into `L`, and neither does the second one when the first one is at most `B/2` -/
def Rel (L L' : List α) : Prop :=
  (∃ x, L'.head? = some x ∧ B < binSum v L + v x) ∧
  (∀ x y r, L' = x :: y :: r → 2 * v x ≤ B → B < binSum v L + v y)

/-- the bin contains an item above `B/2` -/
def isBig (L : List α) : Bool := L.any (fun x => decide (B < 2 * v x))

/-- bonus of the first two items -/
def bonus2 : List α → Nat
  | x :: y :: _ => bonus B (v x) + bonus B (v y)
  | _ => 0

/-- the bins without an item above `B/2` are *small* (at most one item) or belong to the *chain* -/
def kSmall (L : List α) : Bool := !isBig v B L && decide (L.length ≤ 1)
def kChain (L : List α) : Bool := !isBig v B L && decide (2 ≤ L.length)

variable {v B}

theorem weight_ge (L : List α) : 12 * binSum v L ≤ binSum (W v B) L :=
  Part.binSum_mul_left 12 v L ▸ Part.binSum_le_binSum fun x _ => Nat.le_add_right (12 * v x) (bonus B (v x))

theorem bin_weight_ge : ∀ L : List α, 12 * binSum v L + bonus2 v B L ≤ binSum (W v B) L
  | [] => by simp [binSum, sumL, bonus2]
  | [x] => by simp [binSum, sumL, bonus2, W, wt]
  | x :: y :: r => by
    have := weight_ge (v := v) (B := B) r
    simp only [Part.binSum_cons, W, wt, bonus2] at this ⊢
    omega

theorem big_weight : ∀ L : List α, isBig v B L = true → 12 * binSum v L + 4 * B ≤ binSum (W v B) L
  | [], h => by simp [isBig] at h
  | x :: L, h => by
    simp only [isBig, List.any_cons, Bool.or_eq_true, decide_eq_true_eq] at h
    rcases h with h | h
    · have := weight_ge (v := v) (B := B) L
      simp only [Part.binSum_cons, W, wt, bonus_big h] at this ⊢
      omega
    · have := big_weight L h
      simp only [Part.binSum_cons, W, wt]
      omega

theorem big_half {L : List α} (h : isBig v B L = true) : B < 2 * binSum v L := by
  obtain ⟨x, hx, hb⟩ := List.any_eq_true.1 h
  have := Part.le_binSum_of_mem v hx
  simp only [decide_eq_true_eq] at hb
  omega

theorem not_big {L : List α} (h : isBig v B L = false) : ∀ x ∈ L, 2 * v x ≤ B := by
  intro x hx
  simp only [isBig, List.any_eq_false, decide_eq_true_eq] at h
  have := h x hx
  omega

/-- a bin with at most one item, none above `B/2`: it is at most half full, and its item has bonus `B` when it
    exceeds `B/3` -/
theorem small_weight {S : List α} (hb : isBig v B S = false) (h1 : S.length ≤ 1) :
    2 * binSum v S ≤ B ∧ (B ≤ 3 * binSum v S → 12 * binSum v S + B ≤ binSum (W v B) S) := by
  match S, h1 with
  | [], _ => simp [binSum, sumL]
  | [x], _ =>
    have hx := not_big hb x (by simp)
    have := bonus_small_ge hx
    simp only [binSum, List.map_cons, List.map_nil, sumL, W, wt]
    omega

theorem rel_sum {L L' : List α} (h : Rel v B L L') : B < binSum v L + binSum v L' := by
  obtain ⟨⟨x, hx, hlt⟩, _⟩ := h
  have := Fit.head_le_binSum v hx
  omega

/-- at most one bin has at most one item and no item above `B/2` -/
theorem small_count (sm : List (List α)) (hcl : ∀ L ∈ sm, isBig v B L = false ∧ L.length ≤ 1)
    (hp : sm.Pairwise (Rel v B)) : sm.length ≤ 1 := by
  have := Part.countP_le_one (R := Rel v B) (fun _ => true) sm hp fun L hL L' hL' hr _ _ => by
    have := rel_sum hr
    have := (small_weight (hcl L hL).1 (hcl L hL).2).1
    have := (small_weight (hcl L' hL').1 (hcl L' hL').2).1
    omega
  rwa [List.countP_true] at this

/-- the pairing inequality: a bin filled to at least `2/3` plus the bonus of two items that do not fit -/
theorem pairing {s c c' : Nat} (hs : 2 * B ≤ 3 * s) (hc : 2 * c ≤ B) (hc' : 2 * c' ≤ B)
    (h1 : B < s + c) (h2 : B < s + c') : 10 * B ≤ 12 * s + bonus B c + bonus B c' := by
  have := bonus_small_ge hc
  have := bonus_small_ge hc'
  omega

theorem bonus_third {c : Nat} (hc : 2 * c ≤ B) (h : B ≤ 3 * c) : bonus B c = B := by
  have := bonus_small_le hc
  have := bonus_small_ge hc
  omega

/-- a bin `L` and a later bin `N` of the chain: if `L` is at least `2/3` full, the first two items of `N` pay
    for what `L` lacks; if not, they have bonus `B` each and `N` is more than `2/3` full -/
theorem rel_chain {L N : List α} (h : Rel v B L N) (hb : isBig v B N = false) (h2 : 2 ≤ N.length) :
    (2 * B ≤ 3 * binSum v L → 10 * B ≤ 12 * binSum v L + bonus2 v B N) ∧
    (3 * binSum v L < 2 * B → bonus2 v B N = 2 * B ∧ 2 * B < 3 * binSum v N) := by
  match N, h2 with
  | c :: c' :: r, _ =>
    have hc := not_big hb c (by simp)
    have hc' := not_big hb c' (by simp)
    obtain ⟨⟨x, hx, hlc⟩, h2⟩ := h
    simp only [List.head?_cons, Option.some.injEq] at hx
    subst hx
    have hlc' := h2 c c' r rfl hc
    simp only [bonus2, Part.binSum_cons]
    refine ⟨fun hs => by have := pairing hs hc hc' hlc hlc'; omega, fun hs => ?_⟩
    rw [bonus_third hc (by omega), bonus_third hc' (by omega)]
    omega

/-- the chain of bins with at least two items, none above `B/2`: all but one of them are paid for -/
theorem chain_weight : ∀ ch : List (List α), ch ≠ [] →
    (∀ L ∈ ch, isBig v B L = false ∧ 2 ≤ L.length) → ch.Pairwise (Rel v B) →
    ∃ L' ∈ ch, 10 * (B * ch.length) + bonus2 v B (ch.headD []) + 12 * binSum v L' ≤
      binSum (W v B) ch.flatten + 10 * B
  | [], h, _, _ => absurd rfl h
  | [L], _, _, _ => by
    refine ⟨L, by simp, ?_⟩
    have := bin_weight_ge (v := v) (B := B) L
    simp only [List.length_cons, List.length_nil, List.headD_cons, List.flatten_cons, List.flatten_nil,
      List.append_nil]
    omega
  | L :: N :: rest, _, hcl, hp => by
    rw [List.pairwise_cons] at hp
    obtain ⟨L', hL', ih⟩ := chain_weight (N :: rest) (by simp)
      (fun M hM => hcl M (List.mem_cons_of_mem _ hM)) hp.2
    have hN := hcl N (by simp)
    have hL'c := hcl L' (List.mem_cons_of_mem _ hL')
    obtain ⟨hN1, hN2⟩ := rel_chain (hp.1 N (by simp)) hN.1 hN.2
    obtain ⟨_, hL'2⟩ := rel_chain (hp.1 L' hL') hL'c.1 hL'c.2
    have hw := bin_weight_ge (v := v) (B := B) L
    simp only [List.headD_cons, List.length_cons, List.flatten_cons, Part.binSum_append, Nat.mul_succ] at ih ⊢
    -- `L` at least `2/3` full: it is paid by the first two items of `N` (`hN1`), the unpaid bin stays `L'`;
    -- otherwise `L` becomes the unpaid bin, and `L'` is more than `2/3` full (`hL'2`), so paid by its own `12·s`
    by_cases hs : 2 * B ≤ 3 * binSum v L
    · exact ⟨L', List.mem_cons_of_mem _ hL', by omega⟩
    · exact ⟨L, by simp, by omega⟩

theorem kinds_cases (L : List α) :
    (isBig v B L = true ∧ kSmall v B L = false ∧ kChain v B L = false) ∨
    (isBig v B L = false ∧ kSmall v B L = true ∧ kChain v B L = false) ∨
    (isBig v B L = false ∧ kSmall v B L = false ∧ kChain v B L = true) := by
  simp only [kSmall, kChain]
  cases isBig v B L <;> by_cases hl : L.length ≤ 1 <;> simp <;> omega

theorem split_kinds (w : α → Nat) : ∀ Ls : List (List α),
    Ls.length = (Ls.filter (isBig v B)).length + (Ls.filter (kSmall v B)).length +
      (Ls.filter (kChain v B)).length ∧
    binSum w Ls.flatten = binSum w (Ls.filter (isBig v B)).flatten +
      binSum w (Ls.filter (kSmall v B)).flatten + binSum w (Ls.filter (kChain v B)).flatten
  | [] => by simp [binSum, sumL]
  | L :: Ls => by
    obtain ⟨h1, h2⟩ := split_kinds w Ls
    rcases kinds_cases (v := v) (B := B) L with ⟨e1, e2, e3⟩ | ⟨e1, e2, e3⟩ | ⟨e1, e2, e3⟩ <;>
      simp only [List.filter_cons, e1, e2, e3, if_true, Bool.false_eq_true, if_false, List.length_cons,
        List.flatten_cons, Part.binSum_append] <;> omega

theorem pairwise_sum {Ls : List (List α)} (hp : Ls.Pairwise (Rel v B)) {L L' : List α}
    (hL : L ∈ Ls) (hL' : L' ∈ Ls) (hne : L ≠ L') : B < binSum v L + binSum v L' :=
  (List.Pairwise.forall_of_forall_of_flip (R := fun L M => L = M ∨ B < binSum v L + binSum v M)
    (fun _ _ => Or.inl rfl) (hp.imp fun h => Or.inr (rel_sum h))
    (hp.imp fun h => Or.inr (by have := rel_sum h; omega)) hL hL').resolve_left hne

theorem small_unique {Ls : List (List α)} (hp : Ls.Pairwise (Rel v B)) {S T : List α} (hS : S ∈ Ls) (hT : T ∈ Ls)
    (hSb : isBig v B S = false) (hS1 : S.length ≤ 1) (hTb : isBig v B T = false) (hT1 : T.length ≤ 1) :
    S = T := by
  apply Classical.byContradiction
  intro hne
  have := pairwise_sum hp hS hT hne
  have := (small_weight hSb hS1).1
  have := (small_weight hTb hT1).1
  omega

theorem big_beside {Ls : List (List α)} (hp : Ls.Pairwise (Rel v B)) {L T : List α} (hL : L ∈ Ls)
    (hLb : isBig v B L = true) (hT : T ∈ Ls) (hTb : isBig v B T = false) :
    B < binSum v L + binSum v T :=
  pairwise_sum hp hL hT (by rintro rfl; rw [hLb] at hTb; cases hTb)

/-- big bins that are at least `(6·B + d)/12` full weigh at least `10·B + d` each -/
theorem big_total_ge (d : Nat) (Ls : List (List α))
    (h : ∀ L ∈ Ls, isBig v B L = true → 6 * B + d ≤ 12 * binSum v L) :
    d * (Ls.filter (isBig v B)).length + 10 * (B * (Ls.filter (isBig v B)).length) ≤
      binSum (W v B) (Ls.filter (isBig v B)).flatten := by
  have := Part.binSum_le_binSum (l := Ls.filter (isBig v B)) (f := fun _ => d + 10 * B) (g := binSum (W v B))
    fun L hL => by
      obtain ⟨hL, hb⟩ := List.mem_filter.1 hL
      have := big_weight L hb
      have := h L hL hb
      omega
  rwa [Part.binSum_const, ← Part.binSum_flatten, Nat.mul_add, Nat.mul_comm _ d, Nat.mul_left_comm,
    Nat.mul_comm _ B] at this

theorem big_total (Ls : List (List α)) :
    10 * (B * (Ls.filter (isBig v B)).length) ≤ binSum (W v B) (Ls.filter (isBig v B)).flatten := by
  have := big_total_ge (v := v) (B := B) 0 Ls (fun L _ hb => by have := big_half hb; omega)
  omega

/-- next to a bin `T` without item above `B/2`, every big bin is more than `B − s(T)` full -/
theorem big_total_ge_beside {Ls : List (List α)} (hp : Ls.Pairwise (Rel v B)) {T : List α} (hT : T ∈ Ls)
    (hTb : isBig v B T = false) (d : Nat) (hd : d + 12 * binSum v T ≤ 6 * B + 12) :
    d * (Ls.filter (isBig v B)).length + 10 * (B * (Ls.filter (isBig v B)).length) ≤
      binSum (W v B) (Ls.filter (isBig v B)).flatten :=
  big_total_ge d Ls (fun L hL hLb => by have := big_beside hp hL hLb hT hTb; omega)

/-- next to a bin `T` without item above `B/2`, one of the big bins counts with more than `12·(B − s(T)) + 4·B` -/
theorem big_total_beside {Ls : List (List α)} (hp : Ls.Pairwise (Rel v B)) {T : List α} (hT : T ∈ Ls)
    (hTb : isBig v B T = false) (hK : 1 ≤ (Ls.filter (isBig v B)).length) :
    10 * (B * (Ls.filter (isBig v B)).length) + 6 * B + 1 ≤
      binSum (W v B) (Ls.filter (isBig v B)).flatten + 12 * binSum v T := by
  have hge := big_total_ge (6 * B - 12 * binSum v T + 1) Ls (fun L hL hLb => by
    have := big_beside hp hL hLb hT hTb
    have := big_half hLb
    omega)
  have := Nat.mul_le_mul_left (6 * B - 12 * binSum v T + 1) hK
  omega

/-- The three kinds together.  Apart from the big bins, all bins are paid for except at most one bin `S`
    with at most one item, whose own weight is left over, and one bin `L'` of the chain, of which `12·s(L')`
    is left over (`chain_weight`); the two overflow together.  The four cases: whether there is such an `S`, such
    an `L'`. -/
theorem bins_cases {Ls : List (List α)} (hp : Ls.Pairwise (Rel v B)) :
    ((∀ S ∈ Ls, isBig v B S = false → 2 ≤ S.length) ∧ Ls.length = (Ls.filter (isBig v B)).length ∧
      binSum (W v B) Ls.flatten = binSum (W v B) (Ls.filter (isBig v B)).flatten) ∨
    (∃ S ∈ Ls, isBig v B S = false ∧ S.length ≤ 1 ∧
      Ls.length = (Ls.filter (isBig v B)).length + 1 ∧
      binSum (W v B) Ls.flatten = binSum (W v B) (Ls.filter (isBig v B)).flatten + binSum (W v B) S) ∨
    ((∀ S ∈ Ls, isBig v B S = false → 2 ≤ S.length) ∧ ∃ L' ∈ Ls, isBig v B L' = false ∧
      10 * (B * Ls.length) + binSum (W v B) (Ls.filter (isBig v B)).flatten + 12 * binSum v L' ≤
        binSum (W v B) Ls.flatten + 10 * (B * (Ls.filter (isBig v B)).length) + 10 * B) ∨
    (∃ S ∈ Ls, isBig v B S = false ∧ S.length ≤ 1 ∧ ∃ L' ∈ Ls, isBig v B L' = false ∧
      B < binSum v S + binSum v L' ∧
      10 * (B * Ls.length) + binSum (W v B) (Ls.filter (isBig v B)).flatten + binSum (W v B) S +
          12 * binSum v L' ≤
        binSum (W v B) Ls.flatten + 10 * (B * (Ls.filter (isBig v B)).length) + 20 * B) := by
  obtain ⟨hlen, hw⟩ := split_kinds (v := v) (B := B) (W v B) Ls
  have hsmmem : ∀ L ∈ Ls.filter (kSmall v B), L ∈ Ls ∧ isBig v B L = false ∧ L.length ≤ 1 :=
    fun L hL => by simpa [kSmall] using List.mem_filter.1 hL
  have hchmem : ∀ L ∈ Ls.filter (kChain v B), L ∈ Ls ∧ isBig v B L = false ∧ 2 ≤ L.length :=
    fun L hL => by simpa [kChain] using List.mem_filter.1 hL
  have hnosm : Ls.filter (kSmall v B) = [] → ∀ S ∈ Ls, isBig v B S = false → 2 ≤ S.length := fun h0 S hS hb => by
    have := List.filter_eq_nil_iff.1 h0 S hS
    simp only [kSmall, hb, Bool.not_false, Bool.true_and, decide_eq_true_eq] at this
    omega
  have hsm := small_count (Ls.filter (kSmall v B)) (fun L hL => (hsmmem L hL).2) (hp.filter _)
  have hchp : (Ls.filter (kChain v B)).Pairwise (Rel v B) := hp.filter _
  rw [hlen, hw]
  generalize Ls.filter (kSmall v B) = sm at *
  generalize Ls.filter (kChain v B) = ch at *
  rcases sm with _ | ⟨S, _ | ⟨T, t⟩⟩
  · by_cases hch : ch = []
    · subst hch
      exact Or.inl ⟨hnosm rfl, rfl, rfl⟩
    · obtain ⟨L', hL', hcw⟩ := chain_weight ch hch (fun L hL => (hchmem L hL).2) hchp
      obtain ⟨hL'm, hL'b, hL'2⟩ := hchmem L' hL'
      refine Or.inr (Or.inr (Or.inl ⟨hnosm rfl, L', hL'm, hL'b, ?_⟩))
      simp only [List.length_nil, List.flatten_nil, Nat.mul_add]
      omega
  · obtain ⟨hS, hSb, hS1⟩ := hsmmem S (by simp)
    by_cases hch : ch = []
    · subst hch
      exact Or.inr (Or.inl ⟨S, hS, hSb, hS1, rfl, by simp [binSum, sumL]⟩)
    · obtain ⟨L', hL', hcw⟩ := chain_weight ch hch (fun L hL => (hchmem L hL).2) hchp
      obtain ⟨hL'm, hL'b, hL'2⟩ := hchmem L' hL'
      have hov := pairwise_sum hp hS hL'm (by rintro rfl; omega)
      refine Or.inr (Or.inr (Or.inr ⟨S, hS, hSb, hS1, L', hL'm, hL'b, hov, ?_⟩))
      simp only [List.length_cons, List.length_nil, List.flatten_cons, List.flatten_nil, List.append_nil,
        Nat.mul_add]
      omega
  · exact absurd hsm (by simp)

/-- Lemma B (C09): all bins but one are paid for by the weight of their items -/
theorem bins_weight {Ls : List (List α)} (hp : Ls.Pairwise (Rel v B)) :
    10 * (B * Ls.length) ≤ binSum (W v B) Ls.flatten + 10 * B := by
  have hb := big_total (v := v) (B := B) Ls
  rcases bins_cases hp with ⟨_, hn, hw⟩ | ⟨S, _, _, _, hn, hw⟩ | ⟨_, L', _, _, hw⟩ |
    ⟨S, _, _, _, L', _, _, hov, hw⟩
  · rw [hn, hw]
    omega
  · rw [hn, hw, Nat.mul_add]
    omega
  · omega
  · have := weight_ge (v := v) (B := B) S
    omega

end Bins

/-! ## The invariant of a first-fit / best-fit run -/

/-- for a bin whose first item is at most `B/2`, the second item did not fit into any earlier bin either -/
def TwoFit (v : α → Nat) (B : Nat) (b : Bins α) : Prop :=
  ∀ i j, i < j → j < b.lists.length → ∀ x y r, b.lists.getD j [] = x :: y :: r → 2 * v x ≤ B →
    B < b.sums.getD i 0 + v y

/-- an "almost first fit" step: the item goes into a bin where it fits, and every *earlier* bin where it
    would also fit is strictly less full; a new bin is opened only if it fits nowhere.
    First fit (no earlier bin has room) and best fit (fullest bin, first among ties) are both of this kind. -/
def Step2 (v : α → Nat) (B : Nat) (b : Bins α) (x : α) (b' : Bins α) : Prop :=
  (∃ i, ∃ h : i < b.sums.length, b.sums[i] + v x ≤ B ∧
      (∀ j (hj : j < i), b.sums[j] + v x ≤ B → b.sums[j] < b.sums[i]) ∧ b' = b.add v x i) ∨
  ((∀ s ∈ b.sums, ¬ s + v x ≤ B) ∧ b' = (b.addEmpty 1).add v x b.sums.length)

theorem Step2.toStep {v : α → Nat} {B : Nat} {b b' : Bins α} {x : α} (h : Step2 v B b x b') :
    Fit.Step v B b x b' := by
  rcases h with ⟨i, hi, hfit, _, rfl⟩ | ⟨hno, rfl⟩
  · exact Or.inl ⟨i, hi, hfit, rfl⟩
  · exact Or.inr ⟨hno, rfl⟩

theorem ffStep_step2 (v : α → Nat) (B : Nat) (b : Bins α) (x : α) : Step2 v B b x (ffStep v B b x) := by
  rcases Fit.ffStep_spec' v B b x with ⟨i, hi, hfit, hfirst, he⟩ | ⟨hno, he⟩
  · exact Or.inl ⟨i, hi, hfit, fun j hj hj' => absurd hj' (hfirst j hj), he⟩
  · exact Or.inr ⟨hno, he⟩

theorem bfStep_step2 (v : α → Nat) (B : Nat) (b : Bins α) (x : α) : Step2 v B b x (bfStep v B b x) := by
  rcases Fit.bfStep_spec v B b x with ⟨i, hi, hfit, _, hbest, he⟩ | ⟨hno, he⟩
  · exact Or.inl ⟨i, hi, hfit, hbest, he⟩
  · exact Or.inr ⟨hno, he⟩

/-- the run invariant: `Fit.Inv` (with any-fit for the first item of every bin) and `TwoFit` (for the second) -/
structure Inv2 (v : α → Nat) (B : Nat) (seen : List α) (b : Bins α) : Prop where
  inv : Fit.Inv v B seen b
  tf : TwoFit v B b

/-- the rule of a `Step2` step, on the bins before the chosen one -/
abbrev Rule2 (v : α → Nat) (B : Nat) : Fit.Rule α :=
  fun pre L x => ∀ L' ∈ pre, binSum v L' + v x ≤ B → binSum v L' < binSum v L

theorem Step2.lists {v : α → Nat} {B : Nat} {b b' : Bins α} {x : α} (h : Step2 v B b x b')
    (hc : b.sums = b.lists.map (binSum v)) : Fit.ListStep v B (Rule2 v B) b.lists x b'.lists :=
  Fit.listStep_of_pos (fun s t => s + v x ≤ B → s < t) hc h

theorem Rel.grow {v : α → Nat} {B : Nat} {L L' : List α} (x : α) (h : Rel v B L L') : Rel v B (L ++ [x]) L' := by
  obtain ⟨⟨y, hy, hlt⟩, h2⟩ := h
  refine ⟨⟨y, hy, ?_⟩, fun a c r he ha => ?_⟩
  · rw [Part.binSum_append]; omega
  · have := h2 a c r he ha
    rw [Part.binSum_append]; omega

/-- a later bin `L` receives `x`: the one new obligation is `x` as the second item after a first item `c ≤ B/2`.  Had
    `x` fitted into the earlier bin `P`, then `s(P) < s(L) = c` by the rule, while `s(P) + c > B` (any-fit for `c`), so
    `c > B/2`. -/
theorem Rel.add {v : α → Nat} {B : Nat} {P L : List α} (x : α) (h : Rel v B P L)
    (hbest : binSum v P + v x ≤ B → binSum v P < binSum v L) : Rel v B P (L ++ [x]) := by
  obtain ⟨⟨c, hc, hlt⟩, h2⟩ := h
  match L, hc with
  | [c'], hc =>
    simp only [List.head?_cons, Option.some.injEq] at hc
    subst hc
    refine ⟨⟨c', rfl, hlt⟩, fun a y r he ha => ?_⟩
    simp only [List.cons_append, List.nil_append, List.cons.injEq] at he
    obtain ⟨rfl, rfl, _⟩ := he
    apply Nat.lt_of_not_le
    intro hfit
    have := hbest hfit
    have hc1 : binSum v [c'] = v c' := Part.binSum_singleton v c'
    omega
  | c' :: d :: r', hc =>
    simp only [List.head?_cons, Option.some.injEq] at hc
    subst hc
    refine ⟨⟨c', rfl, hlt⟩, fun a y r he ha => ?_⟩
    simp only [List.cons_append, List.cons.injEq] at he
    obtain ⟨rfl, rfl, _⟩ := he
    exact h2 _ _ r' rfl ha

theorem rel_of_run {v : α → Nat} {B : Nat} {seen : List α} {Ls : List (List α)}
    (hr : Fit.Run v B (Rule2 v B) seen Ls) : Ls.Pairwise (Rel v B) :=
  Fit.Run.pairwise (fun _ x _ h => ⟨⟨x, rfl, h⟩, fun a y r he _ => by simp at he⟩) (fun _ _ x _ _ h => h.grow x)
    (fun _ P _ x hP hρ _ _ _ h => h.add x (hρ P hP)) hr (Part.pairwise_true seen)

theorem twoFit_iff_pairwise {v : α → Nat} {B : Nat} {b : Bins α} (hc : b.sums = b.lists.map (binSum v)) :
    TwoFit v B b ↔
      b.lists.Pairwise (fun L L' => ∀ x y r, L' = x :: y :: r → 2 * v x ≤ B → B < binSum v L + v y) :=
  Fit.getD_pairwise_iff hc (fun s L' => ∀ x y r, L' = x :: y :: r → 2 * v x ≤ B → B < s + v y)

theorem gen_inv2 {v : α → Nat} {B : Nat} {step : Bins α → α → Bins α} {items : List α} {b : Bins α}
    (hstep : ∀ b x, Step2 v B b x (step b x))
    (hb : Fit.genLoop v B step (Bins.new 1) items = .ok b) : Inv2 v B items b := by
  obtain ⟨hall, rfl⟩ := Fit.gen_ok_iff.1 hb
  have hc := Fit.cons_foldl step (fun b x => (hstep b x).toStep) items
  have hr := Fit.run_foldl step (fun b x => (hstep b x).toStep) (fun b x hc => (hstep b x).lists hc) items hall
  exact ⟨Fit.inv_of_run hr hc, (twoFit_iff_pairwise hc).2 ((rel_of_run hr).imp fun h => h.2)⟩

theorem ffOnline_inv2 {v : α → Nat} {B : Nat} {items : List α} {b : Bins α}
    (h : ffOnline v B items = .ok b) : Inv2 v B items b := by
  rw [Fit.ffOnline_eq_gen] at h
  exact gen_inv2 (ffStep_step2 v B) h

theorem bfOnline_inv2 {v : α → Nat} {B : Nat} {items : List α} {b : Bins α}
    (h : bfOnline v B items = .ok b) : Inv2 v B items b := by
  rw [Fit.bfOnline_eq_gen] at h
  exact gen_inv2 (bfStep_step2 v B) h

theorem Inv2.pairwise {v : α → Nat} {B : Nat} {seen : List α} {b : Bins α} (h : Inv2 v B seen b) :
    b.lists.Pairwise (Rel v B) :=
  ((Fit.anyfit_iff_pairwise h.inv.cons).1 h.inv.af).and ((twoFit_iff_pairwise h.inv.cons).1 h.tf)

/-! ## The theorems -/

/-- `B = 0` is set apart in `Inv2.bound`, where the inequality between weights is divided by `B` -/
theorem one_bin_of_zero {v : α → Nat} {B : Nat} {items : List α} {b : Bins α} (h : Inv2 v B items b)
    (hB : B = 0) : b.lists.length ≤ 1 := by
  match hL : b.lists, h.pairwise with
  | [], _ => simp
  | [_], _ => simp
  | L :: L' :: rest, hp =>
    have hr := rel_sum ((List.pairwise_cons.1 hp).1 L' (by simp))
    have h1 : binSum v L ≤ B := h.inv.le_lists L (by rw [hL]; simp)
    have h2 : binSum v L' ≤ B := h.inv.le_lists L' (by rw [hL]; simp)
    omega

/-- an inequality between multiples of `B·n`, `B·m`, `B·k` and `B`, divided by `B` -/
theorem unscale_lt_count {B p n q m r k c : Nat} (h : p * (B * n) < q * (B * m) + r * (B * k) + c * B) :
    p * n < q * m + r * k + c := by
  apply Nat.lt_of_mul_lt_mul_left (a := B)
  rw [Nat.mul_add, Nat.mul_add, Nat.mul_left_comm B p n, Nat.mul_left_comm B q m, Nat.mul_left_comm B r k,
    Nat.mul_comm B c]
  exact h

theorem unscale_lt {B p n q m c : Nat} (h : p * (B * n) < q * (B * m) + c * B) : p * n < q * m + c := by
  have := unscale_lt_count (r := 0) (k := 0) (show p * (B * n) < q * (B * m) + 0 * (B * 0) + c * B by omega)
  omega

/-- Lemma B for every run that keeps the invariant: the items weigh at least `#bins − 1` (in units of `1/(10·B)`) -/
theorem Inv2.weight_ge {v : α → Nat} {B : Nat} {items : List α} {b : Bins α} (h : Inv2 v B items b) :
    10 * (B * b.lists.length) ≤ binSum (W v B) items + 10 * B := by
  have := bins_weight h.pairwise
  rwa [Part.binSum_perm _ h.inv.perm] at this

/-- the bound for every run that keeps the invariant: `#bins ≤ 1.7 · m + 1` (Lemma B against Lemma A) -/
theorem Inv2.bound {v : α → Nat} {B m : Nat} {items : List α} {b : Bins α} (h : Inv2 v B items b)
    (hm : Packable B m (items.map v)) : 10 * b.lists.length ≤ 17 * m + 10 := by
  by_cases hB : B = 0
  · have := one_bin_of_zero h hB
    omega
  · have hW := h.weight_ge
    have hO := packable_weight_le hm
    have := unscale_lt (show 10 * (B * b.lists.length) < 17 * (B * m) + 11 * B by omega)
    omega

variable {v : α → Nat} {B m : Nat} {items : List α} {b : Bins α}

theorem ff_weight_ge (hok : ffOnline v B items = .ok b) :
    10 * (B * b.lists.length) ≤ binSum (W v B) items + 10 * B :=
  (ffOnline_inv2 hok).weight_ge

theorem bf_weight_ge (hok : bfOnline v B items = .ok b) :
    10 * (B * b.lists.length) ≤ binSum (W v B) items + 10 * B :=
  (bfOnline_inv2 hok).weight_ge

/-- C09 for every loop whose step function is an "almost first fit" step (`Step2`) -/
theorem gen_seventeen_tenths {step : Bins α → α → Bins α} (hstep : ∀ b x, Step2 v B b x (step b x))
    (hok : Fit.genLoop v B step (Bins.new 1) items = .ok b) (hm : Packable B m (items.map v)) :
    10 * b.lists.length ≤ 17 * m + 10 :=
  (gen_inv2 hstep hok).bound hm

/-- **C09, first fit**: at most `1.7 · OPT + 1` bins -/
theorem ff_seventeen_tenths_strong (hok : ffOnline v B items = .ok b) (hm : Packable B m (items.map v)) :
    10 * b.lists.length ≤ 17 * m + 10 :=
  (ffOnline_inv2 hok).bound hm

/-- the classical, weaker form `FF ≤ 1.7 · OPT + 2` -/
theorem ff_seventeen_tenths (hok : ffOnline v B items = .ok b) (hm : Packable B m (items.map v)) :
    10 * b.lists.length ≤ 17 * m + 20 := by
  have := ff_seventeen_tenths_strong hok hm
  omega

/-- **C09, best fit**: at most `1.7 · OPT + 1` bins -/
theorem bf_seventeen_tenths_strong (hok : bfOnline v B items = .ok b) (hm : Packable B m (items.map v)) :
    10 * b.lists.length ≤ 17 * m + 10 :=
  (bfOnline_inv2 hok).bound hm

theorem bf_seventeen_tenths (hok : bfOnline v B items = .ok b) (hm : Packable B m (items.map v)) :
    10 * b.lists.length ≤ 17 * m + 20 := by
  have := bf_seventeen_tenths_strong hok hm
  omega

/-- C09 in the form of the checked property: at most one bin more than `⌊1.7 · OPT⌋` -/
theorem ff_floor_succ (hok : ffOnline v B items = .ok b) (hm : Packable B m (items.map v)) :
    b.lists.length ≤ 17 * m / 10 + 1 := by
  have := ff_seventeen_tenths_strong hok hm
  omega

theorem bf_floor_succ (hok : bfOnline v B items = .ok b) (hm : Packable B m (items.map v)) :
    b.lists.length ≤ 17 * m / 10 + 1 := by
  have := bf_seventeen_tenths_strong hok hm
  omega

/-! ### the decreasing variants (first fit / best fit on the sorted list) -/

/-- C09, first fit decreasing and best fit decreasing: the same bound, since `ffDecreasing` / `bfDecreasing` are
    first fit / best fit on the sorted list -/
theorem ffd_seventeen_tenths_strong (hok : ffDecreasing v B items = .ok b)
    (hm : Packable B m (items.map v)) : 10 * b.lists.length ≤ 17 * m + 10 :=
  ff_seventeen_tenths_strong (items := sortDesc v items) hok (LPT43.packable_sortDesc hm)

theorem ffd_seventeen_tenths (hok : ffDecreasing v B items = .ok b) (hm : Packable B m (items.map v)) :
    10 * b.lists.length ≤ 17 * m + 20 := by
  have := ffd_seventeen_tenths_strong hok hm
  omega

theorem bfd_seventeen_tenths_strong (hok : bfDecreasing v B items = .ok b)
    (hm : Packable B m (items.map v)) : 10 * b.lists.length ≤ 17 * m + 10 :=
  bf_seventeen_tenths_strong (items := sortDesc v items) hok (LPT43.packable_sortDesc hm)

theorem bfd_seventeen_tenths (hok : bfDecreasing v B items = .ok b) (hm : Packable B m (items.map v)) :
    10 * b.lists.length ≤ 17 * m + 20 := by
  have := bfd_seventeen_tenths_strong hok hm
  omega

/-! ### against the oracle `optBins` -/

/-- a successful first-fit run: the oracle has an answer `m`, and `FF ≤ 1.7 · m + 1` -/
theorem ff_seventeen_tenths_opt (hok : ffOnline v B items = .ok b) :
    ∃ m, optBins B (items.map v) = some m ∧ 10 * b.lists.length ≤ 17 * m + 10 := by
  obtain ⟨m, h1, h2, _⟩ := Checkers.optBins_spec
    (Fit.gen_ok_all_le_map (Fit.ffOnline_eq_gen ▸ hok) (List.Perm.refl _))
  exact ⟨m, h1, ff_seventeen_tenths_strong hok h2⟩

theorem bf_seventeen_tenths_opt (hok : bfOnline v B items = .ok b) :
    ∃ m, optBins B (items.map v) = some m ∧ 10 * b.lists.length ≤ 17 * m + 10 := by
  obtain ⟨m, h1, h2, _⟩ := Checkers.optBins_spec
    (Fit.gen_ok_all_le_map (Fit.bfOnline_eq_gen ▸ hok) (List.Perm.refl _))
  exact ⟨m, h1, bf_seventeen_tenths_strong hok h2⟩

/-! ## Non-vacuity -/

attribute [local instance] decEqBins decEqExcept

/-- the classical bad instance (scaled to `B = 100`): six items each of sizes 15, 34, 51 -/
def badItems : List Nat := [15, 15, 15, 15, 15, 15, 34, 34, 34, 34, 34, 34, 51, 51, 51, 51, 51, 51]

/-- the optimum packs them as six bins `51 + 34 + 15` -/
theorem bad_packable : Packable 100 6 (badItems.map id) :=
  ⟨[0, 1, 2, 3, 4, 5, 0, 1, 2, 3, 4, 5, 0, 1, 2, 3, 4, 5], ⟨rfl, by decide⟩, by decide⟩

/-- first fit needs ten bins -/
theorem bad_ff : ffOnline id 100 badItems = .ok ⟨[90, 68, 68, 68, 51, 51, 51, 51, 51, 51],
    [[15, 15, 15, 15, 15, 15], [34, 34], [34, 34], [34, 34], [51], [51], [51], [51], [51], [51]]⟩ := by decide +kernel

/-- and so does best fit -/
theorem bad_bf : bfOnline id 100 badItems = .ok ⟨[90, 68, 68, 68, 51, 51, 51, 51, 51, 51],
    [[15, 15, 15, 15, 15, 15], [34, 34], [34, 34], [34, 34], [51], [51], [51], [51], [51], [51]]⟩ := by decide +kernel

/-- Lemma B on this run: `10 · 100 · 10 ≤ weight + 10 · 100` (the weight is `10200 = 17 · 100 · 6`: both lemmas are tight here) -/
example : 10 * (100 * 10) ≤ binSum (W id 100) badItems + 10 * 100 := ff_weight_ge bad_ff
example : binSum (W id 100) badItems = 10200 := by decide
example : 10 * (100 * 10) ≤ binSum (W id 100) badItems + 10 * 100 := bf_weight_ge bad_bf
/-- the optimum's side: `weight ≤ 17 · 100 · 6` -/
example : binSum (W id 100) badItems ≤ 17 * (100 * 6) := packable_weight_le bad_packable

example : 10 * 10 ≤ 17 * 6 + 10 := ff_seventeen_tenths_strong bad_ff bad_packable
example : 10 * 10 ≤ 17 * 6 + 20 := ff_seventeen_tenths bad_ff bad_packable
example : 10 ≤ 17 * 6 / 10 + 1 := ff_floor_succ bad_ff bad_packable
example : 10 ≤ 17 * 6 / 10 + 1 := bf_floor_succ bad_bf bad_packable
example : 10 * 10 ≤ 17 * 6 + 10 := bf_seventeen_tenths_strong bad_bf bad_packable
example : 10 * 10 ≤ 17 * 6 + 20 := bf_seventeen_tenths bad_bf bad_packable

/-- the decreasing variants find the optimum here -/
theorem bad_ffd : ffDecreasing id 100 badItems = .ok ⟨[100, 100, 100, 100, 100, 100],
    [[51, 34, 15], [51, 34, 15], [51, 34, 15], [51, 34, 15], [51, 34, 15], [51, 34, 15]]⟩ := by decide +kernel

theorem bad_bfd : bfDecreasing id 100 badItems = .ok ⟨[100, 100, 100, 100, 100, 100],
    [[51, 34, 15], [51, 34, 15], [51, 34, 15], [51, 34, 15], [51, 34, 15], [51, 34, 15]]⟩ := by decide +kernel

example : 10 * 6 ≤ 17 * 6 + 20 := ffd_seventeen_tenths bad_ffd bad_packable
example : 10 * 6 ≤ 17 * 6 + 20 := bfd_seventeen_tenths bad_bfd bad_packable

/-- best fit really violates the first-fit property "no item of a later bin fits into an earlier bin"
    (the `4` in the second bin would fit into the first one), so `TwoFit` is what is needed -/
example : bfOnline id 10 [5, 6, 4, 1] = .ok ⟨[6, 10], [[5, 1], [6, 4]]⟩ := rfl

example : ∃ m, optBins 10 ([4, 4, 4, 6, 6, 6].map id) = some m ∧ 10 * 4 ≤ 17 * m + 10 :=
  ff_seventeen_tenths_opt (b := ⟨[8, 10, 6, 6], [[4, 4], [4, 6], [6], [6]]⟩) rfl

/-- the additive constant `10` (one bin) is attained, and the absolute bound `#bins ≤ ⌊1.7 · OPT⌋` is false for the
    model, on the empty input: the empty list is packed into *one* (empty) bin, while it is `Packable` into `0` bins -/
example : ffOnline id 10 ([] : List Nat) = .ok ⟨[0], [[]]⟩ := rfl
example : Packable 10 0 (([] : List Nat).map id) := ⟨[], ⟨rfl, by simp⟩, by simp [sumsOf]⟩
example : 10 * 1 ≤ 17 * 0 + 10 :=
  ff_seventeen_tenths_strong (v := id) (B := 10) (items := ([] : List Nat)) (b := ⟨[0], [[]]⟩) rfl
    ⟨[], ⟨rfl, by simp⟩, by simp [sumsOf]⟩

end Prtpy.FF17
