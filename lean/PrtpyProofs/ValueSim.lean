/-
  PrtpyProofs.ValueSim — sequential number partitioning: two runs whose items have the same values up to order return
  the same sums (`snp_sums_congr`).  The two runs are on items of any two types, with any name keys, managers and
  fuels; list = dict (C07), manager independence (C06) and permutation invariance (C18) are instances.  The same
  statement for complete Karmarkar–Karp is `CKKF.ckkF_sums_congr`, for recursive number partitioning
  `RNPDict.rnpF_sums_congr`, which uses the rules of this file.

  SNP reads the incumbent only through its sums, generates the candidate subsets from the items sorted by value, and
  calls the search only for two bins, where the ascending sums are unique (`ckk2_vsim`).  Sorted by value, the two
  item lists are the two projections of one list of pairs of items of equal value (`exists_zip`), and the traversals are
  compared on such projections (`treeFold_vsim`).  `find_diff` may remove a *different occurrence* of a value on the
  two sides, so the recursive calls work on item lists whose values agree only up to order (`findDiff_vperm`) — which
  no consumer can see, because every consumer sorts first.
  The 2-way step (`ckk2_vsim`) goes through optimality (`CKKF.ckkF_real_optimal`) and the uniqueness of an ascending pair
  with given total and difference (`SNPOpt.sorted_pair_eq`), not through the lock-step of CKKFAux.lean: hence any two fuels.
  The value-level facts (`sortDesc_vperm`, `kk_sums_vperm`) are instances of those of Natural.lean
  (`Natural.sortDesc_map`, `sortDesc_id_perm`, `kk_sums_values`, `kk_id_perm`); the optimum is carried along a
  permutation of the values by `Scale.isOptimal_perm` (SpecSym.lean).
-/
import Mathlib.Data.List.Perm.Basic
import PrtpyProofs.SNP
import PrtpyProofs.SpecSym
import PrtpyProofs.Natural
import PrtpyProofs.SNPOpt
import PrtpyProofs.CKKF
import PrtpyProofs.SumsOnly
open Prtpy

namespace Prtpy.ValueSim
open Prtpy.SumsOnly (Real)

variable {α β γ : Type}

/-! ## what the algorithms read of an item list is a function of the multiset of the values -/

section Values
variable {v : α → Nat} {v' : β → Nat} {l : List α} {l' : List β}

theorem sortDesc_vperm (hp : (l.map v).Perm (l'.map v')) : (sortDesc v l).map v = (sortDesc v' l').map v' := by
  rw [← Natural.sortDesc_map v v id (fun _ => rfl), ← Natural.sortDesc_map v' v' id (fun _ => rfl)]
  exact Natural.sortDesc_id_perm hp

theorem binSum_vperm (hp : (l.map v).Perm (l'.map v')) : binSum v l = binSum v' l' :=
  Part.sumL_perm hp

/-- two lists with the same values position by position are the two projections of one list of pairs -/
theorem exists_zip (h : l.map v = l'.map v') :
    ∃ Z : List {z : α × β // v z.1 = v' z.2}, Z.map (·.1.1) = l ∧ Z.map (·.1.2) = l' := by
  induction l generalizing l' with
  | nil => cases l' with
    | nil => exact ⟨[], rfl, rfl⟩
    | cons _ _ => simp at h
  | cons a as ih => cases l' with
    | nil => simp at h
    | cons b bs =>
      simp only [List.map_cons, List.cons.injEq] at h
      obtain ⟨Z, h1, h2⟩ := ih h.2
      exact ⟨⟨(a, b), h.1⟩ :: Z, by simp [h1], by simp [h2]⟩

end Values

/-! ## the pieces of SNP, on two projections `f`, `f'` of one list -/

section TwoSided
variable {v : α → Nat} {v' : β → Nat} (f : γ → α) (f' : γ → β)

theorem map_v_eq (hv : ∀ z, v (f z) = v' (f' z)) (x : List γ) : (x.map f).map v = (x.map f').map v' := by
  simp only [List.map_map]
  exact List.map_congr_left fun z _ => hv z

theorem inexPrune_vsim (hv : ∀ z, v (f z) = v' (f' z)) (den : Nat) (lb ub : Int) (cur rest : List γ) :
    inexPrune v den lb ub (cur.map f) (rest.map f) = inexPrune v' den lb ub (cur.map f') (rest.map f') := by
  unfold inexPrune binSum
  rw [map_v_eq f f' hv cur, map_v_eq f f' hv rest]

/-- lock-step rule for `treeFold`: the two runs traverse the two projections of `Z`; the bodies are only ever called
    on (the projections of) a sub-list of `Z` -/
theorem treeFold_vsim {σ σ' : Type} (R : σ → σ' → Prop) (Z : List γ) (hv : ∀ z, v (f z) = v' (f' z))
    (den : Nat) (ub : Int) (lbOf : σ → Int) (lbOf' : σ' → Int) (body : σ → List α → Except Err σ)
    (body' : σ' → List β → Except Err σ')
    (hlb : ∀ s s', R s s' → lbOf s = lbOf' s')
    (hbody : ∀ s s' (x : List γ) t t', x.Sublist Z → R s s' → body s (x.map f) = .ok t → body' s' (x.map f') = .ok t' → R t t') :
    ∀ (rest pre cur : List γ) (st : σ) (st' : σ') (r : σ) (r' : σ'), pre ++ rest = Z → cur.Sublist pre →
      R st st' → treeFold v den ub lbOf body st (cur.map f) (rest.map f) = .ok r →
      treeFold v' den ub lbOf' body' st' (cur.map f') (rest.map f') = .ok r' → R r r' := by
  intro rest
  induction rest with
  | nil =>
    intro pre cur st st' r r' hfull hsub hR h h'
    simp only [List.append_nil] at hfull
    subst hfull
    -- both runs prune or both do not: the test reads the values and the bound only
    have e := inexPrune_vsim f f' hv den (lbOf' st') ub cur []
    simp only [List.map_nil] at e h h'
    rcases SNPProofs.treeFold_nil_ok.1 h with ⟨hp, hr⟩ | ⟨hp, hb⟩ <;>
      rcases SNPProofs.treeFold_nil_ok.1 h' with ⟨hp', hr'⟩ | ⟨hp', hb'⟩
    · rw [hr, hr']; exact hR
    · rw [hlb _ _ hR, e, hp'] at hp; cases hp
    · rw [hlb _ _ hR, e, hp'] at hp; cases hp
    · exact hbody _ _ _ _ _ hsub hR hb hb'
  | cons x xs ih =>
    intro pre cur st st' r r' hfull hsub hR h h'
    have hfull' : (pre ++ [x]) ++ xs = Z := by rw [← hfull]; simp
    have e := inexPrune_vsim f f' hv den (lbOf' st') ub cur (x :: xs)
    simp only [List.map_cons] at h h' e
    have e2 : ∀ {δ : Type} (g : γ → δ), List.map g cur ++ [g x] = (cur ++ [x]).map g := fun g => by simp
    rcases SNPProofs.treeFold_cons_ok.1 h with ⟨hp, hr⟩ | ⟨hp, s1, hL, h⟩ <;>
      rcases SNPProofs.treeFold_cons_ok.1 h' with ⟨hp', hr'⟩ | ⟨hp', s1', hL', h'⟩
    · rw [hr, hr']; exact hR
    · rw [hlb _ _ hR, e, hp'] at hp; cases hp
    · rw [hlb _ _ hR, e, hp'] at hp; cases hp
    · rw [e2] at hL hL'
      have hR1 := ih (pre ++ [x]) (cur ++ [x]) st st' s1 s1' hfull'
        (List.Sublist.append hsub (List.Sublist.refl _)) hR hL hL'
      exact ih (pre ++ [x]) cur s1 s1' r r' hfull' (hsub.trans (List.sublist_append_left _ _)) hR1 h h'

end TwoSided

/-- `find_diff` on the two sides leaves the same values, up to order: each side removes one occurrence of every
    value of the sub-list (`SNPProofs.findDiff_perm`) -/
theorem findDiff_vperm [BEq α] [LawfulBEq α] [BEq β] [LawfulBEq β] {v : α → Nat} {v' : β → Nat}
    {sub s l : List α} {sub' s' l' : List β} (hs : sub.Sublist s) (hl : s.Perm l) (hs' : sub'.Sublist s')
    (hl' : s'.Perm l') (hsub : sub.map v = sub'.map v') (hp : (l.map v).Perm (l'.map v')) :
    ((findDiff l sub).map v).Perm ((findDiff l' sub').map v') := by
  have h1 := (SNPProofs.findDiff_perm hs hl).map v
  have h2 := (SNPProofs.findDiff_perm hs' hl').map v'
  rw [List.map_append] at h1 h2
  rw [hsub] at h1
  exact (List.perm_append_left_iff _).1 ((h1.trans hp).trans h2.symm)

theorem real_two_sums_eq {β : Type} {v : α → Nat} {v' : β → Nat} {items : List α} {items' : List β} {s s' : List Nat}
    (r : Real v items 2 s) (r' : Real v' items' 2 s') (ht : binSum v items = binSum v' items')
    (hs : s.Pairwise (· ≤ ·)) (hs' : s'.Pairwise (· ≤ ·)) (hv : spread s = spread s') : s = s' := by
  obtain ⟨x, y, rfl, hsum⟩ := SumsOnly.two_sums r
  obtain ⟨x', y', rfl, hsum'⟩ := SumsOnly.two_sums r'
  exact SNPOpt.sorted_pair_eq (by simpa using hs) (by simpa using hs') (by omega) hv

section Runs
variable {v nm : α → Nat} {v' nm' : β → Nat} [BEq α] [LawfulBEq α] [BEq β] [LawfulBEq β]

/-- the 2-way search: both answers are optimal for the same multiset of values, and an ascending pair is determined
    by total and difference -/
theorem ckk2_vsim {c c' : Bool} {rem : List α} {rem' : List β} {fuel fuel' : Nat} {two : Bins α} {two' : Bins β}
    (hp : (rem.map v).Perm (rem'.map v'))
    (h : ckk2 v nm c rem fuel = .ok two) (h' : ckk2 v' nm' c' rem' fuel' = .ok two') : two.sums = two'.sums := by
  obtain ⟨hne, h⟩ := SNPProofs.ckk2_ok h
  obtain ⟨hne', h'⟩ := SNPProofs.ckk2_ok h'
  obtain ⟨r₁, o₁⟩ := CKKF.ckkF_real_optimal c (by decide) hne h
  obtain ⟨r₂, o₂⟩ := CKKF.ckkF_real_optimal c' (by decide) hne' h'
  exact real_two_sums_eq r₁ r₂ (binSum_vperm hp) (CKKF.ckkF_sums_sorted h) (CKKF.ckkF_sums_sorted h')
    (SumsOnly.spread_eq_of_optimal (Scale.isOptimal_perm hp o₁) o₂)

/-- `rec_generate_sets` of SNP on two item lists with the same values up to order: the same sums -/
theorem snpRec_vsim (c c' : Bool) (fuel fuel' : Nat) (n : Nat) (prior best : Bins α) (rem : List α) :
    ∀ (prior' best' : Bins β) (rem' : List β) (r : Bins α) (r' : Bins β),
      prior.sums = prior'.sums → best.sums = best'.sums → (rem.map v).Perm (rem'.map v') →
      snpRec v nm c fuel n prior best rem = .ok r → snpRec v' nm' c' fuel' n prior' best' rem' = .ok r' →
      r.sums = r'.sums := by
  induction n, prior, best, rem using snpRec.induct v nm c fuel with
  | case1 | case2 => intro _ _ _ r r' _ hb _ h h'; simp only [snpRec] at h h'; cases h; cases h'; exact hb
  | case3 prior best rem e he => intro _ _ _ r r' _ _ _ h; simp only [snpRec, he] at h; cases h
  | case4 prior best rem two ht hlt =>
    intro prior' best' rem' r r' hpr hb hp h h'
    simp only [snpRec, ht, if_pos hlt] at h h'
    cases ht' : ckk2 v' nm' c' rem' fuel' with
    | error e => rw [ht'] at h'; cases h'
    | ok two' =>
      have e2 := ckk2_vsim hp ht ht'
      simp only [ht', ← e2, ← hb, ← hpr, if_pos hlt] at h'
      cases h; cases h'
      simp only [Bins.concat, e2, hpr]
  | case5 prior best rem two ht hlt =>
    intro prior' best' rem' r r' hpr hb hp h h'
    simp only [snpRec, ht, if_neg hlt] at h h'
    cases ht' : ckk2 v' nm' c' rem' fuel' with
    | error e => rw [ht'] at h'; cases h'
    | ok two' =>
      simp only [ht', ← ckk2_vsim hp ht ht', ← hb, ← hpr, if_neg hlt] at h'
      cases h; cases h'
      exact hb
  | case6 m prior best rem ih =>
    intro prior' best' rem' r r' hpr hb hp h h'
    rw [snpRec] at h h'
    obtain ⟨Z, z1, z2⟩ := exists_zip (sortDesc_vperm hp)
    rw [← binSum_vperm hp] at h'
    rw [← z1] at h
    rw [← z2] at h'
    refine treeFold_vsim (·.1.1) (·.1.2) (fun (b : Bins α) (b' : Bins β) => b.sums = b'.sums) Z (fun z => z.2)
      _ _ _ _ _ _ ?_ ?_ Z [] [] best best' r r' (by simp) (List.Sublist.refl _) hb h h'
    · intro s s' hs
      simp only [hs]
    · intro s s' x t t' hx hs ht ht'
      have hxv := map_v_eq (v := v) (v' := v') (·.1.1) (·.1.2) (fun z => z.2) x
      refine ih s _ _ s' _ t t' ?_ hs ?_ ht ht'
      · simp only [hpr, binSum, hxv]
      · exact findDiff_vperm (hx.map _) (z1 ▸ Part.sortDesc_perm v rem) (hx.map _)
          (z2 ▸ Part.sortDesc_perm v' rem') hxv hp
omit [BEq α] [LawfulBEq α] [BEq β] [LawfulBEq β] in
/-- both runs start with Karmarkar–Karp's answer, which is the same up to sums -/
theorem kk_sums_vperm {k : Nat} {items : List α} {items' : List β} {best : Bins α} {best' : Bins β}
    (hp : (items.map v).Perm (items'.map v')) (hb : kk v k items = .ok best) (hb' : kk v' k items' = .ok best') :
    best.sums = best'.sums := by
  have hkk : (kk v k items).map (·.sums) = (kk v' k items').map (·.sums) := by
    rw [Natural.kk_sums_values, Natural.kk_sums_values v', Natural.kk_id_perm hp]
  rw [hb, hb'] at hkk
  exact Except.ok.inj hkk

/-- **sequential number partitioning: the vector of sums is a function of the multiset of the values** -/
theorem snp_sums_congr {c₁ c₂ : Bool} {k : Nat} {items : List α} {items' : List β} {f₁ f₂ : Nat}
    {b₁ : Bins α} {b₂ : Bins β} (hp : (items.map v).Perm (items'.map v'))
    (h₁ : snp v nm k c₁ items f₁ = .ok b₁) (h₂ : snp v' nm' k c₂ items' f₂ = .ok b₂) : b₁.sums = b₂.sums := by
  obtain ⟨best, hb, c1⟩ := SNPProofs.snp_ok h₁
  obtain ⟨best', hb', c2⟩ := SNPProofs.snp_ok h₂
  have hbs := kk_sums_vperm hp hb hb'
  -- the test `spread best.sums = 0` reads the sums only, so both runs take the same branch
  rcases c1 with ⟨z, rfl⟩ | ⟨nz, r1⟩ <;> rcases c2 with ⟨z', rfl⟩ | ⟨nz', r2⟩
  · exact hbs
  · exact absurd (hbs ▸ z) nz'
  · exact absurd (hbs ▸ z') nz
  · exact snpRec_vsim c₁ c₂ f₁ f₂ k _ best items _ best' items' b₁ b₂ rfl hbs hp r1 r2

end Runs

end Prtpy.ValueSim
