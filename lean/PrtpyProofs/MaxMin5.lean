/-
  PrtpyProofs.MaxMin5 — property C08: the exact max-min guarantee of LPT (`greedy`) for every number of bins
  (Csirik–Kellerer–Woeginger 1992):
      `(3k − 1) · OPT ≤ (4k − 2) · (smallest sum of LPT)`        (`greedy_maxmin`; run level: `run_maxmin`).
  Instances and weaker ratios that are stated separately: `greedy_maxmin_five`, `greedy_maxmin_six`,
  `greedy_maxmin_partial_three_quarters_all` here, the others in PrtpyProofs.MaxMin4.

  The proof (`run_maxmin`) is an induction over `k`.  `L` = smallest sum of LPT, `W` = cover level, `y` = the
  `(k+1)`-th value.  The induction is over all runs of the LPT rule, ties open (`LPT43.Lpt`, `Lpt.maxmin`), since removing a
  bin from the loop `run` leaves a run, not the loop.  If `L < 2·y` the first pair is closed and is removed (`Lpt.peel`).  If
  every bin with at least two items is within `k·W/(4k−2)` of `L` (the *certificate*), the spread bound gives the claim
  (`Lpt.spread_of_inv`).
  What remains is the heavy-bin case `mixed_all`, which needs no induction hypothesis:

  Suppose `(4k−2)·L < (3k−1)·W`.  Let `B = preB ++ [zB]` be a bin with at least two items and sum
  `> L + k·W/(4k−2)`, `p = sum preB ≤ L`, `δ = L − p`, `E = p + zB − L` its excess; `2·zB ≤ L` because `2·y ≤ L`.
  Then `2L < W + 2E`, `W < 4E`, `zB = E + δ`, `L + 2δ < W` and `8δ < W` (`heavy_arith` gives the first two).
  * LPT side (`Lpt.split_of_mem`, `Lpt.bin_invariants`, `Lpt.weight_count` are in MaxMin3.lean).  By `Lpt.split_of_mem`
    every bin is `core ++ later`: `core` = items `≥ zB` of total `≥ p`, `later` =
    items `≤ zB` that arrived after `zB`.  Because every proper prefix of a bin is `≤ L` (`Lpt.pref`) and the bins are
    sorted, `later` is empty, or one item, or consists of "sand" (items `≤ δ`) of total `≤ 2δ` (all but the last fit
    below `L` on top of `core ≥ p`).  If `later ≠ []`, `core ≤ L` (`later_shape`).
  * Weight (`Phi`): an item `a ≤ δ` weighs `a`; an item `a > δ` weighs `D·(1 + [a ≥ W'/2] + [a ≥ W'])` with
    `D = 2δ + 1`, `W' = W − D`.  (To keep strict inequalities in `Nat`, all values are multiplied by `4`:
    sand threshold `4δ`, `D = 8δ + 1`, `W' = 4W − D`.)
    - a group of items `≥ zB` that respects `Lpt.pref` weighs `≤ 3·D`, and `≤ 2·D` if its sum is `≤ L` (`phi_core`:
      `MaxMin3.wt_bin` with level `W'` and `t = zB`; `2L < W' + 2·zB` is `2L < W + 2E`: `δ` cancels);
    - so an LPT bin weighs `≤ 3·D` (`core` alone; `core ≤ L` plus one item `< W'/2`; `core ≤ L` plus sand `≤ 2δ < D`),
      and a bin of sum `≤ L` weighs `< 3·D` (its only later item would be `≤ L − p = δ`, i.e. sand) — `phi_bin`;
    - a set of sum `≥ W` weighs `≥ 3·D`: with sand `s`, the large items cover `W − s`; if `s < D` they cover `W'`
      (`MaxMin3.wt_cover`), if `s < 2D` they are two items or one item `> W − 2D ≥ W'/2`, if `s < 3D` there is one,
      else the sand alone weighs `3·D` — `Phi_cover`.
    Summing over the `k` LPT bins resp. the `k` bins of the cover gives `3·D·k > … ≥ 3·D·k`
    (`Lpt.weight_count`).
-/
import Mathlib.Tactic.Linarith
import PrtpyProofs.Feasible
import PrtpyProofs.LPT43
import PrtpyProofs.MaxMin
import PrtpyProofs.MaxMin3
open Prtpy

namespace Prtpy.MaxMin5
open Prtpy.LPT43 Prtpy.MaxMin Prtpy.MaxMin3

variable {α : Type}

/-! ## A weight that counts the large items and measures the tiny ones -/

/-- the mixed weight of a value: a value `≤ d` ("sand") counts by its size, the others count `D` times their weight
    `MaxMin3.wt` with respect to the level `W'`; a bin `g` weighs `binSum (Phi d D W') g` -/
def Phi (d D W' a : Nat) : Nat := if a ≤ d then a else D * wt W' a

theorem Phi_large (d D W' : Nat) (g : List Nat) (h : ∀ a ∈ g, d < a) :
    binSum (Phi d D W') g = D * binSum (wt W') g :=
  (Part.binSum_congr fun a ha => by unfold Phi; rw [if_neg (by have := h a ha; omega)]).trans
    (Part.binSum_mul_left D (wt W') g)

theorem Phi_sand (d D W' : Nat) (g : List Nat) (h : ∀ a ∈ g, a ≤ d) : binSum (Phi d D W') g = sumL g :=
  (Part.binSum_congr fun a ha => by unfold Phi; rw [if_pos (h a ha)]; rfl).trans (Part.binSum_id g)

/-- Covering side.  A bin of sum `≥ W` weighs at least `3·D` when the level of the large items is lowered to
    `W − D`: either the sand alone weighs `3·D`, or each missing multiple of `D` of sand is made up for by the
    large items, which cover `W − D`, resp. more than `W − 2·D`, resp. are not empty. -/
theorem Phi_cover {d D W : Nat} (hD : 0 < D) (h3 : 3 * D ≤ W) (g : List Nat) (hg : W ≤ sumL g) :
    3 * D ≤ binSum (Phi d D (W - D)) g := by
  -- sand `S` and large items `R`
  have hp := List.filter_append_perm (fun a => decide (a ≤ d)) g
  rw [← Part.sumL_perm hp, Part.sumL_append] at hg
  rw [← Part.binSum_perm _ hp, Part.binSum_append,
    Phi_sand _ _ _ _ (fun a ha => of_decide_eq_true (List.mem_filter.1 ha).2),
    Phi_large _ _ _ _ (fun a ha => by have := (List.mem_filter.1 ha).2; simp at this; omega)]
  generalize g.filter (fun a => decide (a ≤ d)) = S at *
  generalize g.filter (fun a => !decide (a ≤ d)) = R at *
  by_cases c0 : sumL S < D
  · have h2 := wt_cover (W := W - D) (by omega) R (by omega)
    have := Nat.mul_le_mul_left D h2
    omega
  by_cases c1 : sumL S < 2 * D
  · have hR : W - 2 * D < sumL R := by omega
    have h2 : 2 ≤ binSum (wt (W - D)) R := by
      match R, hR with
      | [], h => simp [sumL] at h
      | [a], h =>
        simp only [sumL] at h
        have := wt_half (W := W - D) (u := a) (by omega)
        simp only [Part.binSum_cons, Part.binSum_nil]; omega
      | a :: b :: _, _ =>
        have := wt_pos (W - D) a
        have := wt_pos (W - D) b
        simp only [Part.binSum_cons]; omega
    have := Nat.mul_le_mul_left D h2
    omega
  by_cases c2 : sumL S < 3 * D
  · have hR : 0 < sumL R := by omega
    have h2 : 1 ≤ binSum (wt (W - D)) R := by
      match R, hR with
      | [], h => simp [sumL] at h
      | a :: _, _ => have := wt_pos (W - D) a; simp only [Part.binSum_cons]; omega
    have := Nat.mul_le_mul_left D h2
    omega
  · omega

theorem Phi_single {d D W' a : Nat} (hd : d < a) (ha : 2 * a < W') : binSum (Phi d D W') [a] = D := by
  rw [Part.binSum_cons, Part.binSum_nil, Phi, if_neg (by omega), wt_small ha]; omega

/-! ## A bin seen from a heavy bin

Throughout, `p` is the sum of the heavy bin `A` without its last item, `z` the value of that item, `L` the smallest
sum and `δ = L − p`; `A` exceeds `L` by so much that `4·L < W + 2·p + 2·z` and `W + 4·L < 4·p + 4·z`. -/

/-- The items `≥ z`.  A group of such items that respects `Lpt.pref` and `Lpt.tail` weighs `≤ 3·D`, and `≤ 2·D` if
    its sum is `≤ L` (`wt_bin` for the values multiplied by `4`, level `4W − D`, all items above `4z − 1`). -/
theorem phi_core {v : α → Nat} {W L p z δ : Nat} (hδ : p + δ = L) (h1 : 4 * L < W + 2 * p + 2 * z)
    (h2 : W + 4 * L < 4 * p + 4 * z) (hz : 2 * z ≤ L) (c : List α)
    (hpre : ∀ n, n < c.length → binSum v (c.take n) ≤ L) (htail : ∀ u ∈ c.tail, 2 * v u ≤ L)
    (hbig : ∀ u ∈ c, z ≤ v u) :
    binSum (Phi (4 * δ) (8 * δ + 1) (4 * W - (8 * δ + 1))) (c.map fun a => 4 * v a) ≤ 3 * (8 * δ + 1) ∧
    (binSum v c ≤ L →
      binSum (Phi (4 * δ) (8 * δ + 1) (4 * W - (8 * δ + 1))) (c.map fun a => 4 * v a) ≤ 2 * (8 * δ + 1)) := by
  -- with `W' = 4W − (8δ+1)` and `t = 4z − 1`:  `2·(4L) < W' + 2t` is `h1` (`δ` cancels against `p`),
  -- `W' ≤ 4t` is `h2` with `p ≤ L`,  `2t ≤ W'` follows from `2z ≤ L` and `h1`
  have key := wt_bin (v := fun a => 4 * v a) (W := 4 * W - (8 * δ + 1)) (t := 4 * z - 1) (L := 4 * L)
    (by omega) (by omega) (by omega) c
    (fun n hn => by rw [Part.binSum_mul_left]; exact Nat.mul_le_mul_left _ (hpre n hn))
    (fun u hu => by have := htail u hu; omega)
    (fun u hu => by have := hbig u hu; omega)
  rw [Part.binSum_mul_left] at key
  rw [Phi_large _ _ _ _ (fun a ha => by
    obtain ⟨u, hu, rfl⟩ := List.mem_map.1 ha
    have := hbig u hu
    omega)]
  constructor
  · have := Nat.mul_le_mul_left (8 * δ + 1) key.1
    omega
  · intro h
    have := Nat.mul_le_mul_left (8 * δ + 1) (key.2 (Nat.mul_le_mul_left _ h))
    omega

/-- What arrived later.  Let a bin of a run be `core ++ later` (every proper prefix of it sums to `≤ L`, `hpre`), with
    `core` summing to at least `p = L − δ`.  Then `later` is empty, or (then `core` sums to `≤ L`) it is "sand": items `≤ δ`
    of total `≤ 2δ` (all but the last fit below `L`), or a single item `> δ`, which lifts the bin above `L`. -/
theorem later_shape {v : α → Nat} {L p δ : Nat} (hδ : p + δ = L) (core later : List α)
    (s1 : p ≤ binSum v core) (hpre : ∀ q a rest, core ++ later = q ++ a :: rest → binSum v q ≤ L)
    (hsort : later.Pairwise (fun a c => v c ≤ v a)) :
    later = [] ∨ (binSum v core ≤ L ∧
      (((∀ u ∈ later, v u ≤ δ) ∧ binSum v later ≤ 2 * δ) ∨
        ∃ r, later = [r] ∧ δ < v r ∧ L < binSum v (core ++ later))) := by
  cases later with
  | nil => exact Or.inl rfl
  | cons r t =>
    right
    refine ⟨hpre core r t rfl, ?_⟩
    by_cases hall : ∀ u ∈ r :: t, v u ≤ δ
    · -- the bin without its last item is a proper prefix
      refine Or.inl ⟨hall, ?_⟩
      obtain ⟨init, last, e⟩ : ∃ init last, r :: t = init ++ [last] :=
        ⟨_, _, (List.dropLast_append_getLast (List.cons_ne_nil r t)).symm⟩
      have h6 := hpre (core ++ init) last [] (by rw [e, List.append_assoc])
      have h5 := hall last (by rw [e]; simp)
      rw [Part.binSum_append] at h6
      rw [e, Part.binSum_concat]
      omega
    · -- an item `> δ` after the core: it is the first one (they are ordered), and nothing follows it
      have hr : δ < v r := by
        apply Classical.byContradiction
        intro h
        apply hall
        intro u hu
        rcases List.mem_cons.1 hu with rfl | hu
        · omega
        · have := (List.pairwise_cons.1 hsort).1 u hu
          omega
      have ht : t = [] := by
        cases t with
        | nil => rfl
        | cons c t' =>
          -- `core ++ [r]` would be a proper prefix, but `core ≥ p = L − δ` and `r > δ`
          have := hpre (core ++ [r]) c t' (by simp)
          rw [Part.binSum_concat] at this
          omega
      subst ht
      refine Or.inr ⟨r, rfl, hr, ?_⟩
      rw [Part.binSum_concat]
      omega

/-- A bin seen from a heavy bin `A = preA ++ [zA]`.  The bin consists of items `≥ zA` (of total at least the
    sum of `preA`), followed by what `later_shape` allows.  With the values multiplied by `4`, the sand threshold
    `4δ`, `D = 8δ + 1` and the level `4W − D` its mixed weight is `≤ 3·D`, and `< 3·D` if its sum is `≤ L`. -/
theorem phi_bin {v : α → Nat} {W L δ : Nat} (preA : List α) (zA : α) (hδ : binSum v preA + δ = L)
    (h1 : 4 * L < W + 2 * binSum v preA + 2 * v zA) (h2 : W + 4 * L < 4 * binSum v preA + 4 * v zA)
    (hzA2 : 2 * v zA ≤ L) (l : List α) (hsp : Split v preA zA l)
    (hpre : ∀ n, n < l.length → binSum v (l.take n) ≤ L) (htail : ∀ c ∈ l.tail, 2 * v c ≤ L)
    (hsort : l.Pairwise (fun a c => v c ≤ v a)) :
    binSum (Phi (4 * δ) (8 * δ + 1) (4 * W - (8 * δ + 1))) (l.map fun a => 4 * v a) ≤ 3 * (8 * δ + 1) ∧
    (binSum v l ≤ L →
      binSum (Phi (4 * δ) (8 * δ + 1) (4 * W - (8 * δ + 1))) (l.map fun a => 4 * v a) < 3 * (8 * δ + 1)) := by
  obtain ⟨m, hm, s1, s2, s3⟩ := hsp
  obtain ⟨hc3, hc2⟩ := phi_core hδ h1 h2 hzA2 (l.take m)
    (fun n hn => by
      have hn' : n < m := Nat.lt_of_lt_of_le hn (List.length_take_le m l)
      rw [List.take_take, Nat.min_eq_left (Nat.le_of_lt hn')]
      exact hpre n (by omega))
    (fun u hu => htail u ((List.take_sublist m l).tail.subset hu)) s3
  have hPhi : binSum (Phi (4 * δ) (8 * δ + 1) (4 * W - (8 * δ + 1))) (l.map fun a => 4 * v a) =
      binSum (Phi (4 * δ) (8 * δ + 1) (4 * W - (8 * δ + 1))) ((l.take m).map fun a => 4 * v a) +
        binSum (Phi (4 * δ) (8 * δ + 1) (4 * W - (8 * δ + 1))) ((l.drop m).map fun a => 4 * v a) := by
    rw [← Part.binSum_append, ← List.map_append, List.take_append_drop]
  rw [hPhi]
  rcases later_shape hδ (l.take m) (l.drop m) s1
      (fun q a rest e => by
        rw [List.take_append_drop] at e
        have := hpre q.length (by rw [e]; simp)
        rwa [e, List.take_left' rfl] at this)
      (hsort.sublist (List.drop_sublist m l)) with hd | ⟨hcL, ⟨hall, h2δ⟩ | ⟨r, hr, hrδ, hLl⟩⟩
  · have ht : l.take m = l := by
      have := List.take_append_drop m l
      rwa [hd, List.append_nil] at this
    rw [hd, List.map_nil, Part.binSum_nil, Nat.add_zero]
    exact ⟨hc3, fun h => by have := hc2 (by rw [ht]; exact h); omega⟩
  · have hs : binSum (Phi (4 * δ) (8 * δ + 1) (4 * W - (8 * δ + 1))) ((l.drop m).map fun a => 4 * v a) =
        4 * binSum v (l.drop m) := by
      rw [Phi_sand _ _ _ _ (fun a ha => by
        obtain ⟨u, hu, rfl⟩ := List.mem_map.1 ha
        have := hall u hu
        omega)]
      exact Part.binSum_mul_left 4 v (l.drop m)
    rw [hs]
    have := hc2 hcL
    exact ⟨by omega, fun _ => by omega⟩
  · rw [List.take_append_drop] at hLl
    have hr2 : 2 * v r ≤ L := htail r (by
      have hmem : r ∈ l.drop m := by rw [hr]; exact List.mem_cons_self
      have hm1 : 1 ≤ m := by
        rcases Nat.eq_zero_or_pos m with h0 | h
        · rw [h0] at s1; simp only [List.take_zero, Part.binSum_nil] at s1; omega
        · exact h
      rw [← Nat.sub_add_cancel hm1, ← List.drop_tail] at hmem
      exact List.mem_of_mem_drop hmem)
    rw [hr, List.map_cons, List.map_nil, Phi_single (by omega) (by omega)]
    have := hc2 hcL
    exact ⟨by omega, fun h => by omega⟩

/-! ## The arithmetic of the induction (`Lpt.maxmin`) and of `greedy_maxmin` -/

theorem maxmin_of_spread {k W y L : Nat} (hk : 0 < k) (h1 : k * W + y ≤ k * L + k * y)
    (h2 : (4 * k - 2) * y ≤ k * W) : 3 * k * W + 2 * L ≤ 4 * k * L + W := by
  obtain ⟨k', rfl⟩ : ∃ k', k = k' + 1 := ⟨k - 1, by omega⟩
  have e : 4 * (k' + 1) - 2 = 4 * k' + 2 := by omega
  rw [e] at h2
  -- `(4k−2) · h1` and `(k−1) · h2` give `k·(4k−2)·W ≤ k·((4k−2)·L + (k−1)·W)`
  have h3 := Nat.mul_le_mul_left k' h2
  have h1' := Nat.mul_le_mul_left (4 * k' + 2) h1
  have h4 : (k' + 1) * ((4 * k' + 2) * W) ≤ (k' + 1) * ((4 * k' + 2) * L + k' * W) := by linarith
  have h5 := Nat.le_of_mul_le_mul_left h4 (by omega)
  linarith

theorem maxmin_step {k' W L : Nat} (hk' : 0 < k') (h : 3 * k' * W + 2 * L ≤ 4 * k' * L + W) :
    3 * (k' + 1) * W + 2 * L ≤ 4 * (k' + 1) * L + W := by
  obtain ⟨j, rfl⟩ : ∃ j, k' = j + 1 := ⟨k' - 1, by omega⟩
  -- (3j+2)·W ≤ (4j+2)·L  ⟹  (3j+5)·W ≤ (4j+6)·L,  as  (3j+5)·(4j+2) ≤ (3j+2)·(4j+6)
  have h1 : (3 * j + 2) * W ≤ (4 * j + 2) * L := by linarith
  have h1' := Nat.mul_le_mul_left (3 * j + 5) h1
  have h2 : (3 * j + 2) * ((3 * j + 5) * W) ≤ (3 * j + 2) * ((4 * j + 6) * L) := by linarith
  have h3 := Nat.le_of_mul_le_mul_left h2 (by omega)
  linarith

theorem maxmin_final {k W L : Nat} (hk : 0 < k) (h : 3 * k * W + 2 * L ≤ 4 * k * L + W) :
    (3 * k - 1) * W ≤ (4 * k - 2) * L := by
  obtain ⟨k', rfl⟩ : ∃ k', k = k' + 1 := ⟨k - 1, by omega⟩
  have e1 : 3 * (k' + 1) - 1 = 3 * k' + 2 := by omega
  have e2 : 4 * (k' + 1) - 2 = 4 * k' + 2 := by omega
  rw [e1, e2]
  linarith

/-! ## The heavy-bin case for every number of bins -/

/-- a bin `p + z` that exceeds `L` by more than `k·W/(4k−2)`, when `(4k−2)·L < (3k−1)·W` -/
theorem heavy_arith {k W L p z : Nat} (hk : 0 < k) (hcon : 4 * k * L + W < 3 * k * W + 2 * L)
    (hB : L + k * W / (4 * k - 2) < p + z) :
    4 * L < W + 2 * p + 2 * z ∧ W + 4 * L < 4 * p + 4 * z := by
  obtain ⟨k', rfl⟩ : ∃ k', k = k' + 1 := ⟨k - 1, by omega⟩
  have ec : 4 * (k' + 1) - 2 = 4 * k' + 2 := by omega
  rw [ec] at hB
  -- multiply everything by `4k − 2 = 4k' + 2`; `hdiv` replaces the quotient `q` by `k·W < (4k'+2)·(q + 1)`
  have hdiv : (k' + 1) * W < (4 * k' + 2) * ((k' + 1) * W / (4 * k' + 2) + 1) :=
    Nat.lt_mul_div_succ _ (by omega)
  have hA := Nat.mul_le_mul_left (4 * k' + 2) (show L + (k' + 1) * W / (4 * k' + 2) + 1 ≤ p + z by omega)
  generalize (k' + 1) * W / (4 * k' + 2) = q at hdiv hA
  constructor
  · have : (4 * k' + 2) * (4 * L) < (4 * k' + 2) * (W + 2 * p + 2 * z) := by linarith
    exact Nat.lt_of_mul_lt_mul_left this
  · have : (4 * k' + 2) * (W + 4 * L) < (4 * k' + 2) * (4 * p + 4 * z) := by linarith
    exact Nat.lt_of_mul_lt_mul_left this

section
open Prtpy.Part
variable {v : α → Nat} {Ls : List (List α)} {xs : List α} {k : Nat}

/-- The heavy-bin ("mixed") case of `Lpt.maxmin` (C08), every number of bins.  In the final state of a run on an ordered
    list let some bin `B = preB ++ [zB]` with at least two items exceed the smallest sum `L` by more than `k·W/(4k−2)`,
    and let the `(k+1)`-th value be `≤ L/2`.  Then the exact bound holds.  Seen from `B` (`Lpt.split_of_mem`) every bin
    is a group of items `≥ zB` followed by nothing, by one item, or by "sand" (items `≤ δ = L − sum preB`, of total
    `≤ 2δ`); with the mixed weight `Phi` every LPT bin weighs `≤ 3·D`, a bin of smallest sum `< 3·D`, every covered
    bin `≥ 3·D` (`phi_bin`, `Phi_cover`, `Lpt.weight_count`). -/
theorem _root_.Prtpy.LPT43.Lpt.mixed_all (hk : 0 < k) (hr : Lpt v (List.replicate k []) xs Ls)
    (hS : xs.Pairwise (fun a c => v c ≤ v a)) {W : Nat} (hc : Covers W k (xs.map v))
    (hy : 2 * (xs.map v).getD k 0 ≤ lmin v Ls)
    (hbig : ∃ l ∈ Ls, 2 ≤ l.length ∧ lmin v Ls + k * W / (4 * k - 2) < binSum v l) :
    3 * k * W + 2 * lmin v Ls ≤ 4 * k * lmin v Ls + W := by
  apply Classical.byContradiction
  intro hcon
  obtain ⟨lB, hlB, hlen2, hBbig⟩ := hbig
  have hBne : lB ≠ [] := by intro h0; rw [h0] at hlen2; simp at hlen2
  obtain ⟨preB, zB, rfl⟩ : ∃ preB zB, lB = preB ++ [zB] :=
    ⟨_, _, (List.dropLast_append_getLast hBne).symm⟩
  obtain ⟨pfB, tlB, -⟩ := hr.bin_invariants hk hS hlB
  have hpB := pfB preB.length (by simp)
  rw [List.take_left' rfl] at hpB
  have hzB2 : 2 * v zB ≤ lmin v Ls := by
    have hzBtail : zB ∈ (preB ++ [zB]).tail := by
      cases preB with
      | nil => simp at hlen2
      | cons a q => simp
    have := tlB zB hzBtail
    omega
  rw [Part.binSum_concat] at hBbig
  obtain ⟨h1, h2⟩ := heavy_arith hk (Nat.lt_of_not_le hcon) hBbig
  obtain ⟨δ, hδ⟩ : ∃ δ, binSum v preB + δ = lmin v Ls := ⟨_, Nat.add_sub_of_le hpB⟩
  refine hr.weight_count (fun a => Phi (4 * δ) (8 * δ + 1) (4 * W - (8 * δ + 1)) (4 * a))
    (c := 3 * (8 * δ + 1)) hk (SplitInto.mono ?_ hc) ?_
  · intro g hg
    have h8 : 8 * δ < W := by omega
    rw [← Part.binSum_map]
    refine Phi_cover (by omega) (by omega) _ ?_
    rw [Scale.sumL_map_mul]
    exact Nat.mul_le_mul_left _ hg
  · intro l hl
    obtain ⟨pf, tl, so⟩ := hr.bin_invariants hk hS hl
    rw [← Part.binSum_map, List.map_map]
    exact phi_bin preB zB hδ h1 h2 hzB2 l (hr.split_of_mem hS hlB hl) pf
      (fun c hc => by have := tl c hc; omega) so

/-- **The exact constant `(3k−1)/(4k−2)` for every number of bins**, for every run of the LPT rule (ties open) on an
    ordered list against any `Covers W k`.  Induction on `k`: the first pair is closed and is peeled (`Lpt.peel`), or
    every bin with at least two items is within `k·W/(4k−2)` of the smallest sum (the *certificate*) and the spread bound
    gives the claim, or some bin is heavy (`Lpt.mixed_all`). -/
theorem _root_.Prtpy.LPT43.Lpt.maxmin (k : Nat) (hk : 0 < k) {xs : List α} {Ls : List (List α)}
    (hr : Lpt v (List.replicate k []) xs Ls) (hS : xs.Pairwise (fun a c => v c ≤ v a)) (W : Nat)
    (hc : Covers W k (xs.map v)) : 3 * k * W + 2 * lmin v Ls ≤ 4 * k * lmin v Ls + W := by
  induction k generalizing xs Ls with
  | zero => omega
  | succ k' ihk =>
    by_cases hk' : k' = 0
    · subst hk'
      have hsp := hr.spread_bound hk hS hc
      simp only [Nat.zero_add, Nat.one_mul, Nat.mul_one] at hsp ⊢
      omega
    have hk'pos : 0 < k' := Nat.pos_of_ne_zero hk'
    by_cases hy : lmin v Ls < 2 * (xs.map v).getD (k' + 1) 0
    · obtain ⟨ys, Ls', hsub, hr', hL', hc'⟩ := hr.peel hk'pos hS hy hc
      have key := ihk hk'pos hr' (hS.sublist hsub) hc'
      rw [hL'] at key
      exact maxmin_step hk'pos key
    by_cases hcert : ∀ l ∈ Ls, l.length ≤ 1 ∨ binSum v l ≤ lmin v Ls + (k' + 1) * W / (4 * (k' + 1) - 2)
    · exact maxmin_of_spread hk (hr.spread_of_inv hk hc _ hcert)
        (by rw [Nat.mul_comm]; exact Nat.div_mul_le_self _ _)
    · simp only [not_forall, not_or, Nat.not_le] at hcert
      obtain ⟨lB, hlB, hlen2, hBbig⟩ := hcert
      exact hr.mixed_all hk hS hc (by omega) ⟨lB, hlB, by omega, hBbig⟩

end

/-- `Lpt.mixed_all` for the loop `run` -/
theorem mixed_all {v : α → Nat} {k : Nat} (hk : 0 < k) {xs : List α}
    (hS : xs.Pairwise (fun a c => v c ≤ v a)) {W : Nat} (Q : List (List Nat)) (hQk : Q.length = k)
    (hQp : Q.flatten.Perm (xs.map v)) (hQ : ∀ l ∈ Q, W ≤ sumL l)
    (hy : 2 * (xs.map v).getD k 0 ≤ minL (run v k xs).sums)
    (hbig : ∃ l ∈ (run v k xs).lists, 2 ≤ l.length ∧
      minL (run v k xs).sums + k * W / (4 * k - 2) < binSum v l) :
    3 * k * W + 2 * minL (run v k xs).sums ≤ 4 * k * minL (run v k xs).sums + W := by
  rw [run_lmin v hk] at hy hbig ⊢
  exact (run_lpt v hk xs).mixed_all hk hS ⟨Q, hQk, hQp, hQ⟩ hy hbig

/-! ## The theorem -/

/-- `Lpt.maxmin` for the loop `run` (the cover given by its bins `Q`) -/
theorem run_maxmin {v : α → Nat} (k : Nat) (hk : 0 < k) (xs : List α)
    (hS : xs.Pairwise (fun a c => v c ≤ v a)) (W : Nat) (Q : List (List Nat)) (hQk : Q.length = k)
    (hQp : Q.flatten.Perm (xs.map v)) (hQ : ∀ l ∈ Q, W ≤ sumL l) :
    3 * k * W + 2 * minL (run v k xs).sums ≤ 4 * k * minL (run v k xs).sums + W := by
  rw [run_lmin v hk]
  exact (run_lpt v hk xs).maxmin k hk hS W ⟨Q, hQk, hQp, hQ⟩

/-- **C08 (Csirik–Kellerer–Woeginger 1992): LPT's smallest bin sum is at least `(3k−1)/(4k−2)` of the optimal
    smallest sum, for every number of bins.** -/
theorem greedy_maxmin {v : α → Nat} {k : Nat} {items : List α} (hk : 0 < k) {opt : Nat}
    (hopt : IsOptimalValue .maxSmallest k (items.map v) (-(opt : Int))) :
    (3 * k - 1) * opt ≤ (4 * k - 2) * minL (greedy v k items).sums := by
  obtain ⟨W, hW, Q, hQk, hQp, hQ⟩ := cover_of_opt hopt
  have hW' : W = opt := by exact_mod_cast hW
  subst hW'
  rw [greedy_eq_run]
  exact maxmin_final hk (run_maxmin k hk (sortDesc v items) (Part.sortDesc_sorted v items) W Q hQk
    (hQp.trans ((Part.sortDesc_perm v items).map v).symm) hQ)

/-- `greedy_maxmin` for five bins: `14/18` -/
theorem greedy_maxmin_five {v : α → Nat} {items : List α} {opt : Nat}
    (hopt : IsOptimalValue .maxSmallest 5 (items.map v) (-(opt : Int))) :
    14 * opt ≤ 18 * minL (greedy v 5 items).sums :=
  greedy_maxmin (k := 5) (by decide) hopt

/-- `greedy_maxmin` for six bins: `17/22` -/
theorem greedy_maxmin_six {v : α → Nat} {items : List α} {opt : Nat}
    (hopt : IsOptimalValue .maxSmallest 6 (items.map v) (-(opt : Int))) :
    17 * opt ≤ 22 * minL (greedy v 6 items).sums :=
  greedy_maxmin (k := 6) (by decide) hopt

/-- the theorem with `k = k' + 1`, where the constants need no subtraction -/
theorem greedy_maxmin_succ {v : α → Nat} {k' : Nat} {items : List α} {opt : Nat}
    (hopt : IsOptimalValue .maxSmallest (k' + 1) (items.map v) (-(opt : Int))) :
    (3 * k' + 2) * opt ≤ (4 * k' + 2) * minL (greedy v (k' + 1) items).sums := by
  have key := greedy_maxmin (Nat.succ_pos k') hopt
  have e1 : 3 * (k' + 1) - 1 = 3 * k' + 2 := by omega
  have e2 : 4 * (k' + 1) - 2 = 4 * k' + 2 := by omega
  rwa [e1, e2] at key

/-- a ratio `a/b` implies every smaller ratio `c/d` (`c·b ≤ d·a`) -/
theorem ratio_weaken {a b c d W L : Nat} (ha : 0 < a) (h : a * W ≤ b * L) (hc : c * b ≤ d * a) :
    c * W ≤ d * L := by
  have h1 : a * (c * W) ≤ a * (d * L) :=
    calc a * (c * W) = c * (a * W) := Nat.mul_left_comm a c W
      _ ≤ c * (b * L) := Nat.mul_le_mul_left c h
      _ = c * b * L := (Nat.mul_assoc c b L).symm
      _ ≤ d * a * L := Nat.mul_le_mul_right L hc
      _ = a * (d * L) := by rw [Nat.mul_comm d a, Nat.mul_assoc]
  exact Nat.le_of_mul_le_mul_left h1 ha

/-- C08, max-min: the weaker ratio `3/4` for every number of bins (Deuermeyer–Friesen–Langston 1982). -/
theorem greedy_maxmin_partial_three_quarters_all {v : α → Nat} {k : Nat} {items : List α} (hk : 0 < k)
    {opt : Nat} (hopt : IsOptimalValue .maxSmallest k (items.map v) (-(opt : Int))) :
    3 * opt ≤ 4 * minL (greedy v k items).sums := by
  obtain ⟨k', rfl⟩ : ∃ k', k = k' + 1 := ⟨k - 1, by omega⟩
  exact ratio_weaken (by omega) (greedy_maxmin_succ hopt) (by omega)

/-! ## Instances -/

/-- the optimum of an instance in the heavy-bin case of the proof (`Lpt.mixed_all`; figures by hand, the example after it
    only applies `greedy_maxmin_five`), five bins: `[8,8,8,5,5,4,4,4,4,2,2]`, optimum
    `{8,2}, {8,2}, {8,4}, {5,5}, {4,4,4}` with smallest sum `10` (the total is `54 < 5·11`).  LPT builds
    `[8,4], [8,4], [8,2], [5,4,2], [5,4]`: smallest sum `L = 9`, the sixth value is `4` and `2·4 ≤ 9`, and the bin
    `[8,4]` exceeds `9` by `3 > 5·10/18` -/
theorem optmin_k5_mixed :
    IsOptimalValue .maxSmallest 5 ([8, 8, 8, 5, 5, 4, 4, 4, 4, 2, 2].map id) (-((10 : Nat) : Int)) :=
  isOptimalMin_of_total (asg := [0, 1, 2, 3, 3, 2, 4, 4, 4, 0, 1]) ⟨rfl, by decide⟩ (by decide) (by decide)

example : 14 * 10 ≤ 18 * minL (greedy id 5 [8, 8, 8, 5, 5, 4, 4, 4, 4, 2, 2]).sums :=
  greedy_maxmin_five (v := id) optmin_k5_mixed

/-- tightness for six bins: `[11,11,10,10,9,9,8,8,7,7,6,6,6,6,6,6,6]`: the optimum
    `{11,11}, {10,6,6}, {10,6,6}, {9,7,6}, {9,7,6}, {8,8,6}` has smallest sum `22`, LPT's smallest sum is `17`:
    `17·22 = 22·17` -/
theorem optmin_k6_tight :
    IsOptimalValue .maxSmallest 6 ([11, 11, 10, 10, 9, 9, 8, 8, 7, 7, 6, 6, 6, 6, 6, 6, 6].map id)
      (-((22 : Nat) : Int)) :=
  isOptimalMin_of_total (asg := [0, 0, 1, 2, 3, 4, 5, 5, 3, 4, 1, 1, 2, 2, 3, 4, 5]) ⟨rfl, by decide⟩ (by decide) (by decide)

example : (3 * 6 - 1) * 22 ≤
    (4 * 6 - 2) * minL (greedy id 6 [11, 11, 10, 10, 9, 9, 8, 8, 7, 7, 6, 6, 6, 6, 6, 6, 6]).sums :=
  greedy_maxmin (v := id) (by decide) optmin_k6_tight
example : 17 * 22 = 22 * minL (greedy id 6 [11, 11, 10, 10, 9, 9, 8, 8, 7, 7, 6, 6, 6, 6, 6, 6, 6]).sums := by
  decide

end Prtpy.MaxMin5
