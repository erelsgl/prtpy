/-
  PrtpyProofs.MultiFit — property C08: what every ratio of `multifit` rests on.

  The search of `multifit` halves an interval whose lower end is the initial one or a capacity at which
  first-fit-decreasing fails (`multifit_search_invariant`); the initial interval is not longer than `OPT`
  (`multifit_lo_bound`).  So if first-fit-decreasing fits for every capacity `≥ ρ·OPT` (`FfdFits ρ`), multifit stays
  below `(ρ + 2^−it)·OPT`: `multifit_ratio_of_ffdFits`.  `FfdFits ρ` in turn follows from a statement about natural
  capacities and the fold of `ffStep` (`ffdFits_of_fold_fits`; both steps: `multifit_ratio_of_fold_fits`).  The first
  instance needs nothing about the order of the items: two bins of an any-fit packing together exceed the capacity,
  which gives `ρ = 2k/(k+1)` (`multifit_ratio_anyfit`).  The ratios `(5k−2)/(4k−1)`, `5/4`, `4/3` are in
  PrtpyProofs.MultiFit122, `61/50` for few bins in PrtpyProofs.MultiFit122C.

  The last two sections have the tools with which PrtpyProofs.MultiFit122 analyses a first-fit-decreasing packing: the
  shape `FFDInv` of a first-fit packing of a non-increasing sequence and domination between schedules
  (`packable_of_dom`).
  Of Fit.lean it uses the run as a fold of `ffStep` (`Fit.ffOnline_ok_iff`, `Fit.ff_inv_foldl`), of Part.lean the
  search (`multifitSearch_spec`), of Feasible.lean the closure properties of `Packable`.

  There is no namespace `Prtpy.MultiFit`: `lean/theorems.json` names `Prtpy.MaxMin.multifit_ratio_of_ffdFits`,
  `multifit_search_invariant`, `multifit_lo_bound`, and DESIGN.md `Prtpy.MultiFit122.ffdFits_of_fold_fits`, so the
  declarations stand in `Prtpy.MaxMin` and `Prtpy.MultiFit122`; the tools of the last section in `Prtpy.MaxMin2`,
  the namespace of `multifit_ratio_five_fourths`, which they serve.  In MultiFit.lean and MultiFit122*.lean `MaxMin`
  and `MaxMin2` are namespaces of multifit results (multifit minimises the largest sum); they have nothing to do with
  MaxMin.lean, MaxMin3–5.lean (the max-min guarantee of LPT), which use `Prtpy.MaxMin` too.
-/
import Mathlib.Data.List.Perm.Basic
import Mathlib.Tactic.Linarith
import Mathlib.Tactic.Ring
import Mathlib.Tactic.Positivity
import PrtpyProofs.Part
import PrtpyProofs.Fit
import PrtpyProofs.Feasible
open Prtpy

namespace Prtpy.MaxMin
open Prtpy.LPT43

variable {α : Type}

/-! ## The binary search of `multifit` -/

section Multifit
variable (v : α → Nat)

/-- first-fit (on the list `xs`, as given) with capacity `c` needs at most `k` bins -/
def Fits (k : Nat) (xs : List α) (c : Rat) : Prop := ∃ n, ffCount v c xs = .ok n ∧ n ≤ k

/-- first-fit with capacity `c` runs and needs more than `k` bins -/
def Fails (k : Nat) (xs : List α) (c : Rat) : Prop := ∃ n, ffCount v c xs = .ok n ∧ k < n

theorem not_fits_of_fails {k : Nat} {xs : List α} {c : Rat} (h : Fails v k xs c) : ¬ Fits v k xs c := by
  rintro ⟨n, hn, hle⟩
  obtain ⟨n', hn', hlt⟩ := h
  rw [hn] at hn'
  cases hn'
  omega

/-- C08, the invariant of the binary search.  If the search started at `(lo, hi)` returns `cap` after `it`
    iterations, then `cap` is the upper end of an interval `[lo', cap]` with
    * `cap − lo' = (hi − lo) / 2^it` (the interval is halved in every iteration),
    * `lo ≤ lo' ≤ cap ≤ hi` (if `lo ≤ hi`),
    * `lo'` is the initial lower bound or a capacity at which first-fit needs more than `k` bins,
    * `cap` is the initial upper bound or a capacity at which first-fit needs at most `k` bins. -/
theorem multifit_search_invariant (k : Nat) (xs : List α) :
    ∀ (it : Nat) (lo hi cap : Rat), multifitSearch v k xs it lo hi = .ok cap →
      ∃ lo' : Rat, cap - lo' = (hi - lo) / 2 ^ it ∧ (lo ≤ hi → lo ≤ lo' ∧ lo' ≤ cap ∧ cap ≤ hi) ∧
        (lo' = lo ∨ Fails v k xs lo') ∧ (cap = hi ∨ Fits v k xs cap) := by
  intro it
  induction it with
  | zero =>
    intro lo hi cap h
    simp only [multifitSearch] at h
    cases h
    exact ⟨lo, by simp, fun hle => ⟨le_refl _, hle, le_refl _⟩, Or.inl rfl, Or.inl rfl⟩
  | succ it ih =>
    intro lo hi cap h
    simp only [multifitSearch] at h
    split at h
    · cases h
    · rename_i n hc
      split at h
      · rename_i hn
        obtain ⟨lo', h1, h2, h3, h4⟩ := ih lo _ cap h
        refine ⟨lo', ?_, ?_, h3, ?_⟩
        · rw [h1, pow_succ]; ring
        · intro hle
          obtain ⟨a1, a2, a3⟩ := h2 (by linarith)
          exact ⟨a1, a2, by linarith⟩
        · rcases h4 with h4 | h4
          · right; rw [h4]; exact ⟨n, hc, hn⟩
          · exact Or.inr h4
      · rename_i hn
        obtain ⟨lo', h1, h2, h3, h4⟩ := ih _ hi cap h
        refine ⟨lo', ?_, ?_, ?_, h4⟩
        · rw [h1, pow_succ]; ring
        · intro hle
          obtain ⟨a1, a2, a3⟩ := h2 (by linarith)
          exact ⟨by linarith, a2, a3⟩
        · rcases h3 with h3 | h3
          · right; rw [h3]; exact ⟨n, hc, by omega⟩
          · exact Or.inr h3

theorem ratMax_bounds {s m T : Rat} (hs0 : 0 ≤ s) (hs : s ≤ T) (hm : m ≤ T) :
    ratMax s m ≤ T ∧ ratMax (2 * s) m - ratMax s m ≤ T ∧ ratMax s m ≤ ratMax (2 * s) m := by
  unfold ratMax
  refine ⟨?_, ?_, ?_⟩ <;> (repeat' split) <;> linarith

/-- C08, the initial bounds.  The initial lower bound `max (total/k) (largest)` is at most the optimal largest
    sum, and the initial interval is not longer than the optimal largest sum. -/
theorem multifit_lo_bound {k : Nat} (hk : 0 < k) {items : List α} {opt : Int}
    (hopt : IsOptimalValue .minLargest k (items.map v) opt) :
    ratMax (((sumL (items.map v) : Nat) : Rat) / k) ((maxL (items.map v) : Nat) : Rat) ≤ (opt : Rat) ∧
    ratMax (2 * ((sumL (items.map v) : Nat) : Rat) / k) ((maxL (items.map v) : Nat) : Rat) -
      ratMax (((sumL (items.map v) : Nat) : Rat) / k) ((maxL (items.map v) : Nat) : Rat) ≤ (opt : Rat) ∧
    ratMax (((sumL (items.map v) : Nat) : Rat) / k) ((maxL (items.map v) : Nat) : Rat) ≤
      ratMax (2 * ((sumL (items.map v) : Nat) : Rat) / k) ((maxL (items.map v) : Nat) : Rat) := by
  obtain ⟨T, rfl, hp⟩ := packable_of_opt hopt
  have hS := Fit.packing_lower_bound hp
  have hM : maxL (items.map v) ≤ T := Part.maxL_le (fun a ha => packable_item_le hp ha)
  have hk' : (0 : Rat) < k := by exact_mod_cast hk
  have hSq : ((sumL (items.map v) : Nat) : Rat) / k ≤ (T : Rat) := by
    rw [div_le_iff₀ hk']
    exact_mod_cast (by rw [Nat.mul_comm] at hS; exact hS)
  have hMq : ((maxL (items.map v) : Nat) : Rat) ≤ (T : Rat) := by exact_mod_cast hM
  have hS0 : (0 : Rat) ≤ ((sumL (items.map v) : Nat) : Rat) / k := by positivity
  have e2 : 2 * ((sumL (items.map v) : Nat) : Rat) / k = 2 * (((sumL (items.map v) : Nat) : Rat) / k) := by ring
  rw [e2, Int.cast_natCast]
  exact ratMax_bounds hS0 hSq hMq

/-- `FfdFits ρ`: first-fit on the list `xs` fits into `k` bins for every capacity `c ≥ ρ · OPT`.
    (For `xs` sorted decreasingly and `ρ = 1.22` this is the theorem of Coffman, Garey and Johnson; it is proved
    for `k ≤ 11` only: `MultiFit122C.ffdFits_122_k11`.) -/
def FfdFits (k : Nat) (xs : List α) (ρ opt : Rat) : Prop := ∀ c : Rat, ρ * opt ≤ c → Fits v k xs c

/-- **C08: multifit, conditional ratio.**  If first-fit-decreasing fits into `k` bins for every capacity
    `≥ ρ · OPT` (`ρ ≥ 1`), the largest sum of multifit with `it` iterations is at most `(ρ + 2^−it) · OPT`.

    The lower end of the search interval only moves to capacities at which first-fit-decreasing fails, which by
    the hypothesis are below `ρ · OPT`; the interval has length `(hi₀ − lo₀) / 2^it ≤ OPT / 2^it`. -/
theorem multifit_ratio_of_ffdFits {k : Nat} {items : List α} {it : Nat} {b : Bins α} (hk : 0 < k) {opt : Int}
    (hopt : IsOptimalValue .minLargest k (items.map v) opt) {ρ : Rat} (hρ : 1 ≤ ρ)
    (hfit : FfdFits v k (sortDesc v items) ρ opt) (h : multifit v k items it = .ok b) :
    ((maxL b.sums : Nat) : Rat) ≤ (ρ + 1 / 2 ^ it) * opt := by
  obtain ⟨hlo, hlen, hle⟩ := multifit_lo_bound v hk hopt
  have hlo0 : (0 : Rat) ≤ ratMax (((sumL (items.map v) : Nat) : Rat) / k)
      ((maxL (items.map v) : Nat) : Rat) :=
    le_trans (by positivity) (Part.ratMax_right _ _)
  simp only [multifit] at h
  split at h
  · cases h
  · rename_i cap e
    generalize ratMax (((sumL (items.map v) : Nat) : Rat) / k) ((maxL (items.map v) : Nat) : Rat) = lo₀ at *
    generalize ratMax (2 * ((sumL (items.map v) : Nat) : Rat) / k) ((maxL (items.map v) : Nat) : Rat) = hi₀ at *
    obtain ⟨lo', h1, h2, h3, _⟩ := multifit_search_invariant v k _ it _ _ cap e
    obtain ⟨a1, a2, a3⟩ := h2 hle
    have hopt0 : (0 : Rat) ≤ (opt : Rat) := le_trans hlo0 hlo
    have hlo' : lo' ≤ ρ * opt := by
      rcases h3 with h3 | h3
      · rw [h3]
        exact le_trans hlo (le_mul_of_one_le_left hopt0 hρ)
      · apply le_of_lt
        apply lt_of_not_ge
        intro hge
        exact not_fits_of_fails v h3 (hfit lo' hge)
    have hpow : (0 : Rat) < 2 ^ it := by positivity
    have hdiv : (hi₀ - lo₀) / 2 ^ it ≤ (opt : Rat) / 2 ^ it := by
      rw [div_le_div_iff_of_pos_right hpow]; exact hlen
    have hmax : maxL b.sums ≤ floorNat cap := Part.maxL_le (Part.ffOnline_le v _ b h)
    have hq1 : ((maxL b.sums : Nat) : Rat) ≤ ((floorNat cap : Nat) : Rat) := by exact_mod_cast hmax
    have hq2 := Part.floorNat_le cap (by linarith)
    have e1 : (ρ + 1 / 2 ^ it) * (opt : Rat) = ρ * opt + (opt : Rat) / 2 ^ it := by ring
    rw [e1]
    linarith

end Multifit

end Prtpy.MaxMin

/-! ## From natural capacities to `FfdFits` -/

namespace Prtpy.MultiFit122
open Prtpy.LPT43 Prtpy.MaxMin

variable {α : Type}

section Ratios
variable (v : α → Nat)

/-- If first-fit-decreasing fits into `k` bins for all natural capacities `B ≥ T = OPT` with `p·T < q·(B + 1)`, then
    `FfdFits ρ` holds for every `ρ ≥ p/q` (a rational capacity `c ≥ ρ·T` is used as `⌊c⌋`, and `p·T < q·(⌊c⌋ + 1)`). -/
theorem ffdFits_of_fold_fits {k : Nat} {items : List α} {opt : Int}
    (hopt : IsOptimalValue .minLargest k (items.map v) opt) {ρ : Rat} {p q : Nat} (hq : 0 < q) (hpq : q ≤ p)
    (hρ : (p : Rat) / (q : Rat) ≤ ρ)
    (hfit : ∀ T B : Nat, opt = (T : Int) → Packable T k ((sortDesc v items).map v) → T ≤ B →
      p * T < q * (B + 1) → (∀ x ∈ sortDesc v items, v x ≤ B) →
      ((sortDesc v items).foldl (ffStep v B) (Bins.new 1)).lists.length ≤ k) :
    FfdFits v k (sortDesc v items) ρ opt := by
  obtain ⟨T, rfl, hp⟩ := packable_of_opt hopt
  have hp' := packable_sortDesc hp
  have hM : ∀ x ∈ sortDesc v items, v x ≤ T :=
    fun x hx => packable_item_le hp' (List.mem_map_of_mem hx)
  intro c hc
  have hT0 : (0 : Rat) ≤ (T : Rat) := Nat.cast_nonneg T
  have h1 : (1 : Rat) ≤ (p : Rat) / (q : Rat) :=
    (one_le_div (by exact_mod_cast hq)).2 (by exact_mod_cast hpq)
  have hc' : (p : Rat) / (q : Rat) * (T : Rat) ≤ c :=
    le_trans (mul_le_mul_of_nonneg_right hρ hT0) (by push_cast at hc; exact hc)
  have hTc : (T : Rat) ≤ c := le_trans (le_mul_of_one_le_left hT0 h1) hc'
  obtain ⟨b', e', ⟨_, q2, _⟩, _⟩ := Part.ffOnline_of_cap v (sortDesc v items) hM c hTc
  refine ⟨b'.sums.length, by simp only [ffCount, e']; rfl, ?_⟩
  rw [Part.consistent_length v q2]
  have hB : p * T < q * (floorNat c + 1) :=
    Part.lt_floorNat_succ (p * T) q c hq (by rw [Nat.cast_mul, mul_div_right_comm]; exact hc')
  obtain ⟨hall, rfl⟩ := Fit.ffOnline_ok_iff.1 e'
  exact hfit T (floorNat c) rfl hp' (Part.le_floorNat T c hTc) hB hall

/-- `ffdFits_of_fold_fits`, then `multifit_ratio_of_ffdFits`: from the fold at natural capacities to the ratio
    `ρ + 2^−it` of multifit, for `ρ ≥ p/q ≥ 1` -/
theorem multifit_ratio_of_fold_fits {k : Nat} {items : List α} {it : Nat} {b : Bins α} (hk : 0 < k) {opt : Int}
    (hopt : IsOptimalValue .minLargest k (items.map v) opt) {ρ : Rat} {p q : Nat} (hq : 0 < q) (hpq : q ≤ p)
    (hρ : (p : Rat) / (q : Rat) ≤ ρ)
    (hfit : ∀ T B : Nat, opt = (T : Int) → Packable T k ((sortDesc v items).map v) → T ≤ B →
      p * T < q * (B + 1) → (∀ x ∈ sortDesc v items, v x ≤ B) →
      ((sortDesc v items).foldl (ffStep v B) (Bins.new 1)).lists.length ≤ k)
    (h : multifit v k items it = .ok b) : ((maxL b.sums : Nat) : Rat) ≤ (ρ + 1 / 2 ^ it) * opt :=
  multifit_ratio_of_ffdFits v hk hopt
    (le_trans ((one_le_div (by exact_mod_cast hq)).2 (by exact_mod_cast hpq)) hρ)
    (ffdFits_of_fold_fits v hopt hq hpq hρ hfit) h

end Ratios

end Prtpy.MultiFit122

/-! ## Any-fit: `2k/(k+1)` -/

namespace Prtpy.MaxMin
open Prtpy.LPT43 Prtpy.MultiFit122

variable {α : Type}

section Multifit
variable (v : α → Nat)

/-- First-fit with capacity `B`, `2k·T < (k+1)·(B+1)`, fits into `k` bins whatever the order of the items: two
    bins together exceed `B`, so `k + 1` bins would hold more than `k·T`. -/
theorem ffd_fold_fits_anyfit {k : Nat} (hk : 0 < k) {T B : Nat} (hB : 2 * k * T < (k + 1) * (B + 1)) (xs : List α)
    (hp : Packable T k (xs.map v)) (hall : ∀ x ∈ xs, v x ≤ B) :
    (xs.foldl (ffStep v B) (Bins.new 1)).lists.length ≤ k := by
  have hinv := Fit.ff_inv_foldl (v := v) hall
  apply Nat.le_of_not_lt
  intro hlt
  have h1 := Fit.anyfit_two_total hinv.isPacking hinv.af (by omega)
  have hS : binSum v xs ≤ k * T := Fit.packing_lower_bound hp
  have h2 := Nat.mul_le_mul_right (B + 1) (show k + 1 ≤ _ from hlt)
  rw [Nat.mul_assoc] at hB
  omega

theorem ffdFits_anyfit {k : Nat} (hk : 0 < k) {items : List α} {opt : Int}
    (hopt : IsOptimalValue .minLargest k (items.map v) opt) {ρ : Rat} (hρ : 2 * (k : Rat) ≤ ρ * (k + 1)) :
    FfdFits v k (sortDesc v items) ρ opt := by
  have hk2 : (0 : Rat) < ((k + 1 : Nat) : Rat) := by positivity
  refine ffdFits_of_fold_fits v hopt (p := 2 * k) (q := k + 1) (by omega) (by omega) ?_
    fun T B _ hp _ hB hall => ffd_fold_fits_anyfit v hk hB _ hp hall
  rw [div_le_iff₀ hk2]
  push_cast
  exact hρ

/-- Multifit, from any-fit alone: `2k/(k+1) + 2^−it` (for `k ≥ 2` weaker than `MultiFit122.multifit_ratio_k`, which
    uses the order of the items). -/
theorem multifit_ratio_anyfit {k : Nat} {items : List α} {it : Nat} {b : Bins α} (hk : 0 < k) {opt : Int}
    (hopt : IsOptimalValue .minLargest k (items.map v) opt) (h : multifit v k items it = .ok b) :
    ((maxL b.sums : Nat) : Rat) ≤ (2 * k / (k + 1) + 1 / 2 ^ it) * opt := by
  have hk1 : (1 : Rat) ≤ (k : Rat) := by exact_mod_cast hk
  have hk2 : (0 : Rat) < (k : Rat) + 1 := by positivity
  refine multifit_ratio_of_ffdFits v hk hopt ?_ (ffdFits_anyfit v hk hopt ?_) h
  · rw [le_div_iff₀ hk2]; linarith
  · rw [div_mul_cancel₀ _ (ne_of_gt hk2)]

/-! ### non-vacuity (`[3, 3, 2, 2, 2]` on two bins, optimal largest sum `6`, see `LPT43.opt_33222`) -/

example : ∃ cap lo' : Rat, multifitSearch id 2 (sortDesc id [3, 3, 2, 2, 2]) 5 6 12 = .ok cap ∧
    cap - lo' = (12 - 6) / 2 ^ 5 ∧ (lo' = 6 ∨ Fails id 2 (sortDesc id [3, 3, 2, 2, 2]) lo') := by
  obtain ⟨cap, e, _⟩ := Part.multifitSearch_spec id (M := 3) 2 (sortDesc id [3, 3, 2, 2, 2]) (by decide)
    (fun _ => True) (fun _ _ _ _ _ => trivial) 5 6 12 (by norm_num) (by norm_num) trivial
  obtain ⟨lo', h1, _, h3, _⟩ := multifit_search_invariant id 2 _ 5 6 12 cap e
  exact ⟨cap, lo', e, h1, h3⟩

example : ratMax (((sumL ([3, 3, 2, 2, 2].map id) : Nat) : Rat) / (2 : Nat))
    ((maxL ([3, 3, 2, 2, 2].map id) : Nat) : Rat) ≤ ((6 : Int) : Rat) :=
  (multifit_lo_bound id (k := 2) (by decide) opt_33222).1

example : ∃ b, multifit id 2 [3, 3, 2, 2, 2] 10 = .ok b ∧
    ((maxL b.sums : Nat) : Rat) ≤ (2 * (2 : Nat) / ((2 : Nat) + 1) + 1 / 2 ^ 10) * ((6 : Int) : Rat) := by
  obtain ⟨b, h, _⟩ := Part.multifit_perm (v := id) (k := 2) (items := [3, 3, 2, 2, 2]) (it := 10)
    (by decide) (by decide)
  exact ⟨b, h, multifit_ratio_anyfit id (by decide) opt_33222 h⟩

end Multifit

end Prtpy.MaxMin

/-! ## First-fit-decreasing packings: shape and domination -/

namespace Prtpy.MaxMin2
open Prtpy.LPT43

variable {α : Type}

/-- Structure of a first-fit packing of a non-increasing sequence: for bins `i ≤ j` and an item `p` of bin `j`,
    bin `i` starts with an item `f ≥ p`; and if `i < j` and `f + p ≤ B`, bin `i` holds a further item `≥ p`
    (otherwise `p` would have been put into bin `i`). -/
def FFDInv (v : α → Nat) (B : Nat) (Ls : List (List α)) : Prop :=
  ∀ (i j : Nat) (l : List α) (p : α), i ≤ j → Ls[j]? = some l → p ∈ l →
    ∃ f tl, Ls[i]? = some (f :: tl) ∧ v p ≤ v f ∧ (i < j → v f + v p ≤ B → ∃ y ∈ tl, v p ≤ v y)

/-! ## Domination between schedules

The closure properties of `Packable` it rests on (`packable_drop_left`, `packable_replace_head`) stand in
Feasible.lean; `List.Forall₂` comes from Mathlib, which Feasible.lean does without. -/

/-- the sorted case of `packable_of_dom` (the largest value of `O` is treated first, so that its partner in `L'`
    cannot be another value of `O`) -/
theorem packable_of_dom_sorted {T k : Nat} {O L' : List Nat}
    (hf : List.Forall₂ (fun o l => o ≤ l) O L') :
    O.Pairwise (fun x y => y ≤ x) → ∀ (X L'' R : List Nat), Packable T k X →
      (O ++ X).Perm (L' ++ L'' ++ R) → Packable T k R := by
  induction hf with
  | nil =>
    intro _ X L'' R hX hp
    have hp' : X.Perm (L'' ++ R) := by simpa using hp
    exact packable_drop_left (packable_perm hp' hX)
  | @cons o l O' L₁ hol _ ih =>
    intro hs X L'' R hX hp
    obtain ⟨hs1, hs2⟩ := List.pairwise_cons.1 hs
    have hp' : (o :: (O' ++ X)).Perm (l :: (L₁ ++ L'' ++ R)) := by simpa using hp
    by_cases e : o = l
    · subst e
      exact ih hs2 X L'' R hX hp'.cons_inv
    · have hl : l ∈ o :: (O' ++ X) := hp'.mem_iff.2 (by simp)
      have hlX : l ∈ X := by
        rcases List.mem_cons.1 hl with h | h
        · exact absurd h.symm e
        · rcases List.mem_append.1 h with h | h
          · have := hs1 l h; omega
          · exact h
      have pX := List.perm_cons_erase hlX
      have hX' : Packable T k (o :: X.erase l) := packable_replace_head hol (packable_perm pX hX)
      refine ih hs2 (o :: X.erase l) L'' R hX' ?_
      have h1 : (o :: (O' ++ X)).Perm (l :: (o :: (O' ++ X.erase l))) := by
        refine (List.Perm.cons o ((List.Perm.append_left O' pX).trans List.perm_middle)).trans ?_
        exact List.Perm.swap l o _
      have h2 : (o :: (O' ++ X.erase l)).Perm (L₁ ++ L'' ++ R) := (h1.symm.trans hp').cons_inv
      exact List.perm_middle.trans h2

/-- Domination.  The values `L ++ R` (`L = L' ++ L''`) are scheduled as `O ++ X`, the bins of `X` being
    feasible, and `O` is pointwise below `L'`.  Then `R` alone fits into the bins of `X`. -/
theorem packable_of_dom {T k : Nat} {O L' : List Nat} (hf : List.Forall₂ (fun o l => o ≤ l) O L')
    {X L'' R : List Nat} (hX : Packable T k X) (hp : (O ++ X).Perm (L' ++ L'' ++ R)) :
    Packable T k R := by
  have ps := Part.sortDesc_perm id O
  obtain ⟨W, hW, pW⟩ := List.perm_comp_forall₂ ps hf
  refine packable_of_dom_sorted hW (Part.sortDesc_sorted id O) X L'' R hX ?_
  exact ((ps.append_right X).trans hp).trans ((pW.symm.append_right L'').append_right R)

end Prtpy.MaxMin2
