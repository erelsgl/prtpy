/-
  PrtpyProofs.Traces — the traced runs compute the runs: `ckkFT` (Model/CKKF.lean), the traced bin completion
  (Model/BCTrace.lean), `snpT` and `rnpFT` (Model/SNPTrace.lean) return, beside the trace, exactly what `ckkF`,
  `BC.binCompletion`, `snp`, `rnpF` return; the trace (and, for `snpT` / `rnpFT`, the Python-ordered copy `shown` of
  the items that fills it) is an observer.  So what the harness compares call by call (C02, C04) is a run of the model
  the theorems speak about.  One section per model, each in the namespace of its model.
-/
import Prtpy.Model.CKKF
import Prtpy.Model.BCTrace
import Prtpy.Model.SNPTrace

/-! # Complete Karmarkar–Karp (`Prtpy.CKKF`) -/

namespace Prtpy
namespace CKKF
variable {α : Type}

theorem ckkRunFT_fst (nm : α → Nat) [BEq α] (k : Nat) (contents : Bool) :
    ∀ (fuel : Nat) (s : CkkState α) (tr : CkkTrace), (ckkRunFT nm k contents fuel s tr).1 = ckkRunF nm k contents fuel s := by
  intro fuel
  induction fuel with
  | zero => intro s tr; rfl
  | succ n ih =>
    intro s tr
    unfold ckkRunFT ckkRunF
    split
    · rfl
    · exact ih _ _

/-- dropping the trace gives the modelled `optimal`, so its results (C02) hold for the traced run -/
theorem ckkFT_fst (v nm : α → Nat) [BEq α] (k : Nat) (contents : Bool) (items : List α) (fuel : Nat) :
    (ckkFT v nm k contents items fuel).1 = ckkF v nm k contents items fuel := by
  simp only [ckkFT, ckkF, ckkRunFT_fst]

/-- three bins, five items: the search pops 17 heaps -/
example : (ckkFT id id 3 false [4, 5, 6, 7, 8] 1000).2.length = 17 := by decide +kernel

end CKKF
end Prtpy

/-! # Bin completion (`Prtpy.BC`) -/

namespace Prtpy
namespace BC

theorem runBranchT_fst (B bestLen : Nat) : ∀ (fuel : Nat) (cb : Branch) (sp : List Branch) (tr : Trace),
    (runBranchT B bestLen fuel cb sp tr).1 = runBranch B bestLen fuel cb sp := by
  intro fuel
  induction fuel with
  | zero => intro cb sp tr; rfl
  | succ n ih =>
    intro cb sp tr
    obtain ⟨items, bins, idx⟩ := cb
    cases items with
    | nil => rfl
    | cons x upd =>
      simp only [runBranchT, runBranch]
      -- the two cases (no completion / some) go the same way
      cases completions x upd B <;>
      · simp only []
        split
        · rfl
        · split
          · rfl
          · exact ih _ _ _

theorem searchT_fst (B lb : Nat) : ∀ (fuel : Nat) (q : List Branch) (best : List (List Nat)) (tr : Trace),
    (searchT B lb fuel q best tr).1 = search B lb fuel q best
  | 0, _, _, _ => rfl
  | _ + 1, [], _, _ => rfl
  | n + 1, cb :: queue, best, tr => by
    rw [searchT, search]
    simp only [runBranchT_fst]
    generalize runBranch B best.length (cb.items.length + 1) cb [] = r
    generalize (if (r.1.items.isEmpty && decide (r.1.bins.length < best.length)) = true then r.1.bins
      else best) = best'
    split
    · rfl
    · exact searchT_fst B lb n _ _ _

/-- dropping the trace gives the modelled `bin_completion` -/
theorem binCompletionT_fst (B : Nat) (items : List Nat) (fuel : Nat) :
    (binCompletionT B items fuel).map (·.1) = binCompletion B items fuel := by
  unfold binCompletionT binCompletion
  by_cases h : (items.any fun x => decide (B < x)) = true
  · simp only [h, if_true]; rfl
  · simp only [h]
    cases bfDecreasing id B (items.filter (· != 0)) with
    | error e => rfl
    | ok bfd =>
      simp only []
      by_cases h2 : bfd.lists.length = lowerBound B (items.filter (· != 0))
      · simp only [h2, if_true]; rfl
      · simp [h2, Except.map, searchT_fst]

/-- a search that is entered, branches, and records five calls -/
example : (binCompletionT 33 [13, 13, 10, 17, 8, 5] 100).toOption =
    some ([[17, 13], [13, 10, 8], [5]], [(17, [13, 13, 10, 8, 5]), (13, [13, 8]), (8, []), (13, [10, 8, 5]), (5, [])]) := by
  decide +kernel

end BC
end Prtpy

/-! # Sequential and recursive number partitioning (`Prtpy.SNPTrace`) -/

namespace Prtpy
namespace SNPTrace
variable {α : Type}

theorem treeFoldT_fst {σ : Type} (v : α → Nat) (den : Nat) (ub : Int) (lbOf : σ → Int)
    (bodyT : σ → List α → Except Err σ × STrace) (body : σ → List α → Except Err σ)
    (h : ∀ st sub, (bodyT st sub).1 = body st sub) :
    ∀ (rest : List α) (st : σ) (cur : List α),
      (treeFoldT v den ub lbOf bodyT st cur rest).1 = treeFold v den ub lbOf body st cur rest := by
  intro rest
  induction rest with
  | nil =>
    intro st cur
    simp only [treeFoldT, treeFold]
    split
    · rfl
    · exact h _ _
  | cons x xs ih =>
    intro st cur
    simp only [treeFoldT, treeFold]
    split
    · rfl
    · rw [← ih st (cur ++ [x])]
      rcases treeFoldT v den ub lbOf bodyT st (cur ++ [x]) xs with ⟨_ | st1, tr⟩
      · rfl
      · exact ih _ _

theorem foldET_fst {σ β : Type} (fT : σ → β → Except Err σ × STrace) (f : σ → β → Except Err σ)
    (h : ∀ s x, (fT s x).1 = f s x) :
    ∀ (l : List β) (s : σ), (foldET fT s l).1 = foldE f s l := by
  intro l
  induction l with
  | nil => intro s; rfl
  | cons x xs ih =>
    intro s
    simp only [foldET, foldE]
    rw [← h s x]
    rcases fT s x with ⟨_ | s', tr⟩
    · rfl
    · exact ih _

theorem snpRecT_fst (v nm : α → Nat) [BEq α] (contents : Bool) (fuel : Nat) :
    ∀ (c : Nat) (prior best : Bins α) (items shown : List α),
      (snpRecT v nm contents fuel c prior best items shown).1 = snpRec v nm contents fuel c prior best items := by
  intro c prior best items
  induction c, prior, best, items using snpRec.induct v nm contents fuel with
  | case1 | case2 | case3 | case4 | case5 => intro _; rfl
  | case6 cur prior best items ih =>
    intro shown
    simp only [snpRecT, snpRec]
    exact treeFoldT_fst _ _ _ _ _ _ (fun b sub => ih b sub _) _ _ _

/-- dropping the trace gives the modelled `snp`, so its results (C02) hold for the traced run -/
theorem snpT_fst (v nm : α → Nat) [BEq α] (k : Nat) (contents : Bool) (items : List α) (fuel : Nat) :
    (snpT v nm k contents items fuel).1 = snp v nm k contents items fuel := by
  unfold snpT snp
  cases kk v k items with
  | error e => rfl
  | ok best =>
    simp only []
    split
    · rfl
    · exact snpRecT_fst _ _ _ _ _ _ _ _ _

theorem rnpRecFT_fst (v nm : α → Nat) [BEq α] (contents : Bool) (fuel : Nat) :
    ∀ (rf cur : Nat) (prior best : Bins α) (items shown : List α),
      (rnpRecFT v nm contents fuel rf cur prior best items shown).1 = rnpRecF v nm contents fuel rf cur prior best items := by
  intro rf
  induction rf with
  | zero => intros; rfl
  | succ rf ih =>
    intro cur prior best items shown
    simp only [rnpRecFT, rnpRecF]
    split
    · rfl
    · split
      · apply foldET_fst
        intro b sub
        rw [← ih]
        rcases rnpRecFT v nm contents fuel rf (cur - 1) _ b (findDiff items sub) (findDiffC shown sub) with ⟨_ | nb, tr⟩
        · rfl
        · rfl
      · -- the scrutinee is the expression of `rnpRecF` (Model/RNP.lean) and `rnpRecFT` (Model/SNPTrace.lean), verbatim
        rcases (if items.isEmpty = true then Except.error Err.valueError
            else ckkGen v nm 2 true items (some (spread best.sums)) fuel) with _ | tops
        · rfl
        · simp only []
          congr 1
          apply foldET_fst
          intro st top
          rw [← ih (cur / 2) prior st.1 (top.lists.getD 0 []) (top.lists.getD 0 []),
              ← ih (cur / 2) prior st.1 (top.lists.getD 1 []) (top.lists.getD 1 [])]
          rcases rnpRecFT v nm contents fuel rf (cur / 2) prior st.1 (top.lists.getD 0 []) (top.lists.getD 0 []) with ⟨_ | nb1, tr1⟩
          · rfl
          · rcases rnpRecFT v nm contents fuel rf (cur / 2) prior st.1 (top.lists.getD 1 []) (top.lists.getD 1 []) with ⟨_ | nb2, tr2⟩
            · rfl
            · rfl

/-- dropping the trace gives the modelled `rnp` (after fix F10, Model/RNP.lean); likewise C02 -/
theorem rnpFT_fst (v nm : α → Nat) [BEq α] (k : Nat) (contents : Bool) (items : List α) (fuel : Nat) :
    (rnpFT v nm k contents items fuel).1 = rnpF v nm k contents items fuel := by
  unfold rnpFT rnpF
  cases kk v k items with
  | error e => rfl
  | ok best =>
    simp only []
    split
    · rfl
    · split
      · rfl
      · exact rnpRecFT_fst _ _ _ _ _ _ _ _ _ _

end SNPTrace
end Prtpy

/-! ### computed traces -/
namespace Prtpy
namespace SNPTrace

/-- snp, 3 bins, KK's start [16,14,13] is not perfect: four calls of `ckk_optimal`; the first two subsets of the tree are
    the two 9-and-5 choices (equal values), and the items passed are in `Counter` order (the two 5s of
    `[9,6,5,5,4]` adjacent is also the order-preserving one here; the `find_diff` example below is a case where they
    differ) -/
theorem snpT_run3 :
    (snpT id id 3 true [9, 7, 7, 6, 5, 5, 4] 1000).2 =
      [.optimal [7, 7, 6, 5, 4], .optimal [7, 7, 6, 5, 4], .optimal [9, 6, 5, 5, 4], .optimal [9, 7, 7, 6]] ∧
    ((snpT id id 3 true [9, 7, 7, 6, 5, 5, 4] 1000).1.toOption.map (·.sums)) = some [14, 15, 14] := by
  decide +kernel

example : (snpT id id 3 true [9, 7, 7, 6, 5, 5, 4] 1000).2 =
    [.optimal [7, 7, 6, 5, 4], .optimal [7, 7, 6, 5, 4], .optimal [9, 6, 5, 5, 4], .optimal [9, 7, 7, 6]] :=
  snpT_run3.1

example : ((snpT id id 3 true [9, 7, 7, 6, 5, 5, 4] 1000).1.toOption.map (·.sums)) = some [14, 15, 14] :=
  snpT_run3.2

/-- `find_diff` groups equal items: after taking `[6]` out of `[4,5,4,6,1]` Python holds `[4,4,5,1]` (the untraced
    model, and the traced one in its `items` argument, hold `[4,5,4,1]`) -/
example : (snpT id id 3 true [4, 5, 4, 6, 1] 1000).2 = [.optimal [4, 4, 5, 1], .optimal [4, 4, 6]] := by
  decide +kernel

/-- snp, 4 bins: two levels of trees -/
example : (snpT id id 4 true [5, 1] 1000).2 = [.optimal [5], .optimal [5], .optimal [5, 1]] := by
  decide +kernel

/-- rnp (after F10), 4 bins, KK's start has difference 2: one call of the generator with bound 2 on all the items, then
    two calls of `ckk_optimal` for each of the four top-level splits it yields -/
theorem rnpFT_run4 :
    (rnpFT id id 4 true [2, 10, 7, 3, 3, 7, 6, 4] 1000).2 =
      [.generator [2, 10, 7, 3, 3, 7, 6, 4] 2,
       .optimal [4, 7, 10], .optimal [2, 3, 3, 6, 7], .optimal [3, 4, 7, 7], .optimal [2, 3, 6, 10],
       .optimal [3, 4, 7, 7], .optimal [2, 3, 6, 10], .optimal [2, 3, 3, 6, 7], .optimal [4, 7, 10]] ∧
    ((rnpFT id id 4 true [2, 10, 7, 3, 3, 7, 6, 4] 1000).1.toOption.map (·.sums)) = some [10, 11, 10, 11] := by
  decide +kernel

example : (rnpFT id id 4 true [2, 10, 7, 3, 3, 7, 6, 4] 1000).2 =
    [.generator [2, 10, 7, 3, 3, 7, 6, 4] 2,
     .optimal [4, 7, 10], .optimal [2, 3, 3, 6, 7], .optimal [3, 4, 7, 7], .optimal [2, 3, 6, 10],
     .optimal [3, 4, 7, 7], .optimal [2, 3, 6, 10], .optimal [2, 3, 3, 6, 7], .optimal [4, 7, 10]] :=
  rnpFT_run4.1

example : ((rnpFT id id 4 true [2, 10, 7, 3, 3, 7, 6, 4] 1000).1.toOption.map (·.sums)) = some [10, 11, 10, 11] :=
  rnpFT_run4.2

/-- rnp, 5 bins: a generator call (on the items in `Counter` order) for every subset of the tree -/
example : (rnpFT id id 5 true [3, 3] 1000).2 = [.generator [3, 3] 3, .optimal [3], .optimal [3]] := by
  decide +kernel

def errOf {β : Type} : Except Err β → Option Err
  | .error e => some e
  | .ok _ => none

/-- the call is recorded also when it raises: two bins left and nothing to put in them (`max([])` inside `optimal`),
    four bins left and nothing to put in them (the generator raises at its first `next`) -/
example : (let r := snpRecT id id true 1000 2 ⟨[], []⟩ ⟨[0, 1], [[], [1]]⟩ ([] : List Nat) []
    (errOf r.1, r.2)) = (some .valueError, [.optimal []]) := by
  decide +kernel
example : (let r := rnpRecFT id id true 1000 3 4 ⟨[], []⟩ ⟨[0, 0, 0, 1], [[], [], [], [1]]⟩ ([] : List Nat) []
    (errOf r.1, r.2)) = (some .valueError, [.generator [] 1]) := by
  decide +kernel

end SNPTrace
end Prtpy

#print axioms Prtpy.SNPTrace.snpT_fst
#print axioms Prtpy.SNPTrace.rnpFT_fst
#print axioms Prtpy.SNPTrace.snpRecT_fst
#print axioms Prtpy.SNPTrace.rnpRecFT_fst
#print axioms Prtpy.SNPTrace.treeFoldT_fst
#print axioms Prtpy.SNPTrace.foldET_fst
/- `propext` at most. -/
