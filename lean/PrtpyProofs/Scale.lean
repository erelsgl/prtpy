/-
  PrtpyProofs.Scale — C18: the heuristics commute with scaling of the values (and of the bin size) by a positive
  integer: the case `f = id` of the simulation `Sim.rs c f` of Sim.lean (`Sim.*_rs`), through `rs_id` and `scaled_id`.
  The symmetries of the specification optimum, in the same namespace, are in PrtpyProofs/SpecSym.lean.
-/
import PrtpyProofs.Sim

namespace Prtpy.Scale
open Prtpy

variable {α : Type}

/-- multiply every sum by `c`, keep the contents -/
def scaleBins (c : Nat) (b : Bins α) : Bins α := ⟨b.sums.map (c * ·), b.lists⟩

@[simp] theorem scaleBins_sums (c : Nat) (b : Bins α) : (scaleBins c b).sums = b.sums.map (c * ·) := rfl
@[simp] theorem scaleBins_lists (c : Nat) (b : Bins α) : (scaleBins c b).lists = b.lists := rfl

theorem rs_id (c : Nat) : Sim.rs c (id : α → α) = scaleBins c := by
  funext b
  simp [Sim.rs, scaleBins]

theorem scaled_id (v : α → Nat) {c : Nat} (hc : 0 < c) : Sim.Scaled c id v (fun a => c * v a) :=
  ⟨hc, fun _ => rfl⟩

theorem new_scale (c k : Nat) : scaleBins c (Bins.new k : Bins α) = Bins.new k := by
  rw [← rs_id, Sim.new_rs]

theorem binSum_scale (v : α → Nat) (c : Nat) (l : List α) : binSum (fun a => c * v a) l = c * binSum v l :=
  Part.binSum_mul_left c v l

/-! ### greedy and round-robin -/

theorem foldl_greedyStep_scale (v : α → Nat) {c : Nat} (hc : 0 < c) (xs : List α) (b : Bins α) :
    xs.foldl (greedyStep (fun a => c * v a)) (scaleBins c b) = scaleBins c (xs.foldl (greedyStep v) b) := by
  have h := Natural.foldl_natural id (Sim.rs c id) _ _
    (Sim.greedyStep_rs (scaled_id v hc)) xs b
  rwa [List.map_id, rs_id] at h

theorem greedy_scale (v : α → Nat) {c : Nat} (hc : 0 < c) (k : Nat) (items : List α) :
    greedy (fun a => c * v a) k items = scaleBins c (greedy v k items) := by
  rw [← rs_id, ← Sim.greedy_rs (scaled_id v hc), List.map_id]

example : greedy (fun a : Nat => 3 * id a) 2 [4, 5, 6, 7, 8] = scaleBins 3 (greedy id 2 [4, 5, 6, 7, 8]) :=
  greedy_scale id (by decide) 2 [4, 5, 6, 7, 8]

example : (greedy (fun a : Nat => 3 * id a) 2 [4, 5, 6, 7, 8]).sums = [51, 39] := by decide

theorem roundrobin_scale (v : α → Nat) {c : Nat} (hc : 0 < c) (k : Nat) (items : List α) :
    roundrobin (fun a => c * v a) k items = scaleBins c (roundrobin v k items) := by
  rw [← rs_id, ← Sim.roundrobin_rs (scaled_id v hc), List.map_id]

example : roundrobin (fun a : Nat => 3 * id a) 2 [4, 5, 6, 7, 8] = scaleBins 3 (roundrobin id 2 [4, 5, 6, 7, 8]) :=
  roundrobin_scale id (by decide) 2 [4, 5, 6, 7, 8]

example : (roundrobin (fun a : Nat => 3 * id a) 2 [4, 5, 6, 7, 8]).sums = [54, 36] := by decide

/-! ### first fit and best fit -/

theorem ffOnline_scale (v : α → Nat) {c : Nat} (hc : 0 < c) (B : Nat) (items : List α) :
    ffOnline (fun a => c * v a) (c * B) items = (ffOnline v B items).map (scaleBins c) := by
  have h := Sim.ffOnline_rs (scaled_id v hc) (c * B) items
  rwa [List.map_id, Nat.mul_div_cancel_left B hc, rs_id] at h

example : ffOnline (fun a : Nat => 3 * id a) (3 * 10) [4, 5, 6, 7, 8] =
    (ffOnline id 10 [4, 5, 6, 7, 8]).map (scaleBins 3) :=
  ffOnline_scale id (by decide) 10 [4, 5, 6, 7, 8]

example : (ffOnline (fun a : Nat => 3 * id a) (3 * 10) [4, 5, 6, 7, 8]).toOption.map (·.sums) =
    some [27, 18, 21, 24] := by decide

theorem ffDecreasing_scale (v : α → Nat) {c : Nat} (hc : 0 < c) (B : Nat) (items : List α) :
    ffDecreasing (fun a => c * v a) (c * B) items = (ffDecreasing v B items).map (scaleBins c) := by
  have h := Sim.ffDecreasing_rs (scaled_id v hc) (c * B) items
  rwa [List.map_id, Nat.mul_div_cancel_left B hc, rs_id] at h

example : ffDecreasing (fun a : Nat => 3 * id a) (3 * 10) [4, 5, 6, 7, 8] =
    (ffDecreasing id 10 [4, 5, 6, 7, 8]).map (scaleBins 3) :=
  ffDecreasing_scale id (by decide) 10 [4, 5, 6, 7, 8]

example : (ffDecreasing (fun a : Nat => 3 * id a) (3 * 10) [4, 5, 6, 7, 8]).toOption.map (·.sums) =
    some [24, 21, 30, 15] := by decide

theorem bfOnline_scale (v : α → Nat) {c : Nat} (hc : 0 < c) (B : Nat) (items : List α) :
    bfOnline (fun a => c * v a) (c * B) items = (bfOnline v B items).map (scaleBins c) := by
  have h := Sim.bfOnline_rs (scaled_id v hc) (c * B) items
  rwa [List.map_id, Nat.mul_div_cancel_left B hc, rs_id] at h

example : bfOnline (fun a : Nat => 3 * id a) (3 * 10) [5, 7, 3, 2] =
    (bfOnline id 10 [5, 7, 3, 2]).map (scaleBins 3) :=
  bfOnline_scale id (by decide) 10 [5, 7, 3, 2]

example : (bfOnline (fun a : Nat => 3 * id a) (3 * 10) [5, 7, 3, 2]).toOption.map (·.sums) =
    some [21, 30] := by decide

theorem bfDecreasing_scale (v : α → Nat) {c : Nat} (hc : 0 < c) (B : Nat) (items : List α) :
    bfDecreasing (fun a => c * v a) (c * B) items = (bfDecreasing v B items).map (scaleBins c) := by
  have h := Sim.bfDecreasing_rs (scaled_id v hc) (c * B) items
  rwa [List.map_id, Nat.mul_div_cancel_left B hc, rs_id] at h

example : bfDecreasing (fun a : Nat => 3 * id a) (3 * 10) [4, 5, 3, 6, 2] =
    (bfDecreasing id 10 [4, 5, 3, 6, 2]).map (scaleBins 3) :=
  bfDecreasing_scale id (by decide) 10 [4, 5, 3, 6, 2]

example : (bfDecreasing (fun a : Nat => 3 * id a) (3 * 10) [4, 5, 3, 6, 2]).toOption.map (·.sums) =
    some [30, 30] := by decide

/-! ### the covering heuristics -/

theorem coverDecreasing_scale (v : α → Nat) {c : Nat} (hc : 0 < c) (B : Nat) (items : List α) :
    coverDecreasing (fun a => c * v a) (c * B) items = scaleBins c (coverDecreasing v B items) := by
  rw [← rs_id, ← Sim.coverDecreasing_rs (scaled_id v hc), List.map_id]

example : coverDecreasing (fun a : Nat => 3 * id a) (3 * 10) [4, 5, 6, 7, 8, 3] =
    scaleBins 3 (coverDecreasing id 10 [4, 5, 6, 7, 8, 3]) :=
  coverDecreasing_scale id (by decide) 10 [4, 5, 6, 7, 8, 3]

example : (coverDecreasing (fun a : Nat => 3 * id a) (3 * 10) [4, 5, 6, 7, 8, 3]).sums = [45, 33] := by decide

theorem twoThirds_scale (v : α → Nat) {c : Nat} (hc : 0 < c) (B : Nat) (items : List α) :
    twoThirds (fun a => c * v a) (c * B) items = scaleBins c (twoThirds v B items) := by
  rw [← rs_id, ← Sim.twoThirds_rs (scaled_id v hc), List.map_id]

example : twoThirds (fun a : Nat => 3 * id a) (3 * 10) [4, 5, 6, 7, 8, 3] =
    scaleBins 3 (twoThirds id 10 [4, 5, 6, 7, 8, 3]) :=
  twoThirds_scale id (by decide) 10 [4, 5, 6, 7, 8, 3]

example : (twoThirds (fun a : Nat => 3 * id a) (3 * 10) [4, 5, 6, 7, 8, 3]).sums = [33, 33, 33] := by decide

theorem threeQuarters_scale (v : α → Nat) {c : Nat} (hc : 0 < c) (B : Nat) (items : List α) :
    threeQuarters (fun a => c * v a) (c * B) items = scaleBins c (threeQuarters v B items) := by
  rw [← rs_id, ← Sim.threeQuarters_rs (scaled_id v hc), List.map_id]

example : threeQuarters (fun a : Nat => 3 * id a) (3 * 10) [4, 5, 6, 7, 8, 3, 2, 1, 1] =
    scaleBins 3 (threeQuarters id 10 [4, 5, 6, 7, 8, 3, 2, 1, 1]) :=
  threeQuarters_scale id (by decide) 10 [4, 5, 6, 7, 8, 3, 2, 1, 1]

example : (threeQuarters (fun a : Nat => 3 * id a) (3 * 10) [4, 5, 6, 7, 8, 3, 2, 1, 1]).sums = [30, 36, 33] := by
  decide

/-! ### Karmarkar–Karp and multifit -/

theorem kk_scale (v : α → Nat) {c : Nat} (hc : 0 < c) (k : Nat) (items : List α) :
    kk (fun a => c * v a) k items = (kk v k items).map (scaleBins c) := by
  rw [← rs_id, ← Sim.kk_rs (scaled_id v hc), List.map_id]

example : kk (fun a : Nat => 3 * id a) 3 [4, 5, 6, 7, 8] = (kk id 3 [4, 5, 6, 7, 8]).map (scaleBins 3) :=
  kk_scale id (by decide) 3 [4, 5, 6, 7, 8]

example : (kk (fun a : Nat => 3 * id a) 3 [4, 5, 6, 7, 8]).toOption.map (·.sums) = some [24, 33, 33] := by decide

theorem multifit_scale (v : α → Nat) {c : Nat} (hc : 0 < c) (k : Nat) (items : List α) (it : Nat) :
    multifit (fun a => c * v a) k items it = (multifit v k items it).map (scaleBins c) := by
  rw [← rs_id, ← Sim.multifit_rs (scaled_id v hc), List.map_id]

example : multifit (fun a : Nat => 3 * id a) 3 [4, 5, 6, 7, 8] 10 =
    (multifit id 3 [4, 5, 6, 7, 8] 10).map (scaleBins 3) :=
  multifit_scale id (by decide) 3 [4, 5, 6, 7, 8] 10

/-- multifit never fails (`Part.multifit_perm`), so both sides above are `.ok`: -/
example : ∃ b, multifit id 3 [4, 5, 6, 7, 8] 10 = .ok b ∧
    multifit (fun a : Nat => 3 * id a) 3 [4, 5, 6, 7, 8] 10 = .ok (scaleBins 3 b) := by
  obtain ⟨b, hb, _⟩ := Part.multifit_perm (v := id) (k := 3) (items := [4, 5, 6, 7, 8]) (it := 10) (by decide) (by decide)
  exact ⟨b, hb, by rw [multifit_scale id (by decide), hb]; rfl⟩

end Prtpy.Scale
