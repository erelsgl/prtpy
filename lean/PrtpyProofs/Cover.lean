/-
  PrtpyProofs.Cover — what the three bin-covering heuristics (`coverDecreasing`, `twoThirds`, `threeQuarters`)
  have in common.

  * `Good`: what every one of them achieves — every bin is `Tight` (it reached `B` with its last item), the
    leftover is `< B`, bins ++ leftover is a permutation of the input.  What a ratio proof needs to know of a
    single bin follows from `Tight`, and `Good.sum_le` adds it up: capped weight `< 2B` gives the factor 1/2 of
    C10 (`Good.half`: `m` coverable → `m ≤ 2 * ALG`; attained: `coverableL_example` with
    `(coverDecreasing id 10 [9, 9, 1, 1]).lists = [[9, 9]]`, end of Textbook.lean); at most `k` items of value
    `≥ B/k` per bin (`Good.length_le`) is the counting step of the end phases in `Cover23`, `Cover34`.
    `Good.isCover` is C05.  The three textbook forms are `Good` (end of `Textbook`, where the theorems about the
    models are).  No positivity assumption on the values is needed (only `0 < B`).
  * C10, first clause (never more than the optimum): `cover_le_opt`, against `Coverable` of `Prtpy/Spec.lean`
    (assignments, `sumsOf`), through the list formulation `CoverableL`.  `Cover.CoverableL` and the two directions
    `coverable_coverableL`, `coverableL_coverable` stand in Checkers.lean (its own lemmas on `Coverable` use
    them); `coverable_iff_coverableL` is here.
  * "Groups that each reach a level" has five forms in the development.  `Coverable B m` (Spec: an assignment to
    `m + 1` bins, the last one the leftover) ⇔ `CoverableL B m` (groups ++ leftover is a permutation): what the
    optimum can do.  `LPT43.Covers W k` (Feasible.lean, for the max-min theorems) is `Part.SplitInto (W ≤ sumL ·) k`,
    and `CoverableL B m` is that of a part of the values, the rest left over (`coverableL_iff_splitInto`, in
    Checkers.lean; `coverableL_weight` goes through it).  `IsCover` (Spec) is what the checker tests of an output;
    `Good` is what the runs guarantee, and implies it (`Good.isCover`).
  * `classes_perm`: the model's three classes `isBig`, `isMedium`, `isSmall` split a list (used by `Textbook` for
    `threeQuarters` and by `Cover34.binSum_classes`).  `Cover.closedOpen`, the form of a consistent bins-array on which
    `Textbook` rewrites the loops of the models, and its lemmas stand at the top of Textbook.lean.
  * Weightings, for the ratio theorems here and in `Cover23`, `Cover34`: a sub-additive profile gives the
    optimum's side (`coverableL_weight`; `stairs_coverableL_weight` for the staircases `stairs`, which `Cover23` and
    `Cover34` call).  The profiles are listed at the head of the section "weightings".
-/
import PrtpyProofs.Checkers
open Prtpy Prtpy.Part
namespace Prtpy.Cover
variable {α : Type}

/-! ### what a covering heuristic achieves -/

/-- value capped at the bin size -/
def cap (v : α → Nat) (B : Nat) : α → Nat := fun x => min (v x) B

theorem binSum_cap_le (v : α → Nat) (B : Nat) (l : List α) : binSum (cap v B) l ≤ binSum v l :=
  binSum_le_binSum fun x _ => Nat.min_le_left (v x) B

/-- a bin that was closed as soon as it reached `B`: it was below `B` before its last item -/
def Tight (v : α → Nat) (B : Nat) (g : List α) : Prop :=
  B ≤ binSum v g ∧ ∃ t last, g = t ++ [last] ∧ binSum v t < B

/-- The result of a covering heuristic, on lists: every bin of `c` is `Tight`, and with a leftover below `B` the
    bins are a permutation of the items.  Everything the ratio theorems need to know about a single bin follows
    from `Tight` through `Tight.binSum_le` (capped weight `< 2B`: `Tight.cap_lt`; at most `k` items of value `≥ B/k`:
    `Tight.count_le`), and is summed over the bins by `Good.sum_le` (`Good.half`, `Good.length_le`). -/
def Good (v : α → Nat) (B : Nat) (items : List α) (c : List (List α)) : Prop :=
  (∀ g ∈ c, Tight v B g) ∧ ∃ rest, (c.flatten ++ rest).Perm items ∧ binSum v rest < B

variable {v : α → Nat} {B : Nat} {items : List α}

theorem Tight.snoc {l : List α} {x : α} (h : binSum v l < B) (hc : B ≤ binSum v (l ++ [x])) :
    Tight v B (l ++ [x]) := ⟨hc, l, x, rfl, h⟩

theorem Tight.singleton {x : α} (hB : 0 < B) (h : B ≤ binSum v [x]) : Tight v B [x] :=
  ⟨h, [], x, rfl, by rwa [binSum_nil]⟩

/-- `hs` is what `Textbook.fillUp_spec` says of the items `taken` that `fillUp` adds to a bin `cur`: none, or the bin
    was below `B` before the last of them; so the filled bin, if covered, is tight -/
theorem Tight.of_fill {cur taken : List α}
    (hs : taken = [] ∨ ∃ t last, taken = t ++ [last] ∧ binSum v (cur ++ t) < B)
    (h0 : B ≤ binSum v cur → Tight v B cur) (hcov : B ≤ binSum v (cur ++ taken)) : Tight v B (cur ++ taken) := by
  rcases hs with rfl | ⟨t, last, rfl, hlt⟩
  · rw [List.append_nil] at hcov ⊢
    exact h0 hcov
  · rw [← List.append_assoc] at hcov ⊢
    exact Tight.snoc hlt hcov

/-- a tight bin is a list below `B` and one more item: a bound `R` for the former and `d` for the latter add up -/
theorem Tight.binSum_le {w : α → Nat} {R d : Nat} {g : List α} (hR : ∀ r, binSum v r < B → binSum w r ≤ R)
    (hd : ∀ y ∈ g, w y ≤ d) (h : Tight v B g) : binSum w g ≤ R + d := by
  obtain ⟨_, t, last, rfl, ht⟩ := h
  have := hR t ht
  have := hd last (List.mem_append_right _ List.mem_cons_self)
  rw [binSum_concat]
  omega

theorem Tight.cap_lt (hB : 0 < B) {g : List α} (h : Tight v B g) : binSum (cap v B) g < 2 * B := by
  have := h.binSum_le (w := cap v B) (R := B - 1) (d := B) (fun r hr => by have := binSum_cap_le v B r; omega)
    fun y _ => Nat.min_le_right _ _
  omega

theorem Good.pos {c : List (List α)} (h : Good v B items c) : 0 < B := by
  obtain ⟨_, rest, _, hr⟩ := h
  exact Nat.zero_lt_of_lt hr

theorem Good.nil {rest : List α} (h : binSum v rest < B) : Good v B rest [] :=
  ⟨fun _ h => absurd h List.not_mem_nil, rest, List.Perm.refl _, h⟩

theorem Good.cons {g : List α} {c : List (List α)} (hg : Tight v B g)
    (h : Good v B items c) : Good v B (g ++ items) (g :: c) := by
  obtain ⟨hc, rest, hp, hr⟩ := h
  refine ⟨fun g' h => ?_, rest, ?_, hr⟩
  · rcases List.mem_cons.1 h with rfl | h
    · exact hg
    · exact hc g' h
  · rw [List.flatten_cons, List.append_assoc]
    exact hp.append_left g

theorem Good.perm {items' : List α} {c : List (List α)} (h : Good v B items c) (hp : items.Perm items') :
    Good v B items' c := by
  obtain ⟨hc, rest, hp', hr⟩ := h
  exact ⟨hc, rest, hp'.trans hp, hr⟩

theorem Good.isCover {c : List (List α)} (h : Good v B items c) :
    IsCover v B items ⟨c.map (binSum v), c⟩ := by
  obtain ⟨hc, rest, hp, hr⟩ := h
  refine ⟨rfl, ?_, rest, hp, hr⟩
  intro s hs
  obtain ⟨g, hg, rfl⟩ := List.mem_map.1 hs
  exact (hc g hg).1

/-- A bound for every bin and a bound for the leftover add up.  With `Tight` this is how the bins of a cover are
    weighed: no statement about a single bin needs the run that produced it. -/
theorem Good.sum_le {w : α → Nat} {K R : Nat} {c : List (List α)} (h : Good v B items c)
    (hbin : ∀ g, (∀ y ∈ g, y ∈ items) → Tight v B g → binSum w g ≤ K)
    (hrest : ∀ r : List α, (∀ y ∈ r, y ∈ items) → binSum v r < B → binSum w r ≤ R) :
    binSum w items ≤ c.length * K + R := by
  obtain ⟨hc, rest, hp, hr⟩ := h
  have h2 := binSum_le_binSum (g := fun _ => K) fun g hg =>
    hbin g (fun y hy => hp.subset (List.mem_append_left _ (List.mem_flatten.2 ⟨g, hg, hy⟩))) (hc g hg)
  have h3 := hrest rest (fun y hy => hp.subset (List.mem_append_right _ hy)) hr
  rw [← binSum_flatten, binSum_const] at h2
  rw [← binSum_perm _ hp, binSum_append]
  omega

section Count
variable {w : α → Nat} {k : Nat}

/-- `w` counts items of value at least `B/k` (it is `0` or `1`, and `1` only on such items): a list below `B`
    holds fewer than `k` of them -/
theorem count_lt (hk : 0 < k) {r : List α} (hw : ∀ y ∈ r, B * w y ≤ k * v y) (hr : binSum v r < B) :
    binSum w r < k := by
  have key := binSum_le_binSum hw
  rw [binSum_mul_left, binSum_mul_left] at key
  have := Nat.lt_of_le_of_lt key (Nat.mul_lt_mul_of_pos_left hr hk)
  rw [Nat.mul_comm k B] at this
  exact Nat.lt_of_mul_lt_mul_left this

/-- so a tight bin holds at most `k` of them -/
theorem Tight.count_le (hk : 0 < k) (hw1 : ∀ y, w y ≤ 1) (hw : ∀ y, B * w y ≤ k * v y) {g : List α}
    (h : Tight v B g) : binSum w g ≤ k := by
  have := h.binSum_le (R := k - 1) (fun r hr => by have := count_lt hk (fun y _ => hw y) hr; omega) fun y _ => hw1 y
  omega

/-- So a cover `c` takes at most `k` items of value at least `B/k` per bin, and leaves at most `k - 1`: if the items
    `l` are such, `l.length ≤ k * c.length + (k - 1)`, whatever else (`r`) went into the bins.  The weight that
    counts is the indicator of `B ≤ k * v y`; items of `r` that it counts too do no harm. -/
theorem Good.length_le (hk : 0 < k) {l r : List α} (h : ∀ y ∈ l, B ≤ k * v y) {c : List (List α)}
    (hg : Good v B (r ++ l) c) : l.length + 1 ≤ c.length * k + k := by
  have hw : ∀ y, B * (if B ≤ k * v y then 1 else 0) ≤ k * v y := fun y => by split <;> omega
  have := hg.sum_le (w := fun y => if B ≤ k * v y then 1 else 0) (K := k) (R := k - 1)
    (fun g _ => Tight.count_le hk (fun y => by split <;> omega) hw)
    (fun r _ hlt => by have := count_lt (k := k) hk (fun y _ => hw y) hlt; omega)
  rw [binSum_append, binSum_eq_length (l := l) fun y hy => if_pos (h y hy)] at this
  omega

end Count

/-! ### the three item classes -/

theorem classes_perm (v : α → Nat) (B : Nat) (s : List α) :
    (s.filter (isBig v B) ++ s.filter (isMedium v B) ++ s.filter (isSmall v B)).Perm s := by
  induction s with
  | nil => exact List.Perm.refl _
  | cons x s ih =>
    have hx : (isBig v B x = true ∧ isMedium v B x = false ∧ isSmall v B x = false) ∨
        (isBig v B x = false ∧ isMedium v B x = true ∧ isSmall v B x = false) ∨
        (isBig v B x = false ∧ isMedium v B x = false ∧ isSmall v B x = true) := by
      simp only [isBig, isMedium, isSmall, Bool.and_eq_true, Bool.and_eq_false_iff,
        decide_eq_true_eq, decide_eq_false_iff_not]
      omega
    rcases hx with ⟨h1, h2, h3⟩ | ⟨h1, h2, h3⟩ | ⟨h1, h2, h3⟩
    · simp only [List.filter_cons, h1, h2, h3, if_true, List.cons_append, Bool.false_eq_true, if_false]
      exact List.Perm.cons x ih
    · simp only [List.filter_cons, h1, h2, h3, if_true, Bool.false_eq_true, if_false]
      refine List.Perm.trans ?_ (List.Perm.cons x ih)
      simp only [List.append_assoc, List.cons_append]
      exact List.perm_middle
    · simp only [List.filter_cons, h1, h2, h3, if_true, Bool.false_eq_true, if_false]
      refine List.Perm.trans ?_ (List.Perm.cons x ih)
      exact List.perm_middle

/-! ### C10, first clause: a valid cover is a witness for `Coverable` -/

theorem isCover_coverableL {b : Bins α} (h : IsCover v B items b) :
    CoverableL B b.lists.length (items.map v) := by
  obtain ⟨hs, hge, rest, hp, _⟩ := h
  refine ⟨b.lists.map (List.map v), by simp, ?_, rest.map v, ?_⟩
  · intro g hg
    obtain ⟨l, hl, rfl⟩ := List.mem_map.1 hg
    apply hge
    rw [hs]
    exact List.mem_map.2 ⟨l, hl, rfl⟩
  · have := hp.map v
    simpa [List.map_flatten] using this

/-- C10, first clause: the number of bins of a valid cover is coverable (so it is at most `optCover`, by
    `Checkers.optCover_spec`). -/
theorem cover_le_opt {b : Bins α} (_hB : 0 < B) (h : IsCover v B items b) :
    Coverable B b.lists.length (items.map v) :=
  coverableL_coverable (isCover_coverableL h)

theorem coverable_iff_coverableL {B m : Nat} {vals : List Nat} :
    Coverable B m vals ↔ CoverableL B m vals :=
  ⟨coverable_coverableL, coverableL_coverable⟩

/-! ### weightings

The ratio theorems (1/2 below, 2/3 in `Cover23`, 3/4 in `Cover34`) weigh an item by a sub-additive profile `w`
of its value that reaches `K` at the bin size.  A cover with `m` bins then weighs at least `m * K`
(`coverableL_weight`, an instance of `Part.SplitInto.weight_ge`, on which LPT's max-min spread bound rests too),
whatever its bins look like; what remains is to bound the weight of the bins the algorithm closes.  The profiles
have one step (`cap`, used directly in `Good.half`), two (`Cover23.phi`, a `stairs` by `Cover23.phi_eq_stairs`), three
(`Cover34.wt`, a `stairs` by definition); `stairs_coverableL_weight` is `coverableL_weight` for `stairs`. -/

section Weighting
variable {w : Nat → Nat} {K : Nat}

/-- the optimum's side of every ratio theorem: each group weighs at least `K` -/
theorem coverableL_weight (h0 : w 0 = 0) (hsub : ∀ a b, w (a + b) ≤ w a + w b)
    (hfull : ∀ z, B ≤ z → K ≤ w z) {m : Nat} (h : CoverableL B m (items.map v)) :
    m * K ≤ binSum (fun y => w (v y)) items := by
  obtain ⟨cov, rest, hc, hp⟩ := coverableL_iff_splitInto.1 h
  have := hc.weight_ge h0 hsub hfull
  rw [← binSum_map w v, ← binSum_perm w hp, binSum_append]
  omega

end Weighting

/-- the staircase with `n` steps of length and height `c`, the `i`-th one starting at `i * p` -/
def stairs (c p : Nat) : Nat → Nat → Nat
  | 0, _ => 0
  | n + 1, z => min z c + stairs c p n (z - p)

section Stairs
variable {c p : Nat}

theorem stairs_zero (z : Nat) : stairs c p 0 z = 0 := rfl
theorem stairs_succ (n z : Nat) : stairs c p (n + 1) z = min z c + stairs c p n (z - p) := rfl

theorem stairs_le (n z : Nat) : stairs c p n z ≤ n * c := by
  induction n generalizing z with
  | zero => exact Nat.zero_le _
  | succ n ih =>
    have := ih (z - p)
    rw [stairs_succ, Nat.succ_mul]
    omega

/-- below `p` only the first step counts -/
theorem stairs_le_min (n : Nat) {z : Nat} (h : z ≤ p) : stairs c p n z ≤ min z c := by
  induction n generalizing z with
  | zero => exact Nat.zero_le _
  | succ n ih =>
    have := ih (z := z - p) (by omega)
    rw [stairs_succ]
    omega

theorem stairs_eq_min (n : Nat) {z : Nat} (h : z ≤ p) : stairs c p (n + 1) z = min z c := by
  have := stairs_le_min (c := c) n (z := z - p) (Nat.le_trans (Nat.sub_le z p) h)
  rw [stairs_succ]
  omega

/-- every step but the last has its full height at most, the last one what exceeds its start -/
theorem stairs_le_last (n z : Nat) : stairs c p (n + 1) z ≤ n * c + (z - n * p) := by
  induction n generalizing z with
  | zero => rw [stairs_succ, stairs_zero]; omega
  | succ n ih =>
    have := ih (z - p)
    rw [stairs_succ, Nat.succ_mul, Nat.succ_mul]
    omega

/-- a staircase whose steps are no longer than their distance lies below the diagonal -/
theorem stairs_le_self (h : c ≤ p) (n z : Nat) : stairs c p n z ≤ z := by
  induction n generalizing z with
  | zero => exact Nat.zero_le _
  | succ n ih =>
    have := ih (z - p)
    rw [stairs_succ]
    omega

theorem stairs_origin (n : Nat) : stairs c p n 0 = 0 :=
  Nat.eq_zero_of_le_zero (Nat.le_trans (stairs_le_min n (Nat.zero_le p)) (Nat.min_le_left 0 c))

theorem stairs_le_succ (n z : Nat) : stairs c p n z ≤ stairs c p (n + 1) z := by
  induction n generalizing z with
  | zero => exact Nat.zero_le _
  | succ n ih =>
    have := ih (z - p)
    rw [stairs_succ (n + 1), stairs_succ n]
    omega

/-- past the end of the last step the staircase has its full height -/
theorem stairs_full (n : Nat) {z : Nat} (h : n * p + c ≤ z) : stairs c p (n + 1) z = (n + 1) * c := by
  induction n generalizing z with
  | zero => rw [stairs_succ, stairs_zero]; omega
  | succ n ih =>
    rw [Nat.succ_mul] at h
    rw [stairs_succ, ih (z := z - p) (by omega), Nat.succ_mul (n + 1)]
    omega

/-- A staircase whose steps are no longer than their distance is sub-additive.  If `a` reaches past the
    first step, drop that step from `a + b` and from `a` and use the staircase with one step less;
    if neither `a` nor `b` does, `a + b` stays below the second step and only two steps are involved. -/
theorem stairs_subadd (h : c ≤ p) (n a b : Nat) :
    stairs c p n (a + b) ≤ stairs c p n a + stairs c p n b := by
  induction n generalizing a b with
  | zero => exact Nat.le_refl _
  | succ n ih =>
    have long : ∀ a b, p ≤ a →
        stairs c p (n + 1) (a + b) ≤ stairs c p (n + 1) a + stairs c p (n + 1) b := by
      intro a b ha
      have h1 := ih (a - p) b
      have h2 := stairs_le_succ (c := c) (p := p) n b
      have e : a + b - p = a - p + b := by omega
      rw [stairs_succ n (a + b), stairs_succ n a, e]
      omega
    by_cases ha : p ≤ a
    · exact long a b ha
    by_cases hb : p ≤ b
    · rw [Nat.add_comm a b, Nat.add_comm (stairs c p (n + 1) a)]
      exact long b a hb
    have h1 := stairs_le_min (c := c) (p := p) n (z := a + b - p) (by omega)
    simp only [stairs_succ]
    omega

/-- The optimum's side for the staircase with `n + 1` steps, read at `S` times the value, when the last step
    ends at `S * B`: a cover with `m` bins weighs at least `m * (n + 1) * c`. -/
theorem stairs_coverableL_weight {v : α → Nat} {B n S : Nat} (h1 : c ≤ p) (h2 : c + n * p = S * B)
    {items : List α} {m : Nat} (h : CoverableL B m (items.map v)) :
    m * ((n + 1) * c) ≤ binSum (fun y => stairs c p (n + 1) (S * v y)) items := by
  refine coverableL_weight (w := fun z => stairs c p (n + 1) (S * z))
    (by rw [Nat.mul_zero]; exact stairs_origin _) (fun a b => ?_) (fun z hz => ?_) h
  · rw [Nat.mul_add]
    exact stairs_subadd h1 _ _ _
  · have := Nat.mul_le_mul_left S hz
    exact Nat.le_of_eq (stairs_full n (by omega)).symm

end Stairs

/-! ### C10, factor 1/2: every coverable `m` is at most twice the number of bins produced -/

/-- a tight cover has at least half as many bins as any cover: a cover with `m` bins has capped weight `≥ m·B`,
    every tight bin `< 2B` and the leftover `< B` -/
theorem Good.half {c : List (List α)} (h : Good v B items c) {m : Nat}
    (hm : CoverableL B m (items.map v)) : m ≤ 2 * c.length := by
  have hB : 0 < B := h.pos
  have h1 : m * B ≤ binSum (cap v B) items :=
    coverableL_weight (w := fun z => min z B) (Nat.zero_min B) (fun a b => by omega) (fun z hz => by omega) hm
  have h2 := h.sum_le (w := cap v B) (K := 2 * B) (R := B - 1) (fun g _ hg => Nat.le_of_lt (hg.cap_lt hB))
    (fun r _ hr => by have := binSum_cap_le v B r; omega)
  have h5 : m * B < (2 * c.length + 1) * B := by
    rw [Nat.add_mul, Nat.one_mul, Nat.mul_comm 2 c.length, Nat.mul_assoc]
    omega
  have := Nat.lt_of_mul_lt_mul_right h5
  omega

/-- the hypothesis of the `*_half` theorems on a concrete input: two bins of size 10 can be covered -/
theorem coverableL_example : CoverableL 10 2 ([9, 9, 1, 1].map id) :=
  ⟨[[9, 1], [9, 1]], rfl, by decide, [], by decide⟩

end Prtpy.Cover
