/-
  PrtpyProofs.CGValid — the anytime "complete greedy" branch-and-bound (`Prtpy.cg`) under a counting clock.
  C01/C11, safety of interruption: the incumbent is always `none` or a valid partition.  C11, anytime
  monotonicity: one more tick = one more step, the value of the incumbent never gets worse, the unlimited run
  equals every late cut.
  The loop over the bins (`cgChildren`) is analysed once: `cgChildren_spec` says which children are pushed (`kept`, a
  sub-list of the bins) and that every bin has the sum of a bin that is `Settled` (its child is pushed, or it fell to a
  bound, a seen state or the key of a pushed child; the equal-sum filter is why "has the sum of" and not "is"); the case
  analysis `cgStep_ind` of one iteration of the main loop hands both to its users (`Kept`).
  Rests on: `IsPartition` as the invariant of the stack vertices and of the incumbent (`VInv`, `SInv`),
  `Iter.run` (the main loop is `Iter.run (·.done) cgStep`: `Iter.cgRun_eq`; invariants by `Iter.run_inv`, the
  incumbent along the run by `Iter.run_rel_start`), the order on `EInt` (`CGOpt.ele_*`, which stand in Obj.lean).
-/
import PrtpyProofs.Part
import PrtpyProofs.Obj
import PrtpyProofs.Iter
open Prtpy

namespace Prtpy.CGValid

variable {α : Type}

section BinsLemmas
variable (v : α → Nat)

/-- `Part.add_lists` and `Part.new_sums_length`, restated in this namespace -/
@[simp] theorem add_lists (b : Bins α) (x : α) (i : Nat) :
    (b.add v x i).lists = b.lists.modify i (· ++ [x]) := Part.add_lists v b x i

@[simp] theorem new_sums_length (k : Nat) : (Bins.new k : Bins α).sums.length = k :=
  Part.new_sums_length k

end BinsLemmas

/-! ## The loop over the bins -/

/-- the four reasons for which bin `b` gets no child: same sum as the bin before it, the fast bound, the lower
    bound, a state already seen -/
def cgSkip (v : α → Nat) (cfg : CgCfg) (k : Nat) (cur : Bins α) (depth : Nat) (x : α) (r : Nat) (bestV : EInt)
    (b : Nat) (prev : Option Nat) (seen : List (Nat × List Nat)) : Bool :=
  prev == some (cur.sums.getD b 0)
    || (cfg.useFast && EInt.le bestV (cgFast cfg.obj k cur.sums b (v x) r))
    || (cfg.useLb && EInt.le bestV (cfg.obj.lowerBound (cur.add v x b).sortAsc.sums r true))
    || (cfg.useSeen && seen.contains (depth + 1, (cur.add v x b).sortAsc.sums))

/-- The tests of one round of `cgChildren`, merged into one.  `p` is `prev == some cb`: in that branch the model
    recurses with the old `prev` (`A'`), in the other skip branches with `some cb` (`A`); under the test the two are
    equal, which is `h`. -/
theorem ite_chain {β : Type} (p q r u c : Bool) (A A' B₁ B₂ : β) (h : p = true → A' = A) :
    (if p then A' else if q then A else if r then A else if u then (if c then A else B₁) else B₂)
      = if (p || q || r || (u && c)) then A else if u then B₁ else B₂ := by
  cases p
  · cases q <;> cases r <;> cases u <;> cases c <;> rfl
  · exact h rfl

/-- one round of the loop: bin `b` is skipped, or its child is pushed (and its key recorded) -/
theorem cgChildren_cons (v : α → Nat) (cfg : CgCfg) (k : Nat) (cur : Bins α) (depth : Nat) (x : α) (r : Nat)
    (bestV : EInt) (b : Nat) (bs : List Nat) (prev : Option Nat) (seen : List (Nat × List Nat))
    (acc : List (Bins α × Nat)) :
    cgChildren v cfg k cur depth x r bestV (b :: bs) prev seen acc =
      if cgSkip v cfg k cur depth x r bestV b prev seen then
        cgChildren v cfg k cur depth x r bestV bs (some (cur.sums.getD b 0)) seen acc
      else cgChildren v cfg k cur depth x r bestV bs (some (cur.sums.getD b 0))
        (if cfg.useSeen then (depth + 1, (cur.add v x b).sortAsc.sums) :: seen else seen)
        (((cur.add v x b).sortAsc, depth + 1) :: acc) := by
  rw [cgChildren, cgSkip, ite_chain]
  · cases cfg.useSeen <;> rfl
  · intro h; rw [beq_iff_eq.1 h]

/-- the vertex pushed for bin `b` -/
def cgChild (v : α → Nat) (cur : Bins α) (depth : Nat) (x : α) (b : Nat) : Bins α × Nat :=
  ((cur.add v x b).sortAsc, depth + 1)

/-- the sums of `(cgChild v cur d x b).1`, for every `d`: those of `cur` with the value added at `b`, up to the sort -/
theorem cgChild_sums_perm (v : α → Nat) (cur : Bins α) (hl : cur.sums.length = cur.lists.length) (x : α) (b : Nat) :
    ((cur.add v x b).sortAsc).sums.Perm (cur.sums.modify b (· + v x)) :=
  Part.sortAsc_sums_perm (cur.add v x b) (by simp only [Bins.add, List.length_modify, hl])

/-- the key under which a vertex is recorded in the seen-set -/
def vkey (p : Bins α × Nat) : Nat × List Nat := (p.2, p.1.sums)

/-- Bin `j` is accounted for by the loop that pushes the children of `kept`: its child is pushed, one of the two
    bounds prunes it, its key was recorded before the loop, or its key is the key of a child that is pushed. -/
inductive Settled (v : α → Nat) (cfg : CgCfg) (k : Nat) (cur : Bins α) (depth : Nat) (x : α) (r : Nat) (bestV : EInt)
    (seen : List (Nat × List Nat)) (kept : List Nat) (j : Nat) : Prop
  | kept : j ∈ kept → Settled v cfg k cur depth x r bestV seen kept j
  | fast : cfg.useFast = true → EInt.le bestV (cgFast cfg.obj k cur.sums j (v x) r) = true →
      Settled v cfg k cur depth x r bestV seen kept j
  | bound : cfg.useLb = true →
      EInt.le bestV (cfg.obj.lowerBound (cgChild v cur depth x j).1.sums r true) = true →
      Settled v cfg k cur depth x r bestV seen kept j
  | seen : vkey (cgChild v cur depth x j) ∈ seen → Settled v cfg k cur depth x r bestV seen kept j
  | dup (j' : Nat) : j' ∈ kept → (cgChild v cur depth x j').1.sums = (cgChild v cur depth x j).1.sums →
      Settled v cfg k cur depth x r bestV seen kept j

/-- the seen-set after the children of `kept` have been pushed -/
def seenAfter (v : α → Nat) (cfg : CgCfg) (cur : Bins α) (depth : Nat) (x : α) (kept : List Nat)
    (seen : List (Nat × List Nat)) : List (Nat × List Nat) :=
  if cfg.useSeen then (kept.map fun b => vkey (cgChild v cur depth x b)).reverse ++ seen else seen

theorem mem_seenAfter {v : α → Nat} {cfg : CgCfg} {cur : Bins α} {depth : Nat} {x : α} {kept : List Nat}
    {seen : List (Nat × List Nat)} {e : Nat × List Nat} (h : e ∈ seenAfter v cfg cur depth x kept seen) :
    e ∈ seen ∨ ∃ b ∈ kept, e = vkey (cgChild v cur depth x b) := by
  unfold seenAfter at h
  split at h
  · rcases List.mem_append.1 h with h | h
    · obtain ⟨b, hb, rfl⟩ := List.mem_map.1 (List.mem_reverse.1 h)
      exact Or.inr ⟨b, hb, rfl⟩
    · exact Or.inl h
  · exact Or.inl h

theorem Settled.push {v : α → Nat} {cfg : CgCfg} {k : Nat} {cur : Bins α} {depth : Nat} {x : α} {r : Nat}
    {bestV : EInt} {seen : List (Nat × List Nat)} {kept : List Nat} {b j : Nat}
    (h : Settled v cfg k cur depth x r bestV
      (if cfg.useSeen then vkey (cgChild v cur depth x b) :: seen else seen) kept j) :
    Settled v cfg k cur depth x r bestV seen (b :: kept) j := by
  cases h with
  | kept h => exact .kept (List.mem_cons_of_mem _ h)
  | fast hu h => exact .fast hu h
  | bound hu h => exact .bound hu h
  | seen h =>
    split at h
    · rcases List.mem_cons.1 h with h | h
      · exact .dup b List.mem_cons_self (Prod.mk.inj h).2.symm
      · exact .seen h
    · exact .seen h
  | dup j' hj' e => exact .dup j' (List.mem_cons_of_mem _ hj') e

/-- the equal-sum filter: a bin that is dropped because it has the sum of the bin before it is represented by
    the first bin of its run of equal sums -/
theorem rep_cons {sum : Nat → Nat} {S S' : Nat → Prop} {prev : Option Nat} {b : Nat} {bs : List Nat}
    (hb : prev = some (sum b) ∨ S b) (hS : ∀ j, S' j → S j)
    (h : ∀ i ∈ bs, some (sum b) = some (sum i) ∨ ∃ j ∈ bs, sum j = sum i ∧ S' j) :
    ∀ i ∈ b :: bs, prev = some (sum i) ∨ ∃ j ∈ b :: bs, sum j = sum i ∧ S j := by
  intro i hi
  rcases List.mem_cons.1 hi with rfl | hi
  · exact hb.imp_right fun h => ⟨i, List.mem_cons_self, rfl, h⟩
  · rcases h i hi with h | ⟨j, hj, hji, hs⟩
    · rw [← Option.some.inj h]
      exact hb.imp_right fun h => ⟨b, List.mem_cons_self, rfl, h⟩
    · exact Or.inr ⟨j, List.mem_cons_of_mem _ hj, hji, hS j hs⟩

/-- What the loop does, completely.  It pushes, after `acc`, the children of a sub-list `kept` of the bins, in that
    order, and records their keys; and every bin has the sum of a bin that is `Settled` (unless the equal-sum filter
    was handed its sum from outside). -/
theorem cgChildren_spec (v : α → Nat) (cfg : CgCfg) (k : Nat) (cur : Bins α) (depth : Nat) (x : α) (r : Nat)
    (bestV : EInt) (bs : List Nat) (prev : Option Nat) (seen : List (Nat × List Nat))
    (acc : List (Bins α × Nat)) :
    ∃ kept : List Nat, kept.Sublist bs ∧
      cgChildren v cfg k cur depth x r bestV bs prev seen acc
        = (acc.reverse ++ kept.map (cgChild v cur depth x), seenAfter v cfg cur depth x kept seen) ∧
      ∀ i ∈ bs, prev = some (cur.sums.getD i 0) ∨ ∃ j ∈ bs, cur.sums.getD j 0 = cur.sums.getD i 0 ∧
        Settled v cfg k cur depth x r bestV seen kept j := by
  induction bs generalizing prev seen acc with
  | nil => exact ⟨[], List.Sublist.slnil, by simp [cgChildren, seenAfter], nofun⟩
  | cons b bs ih =>
    rw [cgChildren_cons]
    split
    · rename_i hskip
      obtain ⟨kept, hs, h1, h2⟩ := ih (some (cur.sums.getD b 0)) seen acc
      refine ⟨kept, hs.cons b, h1, rep_cons ?_ (fun _ h => h) h2⟩
      simp only [cgSkip, Bool.or_eq_true, Bool.and_eq_true, beq_iff_eq, List.contains_iff_mem] at hskip
      rcases hskip with ((hp | hf) | hl) | hc
      · exact Or.inl hp
      · exact Or.inr (.fast hf.1 hf.2)
      · exact Or.inr (.bound hl.1 hl.2)
      · exact Or.inr (.seen hc.2)
    · obtain ⟨kept, hs, h1, h2⟩ := ih (some (cur.sums.getD b 0))
        (if cfg.useSeen then vkey (cgChild v cur depth x b) :: seen else seen) (cgChild v cur depth x b :: acc)
      refine ⟨b :: kept, hs.cons_cons b, ?_, rep_cons (Or.inr (.kept List.mem_cons_self)) (fun _ => Settled.push) h2⟩
      rw [show ((cur.add v x b).sortAsc, depth + 1) = cgChild v cur depth x b from rfl,
        show (depth + 1, (cur.add v x b).sortAsc.sums) = vkey (cgChild v cur depth x b) from rfl, h1]
      unfold seenAfter
      cases cfg.useSeen <;> simp

/-! ## The step function, case by case -/

/-- the test of heuristic 3 -/
def h3Cond (v : α → Nat) (cfg : CgCfg) (sorted : List α) (cur : Bins α) (depth : Nat) : Bool :=
  cfg.useH3 && cfg.obj == .minLargest &&
    decide (remFrom v sorted depth + cur.sums.headD 0 ≤ lastD cur.sums 0)

/-- when heuristic 3 fires: it is switched on, the objective is min-largest, and the rest fits on the least sum
    (the first: the sums are ascending) without exceeding the largest (the last) -/
theorem h3Cond_eq_true_iff {v : α → Nat} {cfg : CgCfg} {sorted : List α} {cur : Bins α} {depth : Nat} :
    h3Cond v cfg sorted cur depth = true ↔
      (cfg.useH3 = true ∧ cfg.obj = .minLargest) ∧
        remFrom v sorted depth + cur.sums.headD 0 ≤ lastD cur.sums 0 := by
  simp only [h3Cond, Bool.and_eq_true, beq_iff_eq, decide_eq_true_eq]

/-- the leaf heuristic 3 jumps to -/
def h3Vertex (v : α → Nat) (sorted : List α) (cur : Bins α) (depth : Nat) : Bins α :=
  ((sorted.drop depth).foldl (fun b x => b.add v x 0) cur).sortAsc

/-- `kept` are the bins whose children `cgStep` pushes when it expands `(cur, depth)` in state `s` -/
structure Kept (v : α → Nat) (cfg : CgCfg) (k : Nat) (sorted : List α) (s : CgState α) (cur : Bins α)
    (depth : Nat) (x : α) (kept : List Nat) : Prop where
  sub : kept.Sublist (List.range k).reverse
  settled : ∀ i < k, ∃ j < k, cur.sums.getD j 0 = cur.sums.getD i 0 ∧
    Settled v cfg k cur depth x (remFrom v sorted (depth + 1)) s.bestV s.seen kept j

theorem Kept.lt {v : α → Nat} {cfg : CgCfg} {k : Nat} {sorted : List α} {s : CgState α} {cur : Bins α}
    {depth : Nat} {x : α} {kept : List Nat} (h : Kept v cfg k sorted s cur depth x kept) : ∀ b ∈ kept, b < k :=
  fun b hb => by simpa using h.sub.subset hb

theorem Kept.length_le {v : α → Nat} {cfg : CgCfg} {k : Nat} {sorted : List α} {s : CgState α} {cur : Bins α}
    {depth : Nat} {x : α} {kept : List Nat} (h : Kept v cfg k sorted s cur depth x kept) : kept.length ≤ k := by
  simpa using h.sub.length_le

/-- `cgChildren_spec` for the loop as `cgStep` calls it -/
theorem kept_spec (v : α → Nat) (cfg : CgCfg) (k : Nat) (sorted : List α) (s : CgState α) (cur : Bins α)
    (depth : Nat) (x : α) :
    ∃ kept : List Nat, Kept v cfg k sorted s cur depth x kept ∧
      cgChildren v cfg k cur depth x (remFrom v sorted (depth + 1)) s.bestV (List.range k).reverse none s.seen []
        = (kept.map (cgChild v cur depth x), seenAfter v cfg cur depth x kept s.seen) := by
  obtain ⟨kept, hs, h1, h2⟩ := cgChildren_spec v cfg k cur depth x (remFrom v sorted (depth + 1)) s.bestV
    (List.range k).reverse none s.seen []
  refine ⟨kept, ⟨hs, fun i hi => ?_⟩, by simpa using h1⟩
  obtain ⟨j, hj, h⟩ := (h2 i (by simpa using hi)).resolve_left nofun
  exact ⟨j, by simpa using hj, h⟩

/-- case analysis principle for `cgStep` -/
theorem cgStep_ind (v : α → Nat) (cfg : CgCfg) (k : Nat) (sorted : List α) (glb : EInt)
    (motive : CgState α → Prop) (s : CgState α)
    (nil : s.stack = [] → motive { s with done := true })
    (leafImprove : ∀ cur rest, s.stack = (cur, sorted.length) :: rest →
      EInt.lt (.fin (cfg.obj.value cur.sums false)) s.bestV = true →
      motive { stack := rest, seen := s.seen, best := some cur, bestV := .fin (cfg.obj.value cur.sums false),
               done := EInt.le (.fin (cfg.obj.value cur.sums false)) glb || s.done })
    (leafKeep : ∀ cur rest, s.stack = (cur, sorted.length) :: rest →
      EInt.lt (.fin (cfg.obj.value cur.sums false)) s.bestV = false →
      motive { s with stack := rest })
    (h3 : ∀ cur depth rest, s.stack = (cur, depth) :: rest → depth ≠ sorted.length →
      h3Cond v cfg sorted cur depth = true →
      motive { s with stack := (h3Vertex v sorted cur depth, sorted.length) :: rest })
    (expand : ∀ cur depth rest x kept, s.stack = (cur, depth) :: rest → sorted[depth]? = some x →
      h3Cond v cfg sorted cur depth = false → Kept v cfg k sorted s cur depth x kept →
      motive { s with stack := (kept.map (cgChild v cur depth x)).reverse ++ rest,
                      seen := seenAfter v cfg cur depth x kept s.seen })
    (oob : ∀ cur depth rest, s.stack = (cur, depth) :: rest → depth ≠ sorted.length →
      sorted[depth]? = none → motive { s with stack := rest }) :
    motive (cgStep v cfg k sorted glb s) := by
  unfold cgStep
  split
  · rename_i hs; exact nil hs
  · rename_i cur depth rest hs
    by_cases hd : depth = sorted.length
    · subst hd
      simp only [beq_self_eq_true, if_true]
      by_cases hlt : EInt.lt (.fin (cfg.obj.value cur.sums false)) s.bestV = true
      · simp only [hlt, if_true]
        have := leafImprove cur rest hs hlt
        by_cases hle : EInt.le (.fin (cfg.obj.value cur.sums false)) glb = true
        · simpa [hle] using this
        · simp only [hle]
          simp only [Bool.not_eq_true] at hle
          simpa [hle] using this
      · simp only [hlt]
        exact leafKeep cur rest hs (by simpa using hlt)
    · have hd' : (depth == sorted.length) = false := by simpa using hd
      simp only [hd', Bool.false_eq_true, if_false]
      by_cases hc : h3Cond v cfg sorted cur depth = true
      · have := h3 cur depth rest hs hd hc
        unfold h3Cond at hc
        rw [if_pos hc]
        exact this
      · have hc' : h3Cond v cfg sorted cur depth = false := by simpa using hc
        unfold h3Cond at hc
        rw [if_neg hc]
        split
        · rename_i hx; exact oob cur depth rest hs hd hx
        · rename_i x hx
          obtain ⟨kept, hk, he⟩ := kept_spec v cfg k sorted s cur depth x
          have := expand cur depth rest x kept hs hx hc' hk
          rw [he]
          exact this

/-- an iteration that pops a vertex above the leaves: heuristic 3 jumps to a leaf, or the vertex is expanded -/
theorem cgStep_inner (v : α → Nat) {cfg : CgCfg} {k : Nat} {sorted : List α} {glb : EInt} {s : CgState α}
    {cur : Bins α} {depth : Nat} {rest : List (Bins α × Nat)} {x : α}
    (hs : s.stack = (cur, depth) :: rest) (hx : sorted[depth]? = some x) :
    ∃ kept, Kept v cfg k sorted s cur depth x kept ∧ cgStep v cfg k sorted glb s =
      if h3Cond v cfg sorted cur depth then
        { s with stack := (h3Vertex v sorted cur depth, sorted.length) :: rest }
      else { s with stack := (kept.map (cgChild v cur depth x)).reverse ++ rest,
                    seen := seenAfter v cfg cur depth x kept s.seen } := by
  have hd : (depth == sorted.length) = false := by
    have := (List.getElem?_eq_some_iff.1 hx).1
    simpa using Nat.ne_of_lt this
  obtain ⟨kept, hk, he⟩ := kept_spec v cfg k sorted s cur depth x
  refine ⟨kept, hk, ?_⟩
  unfold cgStep
  rw [hs]
  simp only [hd, Bool.false_eq_true, if_false, hx, he]
  rfl

/-! ## Safety of interruption (C01, C11) -/

section Safety
variable (v : α → Nat)

theorem valid_fold0 {k : Nat} (hk : 0 < k) (xs : List α) (b : Bins α) (done : List α)
    (h : IsPartition v done k b) : IsPartition v (done ++ xs) k (xs.foldl (fun b x => b.add v x 0) b) := by
  induction xs generalizing b done with
  | nil => simpa using h
  | cons x xs ih =>
    simp only [List.foldl_cons]
    have := ih (b.add v x 0) (done ++ [x]) (Part.valid_add v h x 0 hk)
    simpa using this

theorem valid_sums_length {k : Nat} {b : Bins α} {done : List α} (h : IsPartition v done k b) :
    b.sums.length = k := (Part.isPartition_sumL h).2

/-- a stack vertex `(bins, depth)`: `bins` is a valid partition of the first `depth` items -/
def VInv (k : Nat) (sorted : List α) (p : Bins α × Nat) : Prop :=
  p.2 ≤ sorted.length ∧ IsPartition v (sorted.take p.2) k p.1

/-- every stack vertex satisfies `VInv` and the incumbent, if any, is a valid partition of all items -/
def SInv (k : Nat) (sorted : List α) (s : CgState α) : Prop :=
  (∀ p ∈ s.stack, VInv v k sorted p) ∧ ∀ b, s.best = some b → IsPartition v sorted k b

theorem SInv.top {v : α → Nat} {k : Nat} {sorted : List α} {s : CgState α} {p : Bins α × Nat} {rest : List (Bins α × Nat)}
    (h : SInv v k sorted s) (hs : s.stack = p :: rest) : VInv v k sorted p :=
  h.1 _ (hs ▸ List.mem_cons_self ..)

theorem vinv_child {k : Nat} {sorted : List α} {cur : Bins α} {depth : Nat} {x : α}
    (hcur : VInv v k sorted (cur, depth)) (hx : sorted[depth]? = some x) (b : Nat) (hb : b < k) :
    VInv v k sorted ((cur.add v x b).sortAsc, depth + 1) := by
  obtain ⟨_, hval⟩ := hcur
  have hlt : depth < sorted.length := by
    rcases List.getElem?_eq_some_iff.1 hx with ⟨h, _⟩; exact h
  refine ⟨hlt, ?_⟩
  have : sorted.take (depth + 1) = sorted.take depth ++ [x] := by
    rw [List.take_add_one, hx]; rfl
  simp only [this]
  exact Part.isPartition_sortAsc v (Part.valid_add v hval x b hb)

theorem vinv_h3 {k : Nat} (hk : 0 < k) {sorted : List α} {cur : Bins α} {depth : Nat}
    (hcur : VInv v k sorted (cur, depth)) :
    VInv v k sorted (h3Vertex v sorted cur depth, sorted.length) := by
  refine ⟨Nat.le_refl _, ?_⟩
  have := valid_fold0 v hk (sorted.drop depth) cur _ hcur.2
  simp only [List.take_append_drop] at this
  simp only [List.take_length]
  exact Part.isPartition_sortAsc v this

/-- The stack only ever holds vertices of the search tree: a property of vertices that the two kinds of edge
    (child of a bin, jump of heuristic 3) preserve holds of every stack vertex after a step. -/
theorem cgStep_stack {cfg : CgCfg} {k : Nat} {sorted : List α} {glb : EInt} {s : CgState α}
    (P : Bins α × Nat → Prop)
    (hchild : ∀ cur d x b, P (cur, d) → sorted[d]? = some x → b < k → P (cgChild v cur d x b))
    (hh3 : ∀ cur d, P (cur, d) → d ≠ sorted.length → h3Cond v cfg sorted cur d = true →
      P (h3Vertex v sorted cur d, sorted.length))
    (h : ∀ p ∈ s.stack, P p) : ∀ p ∈ (cgStep v cfg k sorted glb s).stack, P p := by
  have pop : ∀ {top rest}, s.stack = top :: rest → ∀ p ∈ rest, P p :=
    fun hs p hp => h p (hs ▸ List.mem_cons_of_mem _ hp)
  have top : ∀ {top rest}, s.stack = top :: rest → P top := fun hs => h _ (hs ▸ List.mem_cons_self ..)
  apply cgStep_ind v cfg k sorted glb (fun s' => ∀ p ∈ s'.stack, P p)
  · intro _; exact h
  · intro cur rest hs _; exact pop hs
  · intro cur rest hs _; exact pop hs
  · intro cur d rest hs hd hc p hp
    rcases List.mem_cons.1 hp with rfl | hp
    · exact hh3 cur d (top hs) hd hc
    · exact pop hs p hp
  · intro cur d rest x kept hs hx _ hk p hp
    rcases List.mem_append.1 hp with hp | hp
    · obtain ⟨b, hb, rfl⟩ := List.mem_map.1 (List.mem_reverse.1 hp)
      exact hchild cur d x b (top hs) hx (hk.lt b hb)
    · exact pop hs p hp
  · intro cur d rest hs _ _; exact pop hs

theorem cgStep_sinv {k : Nat} (hk : 0 < k) (cfg : CgCfg) (sorted : List α) (glb : EInt) (s : CgState α)
    (h : SInv v k sorted s) : SInv v k sorted (cgStep v cfg k sorted glb s) := by
  refine ⟨cgStep_stack v (VInv v k sorted) (fun _ _ _ b h hx hb => vinv_child v h hx b hb)
    (fun _ _ h _ _ => vinv_h3 v hk h) h.1, ?_⟩
  -- the incumbent is the old one or the leaf just popped
  apply cgStep_ind v cfg k sorted glb (fun s' => ∀ b, s'.best = some b → IsPartition v sorted k b)
  · intro _; exact h.2
  · intro cur rest hs _ b hb
    cases hb
    have hv : VInv v k sorted (cur, sorted.length) := h.top hs
    simpa using hv.2
  all_goals intros; exact h.2 _ ‹_›

/-- `Iter.run_add` for `cgRun` -/
theorem cgRun_add (cfg : CgCfg) (k : Nat) (sorted : List α) (glb : EInt) (c j : Nat) (s : CgState α) :
    cgRun v cfg k sorted glb (c + j) s = cgRun v cfg k sorted glb j (cgRun v cfg k sorted glb c s) := by
  rw [Iter.cgRun_eq, Iter.run_add, ← Iter.cgRun_eq, ← Iter.cgRun_eq]

theorem cgRun_inv (cfg : CgCfg) (k : Nat) (sorted : List α) (glb : EInt) (I : CgState α → Prop)
    (hI : ∀ s, I s → I (cgStep v cfg k sorted glb s)) (t : Nat) (s : CgState α) (h : I s) :
    I (cgRun v cfg k sorted glb t s) := by
  rw [Iter.cgRun_eq]; exact Iter.run_inv I hI t s h

theorem cgInit_sinv (k : Nat) (sorted : List α) : SInv v k sorted (cgInit k : CgState α) := by
  refine ⟨?_, by intro b hb; cases hb⟩
  intro p hp
  simp only [cgInit, List.mem_singleton] at hp
  subst hp
  exact ⟨Nat.zero_le _, by simpa using Part.valid_new v k⟩

theorem cgRun_sinv {k : Nat} (hk : 0 < k) (cfg : CgCfg) (sorted : List α) (glb : EInt) (t : Nat) :
    SInv v k sorted (cgRun v cfg k sorted glb t (cgInit k)) :=
  cgRun_inv v cfg k sorted glb _ (cgStep_sinv v hk cfg sorted glb) t _ (cgInit_sinv v k sorted)

end Safety

/-- **C01/C11, safety of interruption.**  Whatever the configuration and whenever the clock fires, the
    incumbent that `cg` hands back is a valid partition (or `none`). -/
theorem cg_cut_safe {v : α → Nat} {cfg : CgCfg} {k : Nat} {items : List α} {fuel : Nat} (hk : 0 < k) (c : Nat) :
    ∀ b, cg v cfg k items (some c) fuel = .ok (some b) → IsPartition v items k b := by
  intro b h
  simp only [cg, Except.ok.injEq] at h
  exact Part.valid_isPartition v ((cgRun_sinv v hk cfg _ _ c).2 b h) (Part.sortDesc_perm v items)

/-- C01 (and the consistency clause of C06, C07): a run to completion returns a valid partition (or `none`,
    excluded by `CGOpt.cg_some_of_no_limit`). -/
theorem cg_result {v : α → Nat} {cfg : CgCfg} {k : Nat} {items : List α} {fuel : Nat} {b : Bins α} (hk : 0 < k) :
    cg v cfg k items none fuel = .ok (some b) → IsPartition v items k b := by
  intro h
  simp only [cg] at h
  split at h
  · simp only [Except.ok.injEq] at h
    exact Part.valid_isPartition v ((cgRun_sinv v hk cfg _ _ fuel).2 b h) (Part.sortDesc_perm v items)
  · cases h

/-! ## Anytime monotonicity (C11) -/

section Anytime
variable (v : α → Nat)

/-- C11, one more tick = one more step: the run with cut `c` is a prefix of the run with cut `c + 1`. -/
theorem cgRun_succ {v : α → Nat} {cfg : CgCfg} {k : Nat} {sorted : List α} {glb : EInt} {c : Nat} {s : CgState α} :
    cgRun v cfg k sorted glb (c + 1) s =
      (let s' := cgRun v cfg k sorted glb c s
       if s'.done then s' else
       match s'.stack with
       | [] => { s' with done := true }
       | _ => cgStep v cfg k sorted glb s') := by
  simp only [Iter.cgRun_eq, Iter.run_succ_last, Iter.tick]
  split
  · rfl
  · split
    · rename_i hs; exact Iter.cgStep_nil hs
    · rfl

theorem cgRun_succ_step {cfg : CgCfg} {k : Nat} {sorted : List α} {glb : EInt} {c : Nat} {s : CgState α}
    (hd : (cgRun v cfg k sorted glb c s).done = false) :
    cgRun v cfg k sorted glb (c + 1) s = cgStep v cfg k sorted glb (cgRun v cfg k sorted glb c s) := by
  simp only [Iter.cgRun_eq] at hd ⊢
  exact Iter.run_succ_of_not_done hd

/-- the objective value of an incumbent (`+inf` when there is none) -/
def valOf (cfg : CgCfg) (r : Option (Bins α)) : EInt :=
  match r with
  | none => EInt.posInf
  | some b => EInt.fin (cfg.obj.value b.sums false)

/-- `best_objective_value` is the value of the incumbent -/
def BInv (cfg : CgCfg) (s : CgState α) : Prop := s.bestV = valOf cfg s.best

theorem cgStep_binv (cfg : CgCfg) (k : Nat) (sorted : List α) (glb : EInt) (s : CgState α)
    (h : BInv cfg s) : BInv cfg (cgStep v cfg k sorted glb s) := by
  apply cgStep_ind
  · intro _; exact h
  · intro cur rest _ _; rfl
  all_goals intros; exact h

theorem cgRun_binv (cfg : CgCfg) (k : Nat) (sorted : List α) (glb : EInt) (t : Nat) :
    BInv cfg (cgRun v cfg k sorted glb t (cgInit k : CgState α)) :=
  cgRun_inv v cfg k sorted glb _ (cgStep_binv v cfg k sorted glb) t _ rfl

theorem cgStep_mono (cfg : CgCfg) (k : Nat) (sorted : List α) (glb : EInt) (s : CgState α)
    (h : BInv cfg s) :
    EInt.le (valOf cfg (cgStep v cfg k sorted glb s).best) (valOf cfg s.best) = true := by
  apply cgStep_ind v cfg k sorted glb (fun s' => EInt.le (valOf cfg s'.best) (valOf cfg s.best) = true)
  · intro _; exact CGOpt.ele_refl _
  · intro cur rest _ hlt
    rw [h] at hlt
    exact CGOpt.ele_of_lt hlt
  all_goals intros; exact CGOpt.ele_refl _

/-- the incumbent only improves along the run, any two cuts -/
theorem cgRun_le (cfg : CgCfg) (k : Nat) (sorted : List α) (glb : EInt) {c c' : Nat} (h : c ≤ c') :
    EInt.le (valOf cfg (cgRun v cfg k sorted glb c' (cgInit k)).best)
      (valOf cfg (cgRun v cfg k sorted glb c (cgInit k)).best) = true := by
  obtain ⟨j, rfl⟩ := Nat.exists_eq_add_of_le h
  rw [cgRun_add, Iter.cgRun_eq]
  exact Iter.run_rel_start (BInv cfg) (cgStep_binv v cfg k sorted glb)
    (fun s' s => EInt.le (valOf cfg s'.best) (valOf cfg s.best) = true) (fun _ => CGOpt.ele_refl _)
    CGOpt.ele_trans (cgStep_mono v cfg k sorted glb) j _ (cgRun_binv v cfg k sorted glb c)

/-- no incumbent now, no incumbent before -/
theorem cgRun_none_of_le (cfg : CgCfg) (k : Nat) (sorted : List α) (glb : EInt) {c c' : Nat} (h : c ≤ c')
    (hn : (cgRun v cfg k sorted glb c' (cgInit k)).best = none) :
    (cgRun v cfg k sorted glb c (cgInit k)).best = none := by
  have := cgRun_le v cfg k sorted glb h
  rw [hn] at this
  cases hb : (cgRun v cfg k sorted glb c (cgInit k)).best with
  | none => rfl
  | some b => rw [hb] at this; cases this

/-- once the machine has stopped (flag set or stack empty) the incumbent no longer changes -/
theorem cgRun_best_of_stopped (cfg : CgCfg) (k : Nat) (sorted : List α) (glb : EInt) (j : Nat) (s : CgState α)
    (h : s.done = true ∨ s.stack = []) : (cgRun v cfg k sorted glb j s).best = s.best := by
  by_cases hd : s.done = true
  · rw [Iter.cgRun_eq, Iter.run_of_done j hd]
  · rcases h with h | h
    · exact absurd h hd
    · cases j with
      | zero => rfl
      | succ j => simp only [cgRun, hd, h]; rfl

end Anytime

/-- **C11, anytime monotonicity.**  Letting the clock run one tick longer never gives a worse incumbent
    (`+inf` stands for "no solution yet"). -/
theorem cg_cut_monotone {v : α → Nat} {cfg : CgCfg} {k : Nat} {items : List α} {fuel : Nat} (c : Nat) :
    let val := fun (r : Option (Bins α)) =>
      match r with
      | none => EInt.posInf
      | some b => EInt.fin (cfg.obj.value b.sums false)
    ∀ r1 r2, cg v cfg k items (some c) fuel = .ok r1 → cg v cfg k items (some (c + 1)) fuel = .ok r2 →
      EInt.le (val r2) (val r1) = true := by
  intro val r1 r2 h1 h2
  simp only [cg, Except.ok.injEq] at h1 h2
  subst h1 h2
  exact cgRun_le v cfg k _ _ (Nat.le_succ c)

/-- C11: the unlimited run equals every sufficiently late cut (`fuel'` is unused when a cut is given). -/
theorem cg_cut_eventually {v : α → Nat} {cfg : CgCfg} {k : Nat} {items : List α} {fuel fuel' : Nat}
    {r : Option (Bins α)} :
    cg v cfg k items none fuel = .ok r → ∃ c, ∀ c' ≥ c, cg v cfg k items (some c') fuel' = .ok r := by
  intro h
  refine ⟨fuel, fun c' hc' => ?_⟩
  simp only [cg] at h ⊢
  split at h
  · rename_i hstop
    simp only [Except.ok.injEq] at h ⊢
    subst h
    obtain ⟨j, rfl⟩ : ∃ j, c' = fuel + j := ⟨c' - fuel, by omega⟩
    rw [cgRun_add]
    apply cgRun_best_of_stopped
    simpa using hstop
  · cases h

end Prtpy.CGValid
