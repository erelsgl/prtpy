/-
  PrtpyProofs.BinsOps — C16 (bins-manager operations keep sums and contents consistent and have
  exactly their documented effect; sorting permutes sums and contents together into non-decreasing
  sum order) and C06 (every sums-only output equals what one computes from the full partition output).

  Model notes (pure model vs. Python):
  * `Bins.add v b x i` / `Bins.combine b1 i1 b2 i2` with an index out of range are the identity in the
    model (`add_out_of_range`, `combine_out_of_range`); Python raises `IndexError` there.  (Negative
    Python indices are not modelled except `-1`, which is `Bins.addLast`.)
  * `Bins.addLast` on an empty bins-array is the identity; Python raises `IndexError`.
  * `Bins.removeLast b n` with `n > numbins` gives the empty bins-array (natural subtraction); Python
    would slice with a negative stop, so `removeLast_effect` speaks of Python for `n ≤ numbins` only.
  * `Bins.combine` returns the new `b1`; `b2` is an argument of a pure function and therefore
    trivially unchanged (Python mutates `bins1` in place and leaves `bins2` alone).
  * `Out.largestSum`/`Out.smallestSum` of an empty bins-array are `0`; Python `max([])` raises.
-/
import PrtpyProofs.Basic
open Prtpy

namespace Prtpy.BinsOps

variable {α : Type}

instance (v : α → Nat) (b : Bins α) : Decidable (b.Consistent v) :=
  inferInstanceAs (Decidable (b.sums = b.lists.map (binSum v)))

/-! ## Lists -/

theorem getElem?_modify_self {β : Type} (l : List β) (i : Nat) (f : β → β) (h : i < l.length) :
    (l.modify i f)[i]? = some (f l[i]) := by
  rw [List.getElem?_modify_eq, List.getElem?_eq_getElem h]; rfl

theorem map_binSum_modify_append (v : α → Nat) (ls : List (List α)) (i : Nat) (l : List α) :
    (ls.modify i (· ++ l)).map (binSum v) = (ls.map (binSum v)).modify i (· + binSum v l) :=
  Part.map_modify _ _ _ (fun a => Part.binSum_append v a l) ls i

theorem getD_map_binSum (v : α → Nat) (ls : List (List α)) (i : Nat) :
    (ls.map (binSum v)).getD i 0 = binSum v (ls.getD i []) := by
  simp only [List.getD_eq_getElem?_getD, List.getElem?_map]
  cases ls[i]? <;> rfl

/-! ## The stable sorts -/

theorem insertAsc_map {β γ : Type} (f : β → γ) {key : β → Nat} {key' : γ → Nat}
    (h : ∀ a b, key' (f a) ≤ key' (f b) ↔ key a ≤ key b) (x : β) (l : List β) :
    insertAsc key' (f x) (l.map f) = (insertAsc key x l).map f := by
  induction l with
  | nil => rfl
  | cons y ys ih =>
    simp only [List.map_cons, insertAsc, h, ih]
    split <;> rfl

theorem sortAsc_map {β γ : Type} (f : β → γ) {key : β → Nat} {key' : γ → Nat}
    (h : ∀ a b, key' (f a) ≤ key' (f b) ↔ key a ≤ key b) (l : List β) :
    sortAsc key' (l.map f) = (sortAsc key l).map f := by
  induction l with
  | nil => rfl
  | cons x xs ih => simp only [List.map_cons, sortAsc, ih, insertAsc_map f h]

theorem insertDesc_map {β γ : Type} (f : β → γ) {key : β → Nat} {key' : γ → Nat}
    (h : ∀ a b, key' (f a) ≤ key' (f b) ↔ key a ≤ key b) (x : β) (l : List β) :
    insertDesc key' (f x) (l.map f) = (insertDesc key x l).map f := by
  induction l with
  | nil => rfl
  | cons y ys ih =>
    simp only [List.map_cons, insertDesc, h, ih]
    split <;> rfl

theorem sortDesc_map {β γ : Type} (f : β → γ) {key : β → Nat} {key' : γ → Nat}
    (h : ∀ a b, key' (f a) ≤ key' (f b) ↔ key a ≤ key b) (l : List β) :
    sortDesc key' (l.map f) = (sortDesc key l).map f := by
  induction l with
  | nil => rfl
  | cons x xs ih => simp only [List.map_cons, sortDesc, ih, insertDesc_map f h]

theorem map_sortAsc {β γ : Type} (f : β → γ) (key : γ → Nat) (l : List β) :
    (sortAsc (fun a => key (f a)) l).map f = sortAsc key (l.map f) :=
  (sortAsc_map f (fun _ _ => Iff.rfl) l).symm

/-- Sorting a bins-array commutes with an order-preserving change of the sums and any change of the
    contents (renaming items: `g = id`; scaling: `g = (c * ·)`). -/
theorem sortAsc_map_map {β : Type} (g : Nat → Nat) (hg : ∀ a b, g a ≤ g b ↔ a ≤ b) (h : List α → List β)
    (b : Bins α) :
    (Bins.mk (b.sums.map g) (b.lists.map h)).sortAsc = ⟨b.sortAsc.sums.map g, b.sortAsc.lists.map h⟩ := by
  simp only [Bins.sortAsc, List.zip_map]
  rw [sortAsc_map (Prod.map g h) (key := fun p => p.1) (key' := fun p => p.1) (fun p q => hg p.1 q.1)]
  simp only [List.map_map]
  rfl

theorem filter_insertAsc {β : Type} (key : β → Nat) (c : Nat) (x : β) (l : List β) :
    (insertAsc key x l).filter (fun a => key a == c) = (x :: l).filter (fun a => key a == c) := by
  induction l with
  | nil => rfl
  | cons y ys ih =>
    simp only [insertAsc]
    split
    · rfl
    · rename_i hxy
      rw [List.filter_cons, ih]
      simp only [List.filter_cons]
      by_cases hx : key x = c <;> by_cases hy : key y = c <;> simp [hx, hy]
      omega

/-- Stability proper: for every key value `c`, the sub-list of the elements with key `c` is the same
    (same elements, same order) before and after sorting. -/
theorem filter_sortAsc {β : Type} (key : β → Nat) (c : Nat) (l : List β) :
    (sortAsc key l).filter (fun a => key a == c) = l.filter (fun a => key a == c) := by
  induction l with
  | nil => rfl
  | cons x xs ih =>
    simp only [sortAsc]
    rw [filter_insertAsc, List.filter_cons, List.filter_cons, ih]

/-! ## Every operation preserves consistency and has exactly its documented effect -/

section Ops
variable (v : α → Nat)

theorem consistent_getElem {b : Bins α} (h : b.Consistent v) (i : Nat) (hi : i < b.lists.length) :
    b.sums[i]? = some (binSum v b.lists[i]) := by
  unfold Bins.Consistent at h
  rw [h, List.getElem?_map, List.getElem?_eq_getElem hi]; rfl

/-! ### `new_bins` -/

theorem new_numbins (k : Nat) :
    (Bins.new k : Bins α).sums = List.replicate k 0 ∧ (Bins.new k : Bins α).lists = List.replicate k [] :=
  ⟨rfl, rfl⟩

theorem new_numbins_eq (k : Nat) : (Bins.new k : Bins α).numbins = k := by
  simp [Bins.numbins, Bins.new]

example : (Bins.new 3 : Bins Nat).sums = [0, 0, 0] ∧ (Bins.new 3 : Bins Nat).lists = [[], [], []] :=
  new_numbins 3

/-! ### `add_item_to_bin` -/

/-- C16: exact effect of `add_item_to_bin(bins, x, i)` for a valid index. -/
theorem add_effect (b : Bins α) (x : α) (i : Nat) (hi : i < b.sums.length) (hl : i < b.lists.length) :
    (b.add v x i).sums.length = b.sums.length ∧
    (b.add v x i).lists.length = b.lists.length ∧
    (b.add v x i).sums[i]? = some (b.sums[i] + v x) ∧
    (b.add v x i).lists[i]? = some (b.lists[i] ++ [x]) ∧
    (∀ j, j ≠ i → (b.add v x i).sums[j]? = b.sums[j]?) ∧
    (∀ j, j ≠ i → (b.add v x i).lists[j]? = b.lists[j]?) := by
  refine ⟨by simp, by simp, ?_, ?_, ?_, ?_⟩
  · exact getElem?_modify_self b.sums i _ hi
  · exact getElem?_modify_self b.lists i _ hl
  · intro j hj; exact List.getElem?_modify_ne _ _ (fun e => hj e.symm)
  · intro j hj; exact List.getElem?_modify_ne _ _ (fun e => hj e.symm)

theorem add_effect_getElem (b : Bins α) (x : α) (i : Nat) (hi : i < b.sums.length)
    (hl : i < b.lists.length) :
    (b.add v x i).sums[i]'(by simpa using hi) = b.sums[i] + v x ∧
    (b.add v x i).lists[i]'(by simpa using hl) = b.lists[i] ++ [x] := by
  constructor
  · simp
  · simp

/-- In the model an out-of-range index leaves the bins-array unchanged
    (Python raises `IndexError` here; the models never call `add` out of range). -/
theorem add_out_of_range (b : Bins α) (x : α) (i : Nat) (hi : b.sums.length ≤ i)
    (hl : b.lists.length ≤ i) : b.add v x i = b := by
  cases b with
  | mk s l =>
    simp only [Bins.add, Bins.mk.injEq]
    exact ⟨List.modify_eq_self hi, List.modify_eq_self hl⟩

example : ((⟨[3, 4, 0], [[3], [4], []]⟩ : Bins Nat).add id 5 1).sums = [3, 9, 0] ∧
    ((⟨[3, 4, 0], [[3], [4], []]⟩ : Bins Nat).add id 5 1).lists = [[3], [4, 5], []] := by decide +kernel

example := add_effect id (⟨[3, 4, 0], [[3], [4], []]⟩ : Bins Nat) 5 1 (by decide) (by decide)

/-! ### `add_item_to_bin(bins, x, -1)` -/

theorem addLast_eq_add (b : Bins α) (x : α) : b.addLast v x = b.add v x (b.sums.length - 1) := rfl

theorem addLast_consistent (b : Bins α) (x : α) (h : b.Consistent v) : (b.addLast v x).Consistent v :=
  Part.add_consistent v b x _ h

/-- C16: on a non-empty bins-array whose two components have the same length, `addLast` adds to the last bin
    and only to it. -/
theorem addLast_effect (b : Bins α) (x : α) (hne : b.sums ≠ []) (hlen : b.sums.length = b.lists.length) :
    (b.addLast v x).sums = b.sums.dropLast ++ [b.sums.getLast hne + v x] ∧
    (b.addLast v x).lists = b.lists.dropLast ++
      [b.lists.getLast (by intro e; rw [e] at hlen; exact hne (List.eq_nil_of_length_eq_zero hlen)) ++ [x]] := by
  have key : ∀ {β : Type} (l : List β) (f : β → β) (hn : l ≠ []),
      l.modify (l.length - 1) f = l.dropLast ++ [f (l.getLast hn)] := by
    intro β l f hn
    conv => lhs; rw [← List.dropLast_concat_getLast hn]
    have : l.length - 1 = l.dropLast.length := by simp
    rw [List.length_append, List.length_singleton, Nat.add_sub_cancel, Part.modify_length_append]
  constructor
  · exact key b.sums _ hne
  · show b.lists.modify (b.sums.length - 1) _ = _
    have e : b.sums.length - 1 = b.lists.length - 1 := by rw [hlen]
    rw [e]; exact key b.lists _ _

example : ((⟨[3, 4], [[3], [4]]⟩ : Bins Nat).addLast id 5).sums = [3, 9] ∧
    ((⟨[3, 4], [[3], [4]]⟩ : Bins Nat).addLast id 5).lists = [[3], [4, 5]] := by decide +kernel

/-! ### `concatenate_bins`, `add_empty_bins`, `remove_bins` -/

theorem concat_effect (b1 b2 : Bins α) :
    (b1.concat b2).sums = b1.sums ++ b2.sums ∧ (b1.concat b2).lists = b1.lists ++ b2.lists := ⟨rfl, rfl⟩

theorem concat_consistent (b1 b2 : Bins α) (h1 : b1.Consistent v) (h2 : b2.Consistent v) :
    (b1.concat b2).Consistent v := by
  unfold Bins.Consistent at *
  simp only [Bins.concat, List.map_append, h1, h2]

example : ((⟨[3], [[3]]⟩ : Bins Nat).concat ⟨[1, 2], [[1], [2]]⟩).sums = [3, 1, 2] := by decide

/-- `add_empty_bins(bins, n)`: `n` new empty bins with sum 0 at the end. -/
theorem addEmpty_effect (b : Bins α) (n : Nat) :
    (b.addEmpty n).sums = b.sums ++ List.replicate n 0 ∧
    (b.addEmpty n).lists = b.lists ++ List.replicate n [] ∧
    (b.addEmpty n).numbins = b.numbins + n ∧
    (b.addEmpty n).sums.take b.sums.length = b.sums ∧
    (b.addEmpty n).lists.take b.lists.length = b.lists := by
  refine ⟨rfl, rfl, ?_, ?_, ?_⟩
  · simp [Bins.numbins, Bins.addEmpty, Bins.concat, Bins.new]
  · simp [Bins.addEmpty, Bins.concat]
  · simp [Bins.addEmpty, Bins.concat]

theorem addEmpty_consistent (b : Bins α) (n : Nat) (h : b.Consistent v) : (b.addEmpty n).Consistent v :=
  concat_consistent v b _ h (Part.new_consistent v n)

example : ((⟨[3], [[3]]⟩ : Bins Nat).addEmpty 2).sums = [3, 0, 0] ∧
    ((⟨[3], [[3]]⟩ : Bins Nat).addEmpty 2).lists = [[3], [], []] := by decide

theorem removeLast_consistent (b : Bins α) (n : Nat) (h : b.Consistent v) :
    (b.removeLast n).Consistent v := by
  have hl := Part.consistent_length v h
  unfold Bins.Consistent at *
  simp only [Bins.removeLast, List.map_take, hl, ← h]

/-- C16: `remove_bins(bins, n)`: exactly the first `numbins − n` bins survive, unchanged. -/
theorem removeLast_effect (b : Bins α) (n : Nat) :
    (b.removeLast n).sums = b.sums.take (b.sums.length - n) ∧
    (b.removeLast n).lists = b.lists.take (b.lists.length - n) ∧
    (b.removeLast n).numbins = b.numbins - n ∧
    (∀ j, j < b.sums.length - n → (b.removeLast n).sums[j]? = b.sums[j]?) ∧
    (∀ j, j < b.lists.length - n → (b.removeLast n).lists[j]? = b.lists[j]?) := by
  refine ⟨rfl, rfl, ?_, ?_, ?_⟩
  · simp only [Bins.numbins, Bins.removeLast, List.length_take]; omega
  · intro j hj; simp only [Bins.removeLast, List.getElem?_take, hj, if_true]
  · intro j hj; simp only [Bins.removeLast, List.getElem?_take, hj, if_true]

theorem removeLast_addEmpty (b : Bins α) (n : Nat) : (b.addEmpty n).removeLast n = b := by
  cases b with
  | mk s l => simp [Bins.addEmpty, Bins.concat, Bins.new, Bins.removeLast]

theorem removeLast_concat (b1 b2 : Bins α) (h : b2.sums.length = b2.lists.length) :
    (b1.concat b2).removeLast b2.sums.length = b1 := by
  cases b1 with
  | mk s l =>
    simp only [Bins.concat, Bins.removeLast, List.length_append, Nat.add_sub_cancel, Bins.mk.injEq]
    constructor
    · simp
    · rw [h]; simp

example : ((⟨[0, 3, 9], [[], [3], [4, 5]]⟩ : Bins Nat).removeLast 1).sums = [0, 3] ∧
    ((⟨[0, 3, 9], [[], [3], [4, 5]]⟩ : Bins Nat).removeLast 1).lists = [[], [3]] := by decide +kernel

/-! ### `combine_bins` -/

/-- `combine_bins` preserves consistency; no index hypothesis: an out-of-range `i1` is a no-op, an out-of-range
    `i2` contributes sum 0 and no items. -/
theorem combine_consistent (b1 b2 : Bins α) (i1 i2 : Nat) (h1 : b1.Consistent v) (h2 : b2.Consistent v) :
    (b1.combine i1 b2 i2).Consistent v := by
  unfold Bins.Consistent at *
  simp only [Bins.combine, map_binSum_modify_append, h1, h2, getD_map_binSum]

/-- C16: exact effect of `combine_bins(b1, i1, b2, i2)` for valid indices. -/
theorem combine_effect (b1 b2 : Bins α) (i1 i2 : Nat)
    (hs1 : i1 < b1.sums.length) (hl1 : i1 < b1.lists.length)
    (hs2 : i2 < b2.sums.length) (hl2 : i2 < b2.lists.length) :
    (b1.combine i1 b2 i2).sums.length = b1.sums.length ∧
    (b1.combine i1 b2 i2).lists.length = b1.lists.length ∧
    (b1.combine i1 b2 i2).sums[i1]? = some (b1.sums[i1] + b2.sums[i2]) ∧
    (b1.combine i1 b2 i2).lists[i1]? = some (b1.lists[i1] ++ b2.lists[i2]) ∧
    (∀ j, j ≠ i1 → (b1.combine i1 b2 i2).sums[j]? = b1.sums[j]?) ∧
    (∀ j, j ≠ i1 → (b1.combine i1 b2 i2).lists[j]? = b1.lists[j]?) := by
  have e1 : b2.sums.getD i2 0 = b2.sums[i2] := by
    simp [List.getD_eq_getElem?_getD, List.getElem?_eq_getElem hs2]
  have e2 : b2.lists.getD i2 [] = b2.lists[i2] := by
    simp [List.getD_eq_getElem?_getD, List.getElem?_eq_getElem hl2]
  refine ⟨by simp [Bins.combine], by simp [Bins.combine], ?_, ?_, ?_, ?_⟩
  · simp only [Bins.combine, e1]; exact getElem?_modify_self b1.sums i1 _ hs1
  · simp only [Bins.combine, e2]; exact getElem?_modify_self b1.lists i1 _ hl1
  · intro j hj; exact List.getElem?_modify_ne _ _ (fun e => hj e.symm)
  · intro j hj; exact List.getElem?_modify_ne _ _ (fun e => hj e.symm)

/-- Model-only: a target index out of range is a no-op (Python raises `IndexError`). -/
theorem combine_out_of_range (b1 b2 : Bins α) (i1 i2 : Nat) (hs : b1.sums.length ≤ i1)
    (hl : b1.lists.length ≤ i1) : b1.combine i1 b2 i2 = b1 := by
  cases b1 with
  | mk s l =>
    simp only [Bins.combine, Bins.mk.injEq]
    exact ⟨List.modify_eq_self hs, List.modify_eq_self hl⟩

example : ((⟨[1, 20], [[1], [20]]⟩ : Bins Nat).combine 0 ⟨[4, 50], [[1, 3], [4, 46]]⟩ 1).sums = [51, 20] ∧
    ((⟨[1, 20], [[1], [20]]⟩ : Bins Nat).combine 0 ⟨[4, 50], [[1, 3], [4, 46]]⟩ 1).lists
      = [[1, 4, 46], [20]] := by decide +kernel

example : ((⟨[1, 20], [[1], [20]]⟩ : Bins Nat).combine 0 ⟨[4, 50], [[1, 3], [4, 46]]⟩ 1).Consistent id :=
  combine_consistent id _ _ 0 1 (by decide) (by decide)

/-- C16: every bins-manager operation preserves the consistency invariant. -/
theorem op_consistent :
    (∀ k, (Bins.new k : Bins α).Consistent v) ∧
    (∀ (b : Bins α) x i, b.Consistent v → (b.add v x i).Consistent v) ∧
    (∀ (b : Bins α) x, b.Consistent v → (b.addLast v x).Consistent v) ∧
    (∀ (b1 b2 : Bins α), b1.Consistent v → b2.Consistent v → (b1.concat b2).Consistent v) ∧
    (∀ (b : Bins α) n, b.Consistent v → (b.addEmpty n).Consistent v) ∧
    (∀ (b : Bins α) n, b.Consistent v → (b.removeLast n).Consistent v) ∧
    (∀ (b1 b2 : Bins α) i1 i2, b1.Consistent v → b2.Consistent v → (b1.combine i1 b2 i2).Consistent v) ∧
    (∀ (b : Bins α), b.Consistent v → b.sortAsc.Consistent v) :=
  ⟨Part.new_consistent v, Part.add_consistent v, addLast_consistent v, concat_consistent v, addEmpty_consistent v,
   removeLast_consistent v, combine_consistent v, fun b h => Part.sortAsc_consistent v b h⟩

end Ops

/-! ## Sorting -/

section Sorting
variable (v : α → Nat)

/-- The two components of the sorted bins-array are the two projections of *one* sorted list of
    (sum, list) pairs — this holds by definition, with no hypothesis. -/
theorem sortAsc_zip (b : Bins α) :
    b.sortAsc.sums.zip b.sortAsc.lists = Prtpy.sortAsc (fun p => p.1) (b.sums.zip b.lists) := by
  simp only [Bins.sortAsc]; exact (List.zip_of_prod rfl rfl).symm

/-- C16: sorting puts the sums into non-decreasing order and applies one and the same permutation to
    sums and contents (every sum travels with its own list); the length hypothesis is there because the zip
    truncates. -/
theorem sortAsc_sorted_perm (b : Bins α) (h : b.sums.length = b.lists.length) :
    b.sortAsc.sums.Pairwise (· ≤ ·) ∧
    (b.sortAsc.sums.zip b.sortAsc.lists).Perm (b.sums.zip b.lists) ∧
    b.sortAsc.sums.Perm b.sums ∧ b.sortAsc.lists.Perm b.lists ∧
    b.sortAsc.sums.length = b.sortAsc.lists.length := by
  refine ⟨Part.sortAsc_sums_sorted b, ?_, Part.sortAsc_sums_perm b h, Part.sortAsc_lists_perm b h, ?_⟩
  · rw [sortAsc_zip]; exact Part.sortAsc_perm _ _
  · simp [Bins.sortAsc]

theorem sortAsc_consistent (b : Bins α) (h : b.Consistent v) : b.sortAsc.Consistent v :=
  Part.sortAsc_consistent v b h

/-- An already sorted bins-array is returned unchanged (stability proper is `sortAsc_stable_filter`). -/
theorem sortAsc_stable (b : Bins α) (h : b.sums.length = b.lists.length)
    (hs : b.sums.Pairwise (· ≤ ·)) : b.sortAsc = b := by
  have hz : (b.sums.zip b.lists).Pairwise (fun p q : Nat × List α => p.1 ≤ q.1) := by
    have : ((b.sums.zip b.lists).map Prod.fst).Pairwise (· ≤ ·) := by
      rw [List.map_fst_zip (by omega)]; exact hs
    exact List.pairwise_map.1 this
  cases b with
  | mk s l =>
    simp only [Bins.sortAsc, Part.sortAsc_of_pairwise _ _ hz, Bins.mk.injEq]
    exact ⟨List.map_fst_zip (by simpa using Nat.le_of_eq h), List.map_snd_zip (by simpa using Nat.le_of_eq h.symm)⟩

/-- Stability: for every value `c`, the bins whose sum is `c` appear in
    the sorted bins-array in exactly the same relative order as before. -/
theorem sortAsc_stable_filter (b : Bins α) (c : Nat) :
    (b.sortAsc.sums.zip b.sortAsc.lists).filter (fun p => p.1 == c)
      = (b.sums.zip b.lists).filter (fun p => p.1 == c) := by
  rw [sortAsc_zip]; exact filter_sortAsc _ c _

theorem sortAsc_idem (b : Bins α) : b.sortAsc.sortAsc = b.sortAsc :=
  sortAsc_stable _ (by simp [Bins.sortAsc]) (Part.sortAsc_sums_sorted b)

example : (⟨[9, 3, 0, 3], [[4, 5], [3], [], [1, 2]]⟩ : Bins Nat).sortAsc.sums = [0, 3, 3, 9] ∧
    (⟨[9, 3, 0, 3], [[4, 5], [3], [], [1, 2]]⟩ : Bins Nat).sortAsc.lists = [[], [3], [1, 2], [4, 5]] := by decide +kernel

example := sortAsc_sorted_perm (⟨[9, 3, 0, 3], [[4, 5], [3], [], [1, 2]]⟩ : Bins Nat) rfl

example : (⟨[0, 3, 3], [[], [3], [1, 2]]⟩ : Bins Nat).sortAsc.lists = [[], [3], [1, 2]] :=
  congrArg Bins.lists (sortAsc_stable _ rfl (by decide))

end Sorting

/-! ## The sums-only manager is the `sums` projection

Every operation's effect on `sums` depends only on the sums (and the value of the added item). -/

section Forget
variable (v : α → Nat)

theorem forget_new (k : Nat) : (Bins.new k : Bins α).sums = List.replicate k 0 := rfl

theorem forget_add (b : Bins α) (x : α) (i : Nat) : (b.add v x i).sums = b.sums.modify i (· + v x) := rfl

theorem forget_addLast (b : Bins α) (x : α) :
    (b.addLast v x).sums = b.sums.modify (b.sums.length - 1) (· + v x) := rfl

theorem forget_concat (b1 b2 : Bins α) : (b1.concat b2).sums = b1.sums ++ b2.sums := rfl

theorem forget_addEmpty (b : Bins α) (n : Nat) : (b.addEmpty n).sums = b.sums ++ List.replicate n 0 := rfl

theorem forget_removeLast (b : Bins α) (n : Nat) :
    (b.removeLast n).sums = b.sums.take (b.sums.length - n) := rfl

theorem forget_combine (b1 b2 : Bins α) (i1 i2 : Nat) :
    (b1.combine i1 b2 i2).sums = b1.sums.modify i1 (· + b2.sums.getD i2 0) := rfl

/-- The only non-trivial one: sorting (sum, list) pairs by sum and then forgetting the lists is the same
    as sorting the sums alone (`numpy.ndarray.sort` in `BinnerKeepingSums`).
    Only `sums.length ≤ lists.length` is needed. -/
theorem forget_sortAsc (b : Bins α) (h : b.sums.length ≤ b.lists.length) :
    b.sortAsc.sums = Prtpy.sortAsc id b.sums := by
  have := map_sortAsc (Prod.fst : Nat × List α → Nat) id (b.sums.zip b.lists)
  rw [List.map_fst_zip h] at this
  exact this

theorem forget_numbins (b : Bins α) : b.numbins = b.sums.length := rfl

/-- Without the length hypothesis the statement is false (the zip truncates): -/
example : (⟨[2, 1], [[2]]⟩ : Bins Nat).sortAsc.sums ≠ Prtpy.sortAsc id [2, 1] := by decide

example : (⟨[9, 3, 0], [[4, 5], [3], []]⟩ : Bins Nat).sortAsc.sums = Prtpy.sortAsc id [9, 3, 0] :=
  forget_sortAsc _ (by decide)

end Forget

/-! ## Output types -/

section Outputs
variable (v : α → Nat)

theorem sortedSums_sorted_perm (b : Bins α) :
    (Out.sortedSums b).Pairwise (· ≤ ·) ∧ (Out.sortedSums b).Perm b.sums :=
  ⟨Part.sortAsc_sorted id b.sums, Part.sortAsc_perm id b.sums⟩

theorem largestSum_spec (b : Bins α) (h : b.sums ≠ []) :
    Out.largestSum b ∈ b.sums ∧ ∀ s ∈ b.sums, s ≤ Out.largestSum b :=
  ⟨Part.maxL_mem h, fun _ hs => Part.le_maxL hs⟩

theorem smallestSum_spec (b : Bins α) (h : b.sums ≠ []) :
    Out.smallestSum b ∈ b.sums ∧ ∀ s ∈ b.sums, Out.smallestSum b ≤ s :=
  ⟨Part.minL_mem h, fun _ hs => Part.minL_le hs⟩

theorem extremeSums_eq (b : Bins α) : Out.extremeSums b = (Out.smallestSum b, Out.largestSum b) := rfl

theorem difference_eq (b : Bins α) : Out.difference b = Out.largestSum b - Out.smallestSum b := rfl

theorem binCount_eq (b : Bins α) (h : b.Consistent v) : Out.binCount b = b.lists.length :=
  Part.consistent_length v h

/-- The largest sum is the last entry of the sorted sums (also true, `0 = 0`, for no bins). -/
theorem largest_eq_last_sorted (b : Bins α) :
    Out.largestSum b = (Out.sortedSums b).getLast?.getD 0 :=
  (Part.maxL_eq_of_perm (Part.sortAsc_perm id b.sums)).symm.trans
    (Obj.lastD_eq_maxL (Part.sortAsc_sorted id b.sums)).symm

theorem smallest_eq_head_sorted (b : Bins α) :
    Out.smallestSum b = (Out.sortedSums b).head?.getD 0 := by
  rw [← List.headD_eq_head?_getD]
  exact (Part.minL_eq_of_perm (Part.sortAsc_perm id b.sums)).symm.trans
    (Obj.headD_eq_minL (Part.sortAsc_sorted id b.sums)).symm

/-- C06: for a consistent bins-array the `Sums` output is computed from the `Partition` output
    (and the value function) alone. -/
theorem out_from_partition (b : Bins α) (h : b.Consistent v) :
    Out.sums b = (Out.partition b).map (binSum v) := h

/-- Every other sums-only output type is, by definition, a function of `Out.sums b`. -/
theorem sortedSums_of_sums (b : Bins α) : Out.sortedSums b = Prtpy.sortAsc id (Out.sums b) := rfl
theorem largestSum_of_sums (b : Bins α) : Out.largestSum b = maxL (Out.sums b) := rfl
theorem smallestSum_of_sums (b : Bins α) : Out.smallestSum b = minL (Out.sums b) := rfl
theorem extremeSums_of_sums (b : Bins α) : Out.extremeSums b = (minL (Out.sums b), maxL (Out.sums b)) := rfl
theorem difference_of_sums (b : Bins α) : Out.difference b = maxL (Out.sums b) - minL (Out.sums b) := rfl
theorem binCount_of_sums (b : Bins α) : Out.binCount b = (Out.sums b).length := rfl

/-- C06 in one statement: all seven sums-only outputs of a consistent bins-array, expressed through the
    partition output `P = Out.partition b` only. -/
theorem outputs_from_partition (b : Bins α) (h : b.Consistent v) :
    let S := (Out.partition b).map (binSum v)
    Out.sums b = S ∧ Out.sortedSums b = Prtpy.sortAsc id S ∧ Out.largestSum b = maxL S ∧
    Out.smallestSum b = minL S ∧ Out.extremeSums b = (minL S, maxL S) ∧
    Out.difference b = maxL S - minL S ∧ Out.binCount b = (Out.partition b).length := by
  have e := out_from_partition v b h
  refine ⟨e, ?_, ?_, ?_, ?_, ?_, binCount_eq v b h⟩
  · rw [sortedSums_of_sums, e]
  · rw [largestSum_of_sums, e]
  · rw [smallestSum_of_sums, e]
  · rw [extremeSums_of_sums, e]
  · rw [difference_of_sums, e]

theorem sums_sortAsc (b : Bins α) (h : b.sums.length ≤ b.lists.length) :
    Out.sums b.sortAsc = Out.sortedSums b := forget_sortAsc b h

example : Out.sortedSums (⟨[9, 3, 0], [[4, 5], [3], []]⟩ : Bins Nat) = [0, 3, 9] ∧
    Out.largestSum (⟨[9, 3, 0], [[4, 5], [3], []]⟩ : Bins Nat) = 9 ∧
    Out.smallestSum (⟨[9, 3, 0], [[4, 5], [3], []]⟩ : Bins Nat) = 0 ∧
    Out.difference (⟨[9, 3, 0], [[4, 5], [3], []]⟩ : Bins Nat) = 9 := by decide +kernel

example := largestSum_spec (⟨[9, 3, 0], [[4, 5], [3], []]⟩ : Bins Nat) (by decide)
example := smallestSum_spec (⟨[9, 3, 0], [[4, 5], [3], []]⟩ : Bins Nat) (by decide)
example := outputs_from_partition id (⟨[9, 3, 0], [[4, 5], [3], []]⟩ : Bins Nat) (by decide)

/-- Consistency is needed: an inconsistent bins-array has sums that are not those of its partition. -/
example : Out.sums (⟨[1], [[2]]⟩ : Bins Nat) ≠ (Out.partition (⟨[1], [[2]]⟩ : Bins Nat)).map (binSum id) := by
  decide

end Outputs

/-! ## `mapItems` (renaming items) preserves sums and commutes with every operation -/

section MapItems
variable {β : Type} (f : α → β)

theorem mapItems_sums (b : Bins α) : (b.mapItems f).sums = b.sums := rfl

theorem mapItems_lists (b : Bins α) : (b.mapItems f).lists = b.lists.map (·.map f) := rfl

theorem binSum_map (v : α → Nat) (w : β → Nat) (hw : ∀ x, w (f x) = v x) (l : List α) :
    binSum w (l.map f) = binSum v l := by
  simp only [binSum, List.map_map]
  congr 1
  exact List.map_congr_left (fun x _ => hw x)

theorem mapItems_consistent (v : α → Nat) (w : β → Nat) (hw : ∀ x, w (f x) = v x) (b : Bins α)
    (h : b.Consistent v) : (b.mapItems f).Consistent w := by
  unfold Bins.Consistent at *
  simp only [Bins.mapItems, List.map_map, h]
  exact List.map_congr_left (fun l _ => (binSum_map f v w hw l).symm)

theorem mapItems_new (k : Nat) : (Bins.new k : Bins α).mapItems f = Bins.new k := by
  simp only [Bins.mapItems, Bins.new, List.map_replicate, List.map_nil]

theorem getD_map_map (ls : List (List α)) (i : Nat) :
    (ls.map (·.map f)).getD i [] = (ls.getD i []).map f := by
  simp only [List.getD_eq_getElem?_getD, List.getElem?_map]
  cases ls[i]? <;> rfl

theorem map_modify_append (ls : List (List α)) (i : Nat) (l : List α) :
    (ls.modify i (· ++ l)).map (·.map f) = (ls.map (·.map f)).modify i (· ++ l.map f) :=
  Part.map_modify _ _ _ (fun _ => List.map_append) _ _

theorem mapItems_add (v : α → Nat) (w : β → Nat) (hw : ∀ x, w (f x) = v x) (b : Bins α) (x : α) (i : Nat) :
    (b.add v x i).mapItems f = (b.mapItems f).add w (f x) i := by
  simp only [Bins.mapItems, Bins.add, hw, map_modify_append, List.map_cons, List.map_nil]

theorem mapItems_addLast (v : α → Nat) (w : β → Nat) (b : Bins α) (x : α) (hw : w (f x) = v x) :
    (b.addLast v x).mapItems f = (b.mapItems f).addLast w (f x) := by
  simp only [Bins.mapItems, Bins.addLast, Bins.add, hw, map_modify_append, List.map_cons, List.map_nil]

theorem mapItems_concat (b1 b2 : Bins α) :
    (b1.concat b2).mapItems f = (b1.mapItems f).concat (b2.mapItems f) := by
  simp only [Bins.mapItems, Bins.concat, List.map_append]

theorem mapItems_addEmpty (b : Bins α) (n : Nat) :
    (b.addEmpty n).mapItems f = (b.mapItems f).addEmpty n := by
  simp only [Bins.addEmpty, mapItems_concat, mapItems_new]

theorem mapItems_removeLast (b : Bins α) (n : Nat) :
    (b.removeLast n).mapItems f = (b.mapItems f).removeLast n := by
  simp only [Bins.mapItems, Bins.removeLast, List.map_take, List.length_map]

theorem mapItems_combine (b1 b2 : Bins α) (i1 i2 : Nat) :
    (b1.combine i1 b2 i2).mapItems f = (b1.mapItems f).combine i1 (b2.mapItems f) i2 := by
  simp only [Bins.mapItems, Bins.combine, getD_map_map, map_modify_append]

theorem mapItems_sortAsc (b : Bins α) : b.sortAsc.mapItems f = (b.mapItems f).sortAsc := by
  have h := sortAsc_map_map id (fun _ _ => Iff.rfl) (·.map f) b
  rw [List.map_id, List.map_id] at h
  exact h.symm

theorem mapItems_partition (b : Bins α) : Out.partition (b.mapItems f) = (Out.partition b).map (·.map f) := rfl

example : ((⟨[3, 4], [[3], [4]]⟩ : Bins Nat).mapItems (· + 10)).lists = [[13], [14]] ∧
    ((⟨[3, 4], [[3], [4]]⟩ : Bins Nat).mapItems (· + 10)).sums = [3, 4] := by decide +kernel

end MapItems

end Prtpy.BinsOps
