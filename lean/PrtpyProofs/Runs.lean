/-
  PrtpyProofs.Runs — the runs of `ckk`, `ckkF`, `ckkGen`, `snp` and `rnpF` on the concrete inputs that the examples of
  several files speak of, evaluated here once, by the kernel (a run that a single example needs is evaluated where it
  stands).
-/
import PrtpyProofs.Basic

namespace Prtpy

namespace Runs
attribute [local instance] decEqBins decEqExcept

theorem ckk2_sums : ckk id id 2 false [4, 5, 6, 7, 8] 100 = .ok ⟨[15, 15], [[], []]⟩ := by decide +kernel

theorem ckk3_contents : ckk id id 3 true [4, 5, 6, 7, 8] 100 = .ok ⟨[8, 11, 11], [[8], [5, 6], [4, 7]]⟩ := by
  decide +kernel

theorem ckk3_sums : ckk id id 3 false [4, 5, 6, 7, 8] 100 = .ok ⟨[8, 11, 11], [[], [], []]⟩ := by decide +kernel

theorem ckkF3_contents : ckkF id id 3 true [4, 5, 6, 7, 8] 100 = .ok ⟨[8, 11, 11], [[8], [5, 6], [4, 7]]⟩ := by
  decide +kernel

/-- the bounded 2-way generator: the two splits of difference `< 3` -/
theorem ckkGen2_bound3 : ckkGen id id 2 true [4, 5, 6, 7, 8] (some 3) 100 =
    .ok [⟨[14, 16], [[6, 8], [4, 5, 7]]⟩, ⟨[15, 15], [[4, 5, 6], [7, 8]]⟩] := by
  decide +kernel

/-- the generator without a bound (improve-only mode), contents manager and sums-only manager -/
theorem ckkGen2_all : ckkGen id id 2 true [4, 5, 6, 7, 8] none 100 =
    .ok [⟨[14, 16], [[6, 8], [4, 5, 7]]⟩, ⟨[15, 15], [[4, 5, 6], [7, 8]]⟩] := by decide +kernel

theorem ckkGen2_all_sums : ckkGen id id 2 false [4, 5, 6, 7, 8] none 100 =
    .ok [⟨[14, 16], [[], []]⟩, ⟨[15, 15], [[], []]⟩] := by decide +kernel

theorem ckkF_two : ckkF id id 2 true [4, 5, 6, 7, 8] 100 = .ok ⟨[15, 15], [[4, 5, 6], [7, 8]]⟩ := by
  decide +kernel

/-! eight items, five bins: the input on which `rnp` (the code before fix F10, Model/SNP.lean; after it: `rnpF`,
    Model/RNP.lean) is not optimal (`SNPOpt.rnp_not_optimal_five`); contents manager, then sums-only manager -/

theorem snp_five : snp id id 5 true [11, 9, 9, 6, 6, 4, 4, 4] 1000
    = .ok ⟨[12, 12, 9, 11, 9], [[4, 4, 4], [6, 6], [9], [11], [9]]⟩ := by
  decide +kernel

theorem snp_five_sums : snp id id 5 false [11, 9, 9, 6, 6, 4, 4, 4] 1000
    = .ok ⟨[12, 12, 9, 11, 9], [[], [], [9], [11], [9]]⟩ := by
  decide +kernel

theorem rnpF_five : rnpF id id 5 true [11, 9, 9, 6, 6, 4, 4, 4] 1000
    = .ok ⟨[9, 9, 12, 11, 12], [[9], [9], [6, 6], [11], [4, 4, 4]]⟩ := by
  decide +kernel

theorem rnpF_five_sums : rnpF id id 5 false [11, 9, 9, 6, 6, 4, 4, 4] 1000
    = .ok ⟨[9, 9, 12, 11, 12], [[9], [], [], [], []]⟩ := by
  decide +kernel

/-- four bins: the even case of `rnpF` at top level -/
theorem rnpF_four : rnpF id id 4 true [5, 3, 3, 3, 2, 2, 2, 2] 1000
    = .ok ⟨[5, 6, 5, 6], [[5], [2, 2, 2], [2, 3], [3, 3]]⟩ := by
  decide +kernel

/-- six items, three bins (the odd case): Karmarkar–Karp's first answer `[5, 5, 7]` is improved -/
theorem snp_three : snp id id 3 true [5, 3, 3, 2, 2, 2] 100 = .ok ⟨[6, 6, 5], [[2, 2, 2], [3, 3], [5]]⟩ := by
  decide +kernel

theorem rnpF_three : rnpF id id 3 true [5, 3, 3, 2, 2, 2] 1000 = .ok ⟨[5, 6, 6], [[5], [2, 2, 2], [3, 3]]⟩ := by
  decide +kernel

/-- eight values, four bins, sums-only manager: the input of the list/dict examples (`CKKF.exVals`) -/
theorem ckk4_sums : ckk id id 4 false [5, 4, 2, 2, 2, 2, 2, 1] 200 = .ok ⟨[4, 5, 5, 6], [[], [], [], []]⟩ := by
  decide +kernel

end Runs
end Prtpy
