/-
  PrtpyProofs.CKKDedupe — properties C06 ("`out.Sums` = sums of `out.Partition`") and C07 ("list input = dict
  input") for complete Karmarkar–Karp with three or more bins, as statements about the *whole vector of sums*.

  `ckk` is the code before fix F11 (/verif/known_findings.json; the fix is the `sums_seen` filter of
  Prtpy/Model/CKKF.lean).  For `ckk` both properties are false with four bins, in the model and in the real library
  (`ckk_sums_manager_dependent`, `ckk_list_dict_disagree`; the runs of the library are at the end of the file): this
  file holds the refutations, which are runs of the model and need nothing else.  What does hold is in
  PrtpyProofs/ListDict.lean, in the same namespace: only the *difference* between the largest and the smallest sum is
  invariant (`ckk_list_dict_spread`), which settles two bins and optimum difference ≤ 1.  For the code after F11, `ckkF`,
  both properties hold (PrtpyProofs/CKKF.lean); `snp` and `rnpF` call `ckkF` for their 2-way splits, and list = dict
  holds for `snp` (`snp_list_dict_sums`, ListDict.lean) and for `rnpF`, `numbins ≤ 5` (PrtpyProofs/RNPDict.lean).

  Why the two properties fail for `ckk`.  A heap of the search stack is expanded into one clone per combination of its
  two best tuples; the clones are sorted (stably) by top-difference and pushed, so clones of equal top-difference are
  explored *latest generated first*.  The coarser de-duplication keeps the *first* generated representative of a class
  of combinations with equal sums, the finer one also later ones.  The order in which two classes `s`, `t` are first
  explored is therefore "by last occurrence" in the fine run and "by first occurrence" in the coarse run; for
  four bins these orders can differ (`first s < first t ≤ last t < last s`), and when the sub-trees of `s` and `t`
  both contain a leaf of optimum difference, with different sum vectors, the two runs return different vectors
  (the incumbent is only replaced by a *strictly* better leaf).  For three bins no such inversion exists among the
  six pairings (checked exhaustively over all pairs of ascending triples with entries ≤ 10, not proved), and no
  counterexample is known (the model has none among the multisets of at most 9 values ≤ 10).
-/
import PrtpyProofs.Basic
import PrtpyProofs.Runs
open Prtpy

attribute [local instance] Prtpy.decEqBins Prtpy.decEqExcept

namespace Prtpy.CKKDedupe

/-! ## Counterexamples (the code before F11) -/

/-- list input: an item is its value -/
def cexVals : List Nat := [5, 4, 2, 2, 2, 2, 2, 1]

/-- the same values as a dict: `(name, value)`, names distinct -/
def cexItems : List (Nat × Nat) := [(0, 5), (1, 4), (2, 2), (3, 2), (4, 2), (5, 2), (6, 2), (7, 1)]

/-- nine distinct values (names distinct as well) -/
def cexItems9 : List (Nat × Nat) :=
  [(0, 16), (1, 15), (2, 13), (3, 11), (4, 10), (5, 9), (6, 7), (7, 5), (8, 4)]

/-- six items, names repeated (not a Python dict; list input would be `(v, v)`) -/
def cexItems6 : List (Nat × Nat) := [(0, 3), (0, 2), (1, 2), (1, 2), (2, 2), (2, 1)]

theorem cexItems_values : cexItems.map Prod.snd = cexVals := rfl

/-- list input, contents manager (`out.Partition`): sums `[4, 4, 6, 6]` -/
theorem ckk_list_contents :
    ckk id id 4 true cexVals 200 = .ok ⟨[4, 4, 6, 6], [[4], [2, 2], [2, 2, 2], [1, 5]]⟩ := by
  decide +kernel

/-- dict input (distinct names), contents manager: sums `[4, 5, 5, 6]` -/
theorem ckk_dict_contents :
    ckk Prod.snd Prod.fst 4 true cexItems 200 =
      .ok ⟨[4, 5, 5, 6], [[(3, 2), (5, 2)], [(1, 4), (7, 1)], [(0, 5)], [(2, 2), (4, 2), (6, 2)]]⟩ := by
  decide +kernel

theorem ckk_dict9_contents :
    ckk Prod.snd Prod.fst 4 true cexItems9 500 =
      .ok ⟨[21, 22, 23, 24],
           [[(0, 16), (7, 5)], [(1, 15), (6, 7)], [(2, 13), (4, 10)], [(3, 11), (5, 9), (8, 4)]]⟩ := by
  decide +kernel

theorem ckk_dict9_sums :
    ckk Prod.snd Prod.fst 4 false cexItems9 500 = .ok ⟨[21, 21, 24, 24], [[], [], [], []]⟩ := by
  decide +kernel

/-- C06 fails for `ckk`, list input.  For the list `[5, 4, 2, 2, 2, 2, 2, 1]` and four bins the sums of the
    partition returned with the contents manager are `[4, 4, 6, 6]`, the sums-only manager returns `[4, 5, 5, 6]`. -/
theorem ckk_sums_manager_dependent_list :
    ∃ b₁ b₂ : Bins Nat, ckk id id 4 true cexVals 200 = .ok b₁ ∧ ckk id id 4 false cexVals 200 = .ok b₂ ∧
      b₁.sums = [4, 4, 6, 6] ∧ b₂.sums = [4, 5, 5, 6] ∧ b₂.sums ≠ b₁.sums :=
  ⟨_, _, ckk_list_contents, Runs.ckk4_sums, rfl, rfl, by decide⟩

/-- **C06 fails for `ckk`**, even with distinct names and distinct values (dict or list input alike): nine items
    `16, 15, 13, 11, 10, 9, 7, 5, 4`, four bins: `[21, 22, 23, 24]` with the contents manager, `[21, 21, 24, 24]`
    with the sums-only manager. -/
theorem ckk_sums_manager_dependent :
    ∃ b₁ b₂ : Bins (Nat × Nat), ckk Prod.snd Prod.fst 4 true cexItems9 500 = .ok b₁ ∧
      ckk Prod.snd Prod.fst 4 false cexItems9 500 = .ok b₂ ∧
      b₁.sums = [21, 22, 23, 24] ∧ b₂.sums = [21, 21, 24, 24] ∧ b₂.sums ≠ b₁.sums :=
  ⟨_, _, ckk_dict9_contents, ckk_dict9_sums, rfl, rfl, by decide⟩

/-- **C07 fails for `ckk`**, distinct names.  The dict `{0:5, 1:4, 2:2, 3:2, 4:2, 5:2, 6:2, 7:1}` is partitioned
    with sums `[4, 5, 5, 6]`, the list of its values with sums `[4, 4, 6, 6]` (both with the contents manager). -/
theorem ckk_list_dict_disagree :
    ∃ (b₁ : Bins (Nat × Nat)) (b₂ : Bins Nat), ckk Prod.snd Prod.fst 4 true cexItems 200 = .ok b₁ ∧
      ckk id id 4 true (cexItems.map Prod.snd) 200 = .ok b₂ ∧
      b₁.sums = [4, 5, 5, 6] ∧ b₂.sums = [4, 4, 6, 6] ∧ b₂.sums ≠ b₁.sums :=
  ⟨_, _, ckk_dict_contents, ckk_list_contents, rfl, rfl, by decide⟩

/-- list ≠ dict with repeated names (outside the domain of a Python dict): six items suffice -/
theorem ckk_list_dict_disagree_names :
    (ckk Prod.snd Prod.fst 4 true cexItems6 200).toOption.map (·.sums) = some [2, 2, 4, 4] ∧
    (ckk id id 4 true (cexItems6.map Prod.snd) 200).toOption.map (·.sums) = some [2, 3, 3, 4] :=
  ⟨by decide +kernel, by decide +kernel⟩

/-- "P1" = C06 for the whole vector of sums (the two managers return the same sums), "P2" = C07 likewise (dict and
    list input return the same sums).  C06 for `ckk` as a universal statement (manager independence of the vector of
    sums, `k ≥ 3`) is refuted, already for list input -/
theorem not_P1 :
    ¬ ∀ (items : List Nat) (k fuel fuel' : Nat) (b₁ b₂ : Bins Nat), 3 ≤ k →
        ckk id id k true items fuel = .ok b₁ → ckk id id k false items fuel' = .ok b₂ → b₂.sums = b₁.sums := by
  intro h
  have := h cexVals 4 200 200 _ _ (by decide) ckk_list_contents Runs.ckk4_sums
  revert this
  decide

/-- … and also when all names and all values are distinct -/
theorem not_P1_distinct_names :
    ¬ ∀ (items : List (Nat × Nat)) (k fuel fuel' : Nat) (b₁ b₂ : Bins (Nat × Nat)), 3 ≤ k →
        (items.map Prod.fst).Nodup → (items.map Prod.snd).Nodup →
        ckk Prod.snd Prod.fst k true items fuel = .ok b₁ → ckk Prod.snd Prod.fst k false items fuel' = .ok b₂ →
        b₂.sums = b₁.sums := by
  intro h
  have := h cexItems9 4 500 500 _ _ (by decide) (by decide) (by decide)
    ckk_dict9_contents ckk_dict9_sums
  revert this
  decide

/-- C07 for `ckk` as a universal statement (list/dict independence of the vector of sums) is refuted, even for
    distinct names -/
theorem not_P2_distinct_names :
    ¬ ∀ (items : List (Nat × Nat)) (k fuel fuel' : Nat) (b₁ : Bins (Nat × Nat)) (b₂ : Bins Nat),
        (items.map Prod.fst).Nodup →
        ckk Prod.snd Prod.fst k true items fuel = .ok b₁ → ckk id id k true (items.map Prod.snd) fuel' = .ok b₂ →
        b₂.sums = b₁.sums := by
  intro h
  have := h cexItems 4 200 200 _ _ (by decide) ckk_dict_contents ckk_list_contents
  revert this
  decide

end Prtpy.CKKDedupe

/-
Confirmed on the real library (prtpy from /repo, `partition(algorithm=complete_karmarkar_karp_sy.optimal, numbins=4, …)`
before fix F11), exactly as the model predicts:
  items [5,4,2,2,2,2,2,1] as a list:  outputtype Sums -> [4,5,5,6];  Partition -> [[4],[2,2],[2,2,2],[1,5]]  (sums 4,4,6,6)
  the same values as a dict i0..i7:   outputtype Sums -> [4,5,5,6];  Partition -> sums 4,5,5,6
  items [16,15,13,11,10,9,7,5,4] (list or dict): Sums -> [21,21,24,24];  Partition -> sums 21,22,23,24
-/
