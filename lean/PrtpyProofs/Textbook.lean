/-
  PrtpyProofs.Textbook — property C14: every simple heuristic computes what its documentation says.

  The specifications are textbook formulations of the nine rules, written on plain lists (no bins-array, no
  indices into it, no `-1`, no fuel, no `(index, new_sum)` pairs), meant to be compared with the cited sources
  in a minute.  A rule that fixes its result (`rrSpec`, `ffSpec`, `ffdSpec`, `nfdCoverSpec`, `twoThirdsSpec`,
  `threeQuartersSpec`) is a function, and the model of `Prtpy/Model/Simple.lean` is proved equal to it.  A rule
  that leaves ties open (`IsLPTRun`, `IsBestFitRun`) is a relation: the model is one of its runs, and all runs
  end with the same multiset of bin sums.

  Three relations of the development describe a run with ties left open, and no lemma connects them.
  `Textbook.Run step b xs b'` (here) is on bins-arrays `Bins α`, has the step relation as its parameter and takes
  the items from the front; its steps `LPTStep`, `BestFitStep` name the position `i` of the chosen bin and compare the
  entries of `b.sums`, as the loops of the model do, so that a fold of the model's step function is a run
  (`Run.of_foldl`) and "ties cannot matter" (`lpt_runs_same_sums`, `bestfit_runs_same_sums`) is a statement about
  `b.sums`; it serves these two rules only.  `Fit.Run v B ρ` is on lists of bins, for the any-fit packers with
  capacity `B` and the rule `ρ` as parameter, starts from the one empty bin `[[]]` and adds the items at the end of
  `seen`; `LPT43.Lpt v A` is on lists of bins too, starts from given bins `A`, puts each item on a bin of least
  `binSum`, adds the items at the end as well, and is what the max-min spread bounds (`Lpt.spread`) are inductions over.

  The first-fit and best-fit parts read the model through the `Fit` layer: `Fit.ListStep` with the rule `Fit.FirstFit`
  (`Fit.ffStep_lists`: one step of the model is `ffInsert`) and `Fit.ffOnline_ok_iff`; `Fit.bfStep_spec` and
  `Fit.gen_ok_iff`.

  The three covering specifications close their bins properly (`Cover.Good`); the file ends with what that
  means for the models: C05 (`Cover.*_isCover`) and the factor 1/2 of C10 (`Cover.*_half`).  The induction
  principles along the two- and the three-class rule stand here: `biFill_induction` (`biFill_good` here and
  `Cover23.biFill_weight` go along it) and `threeClass_induction` (`threeClass_good` here and `Cover34.mainW`), the
  latter resting on `Cover34.threeClass_main_step`, which stands in this file inside `namespace Prtpy.Cover34`.
  `Cover.closedOpen` and its lemmas (a consistent bins-array as closed bins and an open bin), which only the three
  covering proofs of this file use, stand at its top inside `namespace Prtpy.Cover`.
-/
import PrtpyProofs.Fit
import PrtpyProofs.Cover

open Prtpy

/-! ## Bins-arrays as closed bins and an open bin

A bins-array whose sums are consistent is `Cover.closedOpen v c l` (closed bins `c`, open bin `l`); the operations of
the loops of the three covering models are rewritten on that form (the `*_closedOpen` lemmas of the proofs below), which
brings the models into their textbook forms. -/

namespace Prtpy.Cover
open Prtpy.Part
variable {α : Type}

/-- the bins-array with closed bins `c` and open (last) bin `l` -/
def closedOpen (v : α → Nat) (c : List (List α)) (l : List α) : Bins α :=
  ⟨(c ++ [l]).map (binSum v), c ++ [l]⟩

theorem new_one (v : α → Nat) : (Bins.new 1 : Bins α) = closedOpen v [] [] := rfl

theorem addLast_closedOpen (v : α → Nat) (c : List (List α)) (l : List α) (x : α) :
    (closedOpen v c l).addLast v x = closedOpen v c (l ++ [x]) := by
  simp only [closedOpen, Bins.addLast, Bins.add, List.map_append, List.map_cons, List.map_nil,
    List.length_append, List.length_map, List.length_cons, List.length_nil, Nat.add_sub_cancel]
  have h1 := modify_length_append (c.map (binSum v)) (binSum v l) (· + v x)
  rw [List.length_map] at h1
  have h2 := modify_length_append c l (· ++ [x])
  simp only [h1, h2, binSum_append, binSum_cons, binSum_nil, Nat.add_zero]

theorem foldl_addLast_closedOpen (v : α → Nat) (c : List (List α)) : ∀ (ys l : List α),
    ys.foldl (Bins.addLast v) (closedOpen v c l) = closedOpen v c (l ++ ys)
  | [], l => by rw [List.foldl_nil, List.append_nil]
  | y :: ys, l => by rw [List.foldl_cons, addLast_closedOpen, foldl_addLast_closedOpen v c ys, List.append_assoc]; rfl

theorem lastSum_closedOpen (v : α → Nat) (c : List (List α)) (l : List α) :
    (closedOpen v c l).lastSum = binSum v l := by
  simp [closedOpen, Bins.lastSum, lastD]

theorem addEmpty_closedOpen (v : α → Nat) (c : List (List α)) (l : List α) :
    (closedOpen v c l).addEmpty 1 = closedOpen v (c ++ [l]) [] := by
  simp [closedOpen, Bins.addEmpty, Bins.concat, Bins.new, binSum_nil]

theorem removeLast_closedOpen (v : α → Nat) (c : List (List α)) (l : List α) :
    (closedOpen v c l).removeLast 1 = ⟨c.map (binSum v), c⟩ := by
  simp [closedOpen, Bins.removeLast]

end Prtpy.Cover

namespace Prtpy.Textbook

variable {α : Type}

/-! ## Specifications -/

/-! ### round-robin -/

/-- the elements of `l` whose position `j` (counted from `0`) satisfies `j % k = i`, in their order -/
def everyKth (k i : Nat) (l : List α) : List α :=
  (l.zipIdx.filter (fun p => p.2 % k = i)).map (·.1)

/-- Round-robin: sort by non-increasing value (stable); item number `j` goes to bin `j % k`. -/
def rrSpec (v : α → Nat) (k : Nat) (items : List α) : List (List α) :=
  (List.range k).map (fun i => everyKth k i (sortDesc v items))

/-! ### first fit -/

/-- Put `x` into the first bin whose load plus `v x` is at most `B`; if there is none, open a new bin
    (at the end). -/
def ffInsert (v : α → Nat) (B : Nat) (x : α) : List (List α) → List (List α)
  | [] => [[x]]
  | bin :: bins => if binSum v bin + v x ≤ B then (bin ++ [x]) :: bins else bin :: ffInsert v B x bins

/-- First fit: start with no bins, insert the items one by one in the given order. -/
def ffSpec (v : α → Nat) (B : Nat) (items : List α) : List (List α) :=
  items.foldl (fun bins x => ffInsert v B x bins) []

/-- First fit decreasing: first fit on the items sorted by non-increasing value. -/
def ffdSpec (v : α → Nat) (B : Nat) (items : List α) : List (List α) :=
  ffSpec v B (sortDesc v items)

/-! ### runs of a non-deterministic rule -/

/-- `Run step b xs b'`: starting from `b`, the items `xs` are placed one after the other, every placement being
    allowed by `step`; the result is `b'`. -/
inductive Run (step : Bins α → α → Bins α → Prop) : Bins α → List α → Bins α → Prop
  | nil (b : Bins α) : Run step b [] b
  | cons {b b₁ b' : Bins α} {x : α} {xs : List α} :
      step b x b₁ → Run step b₁ xs b' → Run step b (x :: xs) b'

/-! ### LPT (greedy number partitioning) -/

/-- `x` is put into *a* bin whose sum is minimum (any one of them). -/
def LPTStep (v : α → Nat) (b : Bins α) (x : α) (b' : Bins α) : Prop :=
  ∃ i, ∃ h : i < b.sums.length, (∀ s ∈ b.sums, b.sums[i] ≤ s) ∧ b' = b.add v x i

/-- An LPT run: the items are processed in *some* order of non-increasing value, starting from `k` empty bins,
    and each item goes to *a* bin of currently minimum sum.  Ties (between equal items, between equally
    loaded bins) are left open. -/
def IsLPTRun (v : α → Nat) (k : Nat) (items : List α) (b : Bins α) : Prop :=
  ∃ order : List α, order.Perm items ∧ order.Pairwise (fun a c => v c ≤ v a) ∧
    Run (LPTStep v) (Bins.new k) order b

/-! ### best fit -/

/-- `x` is put into *a* bin of maximum sum among those in which it fits; if it fits nowhere, a new bin
    containing just `x` is opened at the end. -/
def BestFitStep (v : α → Nat) (B : Nat) (b : Bins α) (x : α) (b' : Bins α) : Prop :=
  (∃ i, ∃ h : i < b.sums.length, b.sums[i] + v x ≤ B ∧
      (∀ s ∈ b.sums, s + v x ≤ B → s ≤ b.sums[i]) ∧ b' = b.add v x i) ∨
  ((∀ s ∈ b.sums, ¬ s + v x ≤ B) ∧ b' = ⟨b.sums ++ [v x], b.lists ++ [[x]]⟩)

/-- A best-fit run: start with no bins, the items arrive in the given order. -/
def IsBestFitRun (v : α → Nat) (B : Nat) (items : List α) (b : Bins α) : Prop :=
  Run (BestFitStep v B) ⟨[], []⟩ items b

/-! ### next-fit-decreasing cover -/

/-- Next-fit cover of the list `xs`, the bin being filled is `cur`:
    keep filling `cur`; as soon as its sum reaches `B`, it is finished and a new bin is started.
    What is in `cur` when the items run out is discarded. -/
def nfCover (v : α → Nat) (B : Nat) : List α → List α → List (List α)
  | _, [] => []
  | cur, x :: xs =>
    if B ≤ binSum v (cur ++ [x]) then (cur ++ [x]) :: nfCover v B [] xs else nfCover v B (cur ++ [x]) xs

/-- Next-fit-decreasing cover. -/
def nfdCoverSpec (v : α → Nat) (B : Nat) (items : List α) : List (List α) :=
  nfCover v B [] (sortDesc v items)

/-! ### the two algorithms of Csirik, Frenk, Labbé and Zhang -/

/-- Add items from the second list (smallest first, in that order) to the bin `cur` until its sum reaches `B` or
    the items run out; returns the bin and the items that were not used. -/
def fillUp (v : α → Nat) (B : Nat) : List α → List α → List α × List α
  | cur, [] => (cur, [])
  | cur, y :: ys => if binSum v cur < B then fillUp v B (cur ++ [y]) ys else (cur, y :: ys)

theorem fillUp_length (v : α → Nat) (B : Nat) : ∀ (ys cur : List α),
    (fillUp v B cur ys).2.length ≤ ys.length
  | [], _ => Nat.le_refl _
  | y :: ys, cur => by
    simp only [fillUp]
    split
    · exact Nat.le_trans (fillUp_length v B ys _) (Nat.le_succ _)
    · exact Nat.le_refl _

/-- Bidirectional filling of a list sorted by non-increasing value:
    open a bin with the largest remaining item (the head), add the smallest remaining items (from the other
    end) until the bin is covered; a bin that cannot be covered is discarded (the items have run out then,
    see `fillUp_spec`). -/
def biFill (v : α → Nat) (B : Nat) : List α → List (List α)
  | [] => []
  | x :: rest =>
    let r := fillUp v B [x] rest.reverse
    if B ≤ binSum v r.1 then r.1 :: biFill v B r.2.reverse else []
termination_by l => l.length
decreasing_by
  have := fillUp_length v B rest.reverse [x]
  simp only [List.unattach_reverse, List.unattach_attach, List.length_reverse, List.length_cons] at *
  omega

/-- The "simple algorithm" (2/3). -/
def twoThirdsSpec (v : α → Nat) (B : Nat) (items : List α) : List (List α) :=
  biFill v B (sortDesc v items)

/-- How a bin is opened in the 3/4 algorithm: with the largest big item or with the two largest medium items
    (one, if only one is left), whichever weighs more — the big item on a tie.
    Returns (the opening items, the remaining big items, the remaining medium items). -/
def opening (v : α → Nat) : List α → List α → List α × List α × List α
  | x :: X, Y => if binSum v (Y.take 2) ≤ v x then ([x], X, Y) else (Y.take 2, x :: X, Y.drop 2)
  | [], Y => (Y.take 2, [], Y.drop 2)

theorem opening_length (v : α → Nat) (X Y : List α) (h : ¬ (X = [] ∧ Y = [])) :
    (opening v X Y).2.1.length + (opening v X Y).2.2.length < X.length + Y.length := by
  cases X with
  | nil =>
    cases Y with
    | nil => exact absurd ⟨rfl, rfl⟩ h
    | cons y Y => simp only [opening, List.length_nil, List.length_drop, List.length_cons]; omega
  | cons x X =>
    simp only [opening]
    split
    · simp only [List.length_cons]; omega
    · rename_i hlt
      cases Y with
      | nil => exact absurd (Nat.zero_le _) hlt
      | cons y Y => simp only [List.length_drop, List.length_cons]; omega

/-- Three-class filling.  `X` (big) and `Y` (medium) are sorted by non-increasing value, `Zasc` (small) by
    non-decreasing value; `cur` is the bin being filled.
    * no small items left: next-fit cover with the big, then the medium items;
    * only small items left: next-fit cover with them, largest first;
    * otherwise: open with `opening`, add the smallest small items until the bin is covered; if the small
      items run out before that, the bin stays the current one (and the first rule applies). -/
def threeClass (v : α → Nat) (B : Nat) (cur X Y Zasc : List α) : List (List α) :=
  if Zasc = [] then nfCover v B cur (X ++ Y)
  else if _h : X = [] ∧ Y = [] then nfCover v B cur Zasc.reverse
  else
    let o := opening v X Y
    let r := fillUp v B (cur ++ o.1) Zasc
    if B ≤ binSum v r.1 then r.1 :: threeClass v B [] o.2.1 o.2.2 r.2
    else threeClass v B r.1 o.2.1 o.2.2 r.2
termination_by X.length + Y.length
decreasing_by
  all_goals exact opening_length v X Y _h

/-- The "improved simple algorithm" (3/4): big items have `B ≤ 2·v`, medium items `B ≤ 3·v` and `2·v < B`,
    small items `3·v < B`. -/
def threeQuartersSpec (v : α → Nat) (B : Nat) (items : List α) : List (List α) :=
  let s := sortDesc v items
  threeClass v B []
    (s.filter (fun x => B ≤ 2 * v x))
    (s.filter (fun x => B ≤ 3 * v x ∧ 2 * v x < B))
    (s.filter (fun x => 3 * v x < B)).reverse

/-! ## Proofs -/

/-! ### round-robin -/

/-- `everyKth` with positions counted from `n` -/
def pick (k i n : Nat) (l : List α) : List α :=
  ((l.zipIdx n).filter (fun p => p.2 % k = i)).map (·.1)

theorem pick_nil (k i n : Nat) : pick k i n ([] : List α) = [] := rfl

theorem pick_cons (k i n : Nat) (x : α) (l : List α) :
    pick k i n (x :: l) = if n % k = i then x :: pick k i (n + 1) l else pick k i (n + 1) l := by
  simp only [pick, List.zipIdx_cons, List.filter_cons]
  by_cases h : n % k = i <;> simp [h]

theorem rrLoop_lists (v : α → Nat) (k : Nat) : ∀ (xs : List α) (b : Bins α) (n : Nat),
    (rrLoop v k b (n % k) xs).lists = b.lists.mapIdx (fun j l => l ++ pick k j n xs)
  | [], b, n => by
    apply List.ext_getElem <;> simp [rrLoop, pick_nil]
  | x :: xs, b, n => by
    simp only [rrLoop]
    rw [Nat.mod_add_mod, rrLoop_lists v k xs _ (n + 1)]
    apply List.ext_getElem
    · simp [Bins.add]
    · intro j h₁ h₂
      simp only [List.getElem_mapIdx, Bins.add, List.getElem_modify, pick_cons]
      by_cases h : n % k = j <;> simp [h]

theorem roundrobin_eq_spec (v : α → Nat) (k : Nat) (items : List α) :
    (roundrobin v k items).lists = rrSpec v k items := by
  have := rrLoop_lists v k (sortDesc v items) (Bins.new k) 0
  rw [Nat.zero_mod] at this
  unfold roundrobin
  rw [this]
  apply List.ext_getElem
  · simp [rrSpec, Bins.new]
  · intro j h₁ h₂
    simp [rrSpec, Bins.new, pick, everyKth]

theorem rrLoop_consistent (v : α → Nat) (k : Nat) : ∀ (xs : List α) (b : Bins α) (i : Nat),
    b.Consistent v → (rrLoop v k b i xs).Consistent v
  | [], _, _, h => h
  | x :: xs, b, i, h => rrLoop_consistent v k xs _ _ (Part.add_consistent v b x i h)

theorem roundrobin_sums_eq_spec (v : α → Nat) (k : Nat) (items : List α) :
    (roundrobin v k items).sums = (rrSpec v k items).map (binSum v) := by
  rw [← roundrobin_eq_spec]
  exact rrLoop_consistent v k _ _ _ (Part.new_consistent v k)

/-- the doc-test of `roundrobin.py` -/
example : rrSpec id 3 [1, 2, 3, 3, 5, 9, 9] = [[9, 3, 1], [9, 3], [5, 2]] := by decide
example : (roundrobin id 3 [1, 2, 3, 3, 5, 9, 9]).lists = [[9, 3, 1], [9, 3], [5, 2]] :=
  (roundrobin_eq_spec id 3 [1, 2, 3, 3, 5, 9, 9]).trans (by decide)
example : (roundrobin id 3 [1, 2, 3, 3, 5, 9, 9]).sums = [13, 12, 7] :=
  (roundrobin_sums_eq_spec id 3 [1, 2, 3, 3, 5, 9, 9]).trans (by decide)

/-! ### first fit -/

theorem ffInsert_into (v : α → Nat) (B : Nat) (x : α) {L : List α} {post : List (List α)}
    (hfit : binSum v L + v x ≤ B) : ∀ pre : List (List α), (∀ L' ∈ pre, B < binSum v L' + v x) →
    ffInsert v B x (pre ++ L :: post) = pre ++ (L ++ [x]) :: post
  | [], _ => by simp [ffInsert, hfit]
  | P :: pre, hno => by
    rw [List.cons_append, ffInsert, if_neg (Nat.not_le.2 (hno P List.mem_cons_self)),
      ffInsert_into v B x hfit pre (fun L' hL' => hno L' (List.mem_cons_of_mem _ hL'))]
    rfl

theorem ffInsert_none (v : α → Nat) (B : Nat) (x : α) : ∀ (ls : List (List α)),
    (∀ l ∈ ls, B < binSum v l + v x) → ffInsert v B x ls = ls ++ [[x]]
  | [], _ => rfl
  | l :: ls, h => by
    simp only [ffInsert, if_neg (Nat.not_le.2 (h l List.mem_cons_self)), List.cons_append]
    rw [ffInsert_none v B x ls (fun l' hl' => h l' (List.mem_cons_of_mem _ hl'))]

/-- `ffInsert` is the step of first fit on the lists (`Fit.ListStep` with the rule `Fit.FirstFit`) -/
theorem ffInsert_of_listStep {v : α → Nat} {B : Nat} {x : α} {ls ls' : List (List α)}
    (h : Fit.ListStep v B (Fit.FirstFit v B) ls x ls') : ls' = ffInsert v B x ls := by
  rcases h with ⟨pre, L, post, rfl, hfit, hno, rfl⟩ | ⟨hno, rfl⟩
  · exact (ffInsert_into v B x hfit pre hno).symm
  · exact (ffInsert_none v B x ls hno).symm

/-- one step of the model on a consistent bins-array is `ffInsert` -/
theorem ffStep_eq_ffInsert (v : α → Nat) (B : Nat) (ls : List (List α)) (x : α) :
    ffStep v B ⟨ls.map (binSum v), ls⟩ x =
      ⟨(ffInsert v B x ls).map (binSum v), ffInsert v B x ls⟩ := by
  have hc := (Fit.ffStep_step v B ⟨ls.map (binSum v), ls⟩ x).cons rfl
  have e := ffInsert_of_listStep (Fit.ffStep_lists v B ⟨ls.map (binSum v), ls⟩ x rfl)
  generalize ffStep v B ⟨ls.map (binSum v), ls⟩ x = b' at hc e
  obtain ⟨s, l⟩ := b'
  simp only at hc e
  rw [hc, e]

/-- the fold of the model's step from a consistent bins-array is the fold of `ffInsert` -/
theorem foldl_ffStep (v : α → Nat) (B : Nat) : ∀ (xs : List α) (ls : List (List α)),
    xs.foldl (ffStep v B) ⟨ls.map (binSum v), ls⟩ =
      ⟨(xs.foldl (fun bins x => ffInsert v B x bins) ls).map (binSum v),
        xs.foldl (fun bins x => ffInsert v B x bins) ls⟩
  | [], _ => rfl
  | x :: xs, ls => by rw [List.foldl_cons, ffStep_eq_ffInsert, foldl_ffStep v B xs, List.foldl_cons]

/-- The whole bins-array of the model, sums and lists.  The model starts from one empty bin (lists `[[]]`), the rule
    `ffSpec` from no bin (`[]`); after the first item `x` the two agree (`e`: both have the one bin `[x]`) only because
    `.ok` gives `v x ≤ B`, so that `x` goes into the empty bin instead of opening a second one. -/
theorem ffOnline_eq_spec' {v : α → Nat} {B : Nat} {items : List α} {b : Bins α} (hne : items ≠ [])
    (h : ffOnline v B items = .ok b) : b = ⟨(ffSpec v B items).map (binSum v), ffSpec v B items⟩ := by
  cases items with
  | nil => exact absurd rfl hne
  | cons x xs =>
    obtain ⟨hall, rfl⟩ := Fit.ffOnline_ok_iff.1 h
    have e : ffInsert v B x [[]] = ffInsert v B x [] := by
      simp [ffInsert, Part.binSum_nil, hall x List.mem_cons_self]
    exact (foldl_ffStep v B (x :: xs) [[]]).trans (by simp only [ffSpec, List.foldl_cons, e])

/-- C14 for `first_fit.online`: for a non-empty list of items the model returns the textbook bins.
    (`∀ x ∈ items, v x ≤ B` is used, for the first item, but is no hypothesis here: `.ok` gives it.) -/
theorem ffOnline_eq_spec {v : α → Nat} {B : Nat} {items : List α} {b : Bins α} (hne : items ≠ [])
    (h : ffOnline v B items = .ok b) : b.lists = ffSpec v B items := by
  rw [ffOnline_eq_spec' hne h]

theorem ffOnline_sums_eq_spec {v : α → Nat} {B : Nat} {items : List α} {b : Bins α} (hne : items ≠ [])
    (h : ffOnline v B items = .ok b) : b.sums = (ffSpec v B items).map (binSum v) := by
  rw [ffOnline_eq_spec' hne h]

/-- The one difference: on the empty input the Python function returns its initial empty bin, the textbook
    rule returns no bin.  (So the statement without `items ≠ []` is false.) -/
theorem ffOnline_nil (v : α → Nat) (B : Nat) :
    ffOnline v B ([] : List α) = .ok ⟨[0], [[]]⟩ ∧ ffSpec v B ([] : List α) = [] := ⟨rfl, rfl⟩

/-- the statement that holds for every input -/
theorem ffOnline_eq_spec_all {v : α → Nat} {B : Nat} {items : List α} {b : Bins α}
    (h : ffOnline v B items = .ok b) :
    b.lists = match items with | [] => [[]] | _ :: _ => ffSpec v B items := by
  cases items with
  | nil => cases h; rfl
  | cons x xs => exact ffOnline_eq_spec (by simp) h

/-- the doc-test of `first_fit.online` -/
example : ffSpec id 9 [1, 2, 3, 3, 5, 9, 9] = [[1, 2, 3, 3], [5], [9], [9]] := by decide
example : ∃ b, ffOnline id 9 [1, 2, 3, 3, 5, 9, 9] = .ok b ∧ b.lists = [[1, 2, 3, 3], [5], [9], [9]] :=
  ⟨_, rfl, (ffOnline_eq_spec (v := id) (B := 9) (items := [1, 2, 3, 3, 5, 9, 9]) (by decide) rfl).trans
    (by decide)⟩

/-- C14 for `first_fit.decreasing`. -/
theorem ffDecreasing_eq_spec {v : α → Nat} {B : Nat} {items : List α} {b : Bins α} (hne : items ≠ [])
    (h : ffDecreasing v B items = .ok b) : b.lists = ffdSpec v B items :=
  ffOnline_eq_spec (Part.sortDesc_ne_nil v hne) h

theorem ffDecreasing_sums_eq_spec {v : α → Nat} {B : Nat} {items : List α} {b : Bins α} (hne : items ≠ [])
    (h : ffDecreasing v B items = .ok b) : b.sums = (ffdSpec v B items).map (binSum v) :=
  ffOnline_sums_eq_spec (Part.sortDesc_ne_nil v hne) h

/-- the doc-test of `first_fit.decreasing` (Wikipedia's non-monotonicity example) -/
example : ffdSpec id 60 [44, 24, 24, 22, 21, 17, 8, 8, 6, 6] = [[44, 8, 8], [24, 24, 6, 6], [22, 21, 17]] := by
  decide
example : ∃ b, ffDecreasing id 60 [44, 24, 24, 22, 21, 17, 8, 8, 6, 6] = .ok b ∧
    b.lists = [[44, 8, 8], [24, 24, 6, 6], [22, 21, 17]] :=
  ⟨_, rfl, (ffDecreasing_eq_spec (v := id) (B := 60) (items := [44, 24, 24, 22, 21, 17, 8, 8, 6, 6])
    (by decide) rfl).trans (by decide)⟩

/-! ### next-fit-decreasing cover -/

theorem nfCover_nil {v : α → Nat} {B : Nat} (cur : List α) : nfCover v B cur [] = [] := by
  simp [nfCover]

theorem nfCover_cons {v : α → Nat} {B : Nat} (cur : List α) (x : α) (xs : List α) :
    nfCover v B cur (x :: xs) =
      if B ≤ binSum v (cur ++ [x]) then (cur ++ [x]) :: nfCover v B [] xs
      else nfCover v B (cur ++ [x]) xs := by
  simp [nfCover]

/-- what is left in the unfinished bin after `nfCover` -/
def nfRest (v : α → Nat) (B : Nat) : List α → List α → List α
  | cur, [] => cur
  | cur, x :: xs => if B ≤ binSum v (cur ++ [x]) then nfRest v B [] xs else nfRest v B (cur ++ [x]) xs

theorem closeIfFull_closedOpen (v : α → Nat) (B : Nat) (c : List (List α)) (cur : List α) :
    closeIfFull B (Cover.closedOpen v c cur) =
      if B ≤ binSum v cur then Cover.closedOpen v (c ++ [cur]) [] else Cover.closedOpen v c cur := by
  simp only [closeIfFull, Cover.lastSum_closedOpen]
  split
  · rw [Cover.addEmpty_closedOpen]
  · rfl

/-- `coverStep` is `addLast` followed by `closeIfFull` -/
theorem coverStep_closedOpen (v : α → Nat) (B : Nat) (c : List (List α)) (cur : List α) (x : α) :
    coverStep v B (Cover.closedOpen v c cur) x =
      if B ≤ binSum v (cur ++ [x]) then Cover.closedOpen v (c ++ [cur ++ [x]]) []
      else Cover.closedOpen v c (cur ++ [x]) := by
  rw [← closeIfFull_closedOpen, ← Cover.addLast_closedOpen]
  rfl

theorem decrSub_closedOpen (v : α → Nat) (B : Nat) : ∀ (xs : List α) (c : List (List α)) (cur : List α),
    decrSub v B (Cover.closedOpen v c cur) xs = Cover.closedOpen v (c ++ nfCover v B cur xs) (nfRest v B cur xs)
  | [], c, cur => by simp [decrSub, nfCover, nfRest]
  | x :: xs, c, cur => by
    have ih := decrSub_closedOpen v B xs
    simp only [decrSub] at ih ⊢
    simp only [List.foldl_cons, coverStep_closedOpen, nfCover, nfRest]
    split
    · rw [ih]; simp
    · rw [ih]

/-- the whole bins-array, sums and lists; `Cover.coverDecreasing_isCover` rewrites the model with it -/
theorem coverDecreasing_eq_spec' (v : α → Nat) (B : Nat) (items : List α) :
    coverDecreasing v B items = ⟨(nfdCoverSpec v B items).map (binSum v), nfdCoverSpec v B items⟩ := by
  unfold coverDecreasing nfdCoverSpec
  rw [Cover.new_one v, decrSub_closedOpen, Cover.removeLast_closedOpen]
  simp

/-- C14 for `greedy_covering.decreasing`. -/
theorem coverDecreasing_eq_spec (v : α → Nat) (B : Nat) (items : List α) :
    (coverDecreasing v B items).lists = nfdCoverSpec v B items := by
  rw [coverDecreasing_eq_spec']

theorem coverDecreasing_sums_eq_spec (v : α → Nat) (B : Nat) (items : List α) :
    (coverDecreasing v B items).sums = (nfdCoverSpec v B items).map (binSum v) := by
  rw [coverDecreasing_eq_spec']

/-- the doc-test of `greedy_covering.decreasing` -/
example : nfdCoverSpec id 10 [1, 2, 3, 4, 5, 6, 7, 8, 9, 10] = [[10], [9, 8], [7, 6], [5, 4, 3]] := by decide
example : (coverDecreasing id 10 [1, 2, 3, 4, 5, 6, 7, 8, 9, 10]).lists = [[10], [9, 8], [7, 6], [5, 4, 3]] :=
  (coverDecreasing_eq_spec id 10 [1, 2, 3, 4, 5, 6, 7, 8, 9, 10]).trans (by decide)

/-! ### the 2/3 algorithm -/

/-- what `fillUp` does: it moves a prefix `taken` of the ascending list into the bin; if that prefix is not
    empty, the bin was still below `B` before its last element was added; if the bin is below `B` at the end,
    nothing is left -/
theorem fillUp_spec (v : α → Nat) (B : Nat) : ∀ (ys cur : List α),
    ∃ taken left, ys = taken ++ left ∧ fillUp v B cur ys = (cur ++ taken, left) ∧
      (taken = [] ∨ ∃ t last, taken = t ++ [last] ∧ binSum v (cur ++ t) < B) ∧
      (binSum v (cur ++ taken) < B → left = [])
  | [], cur => ⟨[], [], rfl, by simp [fillUp], Or.inl rfl, fun _ => rfl⟩
  | y :: ys, cur => by
    by_cases h : binSum v cur < B
    · obtain ⟨taken, left, h1, h2, h3, h4⟩ := fillUp_spec v B ys (cur ++ [y])
      refine ⟨y :: taken, left, by simp [h1], by simp [fillUp, h, h2], Or.inr ?_, by rwa [List.append_assoc] at h4⟩
      rcases h3 with rfl | ⟨t, last, rfl, hlt⟩
      · exact ⟨[], y, rfl, by simpa using h⟩
      · exact ⟨y :: t, last, rfl, by simpa [List.append_assoc] using hlt⟩
    · exact ⟨[], y :: ys, rfl, by simp [fillUp, h], Or.inl rfl, fun h' => absurd (by rwa [List.append_nil] at h') h⟩

/-- induction along `biFill`: from `x :: rest` to what is left after its first bin -/
theorem biFill_induction (v : α → Nat) (B : Nat) {motive : List α → Prop} (nil : motive [])
    (cons : ∀ (x : α) (rest taken left : List α), rest.reverse = taken ++ left →
      ((B ≤ binSum v ([x] ++ taken) ∧
          biFill v B (x :: rest) = ([x] ++ taken) :: biFill v B left.reverse) ∨
       (binSum v ([x] ++ taken) < B ∧ left = [] ∧ biFill v B (x :: rest) = [])) →
      (taken = [] ∨ ∃ t last, taken = t ++ [last] ∧ binSum v ([x] ++ t) < B) →
      motive left.reverse → motive (x :: rest)) (l : List α) : motive l := by
  suffices h : ∀ (n : Nat) (l : List α), l.length ≤ n → motive l from h _ l (Nat.le_refl _)
  intro n
  induction n with
  | zero =>
    intro l hl
    rw [List.eq_nil_of_length_eq_zero (Nat.le_zero.1 hl)]
    exact nil
  | succ n ih =>
    intro l hl
    cases l with
    | nil => exact nil
    | cons x rest =>
      obtain ⟨taken, left, hrev, hfill, hshape, hunc⟩ := fillUp_spec v B rest.reverse [x]
      have hlen := congrArg List.length hrev
      refine cons x rest taken left hrev ?_ hshape (ih _ ?_)
      · rw [biFill]
        simp only [hfill]
        by_cases hc : B ≤ binSum v ([x] ++ taken)
        · exact Or.inl ⟨hc, if_pos hc⟩
        · exact Or.inr ⟨Nat.lt_of_not_le hc, hunc (Nat.lt_of_not_le hc), if_neg hc⟩
      · simp only [List.length_reverse, List.length_append, List.length_cons] at *
        omega

theorem perm_of_reverse_eq {rest taken left : List α} (h : rest.reverse = taken ++ left) (x : α) :
    (x :: rest).Perm (([x] ++ taken) ++ left.reverse) := by
  have hperm : rest.Perm (taken ++ left.reverse) := by
    rw [← List.reverse_reverse rest, h, List.reverse_append]
    exact List.perm_append_comm.trans ((List.reverse_perm taken).append_right _)
  exact hperm.cons x

/-- the inner `while` of both algorithms, on the ascending view of the remaining items -/
theorem fillFromSmall_closedOpen (v : α → Nat) (B : Nat) (c : List (List α)) : ∀ (asc : List α) (fuel : Nat)
    (cur : List α), asc.length ≤ fuel →
    fillFromSmall v B fuel (Cover.closedOpen v c cur) asc.reverse =
      (Cover.closedOpen v c (fillUp v B cur asc).1, (fillUp v B cur asc).2.reverse)
  | [], fuel, cur, _ => by
    cases fuel with
    | zero => rfl
    | succ f =>
      simp only [fillFromSmall, List.reverse_nil, List.getLast?_nil, fillUp]
      split <;> rfl
  | y :: ys, 0, _, h => by simp at h
  | y :: ys, f + 1, cur, h => by
    simp only [fillFromSmall, Cover.lastSum_closedOpen, List.reverse_cons, List.getLast?_append,
      List.getLast?_singleton, Option.some_or, List.dropLast_concat, fillUp]
    split
    · rw [Cover.addLast_closedOpen]
      exact fillFromSmall_closedOpen v B c ys f _ (by simpa using h)
    · simp

theorem twoThirdsLoop_nil (v : α → Nat) (B : Nat) (fuel : Nat) (b : Bins α) :
    twoThirdsLoop v B fuel b [] = b := by
  cases fuel <;> rfl

theorem twoThirdsLoop_closedOpen (v : α → Nat) (B : Nat) : ∀ (fuel : Nat) (l : List α) (c : List (List α)),
    l.length ≤ fuel →
    ∃ l', twoThirdsLoop v B fuel (Cover.closedOpen v c []) l = Cover.closedOpen v (c ++ biFill v B l) l'
  | fuel, [], c, _ => ⟨[], by rw [twoThirdsLoop_nil, biFill]; simp⟩
  | 0, x :: rest, _, h => by simp at h
  | fuel + 1, x :: rest, c, h => by
    have key := fillFromSmall_closedOpen v B c rest.reverse rest.length [x] (by simp)
    rw [List.reverse_reverse] at key
    have hlen := fillUp_length v B rest.reverse [x]
    simp only [List.length_reverse, List.length_cons] at hlen h
    simp only [twoThirdsLoop, Cover.addLast_closedOpen, List.nil_append, key, closeIfFull_closedOpen]
    rw [biFill]
    split
    · obtain ⟨l', e⟩ := twoThirdsLoop_closedOpen v B fuel (fillUp v B [x] rest.reverse).2.reverse
        (c ++ [(fillUp v B [x] rest.reverse).1]) (by simp only [List.length_reverse]; omega)
      exact ⟨l', by rw [e]; simp⟩
    · rename_i hnot
      obtain ⟨taken, left, _, hfill, _, hunc⟩ := fillUp_spec v B rest.reverse [x]
      simp only [hfill] at hnot ⊢
      rw [hunc (by omega)]
      exact ⟨[x] ++ taken, by rw [List.reverse_nil, twoThirdsLoop_nil]; simp⟩

/-- the whole bins-array, sums and lists; `Cover.twoThirds_isCover` rewrites the model with it -/
theorem twoThirds_eq_spec' (v : α → Nat) (B : Nat) (items : List α) :
    twoThirds v B items = ⟨(twoThirdsSpec v B items).map (binSum v), twoThirdsSpec v B items⟩ := by
  unfold twoThirds twoThirdsSpec
  obtain ⟨l', e⟩ := twoThirdsLoop_closedOpen v B (sortDesc v items).length (sortDesc v items) [] (Nat.le_refl _)
  simp only [Cover.new_one v, e, Cover.removeLast_closedOpen, List.nil_append]

/-- C14 for `cflz_covering.twothirds`. -/
theorem twoThirds_eq_spec (v : α → Nat) (B : Nat) (items : List α) :
    (twoThirds v B items).lists = twoThirdsSpec v B items := by
  rw [twoThirds_eq_spec']

theorem twoThirds_sums_eq_spec (v : α → Nat) (B : Nat) (items : List α) :
    (twoThirds v B items).sums = (twoThirdsSpec v B items).map (binSum v) := by
  rw [twoThirds_eq_spec']

/-- the doc-test of `cflz_covering.twothirds` -/
example : twoThirdsSpec id 10 [1, 2, 3, 4, 5, 6, 7, 8, 9, 10] = [[10], [9, 1], [8, 2], [7, 3], [6, 4]] := by
  decide +kernel
example : (twoThirds id 10 [1, 2, 3, 4, 5, 6, 7, 8, 9, 10]).lists = [[10], [9, 1], [8, 2], [7, 3], [6, 4]] :=
  (twoThirds_eq_spec id 10 [1, 2, 3, 4, 5, 6, 7, 8, 9, 10]).trans
    (by decide +kernel)

/-! ### the 3/4 algorithm -/

/-- the way the model opens a bin is `opening` (the medium items have positive value): the bin it adds to, and
    the big and the medium items it keeps -/
theorem model_opening (v : α → Nat) (X Y : List α) (hne : ¬ (X = [] ∧ Y = [])) (hY : ∀ y ∈ Y, 0 < v y)
    (c : List (List α)) (cur : List α) :
    (if decide (binSum v (Y.take 2) ≤ binSum v (X.take 1)) = true
      then (X.take 1).foldl (Bins.addLast v) (Cover.closedOpen v c cur)
      else (Y.take 2).foldl (Bins.addLast v) (Cover.closedOpen v c cur)) =
        Cover.closedOpen v c (cur ++ (opening v X Y).1) ∧
    (if decide (binSum v (Y.take 2) ≤ binSum v (X.take 1)) = true then X.drop 1 else X) = (opening v X Y).2.1 ∧
    (if decide (binSum v (Y.take 2) ≤ binSum v (X.take 1)) = true then Y else Y.drop 2) = (opening v X Y).2.2 := by
  cases X with
  | nil =>
    cases Y with
    | nil => exact absurd ⟨rfl, rfl⟩ hne
    | cons y Y =>
      have hy := hY y List.mem_cons_self
      have : ¬ binSum v ((y :: Y).take 2) ≤ binSum v (([] : List α).take 1) := by
        cases Y <;> simp [Part.binSum_cons, Part.binSum_nil] <;> omega
      simp only [this, decide_false, Bool.false_eq_true, if_false, opening, Cover.foldl_addLast_closedOpen, and_self]
  | cons x X =>
    have e : binSum v ((x :: X).take 1) = v x := Part.binSum_singleton v x
    simp only [e, opening]
    by_cases h : binSum v (Y.take 2) ≤ v x <;> simp [h, Cover.foldl_addLast_closedOpen, Cover.addLast_closedOpen]

theorem opening_sublist (v : α → Nat) (X Y : List α) :
    (opening v X Y).2.1.Sublist X ∧ (opening v X Y).2.2.Sublist Y := by
  cases X with
  | nil => exact ⟨List.Sublist.refl _, List.drop_sublist 2 Y⟩
  | cons x X =>
    simp only [opening]
    split
    · exact ⟨List.sublist_cons_self x X, List.Sublist.refl _⟩
    · exact ⟨List.Sublist.refl _, List.drop_sublist 2 Y⟩

theorem threeClass_nilZ {v : α → Nat} {B : Nat} (cur X Y : List α) :
    threeClass v B cur X Y [] = nfCover v B cur (X ++ Y) := by
  rw [threeClass]; simp

theorem threeClass_nilXY {v : α → Nat} {B : Nat} (cur Z : List α) (hZ : Z ≠ []) :
    threeClass v B cur [] [] Z = nfCover v B cur Z.reverse := by
  rw [threeClass]; simp [hZ]

theorem threeClass_step {v : α → Nat} {B : Nat} (cur X Y Z : List α) (hZ : Z ≠ []) (h : ¬ (X = [] ∧ Y = [])) :
    threeClass v B cur X Y Z =
      if B ≤ binSum v (fillUp v B (cur ++ (opening v X Y).1) Z).1 then
        (fillUp v B (cur ++ (opening v X Y).1) Z).1 ::
          threeClass v B [] (opening v X Y).2.1 (opening v X Y).2.2
            (fillUp v B (cur ++ (opening v X Y).1) Z).2
      else threeClass v B (fillUp v B (cur ++ (opening v X Y).1) Z).1
        (opening v X Y).2.1 (opening v X Y).2.2
        (fillUp v B (cur ++ (opening v X Y).1) Z).2 := by
  rw [threeClass]
  simp only [if_neg hZ, dif_neg h]

theorem threeQuartersLoop_closedOpen (v : α → Nat) (B : Nat) : ∀ (fuel : Nat) (X Y Zasc : List α)
    (c : List (List α)) (cur : List α), X.length + Y.length < fuel → (∀ y ∈ Y, 0 < v y) →
    ∃ l', threeQuartersLoop v B fuel (Cover.closedOpen v c cur) X Y Zasc.reverse =
      Cover.closedOpen v (c ++ threeClass v B cur X Y Zasc) l'
  | 0, _, _, _, _, _, h, _ => by omega
  | fuel + 1, X, Y, Zasc, c, cur, h, hY => by
    rw [threeQuartersLoop, threeClass]
    by_cases hZ : Zasc = []
    · subst hZ
      simp only [List.reverse_nil, List.isEmpty_nil, if_true]
      refine ⟨nfRest v B cur (X ++ Y), ?_⟩
      have := decrSub_closedOpen v B (X ++ Y) c cur
      simp only [decrSub, List.foldl_append] at this ⊢
      exact this
    · have hZ' : Zasc.reverse.isEmpty = false := by simpa using hZ
      rw [hZ', if_neg hZ]
      simp only [Bool.false_eq_true, if_false]
      by_cases hXY : X = [] ∧ Y = []
      · obtain ⟨rfl, rfl⟩ := hXY
        simp only [List.isEmpty_nil, Bool.and_self, if_true, and_self, dite_true]
        exact ⟨_, decrSub_closedOpen v B Zasc.reverse c cur⟩
      · have hXY' : (X.isEmpty && Y.isEmpty) = false := by
          simpa [List.isEmpty_iff] using hXY
        rw [hXY', dif_neg hXY]
        simp only [Bool.false_eq_true, if_false]
        obtain ⟨e1, e2, e3⟩ := model_opening v X Y hXY hY c cur
        have key := fillFromSmall_closedOpen v B c Zasc Zasc.reverse.length (cur ++ (opening v X Y).1) (by simp)
        simp only [e1, e2, e3, key, closeIfFull_closedOpen]
        have hlen := opening_length v X Y hXY
        have hY' : ∀ y ∈ (opening v X Y).2.2, 0 < v y := fun y hy => hY y ((opening_sublist v X Y).2.subset hy)
        split
        · obtain ⟨l', e⟩ := threeQuartersLoop_closedOpen v B fuel (opening v X Y).2.1 (opening v X Y).2.2
            (fillUp v B (cur ++ (opening v X Y).1) Zasc).2
            (c ++ [(fillUp v B (cur ++ (opening v X Y).1) Zasc).1]) [] (by omega) hY'
          exact ⟨l', by rw [e]; simp⟩
        · exact threeQuartersLoop_closedOpen v B fuel _ _ _ c _ (by omega) hY'

/-- the model's classes `isBig`, `isMedium`, `isSmall` are the three filters of `threeQuartersSpec` -/
theorem filter_isBig (v : α → Nat) (B : Nat) (s : List α) :
    s.filter (isBig v B) = s.filter (fun x => B ≤ 2 * v x) := rfl

theorem filter_isSmall (v : α → Nat) (B : Nat) (s : List α) :
    s.filter (isSmall v B) = s.filter (fun x => 3 * v x < B) := rfl

theorem filter_isMedium (v : α → Nat) (B : Nat) (s : List α) :
    s.filter (isMedium v B) = s.filter (fun x => B ≤ 3 * v x ∧ 2 * v x < B) := by
  apply List.filter_congr
  intro x _
  simp [isMedium]

/-- the whole bins-array, sums and lists; `Cover.threeQuarters_isCover` rewrites the model with it -/
theorem threeQuarters_eq_spec' (v : α → Nat) (B : Nat) (items : List α) :
    threeQuarters v B items =
      ⟨(threeQuartersSpec v B items).map (binSum v), threeQuartersSpec v B items⟩ := by
  unfold threeQuarters threeQuartersSpec
  have hp := (Cover.classes_perm v B (sortDesc v items)).length_eq
  simp only [List.length_append] at hp
  obtain ⟨l', e⟩ := threeQuartersLoop_closedOpen v B ((sortDesc v items).length + 1)
    ((sortDesc v items).filter (isBig v B)) ((sortDesc v items).filter (isMedium v B))
    ((sortDesc v items).filter (isSmall v B)).reverse [] [] (by omega) (by
      intro y hy
      have := (List.mem_filter.1 hy).2
      simp only [isMedium, Bool.and_eq_true, decide_eq_true_eq] at this
      omega)
  rw [List.reverse_reverse] at e
  simp only [Cover.new_one v]
  rw [e, Cover.removeLast_closedOpen, List.nil_append, filter_isBig, filter_isMedium, filter_isSmall]

/-- C14 for `cflz_covering.threequarters`. -/
theorem threeQuarters_eq_spec (v : α → Nat) (B : Nat) (items : List α) :
    (threeQuarters v B items).lists = threeQuartersSpec v B items := by
  rw [threeQuarters_eq_spec']

theorem threeQuarters_sums_eq_spec (v : α → Nat) (B : Nat) (items : List α) :
    (threeQuarters v B items).sums = (threeQuartersSpec v B items).map (binSum v) := by
  rw [threeQuarters_eq_spec']

/-- the doc-tests of `cflz_covering.threequarters` -/
example : threeQuartersSpec id 10 [1, 2, 3, 4, 5, 6, 7, 8, 9, 10] =
    [[10], [9, 1], [8, 2], [7, 3], [6, 5]] := by
  decide +kernel
example : threeQuartersSpec id 1000 [994, 501, 501, 499, 499, 499, 499, 1, 1, 1, 1, 1, 1, 1, 1, 1, 1, 1, 1] =
    [[499, 499, 1, 1], [499, 499, 1, 1], [994, 1, 1, 1, 1, 1, 1], [501, 1, 1, 501]] := by
  decide +kernel
example : (threeQuarters id 10 [1, 2, 3, 4, 5, 6, 7, 8, 9, 10]).lists =
    [[10], [9, 1], [8, 2], [7, 3], [6, 5]] :=
  (threeQuarters_eq_spec id 10 [1, 2, 3, 4, 5, 6, 7, 8, 9, 10]).trans (by decide +kernel)

/-! ### LPT -/

/-- the least-loaded bins of two arrays with the same multiset of sums have the same sum, so adding the same
    value to either gives again the same multiset -/
theorem min_step_perm {s t : List Nat} (hp : s.Perm t) {i j : Nat} (hi : i < s.length) (hj : j < t.length)
    (mi : ∀ x ∈ s, s[i] ≤ x) (mj : ∀ x ∈ t, t[j] ≤ x) (a : Nat) :
    (s.modify i (· + a)).Perm (t.modify j (· + a)) := by
  refine Part.modify_perm_modify hp hi hj ?_ _
  have h1 := mi _ (hp.mem_iff.2 (List.getElem_mem hj))
  have h2 := mj _ (hp.mem_iff.1 (List.getElem_mem hi))
  omega

/-- Two runs of a rule, on lists of items with the same values in the same order, from arrays with the same
    multiset of sums, end with the same multiset of sums, if one step of the rule keeps it. -/
theorem Run.sums_perm {step : Bins α → α → Bins α → Prop} (v : α → Nat)
    (hstep : ∀ {b₁ b₂ b₁' b₂' : Bins α} {x y : α}, v x = v y → b₁.sums.Perm b₂.sums →
      step b₁ x b₁' → step b₂ y b₂' → b₁'.sums.Perm b₂'.sums) :
    ∀ (o₁ o₂ : List α), o₁.map v = o₂.map v → ∀ (b₁ b₂ b₁' b₂' : Bins α), b₁.sums.Perm b₂.sums →
      Run step b₁ o₁ b₁' → Run step b₂ o₂ b₂' → b₁'.sums.Perm b₂'.sums
  | [], o₂, ho, b₁, b₂, b₁', b₂', hp, r₁, r₂ => by
    have : o₂ = [] := by simpa using ho.symm
    subst this
    cases r₁; cases r₂
    exact hp
  | x :: o₁, [], ho, _, _, _, _, _, _, _ => by simp at ho
  | x :: o₁, y :: o₂, ho, b₁, b₂, b₁', b₂', hp, r₁, r₂ => by
    simp only [List.map_cons, List.cons.injEq] at ho
    cases r₁ with
    | cons s₁ r₁ =>
      cases r₂ with
      | cons s₂ r₂ => exact Run.sums_perm v hstep o₁ o₂ ho.2 _ _ _ _ (hstep ho.1 hp s₁ s₂) r₁ r₂

/-- a fold of a function whose every step, from a state with the property `I`, is allowed by `step` and keeps `I`,
    is a run -/
theorem Run.of_foldl {step : Bins α → α → Bins α → Prop} {f : Bins α → α → Bins α} (I : Bins α → Prop)
    (hI : ∀ b x, I b → step b x (f b x) ∧ I (f b x)) : ∀ (xs : List α) (b : Bins α), I b →
    Run step b xs (xs.foldl f b)
  | [], b, _ => Run.nil b
  | x :: xs, b, hb => Run.cons (hI b x hb).1 (Run.of_foldl I hI xs _ (hI b x hb).2)

theorem lptStep_perm {v : α → Nat} {b₁ b₂ b₁' b₂' : Bins α} {x y : α} (e : v x = v y)
    (hp : b₁.sums.Perm b₂.sums) (s₁ : LPTStep v b₁ x b₁') (s₂ : LPTStep v b₂ y b₂') :
    b₁'.sums.Perm b₂'.sums := by
  obtain ⟨i, hi, mi, rfl⟩ := s₁
  obtain ⟨j, hj, mj, rfl⟩ := s₂
  simp only [Bins.add, e]
  exact min_step_perm hp hi hj mi mj (v y)

theorem greedy_fold_run (v : α → Nat) (xs : List α) (b : Bins α) (hne : b.sums ≠ []) :
    Run (LPTStep v) b xs (xs.foldl (greedyStep v) b) := by
  refine Run.of_foldl (fun b => b.sums ≠ []) (fun b x hne => ?_) xs b hne
  have hlt := Part.argmin_lt hne
  refine ⟨⟨argmin b.sums, hlt, fun s hs => ?_, rfl⟩, fun h0 => hne ?_⟩
  · rw [Part.getElem_argmin hlt]
    exact Part.minL_le hs
  · have := congrArg List.length h0
    simpa [greedyStep, Bins.add] using this

/-- C14 for `greedy.py`: the model is an LPT run (it sorts stably and takes the first least-loaded bin). -/
theorem greedy_is_lpt_run {v : α → Nat} {k : Nat} {items : List α} (hk : 0 < k) :
    IsLPTRun v k items (greedy v k items) := by
  refine ⟨sortDesc v items, Part.sortDesc_perm v items, Part.sortDesc_sorted v items, ?_⟩
  apply greedy_fold_run
  intro h0
  have := congrArg List.length h0
  simp [Bins.new] at this
  omega

example : IsLPTRun id 3 [1, 2, 3, 3, 5, 9, 9] (greedy id 3 [1, 2, 3, 3, 5, 9, 9]) :=
  greedy_is_lpt_run (by decide)
example : (greedy id 3 [1, 2, 3, 3, 5, 9, 9]).lists = [[9, 2], [9, 1], [5, 3, 3]] := by decide

theorem sorted_values_unique (v : α → Nat) {o₁ o₂ : List α} (hp : o₁.Perm o₂)
    (h₁ : o₁.Pairwise (fun a c => v c ≤ v a)) (h₂ : o₂.Pairwise (fun a c => v c ≤ v a)) :
    o₁.map v = o₂.map v := by
  refine List.Perm.eq_of_pairwise (le := fun a c => c ≤ a) ?_ ?_ ?_ (hp.map v)
  · intro a b _ _ h1 h2; omega
  · exact List.pairwise_map.2 h₁
  · exact List.pairwise_map.2 h₂

/-- **Ties cannot matter**: any two LPT runs on the same items end with the same multiset of bin sums. -/
theorem lpt_runs_same_sums {v : α → Nat} {k : Nat} {items : List α} {b b' : Bins α}
    (h : IsLPTRun v k items b) (h' : IsLPTRun v k items b') : b.sums.Perm b'.sums := by
  obtain ⟨o₁, p₁, s₁, r₁⟩ := h
  obtain ⟨o₂, p₂, s₂, r₂⟩ := h'
  exact Run.sums_perm v lptStep_perm o₁ o₂ (sorted_values_unique v (p₁.trans p₂.symm) s₁ s₂) _ _ _ _
    (List.Perm.refl _) r₁ r₂

/-- so every transcription of the LPT rule has the sums of `greedy`, up to the order of the bins -/
theorem lpt_run_sums_perm_greedy {v : α → Nat} {k : Nat} {items : List α} {b : Bins α} (hk : 0 < k)
    (h : IsLPTRun v k items b) : b.sums.Perm (greedy v k items).sums :=
  lpt_runs_same_sums h (greedy_is_lpt_run hk)

/-- another LPT run on `[3, 2]`: the first item goes to the *second* (equally empty) bin -/
theorem lpt_other_run : IsLPTRun id 2 [3, 2] ⟨[2, 3], [[2], [3]]⟩ := by
  refine ⟨[3, 2], List.Perm.refl _, by simp, ?_⟩
  refine Run.cons (b₁ := ⟨[0, 3], [[], [3]]⟩) ⟨1, by decide, by decide, rfl⟩ ?_
  exact Run.cons (b₁ := ⟨[2, 3], [[2], [3]]⟩) ⟨0, by decide, by decide, rfl⟩ (Run.nil _)

example : [2, 3].Perm (greedy id 2 [3, 2]).sums :=
  lpt_runs_same_sums lpt_other_run (greedy_is_lpt_run (by decide))
example : (greedy id 2 [3, 2]).sums = [3, 2] := by decide

/-! ### best fit -/

/-- one step of the model is a best-fit step (it takes the *first* of the fullest bins with room) -/
theorem bfStep_bestFitStep (v : α → Nat) (B : Nat) (b : Bins α) (x : α)
    (hl : b.sums.length = b.lists.length) : BestFitStep v B b x (bfStep v B b x) := by
  rcases Fit.bfStep_spec v B b x with ⟨i, h, hfit, hmax, _, e⟩ | ⟨hno, e⟩
  · refine Or.inl ⟨i, h, hfit, ?_, e⟩
    intro s hs hsfit
    obtain ⟨j, hj, rfl⟩ := List.getElem_of_mem hs
    exact hmax j hj hsfit
  · exact Or.inr ⟨hno, by rw [e, Fit.addEmpty_add v b x hl]⟩

theorem bestFitStep_lengths {v : α → Nat} {B : Nat} {b b' : Bins α} {x : α}
    (hs : BestFitStep v B b x b') (hl : b.sums.length = b.lists.length) :
    b'.sums.length = b'.lists.length := by
  rcases hs with ⟨i, _, _, _, rfl⟩ | ⟨_, rfl⟩
  · simpa [Bins.add] using hl
  · simpa using hl

theorem bf_fold_run (v : α → Nat) (B : Nat) (xs : List α) (b : Bins α) (hl : b.sums.length = b.lists.length) :
    Run (BestFitStep v B) b xs (xs.foldl (bfStep v B) b) :=
  Run.of_foldl (fun b => b.sums.length = b.lists.length)
    (fun b x hl => ⟨bfStep_bestFitStep v B b x hl, bestFitStep_lengths (bfStep_bestFitStep v B b x hl) hl⟩) xs b hl

/-- C14 for `best_fit.online`: the model is a best-fit run.  As for first fit, the input must be non-empty: on the empty
    input the Python function returns its initial empty bin, the textbook rule no bin.  The model starts from that one
    empty bin, a run of the rule from no bin; the model's first step puts `x` into the empty bin (`e`), which is the
    rule's opening of a first bin, only because `.ok` gives `v x ≤ B` (no hypothesis `∀ x ∈ items, v x ≤ B` is stated:
    `Fit.gen_ok_iff` derives it).  From `⟨[v x], [[x]]⟩` on, the fold of `bfStep` is a run (`bf_fold_run`). -/
theorem bfOnline_is_bestfit_run {v : α → Nat} {B : Nat} {items : List α} {b : Bins α} (hne : items ≠ [])
    (h : bfOnline v B items = .ok b) : IsBestFitRun v B items b := by
  cases items with
  | nil => exact absurd rfl hne
  | cons x xs =>
    simp only [bfOnline, Fit.bfLoop_eq] at h
    obtain ⟨hall, rfl⟩ := Fit.gen_ok_iff.1 h
    have hx : v x ≤ B := hall x List.mem_cons_self
    have e : bfStep v B (Bins.new 1) x = ⟨[v x], [[x]]⟩ := by
      rcases Fit.bfStep_spec v B (Bins.new 1 : Bins α) x with ⟨i, h, _, _, _, e⟩ | ⟨hno, _⟩
      · have : i = 0 := by simp [Bins.new] at h; exact h
        subst this
        rw [e]
        simp [Bins.add, Bins.new]
      · exact absurd (by simpa using hx) (hno 0 (by simp [Bins.new]))
    rw [List.foldl_cons, e]
    exact Run.cons (Or.inr ⟨by simp, rfl⟩) (bf_fold_run v B xs _ rfl)

theorem bfOnline_nil (v : α → Nat) (B : Nat) :
    bfOnline v B ([] : List α) = .ok ⟨[0], [[]]⟩ ∧ IsBestFitRun v B ([] : List α) ⟨[], []⟩ :=
  ⟨rfl, Run.nil _⟩

/-- C14 for `best_fit.decreasing`: a best-fit run on the items sorted by non-increasing value. -/
theorem bfDecreasing_is_bestfit_run {v : α → Nat} {B : Nat} {items : List α} {b : Bins α}
    (hne : items ≠ []) (h : bfDecreasing v B items = .ok b) : IsBestFitRun v B (sortDesc v items) b :=
  bfOnline_is_bestfit_run (Part.sortDesc_ne_nil v hne) h

/-- the doc-test of `best_fit.online` -/
example : IsBestFitRun id 9 [4, 7, 2, 1, 5, 8, 4] ⟨[9, 9, 5, 8], [[4, 1, 4], [7, 2], [5], [8]]⟩ :=
  bfOnline_is_bestfit_run (v := id) (B := 9) (items := [4, 7, 2, 1, 5, 8, 4]) (by decide) rfl
example : IsBestFitRun id 9 (sortDesc id [4, 7, 2, 1, 5, 8, 4])
    ⟨[9, 9, 9, 4], [[8, 1], [7, 2], [5, 4], [4]]⟩ :=
  bfDecreasing_is_bestfit_run (v := id) (B := 9) (items := [4, 7, 2, 1, 5, 8, 4]) (by decide) rfl

theorem bestFitStep_perm {v : α → Nat} {B : Nat} {b₁ b₂ b₁' b₂' : Bins α} {x y : α} (e : v x = v y)
    (hp : b₁.sums.Perm b₂.sums) (s₁ : BestFitStep v B b₁ x b₁') (s₂ : BestFitStep v B b₂ y b₂') :
    b₁'.sums.Perm b₂'.sums := by
  simp only [BestFitStep, e] at s₁
  rcases s₁ with ⟨i, hi, fi, mi, rfl⟩ | ⟨n₁, rfl⟩ <;> rcases s₂ with ⟨j, hj, fj, mj, rfl⟩ | ⟨n₂, rfl⟩
  · simp only [Bins.add, e]
    refine Part.modify_perm_modify hp hi hj ?_ _
    have h1 := mi _ (hp.mem_iff.2 (List.getElem_mem hj)) fj
    have h2 := mj _ (hp.mem_iff.1 (List.getElem_mem hi)) fi
    omega
  · exact absurd fi (n₂ _ (hp.mem_iff.1 (List.getElem_mem hi)))
  · exact absurd fj (n₁ _ (hp.mem_iff.2 (List.getElem_mem hj)))
  · exact hp.append_right _

/-- Ties cannot matter: two best-fit runs on the same arrival order end with the same multiset of sums. -/
theorem bestfit_runs_same_sums {v : α → Nat} {B : Nat} {items : List α} {b b' : Bins α}
    (h : IsBestFitRun v B items b) (h' : IsBestFitRun v B items b') : b.sums.Perm b'.sums :=
  Run.sums_perm v bestFitStep_perm items items rfl _ _ _ _ (List.Perm.refl _) h h'

/-- another best-fit run on `[6, 6, 4]`, `B = 10`: the `4` goes to the *second* of the two equally full bins
    (the model takes the first) -/
theorem bestfit_other_run : IsBestFitRun id 10 [6, 6, 4] ⟨[6, 10], [[6], [6, 4]]⟩ := by
  refine Run.cons (b₁ := ⟨[6], [[6]]⟩) (Or.inr ⟨by simp, rfl⟩) ?_
  refine Run.cons (b₁ := ⟨[6, 6], [[6], [6]]⟩) (Or.inr ⟨by simp, rfl⟩) ?_
  exact Run.cons (b₁ := ⟨[6, 10], [[6], [6, 4]]⟩) (Or.inl ⟨1, by decide, by decide, by decide, rfl⟩)
    (Run.nil _)

/-- What is exercised is in the proof term: `bestfit_runs_same_sums` applied to two different best-fit runs on
    `[6, 6, 4]`, `B = 10` — `bestfit_other_run` and the model's run (`bfOnline_is_bestfit_run`, whose `rfl` evaluates
    `bfOnline` to `⟨[10, 6], [[6, 4], [6]]⟩`) — gives that their sums `[6, 10]` and `[10, 6]` are permutations of each
    other. -/
example : [6, 10].Perm [10, 6] :=
  bestfit_runs_same_sums bestfit_other_run
    (bfOnline_is_bestfit_run (v := id) (B := 10) (items := [6, 6, 4]) (b := ⟨[10, 6], [[6, 4], [6]]⟩)
      (by decide) rfl)

end Prtpy.Textbook

/-! The round of `threeClass`'s main phase: the validity proof below and the weight analysis in `Cover34` both
go along it (`threeClass_induction`). -/

namespace Prtpy.Cover34
variable {α : Type}
variable {v : α → Nat} {B : Nat}

/-- One round of the main phase (small items left, and big or medium items left).  The opening items `O`
    receive a prefix `taken` of the small items (smallest first).  Either the bin `O ++ taken` is covered: it is
    the first bin of the result, the run continues with the remaining lists, and — unless nothing was taken —
    the bin was still below `B` before its last item; or the small items have run out (`left = []`) and the
    uncovered bin is the current bin of next-fit on the remaining big, then medium items. -/
theorem threeClass_main_step (X Y Z : List α) (hZ : Z ≠ []) (hXY : ¬ (X = [] ∧ Y = [])) {O X1 Y1 : List α}
    (hO : Textbook.opening v X Y = (O, X1, Y1)) :
    ∃ taken left, Z = taken ++ left ∧
      ((B ≤ binSum v (O ++ taken) ∧
          Textbook.threeClass v B [] X Y Z = (O ++ taken) :: Textbook.threeClass v B [] X1 Y1 left ∧
          (taken = [] ∨ ∃ t last, taken = t ++ [last] ∧ binSum v (O ++ t) < B)) ∨
       (binSum v (O ++ taken) < B ∧ left = [] ∧
          Textbook.threeClass v B [] X Y Z = Textbook.nfCover v B (O ++ taken) (X1 ++ Y1))) := by
  obtain ⟨taken, left, hZeq, hfill, hshape, hunc⟩ := Textbook.fillUp_spec v B Z O
  refine ⟨taken, left, hZeq, ?_⟩
  rw [Textbook.threeClass_step [] X Y Z hZ hXY]
  simp only [List.nil_append, hO, hfill]
  by_cases hcov : B ≤ binSum v (O ++ taken)
  · exact Or.inl ⟨hcov, by rw [if_pos hcov], hshape⟩
  · obtain rfl := hunc (Nat.lt_of_not_le hcov)
    exact Or.inr ⟨Nat.lt_of_not_le hcov, rfl, by rw [if_neg hcov, Textbook.threeClass_nilZ]⟩

end Prtpy.Cover34

namespace Prtpy.Textbook
variable {α : Type}

/-! # Validity of the covering specifications

Next-fit, bidirectional filling and three-class filling close their bins properly (`Cover.Good`): a bin is closed
as soon as it reaches `B`.  With the equalities above this gives C05 and the factor 1/2 of C10 for the three
models (end of the file). -/

section Good
variable {v : α → Nat} {B : Nat}

/-- next-fit: the bins are tight, they and what is left in the unfinished bin (`nfRest`) are the items in their
    order, and the unfinished bin is below `B` -/
theorem nfCover_spec : ∀ (xs cur : List α), binSum v cur < B →
    (∀ g ∈ nfCover v B cur xs, Cover.Tight v B g) ∧
    (nfCover v B cur xs).flatten ++ nfRest v B cur xs = cur ++ xs ∧ binSum v (nfRest v B cur xs) < B
  | [], cur, h => by
    rw [nfCover_nil, nfRest, List.append_nil]
    exact ⟨fun _ h => absurd h List.not_mem_nil, rfl, h⟩
  | x :: xs, cur, h => by
    rw [nfCover_cons, nfRest]
    split
    · rename_i hc
      obtain ⟨h1, h2, h3⟩ := nfCover_spec xs [] (Nat.lt_of_le_of_lt (Nat.zero_le _) h)
      refine ⟨List.forall_mem_cons.2 ⟨Cover.Tight.snoc h hc, h1⟩, ?_, h3⟩
      rw [List.flatten_cons, List.append_assoc, h2, List.nil_append, List.append_assoc]
      rfl
    · rename_i hc
      obtain ⟨h1, h2, h3⟩ := nfCover_spec xs (cur ++ [x]) (Nat.lt_of_not_le hc)
      exact ⟨h1, by rw [h2, List.append_assoc]; rfl, h3⟩

theorem nfCover_good (xs cur : List α) (h : binSum v cur < B) : Cover.Good v B (cur ++ xs) (nfCover v B cur xs) :=
  have ⟨h1, h2, h3⟩ := nfCover_spec xs cur h
  ⟨h1, nfRest v B cur xs, h2 ▸ List.Perm.refl _, h3⟩

theorem nfCover_append : ∀ (l₁ l₂ cur : List α),
    nfCover v B cur (l₁ ++ l₂) =
      nfCover v B cur l₁ ++ nfCover v B (nfRest v B cur l₁) l₂
  | [], l₂, cur => by simp [nfCover_nil, nfRest]
  | x :: l₁, l₂, cur => by
    simp only [List.cons_append, nfCover_cons, nfRest]
    split
    · rw [nfCover_append l₁ l₂ []]; simp
    · rw [nfCover_append l₁ l₂ (cur ++ [x])]

theorem biFill_good (hB : 0 < B) (l : List α) : Cover.Good v B l (biFill v B l) := by
  induction l using biFill_induction v B with
  | nil =>
    rw [biFill]
    exact Cover.Good.nil hB
  | cons x rest taken left hrev hcase hshape ih =>
    have hperm := perm_of_reverse_eq hrev x
    rcases hcase with ⟨hcov, heq⟩ | ⟨hlt, rfl, heq⟩
    · rw [heq]
      exact (ih.cons (Cover.Tight.of_fill hshape (Cover.Tight.singleton hB) hcov)).perm hperm.symm
    · rw [heq]
      rw [List.reverse_nil, List.append_nil] at hperm
      exact (Cover.Good.nil hlt).perm hperm.symm

/-- what opens a bin, and what remains, are the big and medium items -/
theorem opening_perm (v : α → Nat) (X Y : List α) :
    ((opening v X Y).1 ++ ((opening v X Y).2.1 ++ (opening v X Y).2.2)).Perm (X ++ Y) := by
  cases X with
  | nil =>
    simp only [opening, List.nil_append, List.take_append_drop]
    exact List.Perm.refl _
  | cons x X =>
    simp only [opening]
    split
    · exact List.Perm.refl _
    · have := (List.perm_append_comm (l₁ := Y.take 2) (l₂ := x :: X)).append_right (Y.drop 2)
      rw [List.append_assoc, List.append_assoc, List.take_append_drop] at this
      exact this

/-- what opens a bin covers it only if it is a single item of value `≥ B` -/
theorem opening_tight (hB : 0 < B) (X : List α) {Y : List α} (hY : ∀ y ∈ Y, 2 * v y < B)
    (hcov : B ≤ binSum v (opening v X Y).1) : Cover.Tight v B (opening v X Y).1 := by
  have htake : ¬ B ≤ binSum v (Y.take 2) := by
    match Y, hY with
    | [], _ => exact Nat.not_le_of_lt hB
    | [a], hY => have := hY a List.mem_cons_self; simp [Part.binSum_cons, Part.binSum_nil]; omega
    | a :: b :: _, hY =>
      have := hY a List.mem_cons_self
      have := hY b (List.mem_cons_of_mem _ List.mem_cons_self)
      simp only [List.take_succ_cons, List.take_zero, Part.binSum_cons, Part.binSum_nil]
      omega
  cases X with
  | nil => exact absurd hcov htake
  | cons x X =>
    simp only [opening] at hcov ⊢
    by_cases h : binSum v (Y.take 2) ≤ v x
    · rw [if_pos h] at hcov ⊢
      exact Cover.Tight.singleton hB hcov
    · rw [if_neg h] at hcov
      exact absurd hcov htake

/-- Induction along the main phase of `threeClass`: from the state `(X, Y, Z)` to the state after its first round.
    The measure is the number of big and medium items: every round uses up at least one (`opening_length`).
    A round that leaves its bin uncovered ends the phase (`left = []`). -/
theorem threeClass_induction {motive : List α → List α → List α → Prop}
    (base : ∀ X Y Z, Z = [] ∨ (X = [] ∧ Y = []) → motive X Y Z)
    (round : ∀ (X Y O X1 Y1 taken left : List α), ¬ (X = [] ∧ Y = []) → opening v X Y = (O, X1, Y1) →
      ((B ≤ binSum v (O ++ taken) ∧
          threeClass v B [] X Y (taken ++ left) = (O ++ taken) :: threeClass v B [] X1 Y1 left ∧
          (taken = [] ∨ ∃ t last, taken = t ++ [last] ∧ binSum v (O ++ t) < B)) ∨
       (binSum v (O ++ taken) < B ∧ left = [] ∧
          threeClass v B [] X Y (taken ++ left) = nfCover v B (O ++ taken) (X1 ++ Y1))) →
      motive X1 Y1 left → motive X Y (taken ++ left))
    (X Y Z : List α) : motive X Y Z := by
  suffices h : ∀ n X Y Z, X.length + Y.length ≤ n → motive X Y Z from h _ X Y Z (Nat.le_refl _)
  intro n
  induction n with
  | zero =>
    intro X Y Z hn
    exact base X Y Z (Or.inr ⟨List.eq_nil_of_length_eq_zero (by omega), List.eq_nil_of_length_eq_zero (by omega)⟩)
  | succ n ih =>
    intro X Y Z hn
    by_cases hZ : Z = []
    · exact base X Y Z (Or.inl hZ)
    by_cases hXY : X = [] ∧ Y = []
    · exact base X Y Z (Or.inr hXY)
    have hlen := opening_length v X Y hXY
    rcases hO : opening v X Y with ⟨O, X1, Y1⟩
    rw [hO] at hlen
    dsimp only at hlen
    obtain ⟨taken, left, rfl, hcase⟩ := Cover34.threeClass_main_step (B := B) X Y Z hZ hXY hO
    exact round X Y O X1 Y1 taken left hXY hO hcase (ih X1 Y1 left (by omega))

theorem threeClass_good_base (hB : 0 < B) {X Y Z : List α} (h : Z = [] ∨ (X = [] ∧ Y = [])) :
    Cover.Good v B (X ++ Y ++ Z) (threeClass v B [] X Y Z) := by
  by_cases hZ : Z = []
  · subst hZ
    rw [threeClass_nilZ, List.append_nil]
    exact nfCover_good (X ++ Y) [] hB
  · obtain ⟨rfl, rfl⟩ := h.resolve_left hZ
    rw [threeClass_nilXY [] Z hZ]
    exact (nfCover_good Z.reverse [] hB).perm (List.reverse_perm Z)

/-- A covered bin of the main phase is tight by `opening_tight` if the opening items alone cover it, by
    `fillUp_spec` if small items were added. -/
theorem threeClass_good (hB : 0 < B) (X Y Z : List α) :
    (∀ y ∈ Y, 2 * v y < B) → Cover.Good v B (X ++ Y ++ Z) (threeClass v B [] X Y Z) := by
  induction X, Y, Z using threeClass_induction (v := v) (B := B) with
  | base X Y Z h => exact fun _ => threeClass_good_base hB h
  | round X Y O X1 Y1 taken left hXY hO hcase ih =>
    intro hY
    have hsub := (opening_sublist v X Y).2
    have hperm := opening_perm v X Y
    have htight := opening_tight hB X hY
    rw [hO] at hsub hperm htight
    dsimp only at hsub hperm htight
    -- the items, with the bin `O ++ taken` in front
    have hp : ((O ++ taken) ++ (X1 ++ Y1 ++ left)).Perm (X ++ Y ++ (taken ++ left)) := by
      have h1 := (List.perm_append_comm_assoc taken (X1 ++ Y1) left).append_left O
      rw [← List.append_assoc O (X1 ++ Y1)] at h1
      have := h1.trans (hperm.append_right (taken ++ left))
      rw [← List.append_assoc] at this
      exact this
    rcases hcase with ⟨hcov, heq, hshape⟩ | ⟨hlt, rfl, heq⟩
    · rw [heq]
      exact ((ih fun y hy => hY y (hsub.subset hy)).cons (Cover.Tight.of_fill hshape htight hcov)).perm hp
    · rw [heq]
      rw [List.append_nil (X1 ++ Y1)] at hp
      exact (nfCover_good (X1 ++ Y1) (O ++ taken) hlt).perm hp

theorem nfdCoverSpec_good (hB : 0 < B) (items : List α) : Cover.Good v B items (nfdCoverSpec v B items) :=
  (nfCover_good (sortDesc v items) [] hB).perm (Part.sortDesc_perm v items)

theorem twoThirdsSpec_good (hB : 0 < B) (items : List α) : Cover.Good v B items (twoThirdsSpec v B items) :=
  (biFill_good hB (sortDesc v items)).perm (Part.sortDesc_perm v items)

theorem threeQuartersSpec_good (hB : 0 < B) (items : List α) :
    Cover.Good v B items (threeQuartersSpec v B items) := by
  have hp := Cover.classes_perm v B (sortDesc v items)
  rw [filter_isBig, filter_isMedium, filter_isSmall] at hp
  refine (threeClass_good hB _ _ _ (fun y hy => ?_)).perm
    (((List.reverse_perm _).append_left _).trans (hp.trans (Part.sortDesc_perm v items)))
  have := (List.mem_filter.1 hy).2
  simp only [decide_eq_true_eq] at this
  exact this.2

end Good

end Prtpy.Textbook

/-! # C05, and the factor 1/2 of C10, for the three covering heuristics

These theorems of `Prtpy.Cover` stand here because they follow from the equalities with the textbook forms above. -/

namespace Prtpy.Cover
variable {α : Type}
variable {v : α → Nat} {B : Nat} {items : List α}

/-! ### C05: validity -/

theorem coverDecreasing_isCover (hB : 0 < B) : IsCover v B items (coverDecreasing v B items) := by
  rw [Textbook.coverDecreasing_eq_spec']
  exact (Textbook.nfdCoverSpec_good hB items).isCover

example : IsCover id 10 [1, 6, 3, 5, 2, 4] (coverDecreasing id 10 [1, 6, 3, 5, 2, 4]) :=
  coverDecreasing_isCover (by decide)
example : (coverDecreasing id 10 [1, 6, 3, 5, 2, 4]).lists = [[6, 5], [4, 3, 2, 1]] := by decide

theorem twoThirds_isCover (hB : 0 < B) : IsCover v B items (twoThirds v B items) := by
  rw [Textbook.twoThirds_eq_spec']
  exact (Textbook.twoThirdsSpec_good hB items).isCover

example : IsCover id 10 [1, 6, 3, 5, 2, 4] (twoThirds id 10 [1, 6, 3, 5, 2, 4]) :=
  twoThirds_isCover (by decide)
example : (twoThirds id 10 [1, 6, 3, 5, 2, 4]).lists = [[6, 1, 2, 3]] := by decide

theorem threeQuarters_isCover (hB : 0 < B) : IsCover v B items (threeQuarters v B items) := by
  rw [Textbook.threeQuarters_eq_spec']
  exact (Textbook.threeQuartersSpec_good hB items).isCover

example : IsCover id 12 [1, 6, 3, 5, 2, 4, 4, 7] (threeQuarters id 12 [1, 6, 3, 5, 2, 4, 4, 7]) :=
  threeQuarters_isCover (by decide)
example : (threeQuarters id 12 [1, 6, 3, 5, 2, 4, 4, 7]).lists = [[5, 4, 1, 2], [7, 3, 6]] := by decide

example : Coverable 10 2 [1, 6, 3, 5, 2, 4] :=
  cover_le_opt (v := id) (items := [1, 6, 3, 5, 2, 4]) (b := coverDecreasing id 10 [1, 6, 3, 5, 2, 4])
    (by decide) (coverDecreasing_isCover (by decide))

/-! ### C10, factor 1/2: every coverable `m` is at most twice the number of bins produced -/

theorem coverDecreasing_half {m : Nat} (hB : 0 < B) (hc : CoverableL B m (items.map v)) :
    m ≤ 2 * (coverDecreasing v B items).lists.length := by
  rw [Textbook.coverDecreasing_eq_spec]
  exact (Textbook.nfdCoverSpec_good hB items).half hc

theorem twoThirds_half {m : Nat} (hB : 0 < B) (hc : CoverableL B m (items.map v)) :
    m ≤ 2 * (twoThirds v B items).lists.length := by
  rw [Textbook.twoThirds_eq_spec]
  exact (Textbook.twoThirdsSpec_good hB items).half hc

theorem threeQuarters_half {m : Nat} (hB : 0 < B) (hc : CoverableL B m (items.map v)) :
    m ≤ 2 * (threeQuarters v B items).lists.length := by
  rw [Textbook.threeQuarters_eq_spec]
  exact (Textbook.threeQuartersSpec_good hB items).half hc

/-- the factor 2 is attained by `coverDecreasing`: two bins can be covered (`coverableL_example`), it covers one -/
example : 2 ≤ 2 * (coverDecreasing id 10 [9, 9, 1, 1]).lists.length :=
  coverDecreasing_half (by decide) coverableL_example
example : (coverDecreasing id 10 [9, 9, 1, 1]).lists = [[9, 9]] := by decide
/-- the hypotheses of the other two theorems can be met, on the same input (nothing is said here about attainment) -/
example : 2 ≤ 2 * (twoThirds id 10 [9, 9, 1, 1]).lists.length :=
  twoThirds_half (by decide) coverableL_example
example : 2 ≤ 2 * (threeQuarters id 10 [9, 9, 1, 1]).lists.length :=
  threeQuarters_half (by decide) coverableL_example

/-! ### the same against `Coverable` of `Prtpy/Spec.lean` -/

theorem coverDecreasing_half_coverable {m : Nat} (hB : 0 < B) (hc : Coverable B m (items.map v)) :
    m ≤ 2 * (coverDecreasing v B items).lists.length :=
  coverDecreasing_half hB (coverable_coverableL hc)

theorem twoThirds_half_coverable {m : Nat} (hB : 0 < B) (hc : Coverable B m (items.map v)) :
    m ≤ 2 * (twoThirds v B items).lists.length :=
  twoThirds_half hB (coverable_coverableL hc)

theorem threeQuarters_half_coverable {m : Nat} (hB : 0 < B) (hc : Coverable B m (items.map v)) :
    m ≤ 2 * (threeQuarters v B items).lists.length :=
  threeQuarters_half hB (coverable_coverableL hc)

example : 2 ≤ 2 * (coverDecreasing id 10 [9, 9, 1, 1]).lists.length :=
  coverDecreasing_half_coverable (by decide) (coverableL_coverable coverableL_example)

end Prtpy.Cover
