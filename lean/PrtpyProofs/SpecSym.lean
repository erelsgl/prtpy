/-
  PrtpyProofs.SpecSym — C18, the specification's side: what scaling all values by `c`, reordering them and adding
  zero-valued items do to `sumsOf`, to the objectives and hence to the optimum (`IsOptimalValue`, `optValue`): the
  optimum is multiplied by `c`, resp. unchanged.  An assignment follows a permutation of the values (`sumsOf_perm`) because
  its bins (`Oracle.assignment_lists`) are bins of the permuted values too.
  Nothing here speaks of an algorithm.  Builds on Oracle.lean (`sumsFrom`, `assignment_lists`, `optValue_eq_some_iff`,
  `optValue_map`) and on the arithmetic of `c * ·` on lists at the end of Basic.lean.  Namespace `Prtpy.Scale`, continued
  in Scale.lean.
-/
import PrtpyProofs.Oracle

namespace Prtpy.Scale
open Prtpy

variable {α : Type}

/-! ## The specification optimum -/

/-! ### objectives are homogeneous -/

/-- sorting commutes with a monotone map (here: multiplication by a constant) -/
theorem sortAsc_map_mul (c : Nat) (l : List Nat) :
    sortAsc id (l.map (c * ·)) = (sortAsc id l).map (c * ·) :=
  Part.eq_of_sorted_of_perm (Part.sortAsc_sorted id _)
    (List.Pairwise.map _ (fun a b hab => Nat.mul_le_mul_left c hab) (Part.sortAsc_sorted id l))
    ((Part.sortAsc_perm id _).trans ((Part.sortAsc_perm id l).map _).symm)

theorem lastK_map (k : Nat) (f : Nat → Nat) (l : List Nat) : lastK k (l.map f) = (lastK k l).map f := by
  simp [lastK]

/-- Every objective is homogeneous of degree one in the sums (no positivity needed). -/
theorem value_scale (o : Objective) (c : Nat) (sums : List Nat) :
    o.value (sums.map (c * ·)) false = (c : Int) * o.value sums false := by
  cases o with
  | maxSmallest =>
    simp only [Objective.value, Bool.false_eq_true, if_false, minL_map_mul, Int.natCast_mul, Int.mul_neg]
  | maxKSmallest k =>
    simp only [Objective.value, Bool.false_eq_true, if_false, sortAsc_map_mul, ← List.map_take, sumL_map_mul,
      Int.natCast_mul, Int.mul_neg]
  | minLargest =>
    simp only [Objective.value, Bool.false_eq_true, if_false, maxL_map_mul, Int.natCast_mul]
  | minKLargest k =>
    simp only [Objective.value, Bool.false_eq_true, if_false, sortAsc_map_mul, lastK_map, sumL_map_mul,
      Int.natCast_mul]
  | minDiff =>
    simp only [Objective.value, Bool.false_eq_true, if_false, maxL_map_mul, minL_map_mul, Int.natCast_mul,
      Int.mul_sub]

/-- the sum of the two smallest sums, factor 7 -/
example : Objective.value (.maxKSmallest 2) ([5, 1, 4, 2].map (7 * ·)) false =
    7 * Objective.value (.maxKSmallest 2) [5, 1, 4, 2] false :=
  value_scale (.maxKSmallest 2) 7 [5, 1, 4, 2]

example : Objective.value (.maxKSmallest 2) ([5, 1, 4, 2].map (7 * ·)) false = -21 := by decide

/-! ### scaling the values scales the optimum -/

theorem sumsFrom_scale (c : Nat) (s vals asg : List Nat) :
    Oracle.sumsFrom (s.map (c * ·)) (vals.map (c * ·)) asg = (Oracle.sumsFrom s vals asg).map (c * ·) := by
  induction vals generalizing s asg with
  | nil => simp
  | cons v vals ih =>
    cases asg with
    | nil => simp
    | cons i asg =>
      simp only [List.map_cons, Oracle.sumsFrom_cons]
      rw [modify_map_mul, ih]

theorem sumsOf_scale (c k : Nat) (vals asg : List Nat) :
    sumsOf k (vals.map (c * ·)) asg = (sumsOf k vals asg).map (c * ·) := by
  rw [Oracle.sumsOf_eq, Oracle.sumsOf_eq, ← sumsFrom_scale]
  simp

/-- Multiplying every value by `c` multiplies the optimum by `c` (no positivity needed). -/
theorem isOptimal_scale {o : Objective} {k : Nat} {vals : List Nat} {x : Int} (c : Nat)
    (h : IsOptimalValue o k vals x) : IsOptimalValue o k (vals.map (c * ·)) ((c : Int) * x) := by
  obtain ⟨⟨asg, hasg, hv⟩, hmin⟩ := h
  refine ⟨⟨asg, by simpa using hasg, ?_⟩, ?_⟩
  · rw [sumsOf_scale, value_scale, hv]
  · intro asg' hasg'
    rw [sumsOf_scale, value_scale]
    exact Int.mul_le_mul_of_nonneg_left (hmin asg' (by simpa using hasg')) (Int.natCast_nonneg c)

/-- a concrete optimum used by the examples: `3` for `[1, 2, 3]` in two bins (smallest largest sum) -/
theorem opt123 : IsOptimalValue .minLargest 2 [1, 2, 3] 3 :=
  Oracle.dpBestValue_eq_some_iff.1 (by decide)

example : IsOptimalValue .minLargest 2 [5, 10, 15] 15 := by
  exact isOptimal_scale 5 opt123

/-- the same for the oracle, for any number of bins (zero included) and any factor -/
theorem optValue_scale (o : Objective) (k c : Nat) (vals : List Nat) :
    optValue o k (vals.map (c * ·)) = (optValue o k vals).map ((c : Int) * ·) := by
  exact Oracle.optValue_map _ (fun _ => isOptimal_scale c) fun asg h => ⟨asg, by simpa using h⟩

example : optValue .minDiff 3 ([4, 5, 6, 7, 8].map (3 * ·)) = (optValue .minDiff 3 [4, 5, 6, 7, 8]).map (3 * ·) :=
  optValue_scale .minDiff 3 3 [4, 5, 6, 7, 8]

/-! ### reordering the values -/

/-- every assignment of `vals₁` can be transported along a permutation, with the *same* sums: the bins of the
    assignment (`Oracle.assignment_lists`) are bins of `vals₂` too -/
theorem sumsOf_perm {k : Nat} {vals₁ vals₂ : List Nat} (hp : vals₁.Perm vals₂) (asg₁ : List Nat)
    (h : IsAssignment k vals₁.length asg₁) :
    ∃ asg₂, IsAssignment k vals₂.length asg₂ ∧ sumsOf k vals₁ asg₁ = sumsOf k vals₂ asg₂ := by
  obtain ⟨L, hk, hL, hs⟩ := Oracle.assignment_lists id vals₁ h
  obtain ⟨asg₂, h₂, hs₂⟩ := Oracle.lists_sums_assignment id vals₂ L (hL.trans hp)
  rw [hk] at h₂ hs₂
  rw [List.map_id] at hs hs₂
  exact ⟨asg₂, h₂, hs.symm.trans hs₂.symm⟩

/-- The optimum does not depend on the order of the values. -/
theorem isOptimal_perm {o : Objective} {k : Nat} {vals₁ vals₂ : List Nat} {x : Int} (hp : vals₁.Perm vals₂)
    (h : IsOptimalValue o k vals₁ x) : IsOptimalValue o k vals₂ x := by
  obtain ⟨⟨asg, hasg, hv⟩, hmin⟩ := h
  constructor
  · obtain ⟨asg₂, h₂, he⟩ := sumsOf_perm hp asg hasg
    exact ⟨asg₂, h₂, by rw [← he, hv]⟩
  · intro asg₂ h₂
    obtain ⟨asg₁, h₁, he⟩ := sumsOf_perm hp.symm asg₂ h₂
    rw [he]; exact hmin asg₁ h₁

example : IsOptimalValue .minLargest 2 [3, 1, 2] 3 := by
  exact isOptimal_perm (by decide) opt123

theorem optValue_perm (o : Objective) (k : Nat) {vals₁ vals₂ : List Nat} (hp : vals₁.Perm vals₂) :
    optValue o k vals₁ = optValue o k vals₂ := by
  exact Option.ext fun _ => Oracle.optValue_eq_some_iff.trans
    (Iff.trans ⟨isOptimal_perm hp, isOptimal_perm hp.symm⟩ Oracle.optValue_eq_some_iff.symm)

example : optValue .minDiff 3 [4, 5, 6, 7, 8] = optValue .minDiff 3 [8, 4, 7, 5, 6] :=
  optValue_perm .minDiff 3 (by decide)

/-! ### zero-valued items -/

theorem sumsFrom_zeros (s : List Nat) (z : Nat) (asg : List Nat) :
    Oracle.sumsFrom s (List.replicate z 0) asg = s := by
  induction z generalizing s asg with
  | zero => simp
  | succ z ih =>
    cases asg with
    | nil => simp
    | cons i asg => rw [List.replicate_succ, Oracle.sumsFrom_cons, Part.modify_add_zero, ih]

theorem sumsFrom_append (s : List Nat) {vals asg : List Nat} (vals' asg' : List Nat)
    (h : vals.length = asg.length) :
    Oracle.sumsFrom s (vals ++ vals') (asg ++ asg') = Oracle.sumsFrom (Oracle.sumsFrom s vals asg) vals' asg' := by
  simp [Oracle.sumsFrom, List.zip_append h]

theorem sumsOf_append_zeros (k : Nat) {vals asg : List Nat} (z : Nat) (asg' : List Nat)
    (h : vals.length = asg.length) :
    sumsOf k (vals ++ List.replicate z 0) (asg ++ asg') = sumsOf k vals asg := by
  rw [Oracle.sumsOf_eq, sumsFrom_append _ _ _ h, sumsFrom_zeros, Oracle.sumsOf_eq]

/-- Adding zero-valued items does not change the optimum.  `0 < k` is needed: with zero bins the empty list has the
    (only) assignment `[]`, with optimum `0`, whereas `[0]` has no assignment at all (see the example below).
    (`_partial`: under the side condition `0 < k`; `isOptimal_zeros_of_ne_nil` has `vals ≠ []` instead.) -/
theorem isOptimal_zeros_partial {o : Objective} {k : Nat} {vals : List Nat} {x : Int} (hk : 0 < k) (z : Nat)
    (h : IsOptimalValue o k vals x) : IsOptimalValue o k (vals ++ List.replicate z 0) x := by
  obtain ⟨⟨asg, hasg, hv⟩, hmin⟩ := h
  constructor
  · refine ⟨asg ++ List.replicate z 0, ⟨by simp [hasg.1], ?_⟩, ?_⟩
    · intro a ha
      rcases List.mem_append.1 ha with ha | ha
      · exact hasg.2 a ha
      · rw [(List.mem_replicate.1 ha).2]; exact hk
    · rw [sumsOf_append_zeros k z _ hasg.1.symm, hv]
  · intro asg' hasg'
    have hl : asg'.length = vals.length + z := by simpa using hasg'.1
    have hsplit : asg' = asg'.take vals.length ++ asg'.drop vals.length := (List.take_append_drop _ _).symm
    have htl : (asg'.take vals.length).length = vals.length := by simp; omega
    rw [hsplit, sumsOf_append_zeros k z _ htl.symm]
    exact hmin _ ⟨htl, fun a ha => hasg'.2 a (List.mem_of_mem_take ha)⟩

example : IsOptimalValue .minLargest 2 [1, 2, 3, 0, 0] 3 :=
  isOptimal_zeros_partial (by decide) 2 opt123

/-- the same without `0 < k`, for a non-empty list of values (which forces `0 < k`) -/
theorem isOptimal_zeros_of_ne_nil {o : Objective} {k : Nat} {vals : List Nat} {x : Int} (hne : vals ≠ []) (z : Nat)
    (h : IsOptimalValue o k vals x) : IsOptimalValue o k (vals ++ List.replicate z 0) x := by
  refine isOptimal_zeros_partial ?_ z h
  obtain ⟨⟨asg, ⟨hl, hb⟩, _⟩, _⟩ := h
  match asg, hl, hb with
  | [], hl, _ => exact absurd (List.length_eq_zero_iff.1 hl.symm) hne
  | a :: _, _, hb => exact Nat.lt_of_le_of_lt (Nat.zero_le a) (hb a (by simp))

example : IsOptimalValue .minLargest 2 ([1, 2, 3] ++ List.replicate 4 0) 3 :=
  isOptimal_zeros_of_ne_nil (by simp) 4 opt123

/-- without `0 < k` the statement fails: with zero bins `0` is the optimum of `[]`, but `[0]` has no optimum -/
example : IsOptimalValue .minLargest 0 [] 0 ∧ ¬ IsOptimalValue .minLargest 0 ([] ++ List.replicate 1 0) 0 := by
  constructor
  · refine ⟨⟨[], ⟨rfl, by simp⟩, by decide⟩, ?_⟩
    intro asg h
    have : asg = [] := List.length_eq_zero_iff.1 h.1
    subst this; decide
  · rintro ⟨⟨asg, ⟨hl, hb⟩, _⟩, _⟩
    match asg, hl, hb with
    | [a], _, hb => exact absurd (hb a (by simp)) (by omega)

/-- zero-valued items inserted anywhere: any list that is a permutation of `vals` plus `z` zeros -/
theorem isOptimal_zeros_anywhere {o : Objective} {k : Nat} {vals vals' : List Nat} {x : Int} (hk : 0 < k) (z : Nat)
    (hp : vals'.Perm (vals ++ List.replicate z 0)) (h : IsOptimalValue o k vals x) : IsOptimalValue o k vals' x :=
  isOptimal_perm hp.symm (isOptimal_zeros_partial hk z h)

example : IsOptimalValue .minLargest 2 [0, 3, 1, 0, 2] 3 :=
  isOptimal_zeros_anywhere (by decide) 2 (by decide) opt123

theorem optValue_zeros (o : Objective) {k : Nat} (hk : 0 < k) (vals : List Nat) (z : Nat) :
    optValue o k (vals ++ List.replicate z 0) = optValue o k vals := by
  rw [Oracle.optValue_map id (fun _ => isOptimal_zeros_partial hk z) fun _ _ =>
    ⟨_, Oracle.isAssignment_replicate hk _⟩, Option.map_id, id]

example : optValue .minDiff 3 ([4, 5, 6, 7, 8] ++ List.replicate 2 0) = optValue .minDiff 3 [4, 5, 6, 7, 8] :=
  optValue_zeros .minDiff (by decide) [4, 5, 6, 7, 8] 2

end Prtpy.Scale
