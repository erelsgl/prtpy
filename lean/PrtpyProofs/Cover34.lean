/-
  PrtpyProofs.Cover34 — property C10 for the three-quarters bin-covering algorithm
  (`cflz_covering.threequarters`, the "Improved Simple Heuristic" of Csirik, Frenk, Labbé, Zhang 1999):

      if `m` bins can be covered at all, then   3 * m ≤ 4 * ALG + 9     (C10 asks for `+ 16`),
      i.e.  ALG ≥ 3/4 · OPT − 9/4.

  Proof: the weighting argument of `Cover` with a *three-step staircase* (`Cover.stairs c p 3`; the profile
  `phi` of Cover23 has two steps).  For parameters `c ≤ p`, `c + 2p = 6B` the profile is

      σ(z) = min z c + min (z ∸ p) c + min (z ∸ 2p) c
             (slope 1 on [0,c], [p,p+c], [2p,2p+c = 6B], flat in between and afterwards)

  and the item `y` gets the weight `σ (6·v y)`.  `σ` is sub-additive (`Cover.stairs_subadd`) and `σ z = 3c`
  for `z ≥ 6B`, so a cover with `m` bins weighs `≥ 3c·m` (`coverableL_weight`, the case `n = 2`, `S = 6` of
  `Cover.stairs_coverableL_weight`); no case distinction on the shape of the optimum's bins is needed.  A small
  item weighs at most `min (6v) c`, a medium item `c + (6v ∸ p)`, a big item at most `2c + (6v ∸ 2p)`, and no item
  more than six times its value.

  On the algorithm's side (`Textbook.threeClass`, `Textbook.threeQuarters_eq_spec`) the parameters are read off
  the state in which the small items have run out (`finalW`): with `t` the largest remaining big item below `B`
  and `y₂` the second largest remaining medium item,

      p = max (2B) (3t) (18·y₂ − 6B),   c = 6B − 2p          ("γ = min(B/3, B − t, 3(B − 2y₂))", c = 6γ).

  Then in the last phase (next-fit on big, then medium items) two big items weigh `≤ 4c`, three medium items
  (all but the largest one) weigh `≤ 4c`, and a bin that was below `B` before its last item holds no more of them
  (`Cover.Good.length_le`: `nf_big`, `nf_med_count`; `binSum_wt_med`; together `nf_final`);
  every opening of the main phase has value `≥ 2p/6` (`Inv.thr`: an opening is worth at least every big item
  and twice every medium item but the first that remain after it, `opening_dominates`), so a bin
  "opening + small items", which was below `B` before its last item, weighs
  `≤ (2c + 6·opening − 2p) + 6·(others) + c < 4c` (`opening_facts`).  The single pair of medium items that
  straddles the middle step `p` is paid by the budget `phiY ≤ c/2`.  If the big and medium items run out first,
  `c = p = 2B` and every bin weighs `< 6B + c = 4c` (`mainW_base`).  Altogether (`mainW`)

      3·weight(items) ≤ 12c·ALG + 26c + 3·phiY,   2·phiY ≤ c,   3c·m ≤ weight(items),

  hence `18m ≤ 24·ALG + 55`, i.e. `3m ≤ 4·ALG + 9`.

  `wt`, `phiY` (a budget, not a profile) and `coverableL_weight` are this namespace's; `Cover23` has a `wt` and a
  `coverableL_weight` of its own for the two-step profile.

  `threeQuarters_no_medium` and `threeQuarters_no_big` restate the bound for inputs without medium, without big
  items; no better constant is claimed for them.  `example_no_big` has `3·OPT − 4·ALG = 2`.
-/
import PrtpyProofs.Textbook
import Mathlib.Tactic.Ring
open Prtpy

namespace Prtpy.Cover34

variable {α : Type}

/-! ## The weights -/

/-- weight of an item: the staircase with three steps of length `c`, starting at `0`, `p`, `2p`, at six times
    the value -/
def wt (v : α → Nat) (c p : Nat) (y : α) : Nat := Cover.stairs c p 3 (6 * v y)

section Weights
variable {v : α → Nat} {c p B : Nat}

/-- the optimum's side: a cover with `m` bins weighs at least `3c·m` -/
theorem coverableL_weight (h1 : c ≤ p) (h2 : c + 2 * p = 6 * B) {items : List α} {m : Nat}
    (h : Cover.CoverableL B m (items.map v)) : m * (3 * c) ≤ binSum (wt v c p) items :=
  Cover.stairs_coverableL_weight (n := 2) h1 h2 h

theorem wt_le (y : α) : wt v c p y ≤ 3 * c := Cover.stairs_le 3 _

theorem wt_le_val (h1 : c ≤ p) (y : α) : wt v c p y ≤ 6 * v y := Cover.stairs_le_self h1 3 _

theorem binSum_wt_le (h1 : c ≤ p) (l : List α) : binSum (wt v c p) l ≤ 6 * binSum v l :=
  Part.binSum_le_mul l (fun y _ => wt_le_val h1 y)

/-- a small item lies on the first step -/
theorem wt_small (h1 : c ≤ p) (h2 : c + 2 * p = 6 * B) {z : α} (hz : 3 * v z < B) : wt v c p z ≤ c := by
  have := Cover.stairs_le_min (c := c) (p := p) 3 (z := 6 * v z) (by omega)
  rw [wt]
  omega

theorem wt_medium (h1 : c ≤ p) (h2 : c + 2 * p = 6 * B) {y : α} (hy : B ≤ 3 * v y ∧ 2 * v y < B) :
    wt v c p y = c + (6 * v y - p) := by
  rw [wt, Cover.stairs_succ, Cover.stairs_eq_min 1 (by omega)]
  omega

/-- a big item: two full steps at most, and what exceeds the start `2p` of the third -/
theorem wt_big (x : α) : wt v c p x ≤ 2 * c + (6 * v x - 2 * p) := Cover.stairs_le_last 2 _

end Weights

/-! ## The next-fit phases -/

section NF
variable {v : α → Nat} {B : Nat}

/-- a descending list: first its items of value `≥ B`, then the others -/
theorem descending_split : ∀ {X : List α}, X.Pairwise (fun a b => v b ≤ v a) →
    ∃ H X', X = H ++ X' ∧ (∀ x ∈ H, B ≤ v x) ∧ ∀ x ∈ X', v x < B
  | [], _ => ⟨[], [], rfl, fun _ h => absurd h List.not_mem_nil, fun _ h => absurd h List.not_mem_nil⟩
  | x :: X, hs => by
    rw [List.pairwise_cons] at hs
    by_cases hx : B ≤ v x
    · obtain ⟨H, X', rfl, hH, hX'⟩ := descending_split hs.2
      exact ⟨x :: H, X', rfl, List.forall_mem_cons.2 ⟨hx, hH⟩, hX'⟩
    · exact ⟨[], x :: X, rfl, fun _ h => absurd h List.not_mem_nil,
        List.forall_mem_cons.2 ⟨Nat.lt_of_not_le hx, fun y hy => by have := hs.1 y hy; omega⟩⟩

/-- next-fit on big items, weighted.  An item of value `≥ B` (weight `≤ 3c`) closes a bin of its own
    (`Good.length_le` with `k = 1`); the others weigh `≤ 2c` each and go two to a bin, one may be left over
    (`k = 2`). -/
theorem nf_big {c p : Nat} {X cur : List α} (hcur : binSum v cur < B) (hs : X.Pairwise (fun a b => v b ≤ v a))
    (hb : ∀ x ∈ X, B ≤ 2 * v x) (hu : ∀ x ∈ X, v x < B → 6 * v x ≤ 2 * p) :
    binSum (wt v c p) X ≤ 4 * (c * (Textbook.nfCover v B cur X).length) + 2 * c := by
  obtain ⟨H, X', rfl, hH, hX'⟩ := descending_split (B := B) hs
  have h1 := (Textbook.nfCover_good H cur hcur).length_le (k := 1) (by omega)
    fun y hy => by have := hH y hy; omega
  have h2 := (Textbook.nfCover_good X' _ (Textbook.nfCover_spec H cur hcur).2.2).length_le (k := 2) (by omega)
    fun y hy => hb y (List.mem_append_right _ hy)
  have h3 := Part.binSum_le_length_mul (w := wt v c p) (l := H) fun y _ => wt_le y
  have h4 := Part.binSum_le_length_mul (w := wt v c p) (K := 2 * c) (l := X') fun y hy => by
    have := wt_big (v := v) (c := c) (p := p) y
    have := hu y (List.mem_append_right _ hy) (hX' y hy)
    omega
  have hm1 := Nat.mul_le_mul_left c (show H.length ≤ (Textbook.nfCover v B cur H).length by omega)
  have hm2 := Nat.mul_le_mul_left c
    (show X'.length ≤ 2 * (Textbook.nfCover v B (Textbook.nfRest v B cur H) X').length + 1 by omega)
  rw [Nat.mul_add, Nat.mul_one, Nat.mul_left_comm] at hm2
  rw [Nat.mul_assoc] at h3 h4
  rw [Textbook.nfCover_append, List.length_append, Part.binSum_append, Nat.mul_add c]
  omega

/-- next-fit on medium items: a tight bin holds at most three items of value `≥ B/3`, the leftover at most two -/
theorem nf_med_count (Y : List α) {cur : List α} (hcur : binSum v cur < B) (h : ∀ y ∈ Y, B ≤ 3 * v y) :
    Y.length ≤ 3 * (Textbook.nfCover v B cur Y).length + 2 := by
  have := (Textbook.nfCover_good Y cur hcur).length_le (k := 3) (by omega) h
  omega

end NF

/-! ## The parameters, read off the items that are left when the small items have run out -/

section Final
variable {v : α → Nat} {B : Nat}

/-- `X` are big and `Y` medium items, each list by non-increasing value: the state of the main phase -/
structure Classes (v : α → Nat) (B : Nat) (X Y : List α) : Prop where
  sortedX : X.Pairwise (fun a b => v b ≤ v a)
  bigX : ∀ x ∈ X, B ≤ 2 * v x
  sortedY : Y.Pairwise (fun a b => v b ≤ v a)
  medY : ∀ y ∈ Y, B ≤ 3 * v y ∧ 2 * v y < B

/-- the budget for the one medium pair that straddles the middle step: the excess of the largest medium item -/
def phiY (v : α → Nat) (p : Nat) : List α → Nat
  | [] => 0
  | y :: _ => 6 * v y - p

theorem phiY_nil (v : α → Nat) (p : Nat) : phiY v p [] = 0 := rfl
theorem phiY_cons (v : α → Nat) (p : Nat) (y : α) (Y : List α) : phiY v p (y :: Y) = 6 * v y - p := rfl

/-- the step threshold `2p` is met by every opening that precedes the state `(X, Y)`:
    either the regime is "capped size", or `2p/6` is at most a remaining big item, or it is at most
    `6y − 2B ≤ 2y` for a remaining medium item `y` that is not the first one -/
def Inv (v : α → Nat) (B c p : Nat) (X Y : List α) : Prop :=
  c = 2 * B ∨ (∃ x ∈ X, 2 * p ≤ 6 * v x) ∨ (∃ y ∈ Y.tail, 2 * p + 12 * B ≤ 36 * v y)

theorem phiY_le {c p : Nat} (h2 : c + 2 * p = 6 * B) (Y : List α) (hm : ∀ y ∈ Y, 2 * v y < B) :
    2 * phiY v p Y ≤ c := by
  cases Y with
  | nil => simp [phiY]
  | cons y Y => have := hm y List.mem_cons_self; simp only [phiY]; omega

/-- the medium items, weighted: all but the first weigh at most `4c/3` -/
theorem binSum_wt_med {c p : Nat} (h1 : c ≤ p) (h2 : c + 2 * p = 6 * B) (Y : List α)
    (hm : ∀ y ∈ Y, B ≤ 3 * v y ∧ 2 * v y < B) (hu : ∀ y ∈ Y.tail, 18 * v y ≤ p + 6 * B) :
    3 * binSum (wt v c p) Y ≤ 4 * (c * Y.length) + 3 * phiY v p Y := by
  cases Y with
  | nil => simp [Part.binSum_nil, phiY]
  | cons y ys =>
    have hy := wt_medium (v := v) h1 h2 (hm y List.mem_cons_self)
    -- three times the weight of a medium item below the threshold is at most `4c`
    have := Part.binSum_le_binSum (f := fun z => 3 * wt v c p z) (g := fun _ => 4 * c) (l := ys) fun z hz => by
      have := wt_medium (v := v) h1 h2 (hm z (List.mem_cons_of_mem _ hz))
      have := hu z hz
      omega
    rw [Part.binSum_mul_left, Part.binSum_const, Nat.mul_comm ys.length, Nat.mul_assoc] at this
    rw [Part.binSum_cons, List.length_cons, Nat.mul_succ]
    simp only [phiY]
    omega

/-- next-fit on the remaining big, then medium items: for parameters `c, p` whose thresholds `2p/6` and
    `(p + 6B)/18` lie above the big items below `B` and above all medium items but the first, these items
    weigh at most `4c` per bin, up to `14c/3` and the medium budget -/
theorem nf_final {c p : Nat} (h1 : c ≤ p) (h2 : c + 2 * p = 6 * B) {cur : List α} (hcur : binSum v cur < B)
    {X Y : List α} (hXY : Classes v B X Y) (huX : ∀ x ∈ X, v x < B → 6 * v x ≤ 2 * p)
    (huY : ∀ y ∈ Y.tail, 18 * v y ≤ p + 6 * B) :
    3 * binSum (wt v c p) (X ++ Y) ≤
      12 * (c * (Textbook.nfCover v B cur (X ++ Y)).length) + 14 * c + 3 * phiY v p Y := by
  rw [Textbook.nfCover_append, List.length_append, Part.binSum_append]
  have hX := nf_big (c := c) (p := p) hcur hXY.sortedX hXY.bigX huX
  have hYc := nf_med_count Y (Textbook.nfCover_spec X cur hcur).2.2 (fun y hy => (hXY.medY y hy).1)
  have hYw := binSum_wt_med h1 h2 Y hXY.medY huY
  have hmul := Nat.mul_le_mul_left c hYc
  rw [Nat.mul_add, Nat.mul_left_comm] at hmul
  rw [Nat.mul_add c]
  generalize c * (Textbook.nfCover v B cur X).length = K1 at *
  generalize c * (Textbook.nfCover v B (Textbook.nfRest v B cur X) Y).length = K2 at *
  generalize c * Y.length = K3 at *
  omega

/-- The last phase (no small items left): parameters `c, p` for which the remaining big and medium items
    weigh at most `4c` per bin that next-fit makes of them, up to `14c/3` and the medium budget.
    `t` is the largest big item below `B`, `y` the largest medium item after the first. -/
theorem finalW {cur : List α} (hcur : binSum v cur < B) {X Y : List α} (hXY : Classes v B X Y) :
    ∃ c p, 0 < c ∧ c ≤ p ∧ c + 2 * p = 6 * B ∧ Inv v B c p X Y ∧
      3 * binSum (wt v c p) (X ++ Y) ≤
        12 * (c * (Textbook.nfCover v B cur (X ++ Y)).length) + 14 * c + 3 * phiY v p Y := by
  obtain ⟨t, htge, ht⟩ := Part.exists_max v (fun x => v x < B) X
  obtain ⟨y, hyge, hy⟩ := Part.exists_max v (fun _ => True) Y.tail
  have ht2 : t < B := by
    rcases ht with h | ⟨x, _, h, e⟩ <;> omega
  have hy2 : 2 * y < B := by
    rcases hy with h | ⟨y', hy', _, e⟩
    · omega
    · have := (hXY.medY y' (List.mem_of_mem_tail hy')).2; omega
  obtain ⟨p, hp2, hp3, hpt, hpy, hp⟩ : ∃ p, 2 * B ≤ p ∧ p < 3 * B ∧ 3 * t ≤ p ∧ 18 * y ≤ p + 6 * B ∧
      (p = 2 * B ∨ p = 3 * t ∨ p + 6 * B = 18 * y) :=
    ⟨max (2 * B) (max (3 * t) (18 * y - 6 * B)), by omega⟩
  have h2 : 6 * B - 2 * p + 2 * p = 6 * B := by omega
  refine ⟨6 * B - 2 * p, p, by omega, by omega, h2, ?_, ?_⟩
  · rcases hp with e | e | e
    · exact Or.inl (by omega)
    · rcases ht with h | ⟨x, hx, _, e'⟩
      · omega
      · exact Or.inr (Or.inl ⟨x, hx, by omega⟩)
    · rcases hy with h | ⟨y', hy', _, e'⟩
      · omega
      · exact Or.inr (Or.inr ⟨y', hy', by omega⟩)
  · exact nf_final (by omega) h2 hcur hXY
      (fun x hx hxB => by have := htge x hx hxB; omega)
      (fun y' hy' => by have := hyge y' hy' trivial; omega)

end Final

/-! ## Structure of the run: how a bin is opened, how it is filled -/

section Structure
variable {v : α → Nat} {B : Nat}

/-- How a bin is opened: by the largest big item `x` (when the two largest medium items together do not
    exceed it), by the two largest medium items (when together they exceed the largest big item, if any),
    or by the only medium item when nothing else is left. -/
theorem opening_cases {X Y O X1 Y1 : List α} (hne : ¬ (X = [] ∧ Y = [])) (hbX : ∀ x ∈ X, B ≤ 2 * v x)
    (hmY : ∀ y ∈ Y, B ≤ 3 * v y ∧ 2 * v y < B) (hO : Textbook.opening v X Y = (O, X1, Y1)) :
    (∃ x, X = x :: X1 ∧ Y1 = Y ∧ O = [x] ∧ binSum v (Y.take 2) ≤ v x) ∨
    (∃ ya yb, Y = ya :: yb :: Y1 ∧ X1 = X ∧ O = [ya, yb] ∧ ∀ x X', X = x :: X' → v x < v ya + v yb) ∨
    (∃ ya, X = [] ∧ Y = [ya] ∧ O = [ya] ∧ X1 = [] ∧ Y1 = []) := by
  cases X with
  | nil =>
    match Y, hne, hO with
    | [], hne, _ => exact absurd ⟨rfl, rfl⟩ hne
    | [ya], _, hO => cases hO; exact Or.inr (Or.inr ⟨ya, rfl, rfl, rfl, rfl, rfl⟩)
    | ya :: yb :: Y', _, hO =>
      cases hO
      exact Or.inr (Or.inl ⟨ya, yb, rfl, rfl, rfl, fun _ _ h => by simp at h⟩)
  | cons x X' =>
    rw [Textbook.opening] at hO
    split at hO
    · rename_i h
      cases hO
      exact Or.inl ⟨x, rfl, rfl, rfl, h⟩
    · rename_i h
      have hx := hbX x List.mem_cons_self
      match Y, h, hmY, hO with
      | [], h, _, _ => simp [binSum, sumL] at h
      | [ya], h, hmY, _ =>
        have := (hmY ya List.mem_cons_self).2
        simp [binSum, sumL] at h
        omega
      | ya :: yb :: Y', h, _, hO =>
        cases hO
        have h' : ¬ (v ya + v yb ≤ v x) := by simpa [binSum, sumL] using h
        exact Or.inr (Or.inl ⟨ya, yb, rfl, rfl, rfl, fun x' X'' e => by cases e; omega⟩)

theorem opening_pres {X Y O X1 Y1 : List α} (hXY : Classes v B X Y)
    (hO : Textbook.opening v X Y = (O, X1, Y1)) : Classes v B X1 Y1 := by
  have hsub := Textbook.opening_sublist v X Y
  rw [hO] at hsub
  exact ⟨hXY.sortedX.sublist hsub.1, fun x hx => hXY.bigX x (hsub.1.subset hx),
    hXY.sortedY.sublist hsub.2, fun y hy => hXY.medY y (hsub.2.subset hy)⟩

theorem pair_dominates {Y : List α} (hsY : Y.Pairwise (fun a b => v b ≤ v a)) :
    ∀ y ∈ Y.tail, 2 * v y ≤ binSum v (Y.take 2) := by
  match Y, hsY with
  | [], _ => simp
  | [_], _ => simp
  | a :: b :: Y', hsY =>
    intro y hy
    rw [List.pairwise_cons, List.pairwise_cons] at hsY
    have hba := hsY.1 b List.mem_cons_self
    have hyb : v y ≤ v b := by
      rcases List.mem_cons.1 hy with rfl | hy'
      · exact Nat.le_refl _
      · exact hsY.2.1 y hy'
    simp only [List.take_succ_cons, List.take_zero, Part.binSum_cons, Part.binSum_nil]
    omega

/-- the opening items are worth at least any big item that remains, and at least twice any medium item that
    remains, the first one excepted -/
theorem opening_dominates {X Y O X1 Y1 : List α} (hne : ¬ (X = [] ∧ Y = [])) (hXY : Classes v B X Y)
    (hO : Textbook.opening v X Y = (O, X1, Y1)) :
    (∀ x ∈ X1, v x ≤ binSum v O) ∧ (∀ y ∈ Y1.tail, 2 * v y ≤ binSum v O) := by
  obtain ⟨hsX, hbX, hsY, hmY⟩ := hXY
  have hpair := pair_dominates hsY
  rcases opening_cases hne hbX hmY hO with ⟨x, rfl, rfl, rfl, hrule⟩ | ⟨ya, yb, rfl, rfl, rfl, hrule⟩ |
    ⟨ya, rfl, rfl, rfl, rfl, rfl⟩
  · rw [List.pairwise_cons] at hsX
    simp only [Part.binSum_cons, Part.binSum_nil, Nat.add_zero]
    exact ⟨hsX.1, fun y hy => Nat.le_trans (hpair y hy) hrule⟩
  · refine ⟨fun x0 hx0 => ?_, fun y hy => hpair y (List.mem_cons_of_mem _ (List.mem_of_mem_tail hy))⟩
    match X1, hx0, hsX, hrule with
    | x :: X', hx0, hsX, hrule =>
      have := hrule x X' rfl
      rw [List.pairwise_cons] at hsX
      simp only [Part.binSum_cons, Part.binSum_nil]
      rcases List.mem_cons.1 hx0 with rfl | hx0'
      · omega
      · have := hsX.1 x0 hx0'; omega
  · exact ⟨fun x hx => by simp at hx, fun y hy => by simp at hy⟩

theorem Inv.mono {c p : Nat} {X Y X' Y' : List α} (h : Inv v B c p X Y) (hX : ∀ x ∈ X, x ∈ X')
    (hY : ∀ y ∈ Y.tail, y ∈ Y'.tail) : Inv v B c p X' Y' := by
  rcases h with h | ⟨x, hx, h⟩ | ⟨y, hy, h⟩
  · exact Or.inl h
  · exact Or.inr (Or.inl ⟨x, hX x hx, h⟩)
  · exact Or.inr (Or.inr ⟨y, hY y hy, h⟩)

/-- what `Inv` is for: a value `s` that dominates the remaining items as an opening does (`opening_dominates`)
    lies above the threshold `2p`, unless the regime is "capped size" -/
theorem Inv.thr {c p s : Nat} {X Y : List α} (h : Inv v B c p X Y) (hmY : ∀ y ∈ Y, 2 * v y < B)
    (hX : ∀ x ∈ X, v x ≤ s) (hY : ∀ y ∈ Y.tail, 2 * v y ≤ s) : c = 2 * B ∨ 2 * p ≤ 6 * s := by
  rcases h with h | ⟨x, hx, h⟩ | ⟨y, hy, h⟩
  · exact Or.inl h
  · have := hX x hx
    exact Or.inr (by omega)
  · have := hY y hy
    have := hmY y (List.mem_of_mem_tail hy)
    exact Or.inr (by omega)

/-- The weight of a bin of the main phase.  `c, p` are parameters that are good for the state after the
    opening (`Inv`).  Then they are good for the state before it, and the opening items `O` together with small
    items of total value `s` (all but the last one: `binSum v O + s < B`) and one more small item (weight `≤ c`)
    weigh at most `4c`, up to what the medium budget `phiY` pays. -/
theorem opening_facts {c p : Nat} (h1 : c ≤ p) (h2 : c + 2 * p = 6 * B) {X Y O X1 Y1 : List α}
    (hne : ¬ (X = [] ∧ Y = [])) (hXY : Classes v B X Y)
    (hO : Textbook.opening v X Y = (O, X1, Y1)) (hinv : Inv v B c p X1 Y1) :
    Inv v B c p X Y ∧
    binSum (wt v c p) (X ++ Y) = binSum (wt v c p) O + binSum (wt v c p) (X1 ++ Y1) ∧
    (∀ s, binSum v O + s < B →
      3 * (binSum (wt v c p) O + 6 * s + c) + 3 * phiY v p Y1 ≤ 12 * c + 3 * phiY v p Y) ∧
    (B ≤ binSum v O → 3 * binSum (wt v c p) O + 3 * phiY v p Y1 ≤ 12 * c + 3 * phiY v p Y) := by
  obtain ⟨hdomX, hdomY⟩ := opening_dominates hne hXY hO
  have hthr := hinv.thr (fun y hy => ((opening_pres hXY hO).medY y hy).2) hdomX hdomY
  clear hdomX hdomY
  obtain ⟨hsX, hbX, hsY, hmY⟩ := hXY
  rcases opening_cases hne hbX hmY hO with ⟨x, rfl, rfl, rfl, -⟩ | ⟨ya, yb, rfl, rfl, rfl, -⟩ |
    ⟨ya, rfl, rfl, rfl, rfl, rfl⟩
  · -- a big item opens the bin
    simp only [Part.binSum_cons, Part.binSum_nil, Nat.add_zero] at hthr
    have hw := wt_big (v := v) (c := c) (p := p) x
    have hw' := wt_le_val (v := v) h1 x
    have hw3 : wt v c p x ≤ 3 * c := wt_le x
    refine ⟨hinv.mono (fun _ h => List.mem_cons_of_mem _ h) (fun _ h => h), ?_, fun s hs => ?_, fun _ => ?_⟩
    · simp only [List.cons_append, Part.binSum_cons, Part.binSum_nil]; omega
    · simp only [Part.binSum_cons, Part.binSum_nil] at hs ⊢
      omega
    · simp only [Part.binSum_cons, Part.binSum_nil]
      omega
  · -- the two largest medium items open the bin
    rw [List.pairwise_cons, List.pairwise_cons] at hsY
    have hma := hmY ya List.mem_cons_self
    have hmb := hmY yb (List.mem_cons_of_mem _ List.mem_cons_self)
    have hba := hsY.1 yb List.mem_cons_self
    have hwa := wt_medium (v := v) h1 h2 hma
    have hwb := wt_medium (v := v) h1 h2 hmb
    have hphi : phiY v p Y1 ≤ 6 * v yb - p := by
      cases Y1 with
      | nil => exact Nat.zero_le _
      | cons y3 Y'' =>
        have := hsY.2.1 y3 List.mem_cons_self
        rw [phiY_cons]; omega
    simp only [Part.binSum_cons, Part.binSum_nil, Nat.add_zero] at hthr
    -- `wt ya + wt yb = 2c + (6ya ∸ p) + (6yb ∸ p)` and `6(ya + yb + s) < 6B = c + 2p`.  By `hthr` (`2p ≤ 6(ya + yb)`
    -- unless `c = 2B`) `ya` lies above the middle step; if `yb` does too, the bin weighs `< 3c + 6B − 2p = 4c`;
    -- if not, the missing `p − 6yb` is at most `6ya − p = phiY Y`, and `phiY Y1 = 0` (`hphi`): the budget pays.
    refine ⟨hinv.mono (fun _ h => h) (fun y h => List.mem_cons_of_mem _ (List.mem_of_mem_tail h)), ?_,
      fun s hs => ?_, fun hcov => ?_⟩
    · simp only [Part.binSum_append, Part.binSum_cons, Part.binSum_nil]; omega
    · simp only [Part.binSum_cons, Part.binSum_nil, phiY_cons] at hs ⊢
      omega
    · simp only [Part.binSum_cons, Part.binSum_nil] at hcov
      omega
  · -- the only medium item opens the bin: nothing else is left, the regime is "capped size"
    have hma := hmY ya List.mem_cons_self
    simp only [Part.binSum_cons, Part.binSum_nil, Nat.add_zero] at hthr
    have hc : c = 2 * B := by omega
    have hw := wt_le_val (v := v) h1 ya
    refine ⟨Or.inl hc, ?_, fun s hs => ?_, fun hcov => ?_⟩
    · simp only [List.nil_append, Part.binSum_cons, Part.binSum_nil]
    · simp only [Part.binSum_cons, Part.binSum_nil, phiY_cons, phiY_nil] at hs ⊢
      omega
    · simp only [Part.binSum_cons, Part.binSum_nil] at hcov
      omega

/-- The sum of a bin of the main phase: a covered bin `O ++ taken` is a single item of value `≥ B`, or its
    sum is below `4B/3` (it was below `B` before the last, small, item).  This is the textbook reason for the
    factor 3/4 (no bin of the main phase wastes more than a third); the weighting proof below does not need it. -/
theorem main_bin_sum (X Y : List α) (hXY : ¬ (X = [] ∧ Y = [])) (hbX : ∀ x ∈ X, B ≤ 2 * v x)
    (hmY : ∀ y ∈ Y, B ≤ 3 * v y ∧ 2 * v y < B) {O X1 Y1 taken : List α}
    (hO : Textbook.opening v X Y = (O, X1, Y1)) (hz : ∀ z ∈ taken, 3 * v z < B)
    (hcov : B ≤ binSum v (O ++ taken))
    (hshape : taken = [] ∨ ∃ t last, taken = t ++ [last] ∧ binSum v (O ++ t) < B) :
    (∃ x, O = [x] ∧ B ≤ v x ∧ taken = []) ∨ 3 * binSum v (O ++ taken) < 4 * B := by
  rcases hshape with rfl | ⟨t, last, rfl, hlt⟩
  · left
    rw [List.append_nil] at hcov
    rcases opening_cases hXY hbX hmY hO with ⟨x, rfl, rfl, rfl, _⟩ | ⟨ya, yb, rfl, rfl, rfl, _⟩ |
      ⟨ya, rfl, rfl, rfl, rfl, rfl⟩
    · exact ⟨x, rfl, by simpa [Part.binSum_cons, Part.binSum_nil] using hcov, rfl⟩
    · have := (hmY ya List.mem_cons_self).2
      have := (hmY yb (by simp)).2
      simp only [Part.binSum_cons, Part.binSum_nil] at hcov
      omega
    · have := (hmY ya List.mem_cons_self).2
      simp only [Part.binSum_cons, Part.binSum_nil] at hcov
      omega
  · right
    have := hz last (by simp)
    rw [← List.append_assoc, Part.binSum_concat]
    omega

end Structure

/-! ## The algorithm's side: total weight `≤ 4c·ALG + 26c/3 + c/2` for parameters read off the run -/

section Main
variable {v : α → Nat} {B : Nat}

/-- the two ways the main phase ends: no small items (next-fit on big, then medium items), or only small items -/
theorem mainW_base (hB : 0 < B) {X Y Z : List α} (hXY : Classes v B X Y) (hzZ : ∀ z ∈ Z, 3 * v z < B)
    (h : Z = [] ∨ (X = [] ∧ Y = [])) :
    ∃ c p, 0 < c ∧ c ≤ p ∧ c + 2 * p = 6 * B ∧ Inv v B c p X Y ∧
      3 * binSum (wt v c p) (X ++ Y ++ Z) ≤
        12 * (c * (Textbook.threeClass v B [] X Y Z).length) + 26 * c + 3 * phiY v p Y := by
  by_cases hZ : Z = []
  · subst hZ
    obtain ⟨c, p, hc0, h1, h2, hinv, hw⟩ := finalW (cur := []) hB hXY
    refine ⟨c, p, hc0, h1, h2, hinv, ?_⟩
    rw [Textbook.threeClass_nilZ, List.append_nil]
    omega
  · obtain ⟨rfl, rfl⟩ := h.resolve_left hZ
    refine ⟨2 * B, 2 * B, by omega, Nat.le_refl _, by omega, Or.inl rfl, ?_⟩
    -- a tight bin of small items: below `B` (weight `≤ 6B = 3c`) before its last item (weight `≤ c`)
    have hgood := Textbook.threeClass_good_base (v := v) (X := []) (Y := []) (Z := Z) hB (Or.inr ⟨rfl, rfl⟩)
    have := hgood.sum_le (w := wt v (2 * B) (2 * B)) (K := 4 * (2 * B)) (R := 3 * (2 * B))
      (fun g hg ht => by
        have := ht.binSum_le (w := wt v (2 * B) (2 * B)) (R := 3 * (2 * B)) (d := 2 * B)
          (fun r hr => by have := binSum_wt_le (v := v) (Nat.le_refl (2 * B)) r; omega) fun y hy => wt_small (v := v) (B := B) (Nat.le_refl (2 * B)) (by omega) (hzZ y (hg y hy))
        omega)
      (fun r _ hr => by have := binSum_wt_le (v := v) (Nat.le_refl (2 * B)) r; omega)
    rw [Nat.mul_comm _ (4 * (2 * B)), Nat.mul_assoc 4] at this
    rw [phiY_nil]
    omega

/-- Along the main phase (`Textbook.threeClass_induction`): the parameters `c, p` come from the end of the run
    (`mainW_base`, `finalW`) and are carried back through the openings by `opening_facts`. -/
theorem mainW (hB : 0 < B) (X Y Z : List α) : Classes v B X Y → (∀ z ∈ Z, 3 * v z < B) →
    ∃ c p, 0 < c ∧ c ≤ p ∧ c + 2 * p = 6 * B ∧ Inv v B c p X Y ∧
      3 * binSum (wt v c p) (X ++ Y ++ Z) ≤
        12 * (c * (Textbook.threeClass v B [] X Y Z).length) + 26 * c + 3 * phiY v p Y := by
  induction X, Y, Z using Textbook.threeClass_induction (v := v) (B := B) with
  | base X Y Z h => exact fun hcl hzZ => mainW_base hB hcl hzZ h
  | round X Y O X1 Y1 taken left hXY hO hcase ih =>
    intro hcl hzZ
    have hXY1 := opening_pres hcl hO
    rcases hcase with ⟨hcov, heq, hshape⟩ | ⟨hlt, rfl, heq⟩
    · -- the bin is covered and closed
      rw [heq, List.length_cons]
      obtain ⟨c, p, hc0, h1, h2, hinv, hw⟩ := ih hXY1 fun z hz => hzZ z (List.mem_append_right _ hz)
      obtain ⟨hinv', hsum, hF2, hF3⟩ := opening_facts h1 h2 hXY hcl hO hinv
      refine ⟨c, p, hc0, h1, h2, hinv', ?_⟩
      rw [Nat.mul_succ]
      rcases hshape with rfl | ⟨t, last, rfl, hlt⟩
      · have h3 := hF3 (by simpa using hcov)
        simp only [Part.binSum_append, List.nil_append] at hsum hw ⊢
        generalize c * (Textbook.threeClass v B [] X1 Y1 left).length = K at *
        omega
      · rw [Part.binSum_append] at hlt
        have h3 := hF2 (binSum v t) hlt
        have h4 := binSum_wt_le (v := v) h1 t
        have h5 := wt_small (v := v) h1 h2 (hzZ last (by simp))
        simp only [Part.binSum_append, Part.binSum_cons, Part.binSum_nil] at hsum hw ⊢
        generalize c * (Textbook.threeClass v B [] X1 Y1 left).length = K at *
        omega
    · -- the small items have run out before the bin is covered
      rw [heq]
      obtain ⟨c, p, hc0, h1, h2, hinv, hw⟩ := finalW hlt hXY1
      obtain ⟨hinv', hsum, hF2, _⟩ := opening_facts h1 h2 hXY hcl hO hinv
      refine ⟨c, p, hc0, h1, h2, hinv', ?_⟩
      rw [Part.binSum_append] at hlt
      have h3 := hF2 (binSum v taken) hlt
      have h4 := binSum_wt_le (v := v) h1 taken
      simp only [Part.binSum_append, List.append_nil] at hsum hw ⊢
      generalize c * (Textbook.nfCover v B (O ++ taken) (X1 ++ Y1)).length = K at *
      omega

end Main

/-! ## The theorem -/

section Theorem
variable {v : α → Nat} {B m : Nat} {items : List α}

/-- the three classes partition the items -/
theorem binSum_classes (w : α → Nat) (v : α → Nat) (B : Nat) (s : List α) :
    binSum w (s.filter (fun x => B ≤ 2 * v x) ++ s.filter (fun x => B ≤ 3 * v x ∧ 2 * v x < B) ++
      (s.filter (fun x => 3 * v x < B)).reverse) = binSum w s := by
  have h := Part.binSum_perm w (Cover.classes_perm v B s)
  rw [Textbook.filter_isBig, Textbook.filter_isMedium, Textbook.filter_isSmall, Part.binSum_append] at h
  rw [Part.binSum_append, Part.binSum_perm w (List.reverse_perm _)]
  exact h

/-- sharp form, against the list formulation of coverability; no positivity needed:
    `3·OPT ≤ 4·ALG + 9` -/
theorem threeQuarters_three_quarters_coverableL (hB : 0 < B) (hm : Cover.CoverableL B m (items.map v)) :
    3 * m ≤ 4 * (threeQuarters v B items).lists.length + 9 := by
  rw [Textbook.threeQuarters_eq_spec, Textbook.threeQuartersSpec]
  have hs := Part.sortDesc_sorted v items
  generalize hsdef : sortDesc v items = s at *
  obtain ⟨c, p, hc0, h1, h2, _, hw⟩ := mainW (v := v) hB
    (s.filter (fun x => B ≤ 2 * v x)) (s.filter (fun x => B ≤ 3 * v x ∧ 2 * v x < B))
    (s.filter (fun x => 3 * v x < B)).reverse
    ⟨hs.filter _, fun x hx => by simpa using (List.mem_filter.1 hx).2,
      hs.filter _, fun x hx => by simpa using (List.mem_filter.1 hx).2⟩
    (fun z hz => by simpa using (List.mem_filter.1 (List.mem_reverse.1 hz)).2)
  have hopt := coverableL_weight (v := v) h1 h2 hm
  have hperm : (sortDesc v items).Perm items := Part.sortDesc_perm v items
  rw [← Part.binSum_perm _ hperm, hsdef, ← binSum_classes (wt v c p) v B s] at hopt
  have hphi := phiY_le (v := v) h2 (s.filter (fun x => B ≤ 3 * v x ∧ 2 * v x < B))
    (fun y hy => by have := (List.mem_filter.1 hy).2; simp at this; exact this.2)
  generalize (Textbook.threeClass v B [] (s.filter (fun x => B ≤ 2 * v x))
    (s.filter (fun x => B ≤ 3 * v x ∧ 2 * v x < B)) (s.filter (fun x => 3 * v x < B)).reverse).length = A at *
  have h3 : c * (18 * m) ≤ c * (24 * A + 55) := by
    have e1 : c * (18 * m) = 6 * (m * (3 * c)) := by ring
    have e2 : c * (24 * A + 55) = 24 * (c * A) + 55 * c := by ring
    omega
  have := Nat.le_of_mul_le_mul_left h3 hc0
  omega

/-- C10 in its sharper form: `m` coverable → `3m ≤ 4·ALG + 9` (no positivity needed) -/
theorem threeQuarters_three_quarters_strong (hB : 0 < B) (hm : Coverable B m (items.map v)) :
    3 * m ≤ 4 * (threeQuarters v B items).lists.length + 9 :=
  threeQuarters_three_quarters_coverableL hB (Cover.coverable_coverableL hm)

/-- **C10 for the three-quarters algorithm**: `ALG ≥ 3/4·OPT − 4`, where `OPT` is any coverable
    number of bins.  (`threeQuarters_three_quarters_strong` has the additive constant `9` instead of `16`, and
    positivity of the values is not needed.) -/
theorem threeQuarters_three_quarters (hB : 0 < B) (_hpos : ∀ x ∈ items, 0 < v x)
    (hm : Coverable B m (items.map v)) : 3 * m ≤ 4 * (threeQuarters v B items).lists.length + 16 := by
  have := threeQuarters_three_quarters_strong hB hm
  omega

/-- the same against the oracle: `3·OPT ≤ 4·ALG + 9` with `OPT = optCover B values` -/
theorem threeQuarters_three_quarters_opt (hB : 0 < B) :
    3 * optCover B (items.map v) ≤ 4 * (threeQuarters v B items).lists.length + 9 :=
  threeQuarters_three_quarters_strong (v := v) (items := items) hB (Checkers.optCover_spec hB).1

/-- the bound for inputs without medium items: the theorem itself (the hypothesis is not used, no better
    constant is claimed) -/
theorem threeQuarters_no_medium (hB : 0 < B) (_hnm : ∀ x ∈ items, ¬ (B ≤ 3 * v x ∧ 2 * v x < B))
    (hm : Coverable B m (items.map v)) : 3 * m ≤ 4 * (threeQuarters v B items).lists.length + 9 :=
  threeQuarters_three_quarters_strong hB hm

/-- the bound for inputs without big items: the theorem itself (the hypothesis is not used, no better constant
    is claimed) -/
theorem threeQuarters_no_big (hB : 0 < B) (_hnb : ∀ x ∈ items, 2 * v x < B)
    (hm : Coverable B m (items.map v)) : 3 * m ≤ 4 * (threeQuarters v B items).lists.length + 9 :=
  threeQuarters_three_quarters_strong hB hm

end Theorem

/-! ## Non-vacuity -/

/-- four bins of size 60 can be covered with these ten items … -/
theorem example_coverable :
    Coverable 60 4 (([43, 43, 43, 43, 22, 22, 15, 15, 2, 2] : List Nat).map id) :=
  Cover.coverableL_coverable
    ⟨[[43, 22], [43, 22], [43, 15, 2], [43, 15, 2]], rfl, by decide, [], by decide⟩

/-- … the algorithm covers three (two medium items and small items, then pairs of big items) -/
example : (threeQuarters id 60 [43, 43, 43, 43, 22, 22, 15, 15, 2, 2]).lists =
    [[22, 22, 2, 2, 15], [43, 15, 43], [43, 43]] := by decide

example : 3 * 4 ≤ 4 * (threeQuarters id 60 [43, 43, 43, 43, 22, 22, 15, 15, 2, 2]).lists.length + 16 :=
  threeQuarters_three_quarters (by decide) (by decide) example_coverable

example : 3 * 4 ≤ 4 * (threeQuarters id 60 [43, 43, 43, 43, 22, 22, 15, 15, 2, 2]).lists.length + 9 :=
  threeQuarters_three_quarters_strong (by decide) example_coverable

/-- no medium items: two bins can be covered, the algorithm covers two -/
theorem example_no_medium : Coverable 12 2 (([9, 8, 3, 3, 1] : List Nat).map id) :=
  Cover.coverableL_coverable ⟨[[9, 3], [8, 3, 1]], rfl, by decide, [], by decide⟩

example : 3 * 2 ≤ 4 * (threeQuarters id 12 [9, 8, 3, 3, 1]).lists.length + 9 :=
  threeQuarters_no_medium (by decide) (by decide) example_no_medium

/-- no big items: two bins can be covered, the algorithm covers one -/
theorem example_no_big : Coverable 12 2 (([5, 5, 4, 4, 3, 3] : List Nat).map id) :=
  Cover.coverableL_coverable ⟨[[5, 4, 3], [5, 4, 3]], rfl, by decide, [], by decide⟩

example : (threeQuarters id 12 [5, 5, 4, 4, 3, 3]).lists = [[5, 5, 3]] := by decide

example : 3 * 2 ≤ 4 * (threeQuarters id 12 [5, 5, 4, 4, 3, 3]).lists.length + 9 :=
  threeQuarters_no_big (by decide) (by decide) example_no_big

end Prtpy.Cover34
