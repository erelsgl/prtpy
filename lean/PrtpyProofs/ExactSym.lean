/-
  PrtpyProofs.ExactSym — property C18 for the exact algorithms:
    * reordering the input never changes the optimal value returned by an exact algorithm,
    * multiplying all values by a positive integer multiplies the optimal value by the same factor,
    * adding zero-valued items never changes an exact algorithm's optimal value;
  for complete greedy (`cg`, run to completion, all 16 switch combinations), dynamic programming (`dpFinal` minimal
  records, the deterministic `dp`), the oracle `optValue`, and CBLDM (`sumDiff` of the result); and the exact
  algorithms agree with each other.
  Everything follows from the optimality theorems (`CGOpt.cg_optimal`, `Oracle.dp_optimal`, `CBLDMOpt.cbldm_optimal`)
  and the symmetries of the *specification* (`Scale.isOptimal_*` of SpecSym.lean, and of `optBalanced` proved here).
  The `example`s instantiate the theorems at evaluated runs.  Where the two runs return the same bins the displayed
  equation has the same term on both sides (lines of the form `a = a`): such an example shows that the hypotheses of
  the theorem can be met by concrete runs, not more.
-/
import PrtpyProofs.Checkers
import PrtpyProofs.Oracle
import PrtpyProofs.CBLDMOpt
import PrtpyProofs.SpecSym
import PrtpyProofs.CGOpt

namespace Prtpy.ExactSym

variable {α : Type}

attribute [local instance] decEqBins decEqExcept

/-! ## the optimum is unique -/

/-- `Oracle.isOptimalValue_unique` -/
theorem isOptimal_unique {o : Objective} {k : Nat} {vals : List Nat} {x y : Int}
    (hx : IsOptimalValue o k vals x) (hy : IsOptimalValue o k vals y) : x = y :=
  Oracle.isOptimalValue_unique hx hy

example : (3 : Int) = 3 := isOptimal_unique Scale.opt123 Scale.opt123

theorem map_scale (v : α → Nat) (c : Nat) (items : List α) :
    items.map (fun a => c * v a) = (items.map v).map (c * ·) := by
  rw [List.map_map]; rfl

theorem map_append_zeros (v : α → Nat) (items : List α) {zs : List α} (hz : ∀ z ∈ zs, v z = 0) :
    (items ++ zs).map v = items.map v ++ List.replicate zs.length 0 := by
  rw [List.map_append, List.map_eq_replicate_iff.2 hz]

/-- the three symmetries of the specification, on items -/
theorem isOptimal_items_perm {o : Objective} {k : Nat} {v : α → Nat} {items₁ items₂ : List α} {x : Int}
    (hp : items₁.Perm items₂) (h : IsOptimalValue o k (items₁.map v) x) : IsOptimalValue o k (items₂.map v) x :=
  Scale.isOptimal_perm (hp.map v) h

theorem isOptimal_items_scale {o : Objective} {k : Nat} {v : α → Nat} {items : List α} {x : Int} (c : Nat)
    (h : IsOptimalValue o k (items.map v) x) :
    IsOptimalValue o k (items.map fun a => c * v a) ((c : Int) * x) := by
  rw [map_scale]; exact Scale.isOptimal_scale c h

theorem isOptimal_items_zeros {o : Objective} {k : Nat} {v : α → Nat} {items zs : List α} {x : Int} (hk : 0 < k)
    (hz : ∀ z ∈ zs, v z = 0) (h : IsOptimalValue o k (items.map v) x) :
    IsOptimalValue o k ((items ++ zs).map v) x := by
  rw [map_append_zeros v items hz]; exact Scale.isOptimal_zeros_partial hk _ h

/-! ## complete greedy -/

section cg
variable {v : α → Nat} {cfg cfg₁ cfg₂ : CgCfg} {k : Nat} {items items₁ items₂ zs : List α} {fuel fuel₁ fuel₂ : Nat}
  {b b₁ b₂ : Bins α}

/-- the value returned by a completed run does not depend on the order of the items
    (nor on the fuel, nor — see `cg_value_config_independent` — on the switches) -/
theorem cg_value_perm (hk : 0 < k) (hp : items₁.Perm items₂)
    (h₁ : cg v cfg k items₁ none fuel₁ = .ok (some b₁)) (h₂ : cg v cfg k items₂ none fuel₂ = .ok (some b₂)) :
    cfg.obj.value b₁.sums false = cfg.obj.value b₂.sums false :=
  isOptimal_unique (isOptimal_items_perm hp (CGOpt.cg_optimal hk h₁)) (CGOpt.cg_optimal hk h₂)

example : Objective.minLargest.value (⟨[15, 15], [[6, 5, 4], [8, 7]]⟩ : Bins Nat).sums false
    = Objective.minLargest.value (⟨[15, 15], [[6, 5, 4], [8, 7]]⟩ : Bins Nat).sums false :=
  cg_value_perm (v := id) (cfg := ⟨.minLargest, true, true, true, true⟩) (k := 2)
    (items₁ := [4, 5, 6, 7, 8]) (items₂ := [8, 4, 7, 5, 6]) (fuel₁ := 100) (fuel₂ := 100)
    (by decide +kernel) (by decide +kernel) (by decide +kernel) (by decide +kernel)

/-- all values multiplied by `c` (the same items under the value function `c * v ·`): the returned value
    is multiplied by `c`.  (`0 < c` is not needed.) -/
theorem cg_value_scale (hk : 0 < k) (c : Nat)
    (h₁ : cg v cfg k items none fuel₁ = .ok (some b₁))
    (h₂ : cg (fun a => c * v a) cfg k items none fuel₂ = .ok (some b₂)) :
    cfg.obj.value b₂.sums false = (c : Int) * cfg.obj.value b₁.sums false :=
  isOptimal_unique (CGOpt.cg_optimal hk h₂) (isOptimal_items_scale c (CGOpt.cg_optimal hk h₁))

example : Objective.minLargest.value (⟨[45, 45], [[6, 5, 4], [8, 7]]⟩ : Bins Nat).sums false
    = ((3 : Nat) : Int) * Objective.minLargest.value (⟨[15, 15], [[6, 5, 4], [8, 7]]⟩ : Bins Nat).sums false :=
  cg_value_scale (v := id) (cfg := ⟨.minLargest, true, true, true, true⟩) (k := 2)
    (items := [4, 5, 6, 7, 8]) (fuel₁ := 100) (fuel₂ := 100) (by decide +kernel) 3 (by decide +kernel) (by decide +kernel)

/-- appending zero-valued items does not change the returned value -/
theorem cg_value_zeros (hk : 0 < k) (hz : ∀ z ∈ zs, v z = 0)
    (h₁ : cg v cfg k items none fuel₁ = .ok (some b₁))
    (h₂ : cg v cfg k (items ++ zs) none fuel₂ = .ok (some b₂)) :
    cfg.obj.value b₂.sums false = cfg.obj.value b₁.sums false :=
  isOptimal_unique (CGOpt.cg_optimal hk h₂) (isOptimal_items_zeros hk hz (CGOpt.cg_optimal hk h₁))

/-- … wherever the zero-valued items are inserted -/
theorem cg_value_zeros_anywhere (hk : 0 < k) (hz : ∀ z ∈ zs, v z = 0) (hp : items₂.Perm (items ++ zs))
    (h₁ : cg v cfg k items none fuel₁ = .ok (some b₁))
    (h₂ : cg v cfg k items₂ none fuel₂ = .ok (some b₂)) :
    cfg.obj.value b₂.sums false = cfg.obj.value b₁.sums false :=
  isOptimal_unique (CGOpt.cg_optimal hk h₂)
    (isOptimal_items_perm hp.symm (isOptimal_items_zeros hk hz (CGOpt.cg_optimal hk h₁)))

example : Objective.minLargest.value (⟨[15, 15], [[6, 5, 4], [8, 7, 0, 0]]⟩ : Bins Nat).sums false
    = Objective.minLargest.value (⟨[15, 15], [[6, 5, 4], [8, 7]]⟩ : Bins Nat).sums false :=
  cg_value_zeros (v := id) (cfg := ⟨.minLargest, false, false, false, false⟩) (k := 2)
    (items := [4, 5, 6, 7, 8]) (zs := [0, 0]) (fuel₁ := 1000) (fuel₂ := 1000) (by decide +kernel) (by decide +kernel)
    (by decide +kernel) (by decide +kernel)

/-- all symmetries at once: two configurations with the same objective (different switches), the items in a
    different order -/
theorem cg_value_config_perm (hk : 0 < k) (ho : cfg₁.obj = cfg₂.obj) (hp : items₁.Perm items₂)
    (h₁ : cg v cfg₁ k items₁ none fuel₁ = .ok (some b₁)) (h₂ : cg v cfg₂ k items₂ none fuel₂ = .ok (some b₂)) :
    cfg₁.obj.value b₁.sums false = cfg₂.obj.value b₂.sums false := by
  have o₁ := isOptimal_items_perm hp (CGOpt.cg_optimal hk h₁)
  rw [ho] at o₁ ⊢
  exact isOptimal_unique o₁ (CGOpt.cg_optimal hk h₂)

/-- two configurations with the same objective return the same value: the lower-bound prune, the fast lower
    bound, heuristic 3 and the seen-set (16 combinations) never change the value of a completed run -/
theorem cg_value_config_independent (hk : 0 < k) (ho : cfg₁.obj = cfg₂.obj)
    (h₁ : cg v cfg₁ k items none fuel₁ = .ok (some b₁)) (h₂ : cg v cfg₂ k items none fuel₂ = .ok (some b₂)) :
    cfg₁.obj.value b₁.sums false = cfg₂.obj.value b₂.sums false :=
  cg_value_config_perm hk ho (List.Perm.refl _) h₁ h₂

-- all prunes on (finds `[8] [7,4] [6,5]`) against no prune at all
example : Objective.minDiff.value (⟨[8, 11, 11], [[8], [7, 4], [6, 5]]⟩ : Bins Nat).sums false
    = Objective.minDiff.value (⟨[8, 11, 11], [[8], [7, 4], [6, 5]]⟩ : Bins Nat).sums false :=
  cg_value_config_independent (v := id) (cfg₁ := ⟨.minDiff, true, true, true, true⟩)
    (cfg₂ := ⟨.minDiff, false, false, false, false⟩) (k := 3) (items := [4, 5, 6, 7, 8])
    (fuel₁ := 1000) (fuel₂ := 1000) (by decide +kernel) rfl (by decide +kernel) (by decide +kernel)

/-- agreement with the oracle: a completed run returns the oracle's value -/
theorem cg_value_eq_optValue (hk : 0 < k) (h : cg v cfg k items none fuel = .ok (some b)) :
    optValue cfg.obj k (items.map v) = some (cfg.obj.value b.sums false) :=
  Oracle.optValue_eq_some_iff.2 (CGOpt.cg_optimal hk h)

example : optValue .minLargest 2 [4, 5, 6, 7, 8] = some 15 :=
  cg_value_eq_optValue (v := id) (cfg := ⟨.minLargest, true, true, true, true⟩) (items := [4, 5, 6, 7, 8])
    (fuel := 100) (b := ⟨[15, 15], [[6, 5, 4], [8, 7]]⟩) (by decide +kernel) (by decide +kernel)

end cg

/-! ## dynamic programming and the oracle -/

/-- `r` is a minimal final record of the DP for objective `o` (what `min(states, key = …)` may return) -/
def DpMin (o : Objective) (k : Nat) (vals : List Nat) (r : DpRec) : Prop :=
  r ∈ dpFinal k vals ∧ ∀ r' ∈ dpFinal k vals, o.value r.state false ≤ o.value r'.state false

/-- `Oracle.dp_optimal_of_min`, on the record's state -/
theorem dpMin_optimal {o : Objective} {k : Nat} {vals : List Nat} {r : DpRec} (h : DpMin o k vals r) :
    IsOptimalValue o k vals (o.value r.state false) := by
  have := Oracle.dp_optimal_of_min o (k := k) (id : Nat → Nat) vals r (by simpa using h.1) (by simpa using h.2)
  rw [(Oracle.dpReplay_isPartition id vals (r := r) (by simpa using h.1)).2] at this
  simpa using this

/-- … and on the replayed partition, for any item type -/
theorem dpMin_replay_optimal {o : Objective} {k : Nat} (v : α → Nat) (items : List α) {r : DpRec}
    (h : DpMin o k (items.map v) r) :
    IsOptimalValue o k (items.map v) (o.value (dpReplay v k items r.path).sums false) :=
  Oracle.dp_optimal_of_min o v items r h.1 h.2

section dp
variable {o : Objective} {k : Nat} {v : α → Nat} {items items₁ items₂ zs : List α} {r r₁ r₂ : DpRec}

/-- whichever minimal records the DP picks for an input and for a reordering of it, the values agree -/
theorem dp_value_perm (hp : items₁.Perm items₂) (h₁ : DpMin o k (items₁.map v) r₁) (h₂ : DpMin o k (items₂.map v) r₂) :
    o.value r₁.state false = o.value r₂.state false :=
  isOptimal_unique (isOptimal_items_perm hp (dpMin_optimal h₁)) (dpMin_optimal h₂)

/-- in particular (`items₁ = items₂`) the value does not depend on which minimal record is returned — the
    set-iteration-order non-determinism of the implementation is harmless -/
theorem dp_value_record_independent (h₁ : DpMin o k (items.map v) r₁) (h₂ : DpMin o k (items.map v) r₂) :
    o.value r₁.state false = o.value r₂.state false :=
  dp_value_perm (List.Perm.refl _) h₁ h₂

theorem dp_value_scale (c : Nat) (h₁ : DpMin o k (items.map v) r₁) (h₂ : DpMin o k (items.map fun a => c * v a) r₂) :
    o.value r₂.state false = (c : Int) * o.value r₁.state false :=
  isOptimal_unique (dpMin_optimal h₂) (isOptimal_items_scale c (dpMin_optimal h₁))

theorem dp_value_zeros (hk : 0 < k) (hz : ∀ z ∈ zs, v z = 0) (h₁ : DpMin o k (items.map v) r₁)
    (h₂ : DpMin o k ((items ++ zs).map v) r₂) :
    o.value r₂.state false = o.value r₁.state false :=
  isOptimal_unique (dpMin_optimal h₂) (isOptimal_items_zeros hk hz (dpMin_optimal h₁))

/-- the same three on the replayed partitions (as `Oracle.dp_optimal` is stated) -/
theorem dp_replay_value_perm (hp : items₁.Perm items₂) (h₁ : DpMin o k (items₁.map v) r₁)
    (h₂ : DpMin o k (items₂.map v) r₂) :
    o.value (dpReplay v k items₁ r₁.path).sums false = o.value (dpReplay v k items₂ r₂.path).sums false :=
  isOptimal_unique (isOptimal_items_perm hp (dpMin_replay_optimal v items₁ h₁)) (dpMin_replay_optimal v items₂ h₂)

theorem dp_replay_value_scale (c : Nat) (h₁ : DpMin o k (items.map v) r₁)
    (h₂ : DpMin o k (items.map fun a => c * v a) r₂) :
    o.value (dpReplay (fun a => c * v a) k items r₂.path).sums false
      = (c : Int) * o.value (dpReplay v k items r₁.path).sums false :=
  isOptimal_unique (dpMin_replay_optimal _ items h₂) (isOptimal_items_scale c (dpMin_replay_optimal v items h₁))

theorem dp_replay_value_zeros (hk : 0 < k) (hz : ∀ z ∈ zs, v z = 0) (h₁ : DpMin o k (items.map v) r₁)
    (h₂ : DpMin o k ((items ++ zs).map v) r₂) :
    o.value (dpReplay v k (items ++ zs) r₂.path).sums false = o.value (dpReplay v k items r₁.path).sums false :=
  isOptimal_unique (dpMin_replay_optimal v _ h₂) (isOptimal_items_zeros hk hz (dpMin_replay_optimal v items h₁))

example : DpMin .minLargest 2 ([1, 2, 3].map id) ⟨[3, 3], [1, 0, 0]⟩ := by
  constructor <;> decide +kernel
example : DpMin .minLargest 2 ([3, 1, 2].map id) ⟨[3, 3], [1, 1, 0]⟩ := by
  constructor <;> decide +kernel
example : Objective.minLargest.value [3, 3] false = Objective.minLargest.value [3, 3] false :=
  dp_value_perm (k := 2) (v := id) (items₁ := [1, 2, 3]) (items₂ := [3, 1, 2]) (r₁ := ⟨[3, 3], [1, 0, 0]⟩)
    (r₂ := ⟨[3, 3], [1, 1, 0]⟩) (by decide +kernel) (by constructor <;> decide +kernel) (by constructor <;> decide +kernel)
example : Objective.minLargest.value [6, 6] false = ((2 : Nat) : Int) * Objective.minLargest.value [3, 3] false :=
  dp_value_scale (k := 2) (v := id) (items := [1, 2, 3]) (r₁ := ⟨[3, 3], [1, 0, 0]⟩) (r₂ := ⟨[6, 6], [1, 0, 0]⟩) 2
    (by constructor <;> decide +kernel) (by constructor <;> decide +kernel)
example : Objective.minLargest.value [3, 3] false = Objective.minLargest.value [3, 3] false :=
  dp_value_zeros (k := 2) (v := id) (items := [1, 2, 3]) (zs := [0]) (r₁ := ⟨[3, 3], [1, 0, 0]⟩)
    (r₂ := ⟨[3, 3], [0, 1, 0, 0]⟩) (by decide +kernel) (by decide +kernel) (by constructor <;> decide +kernel) (by constructor <;> decide +kernel)

/-- the deterministic representative `dp` returns the replay of a minimal record -/
theorem dp_ok_min {b : Bins α} (h : dp v o k items = .ok b) :
    ∃ r, DpMin o k (items.map v) r ∧ b = dpReplay v k items r.path := by
  simp only [dp] at h
  cases hb : dpBestValue o k (items.map v) with
  | none => rw [hb] at h; cases h
  | some x =>
    simp only [hb] at h
    cases hf : (dpFinal k (items.map v)).find? (fun r => o.value r.state false == x) with
    | none => rw [hf] at h; cases h
    | some r =>
      rw [hf] at h
      cases h
      have hv : o.value r.state false = x := by simpa using List.find?_some hf
      exact ⟨r, ⟨List.mem_of_find?_eq_some hf, hv ▸ (Oracle.dpBestValue_eq_some_iff_rec.1 hb).2⟩, rfl⟩

/-- C02 for the model's `dp` (any `k`, as `Oracle.dp_optimal_of_min`) -/
theorem dp_ok_optimal {b : Bins α} (h : dp v o k items = .ok b) :
    IsOptimalValue o k (items.map v) (o.value b.sums false) := by
  obtain ⟨r, hr, rfl⟩ := dp_ok_min h
  exact dpMin_replay_optimal v items hr

theorem dp_fn_value_perm {b₁ b₂ : Bins α} (hp : items₁.Perm items₂) (h₁ : dp v o k items₁ = .ok b₁)
    (h₂ : dp v o k items₂ = .ok b₂) : o.value b₁.sums false = o.value b₂.sums false :=
  isOptimal_unique (isOptimal_items_perm hp (dp_ok_optimal h₁)) (dp_ok_optimal h₂)

theorem dp_fn_value_scale {b₁ b₂ : Bins α} (c : Nat) (h₁ : dp v o k items = .ok b₁)
    (h₂ : dp (fun a => c * v a) o k items = .ok b₂) :
    o.value b₂.sums false = (c : Int) * o.value b₁.sums false :=
  isOptimal_unique (dp_ok_optimal h₂) (isOptimal_items_scale c (dp_ok_optimal h₁))

theorem dp_fn_value_zeros {b₁ b₂ : Bins α} (hk : 0 < k) (hz : ∀ z ∈ zs, v z = 0) (h₁ : dp v o k items = .ok b₁)
    (h₂ : dp v o k (items ++ zs) = .ok b₂) : o.value b₂.sums false = o.value b₁.sums false :=
  isOptimal_unique (dp_ok_optimal h₂) (isOptimal_items_zeros hk hz (dp_ok_optimal h₁))

example : Objective.minDiff.value (⟨[5, 5], [[2, 3], [1, 4]]⟩ : Bins Nat).sums false
    = Objective.minDiff.value (⟨[5, 5], [[2, 3], [4, 1]]⟩ : Bins Nat).sums false :=
  dp_fn_value_perm (v := id) (o := .minDiff) (k := 2) (items₁ := [1, 2, 3, 4]) (items₂ := [4, 2, 3, 1])
    (by decide +kernel) (by decide +kernel) (by decide +kernel)

/-- agreement of the two exact algorithms: complete greedy and any minimal DP record -/
theorem cg_value_eq_dp {cfg : CgCfg} {fuel : Nat} {b : Bins α} (hk : 0 < k)
    (h : cg v cfg k items none fuel = .ok (some b)) (hr : DpMin cfg.obj k (items.map v) r) :
    cfg.obj.value b.sums false = cfg.obj.value r.state false :=
  isOptimal_unique (CGOpt.cg_optimal hk h) (dpMin_optimal hr)

theorem cg_value_eq_dp_fn {cfg : CgCfg} {fuel : Nat} {b b' : Bins α} (hk : 0 < k)
    (h : cg v cfg k items none fuel = .ok (some b)) (hd : dp v cfg.obj k items = .ok b') :
    cfg.obj.value b.sums false = cfg.obj.value b'.sums false :=
  isOptimal_unique (CGOpt.cg_optimal hk h) (dp_ok_optimal hd)

/-- … and a minimal DP record has the oracle's value (`hk` is not needed: `Oracle.optValue_eq_some_iff` holds for
    every `k`) -/
theorem dp_value_eq_optValue (hk : 0 < k) (hr : DpMin o k (items.map v) r) :
    optValue o k (items.map v) = some (o.value r.state false) :=
  Oracle.optValue_eq_some_iff.2 (dpMin_optimal hr)

example : Objective.minLargest.value (⟨[15, 15], [[6, 5, 4], [8, 7]]⟩ : Bins Nat).sums false
    = Objective.minLargest.value [15, 15] false :=
  cg_value_eq_dp (k := 2) (v := id) (cfg := ⟨.minLargest, true, true, true, true⟩) (items := [4, 5, 6, 7, 8]) (fuel := 100)
    (r := ⟨[15, 15], [1, 1, 0, 0, 0]⟩) (by decide +kernel) (by decide +kernel) (by constructor <;> decide +kernel)

end dp

/-- for the oracle: the three symmetries, on items (from `Scale.optValue_*`) -/
theorem optValue_items_perm (o : Objective) (k : Nat) (v : α → Nat) {items₁ items₂ : List α}
    (hp : items₁.Perm items₂) : optValue o k (items₁.map v) = optValue o k (items₂.map v) :=
  Scale.optValue_perm o k (hp.map v)

theorem optValue_items_scale (o : Objective) (k c : Nat) (v : α → Nat) (items : List α) :
    optValue o k (items.map fun a => c * v a) = (optValue o k (items.map v)).map ((c : Int) * ·) := by
  rw [map_scale]; exact Scale.optValue_scale o k c _

theorem optValue_items_zeros (o : Objective) {k : Nat} (hk : 0 < k) (v : α → Nat) (items : List α) {zs : List α}
    (hz : ∀ z ∈ zs, v z = 0) : optValue o k ((items ++ zs).map v) = optValue o k (items.map v) := by
  rw [map_append_zeros v items hz]; exact Scale.optValue_zeros o hk _ _

example : optValue .minDiff 3 ([(4, 'a'), (5, 'b'), (6, 'c')].map Prod.fst)
    = optValue .minDiff 3 ([(6, 'c'), (4, 'a'), (5, 'b')].map Prod.fst) :=
  optValue_items_perm _ _ _ (by decide +kernel)

/-! ## CBLDM -/

open optBalanced (absDiffN)

/-- Transfer of the balanced optimum between two instances whose admissible sub-collections correspond with sums
    scaled by `c`.  (Only the *set of achievable (cardinality test, sum)* matters.) -/
theorem optBalanced_transfer {d₁ d₂ c : Nat} {vals₁ vals₂ : List Nat} {x : Nat}
    (hsum : sumL vals₂ = c * sumL vals₁)
    (h12 : ∀ sub, sub.Sublist vals₁ → absDiffN (2 * sub.length) vals₁.length ≤ d₁ →
      ∃ sub', sub'.Sublist vals₂ ∧ absDiffN (2 * sub'.length) vals₂.length ≤ d₂ ∧ sumL sub' = c * sumL sub)
    (h21 : ∀ sub', sub'.Sublist vals₂ → absDiffN (2 * sub'.length) vals₂.length ≤ d₂ →
      ∃ sub, sub.Sublist vals₁ ∧ absDiffN (2 * sub.length) vals₁.length ≤ d₁ ∧ sumL sub' = c * sumL sub)
    (h : optBalanced d₁ vals₁ = some x) : optBalanced d₂ vals₂ = some (c * x) := by
  obtain ⟨⟨sub, hsub, hcard, hval⟩, hmin⟩ := Checkers.optBalanced_spec.1 h
  apply Checkers.optBalanced_spec.2
  constructor
  · obtain ⟨sub', hsub', hcard', hs'⟩ := h12 sub hsub hcard
    refine ⟨sub', hsub', hcard', ?_⟩
    rw [hs', hsum, Nat.mul_left_comm, CBLDMOpt.absDiffN_mul, hval]
  · intro sub' hsub' hcard'
    obtain ⟨sub, hsub, hcard, hs⟩ := h21 sub' hsub' hcard'
    rw [hs, hsum, Nat.mul_left_comm, CBLDMOpt.absDiffN_mul]
    exact Nat.mul_le_mul_left c (hmin sub hsub hcard)

/-- the balanced optimum is a function of the multiset of values -/
theorem optBalanced_perm (d : Nat) {vals₁ vals₂ : List Nat} (hp : vals₁.Perm vals₂) :
    optBalanced d vals₁ = optBalanced d vals₂ := by
  have key : ∀ {l₁ l₂ : List Nat} {x : Nat}, l₁.Perm l₂ → optBalanced d l₁ = some x → optBalanced d l₂ = some x := by
    intro l₁ l₂ x hp h
    have := optBalanced_transfer (d₁ := d) (d₂ := d) (c := 1) (vals₁ := l₁) (vals₂ := l₂) (x := x)
      (by rw [Nat.one_mul]; exact Part.sumL_perm hp.symm)
      (by
        intro sub hsub hcard
        obtain ⟨sub', hp', hs'⟩ := List.exists_perm_sublist hsub hp
        exact ⟨sub', hs', by rw [hp'.length_eq, ← hp.length_eq]; exact hcard,
          by rw [Nat.one_mul]; exact Part.sumL_perm hp'⟩)
      (by
        intro sub' hsub' hcard'
        obtain ⟨sub, hp', hs⟩ := List.exists_perm_sublist hsub' hp.symm
        exact ⟨sub, hs, by rw [hp'.length_eq, hp.length_eq]; exact hcard',
          by rw [Nat.one_mul]; exact Part.sumL_perm hp'.symm⟩)
      h
    rwa [Nat.one_mul] at this
  exact Option.ext fun x => ⟨key hp, key hp.symm⟩

example : optBalanced 1 [1, 1, 1, 1, 10] = optBalanced 1 [10, 1, 1, 1, 1] := optBalanced_perm 1 (by decide +kernel)

theorem optBalanced_scale (d c : Nat) {vals : List Nat} {x : Nat} (h : optBalanced d vals = some x) :
    optBalanced d (vals.map (c * ·)) = some (c * x) := by
  refine optBalanced_transfer (Scale.sumL_map_mul c vals) ?_ ?_ h
  · intro sub hsub hcard
    exact ⟨sub.map (c * ·), hsub.map _, by simpa using hcard, Scale.sumL_map_mul c sub⟩
  · intro sub' hsub' hcard'
    obtain ⟨sub, hsub, rfl⟩ := List.sublist_map_iff.1 hsub'
    exact ⟨sub, hsub, by simpa using hcard', Scale.sumL_map_mul c sub⟩

/-- without a cardinality constraint (any bound `≥` the number of items), zero-valued items do not change the
    balanced optimum -/
theorem optBalanced_zeros {d₁ d₂ z : Nat} {vals : List Nat} {x : Nat} (hd₁ : vals.length ≤ d₁)
    (hd₂ : vals.length + z ≤ d₂) (h : optBalanced d₁ vals = some x) :
    optBalanced d₂ (vals ++ List.replicate z 0) = some x := by
  have hz : sumL (List.replicate z 0) = 0 := Part.sumL_replicate z 0
  have := optBalanced_transfer (d₁ := d₁) (d₂ := d₂) (c := 1) (vals₁ := vals)
    (vals₂ := vals ++ List.replicate z 0) (x := x)
    (by rw [Part.sumL_append, hz, Nat.one_mul, Nat.add_zero])
    (by
      intro sub hsub _
      refine ⟨sub, hsub.trans (List.sublist_append_left _ _), ?_, by rw [Nat.one_mul]⟩
      apply CBLDMOpt.absDiffN_le
      · rw [List.length_append, List.length_replicate]; have := hsub.length_le; omega
      · rw [List.length_append, List.length_replicate]; exact hd₂)
    (by
      intro sub' hsub' _
      obtain ⟨a, b, rfl, ha, hb⟩ := List.sublist_append_iff.1 hsub'
      obtain ⟨n, -, rfl⟩ := List.sublist_replicate_iff.1 hb
      refine ⟨a, ha, CBLDMOpt.absDiffN_le ha.length_le hd₁, ?_⟩
      rw [Part.sumL_append, Part.sumL_replicate, Nat.one_mul, Nat.mul_zero, Nat.add_zero])
    h
  rwa [Nat.one_mul] at this

/-- with a binding cardinality constraint the zero-valued items *do* matter (which is why `cbldm_value_zeros` is
    stated for the default bound only): `[3, 1, 1, 1]` with bound 0 must be split 2 + 2 (difference 2), whereas with
    two extra zero-valued items `{3, 0, 0}` against `{1, 1, 1}` is allowed (difference 0) -/
example : optBalanced 0 [3, 1, 1, 1] = some 2 ∧ optBalanced 0 ([3, 1, 1, 1] ++ List.replicate 2 0) = some 0 := by
  decide +kernel

section cbldm
variable {v : α → Nat} {items items₁ items₂ zs : List α} {d : Option Nat} {b b₁ b₂ : Bins α}

/-- the sum difference returned by CBLDM does not depend on the order of the items -/
theorem cbldm_value_perm (hne : items₁ ≠ []) (hd : ∀ dd, d = some dd → 1 ≤ dd) (hp : items₁.Perm items₂)
    (h₁ : cbldm v items₁ d none = some b₁) (h₂ : cbldm v items₂ d none = some b₂) :
    sumDiff b₁ = sumDiff b₂ := by
  have hne₂ : items₂ ≠ [] := fun h => hne (by rw [h] at hp; exact hp.eq_nil)
  have o₁ := CBLDMOpt.cbldm_optimal hne hd h₁
  have o₂ := CBLDMOpt.cbldm_optimal hne₂ hd h₂
  rw [hp.length_eq, optBalanced_perm _ (hp.map v), o₂] at o₁
  exact (Option.some.inj o₁).symm

example : sumDiff (⟨[3, 11], [[1, 1, 1], [10, 1]]⟩ : Bins Nat) = sumDiff (⟨[3, 11], [[1, 1, 1], [10, 1]]⟩ : Bins Nat) :=
  cbldm_value_perm (v := id) (items₁ := [1, 1, 1, 1, 10]) (items₂ := [1, 10, 1, 1, 1]) (d := some 1)
    (by simp) (by intro dd h; cases h; exact Nat.le_refl 1) (by decide +kernel) (by decide +kernel) (by decide +kernel)

/-- all values multiplied by `c`: the returned sum difference is multiplied by `c` (`0 < c` not needed) -/
theorem cbldm_value_scale (hne : items ≠ []) (hd : ∀ dd, d = some dd → 1 ≤ dd) (c : Nat)
    (h₁ : cbldm v items d none = some b₁) (h₂ : cbldm (fun a => c * v a) items d none = some b₂) :
    sumDiff b₂ = c * sumDiff b₁ := by
  have o₁ := CBLDMOpt.cbldm_optimal hne hd h₁
  have o₂ := CBLDMOpt.cbldm_optimal hne hd h₂
  rw [map_scale, optBalanced_scale _ c o₁] at o₂
  exact (Option.some.inj o₂).symm

example : sumDiff (⟨[9, 33], [[1, 1, 1], [10, 1]]⟩ : Bins Nat) = 3 * sumDiff (⟨[3, 11], [[1, 1, 1], [10, 1]]⟩ : Bins Nat) :=
  cbldm_value_scale (v := id) (items := [1, 1, 1, 1, 10]) (d := some 1)
    (by simp) (by intro dd h; cases h; exact Nat.le_refl 1) 3 (by decide +kernel) (by decide +kernel)

/-- with the default (unbounded) cardinality difference, appending zero-valued items does not change the
    returned sum difference -/
theorem cbldm_value_zeros (hne : items ≠ []) (hz : ∀ z ∈ zs, v z = 0)
    (h₁ : cbldm v items none none = some b₁) (h₂ : cbldm v (items ++ zs) none none = some b₂) :
    sumDiff b₂ = sumDiff b₁ := by
  have hnone : ∀ dd, (none : Option Nat) = some dd → 1 ≤ dd := by intro dd h; cases h
  have o₁ := CBLDMOpt.cbldm_optimal hne hnone h₁
  have o₂ := CBLDMOpt.cbldm_optimal (by simp [hne]) hnone h₂
  rw [map_append_zeros v items hz] at o₂
  have := optBalanced_zeros (d₂ := (none : Option Nat).getD ((items ++ zs).length + 1)) (z := zs.length)
    (by simp) (by simp) o₁
  rw [this] at o₂
  exact (Option.some.inj o₂).symm

/-- … wherever they are inserted -/
theorem cbldm_value_zeros_anywhere (hne : items ≠ []) (hz : ∀ z ∈ zs, v z = 0) (hp : items₂.Perm (items ++ zs))
    (h₁ : cbldm v items none none = some b₁) (h₂ : cbldm v items₂ none none = some b₂) :
    sumDiff b₂ = sumDiff b₁ := by
  have hnone : ∀ dd, (none : Option Nat) = some dd → 1 ≤ dd := by intro dd h; cases h
  obtain ⟨b₃, h₃⟩ := CBLDMOpt.cbldm_some (v := v) (items := items ++ zs) (d := none) (by simp [hne]) hnone
  have hne₂ : items₂ ≠ [] := fun h => by rw [h] at hp; exact absurd hp.symm.eq_nil (by simp [hne])
  rw [cbldm_value_perm hne₂ hnone hp h₂ h₃]
  exact cbldm_value_zeros hne hz h₁ h₃

example : sumDiff (⟨[4, 10], [[1, 1, 1, 1, 0], [10, 0]]⟩ : Bins Nat) = sumDiff (⟨[4, 10], [[1, 1, 1, 1], [10]]⟩ : Bins Nat) :=
  cbldm_value_zeros (v := id) (items := [1, 1, 1, 1, 10]) (zs := [0, 0]) (by simp) (by decide +kernel) (by decide +kernel) (by decide +kernel)

end cbldm

end Prtpy.ExactSym
