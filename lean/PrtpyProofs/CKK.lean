/-
  PrtpyProofs.CKK — `lexPerms` enumerates exactly the permutations (`itertools.permutations`), and
  `all_combinations` of the sums-only manager (C13c): every pairing of the bins, in canonical form, exactly once.
  The de-duplication loops of both managers' `all_combinations` and of `optimal` keep the first element of every
  class (`CKKF.firsts`); soundness, completeness and absence of duplicates are read off `firsts_sublist`,
  `firsts_complete`, `firsts_pairwise`.
  Declares into: `Prtpy.CKKProofs`; `Prtpy.CKKF` for `firsts` and its lemmas (more of them: CKKFAux.lean);
  `Prtpy.CKKOpt.pairS`, the sums of a pairing, because `canonS` here is written with it (its lemmas: CKKOpt.lean).
-/
import PrtpyProofs.Part
import Mathlib.Data.List.Nodup
import Mathlib.Data.List.Perm.Basic
open Prtpy

namespace Prtpy.CKKProofs

variable {α : Type}

/-! ## `lexPerms` enumerates exactly the permutations -/

theorem removeAt_length (h : List α) (i : Nat) (hi : i < h.length) :
    (removeAt h i).length + 1 = h.length := by
  have := (Part.removeAt_perm h i hi).length_eq
  simp only [List.length_cons] at this
  omega

theorem lexPermsAux_succ_cons (n : Nat) (a : α) (t : List α) :
    lexPermsAux (n + 1) (a :: t) =
      (List.range (a :: t).length).flatMap fun i =>
        match (a :: t)[i]? with
        | none => []
        | some x => (lexPermsAux n (removeAt (a :: t) i)).map (x :: ·) := rfl

theorem mem_lexPermsAux_succ {n : Nat} {l p : List α} (hl : l.length = n + 1) :
    p ∈ lexPermsAux (n + 1) l ↔
      ∃ i, ∃ hi : i < l.length, ∃ q, q ∈ lexPermsAux n (removeAt l i) ∧ p = l[i] :: q := by
  cases l with
  | nil => simp at hl
  | cons a t =>
    rw [lexPermsAux_succ_cons, List.mem_flatMap]
    constructor
    · rintro ⟨i, hi, hp⟩
      have hi' : i < (a :: t).length := List.mem_range.1 hi
      rw [List.getElem?_eq_getElem hi'] at hp
      obtain ⟨q, hq, rfl⟩ := List.mem_map.1 hp
      exact ⟨i, hi', q, hq, rfl⟩
    · rintro ⟨i, hi, q, hq, rfl⟩
      refine ⟨i, List.mem_range.2 hi, ?_⟩
      rw [List.getElem?_eq_getElem hi]
      exact List.mem_map.2 ⟨q, hq, rfl⟩

theorem mem_lexPermsAux (n : Nat) (l p : List α) (hl : l.length = n) :
    p ∈ lexPermsAux n l ↔ p.Perm l := by
  induction n generalizing l p with
  | zero =>
    have : l = [] := List.length_eq_zero_iff.1 hl
    subst this
    simp [lexPermsAux]
  | succ n ih =>
    rw [mem_lexPermsAux_succ hl]
    constructor
    · rintro ⟨i, hi, q, hq, rfl⟩
      have hlen : (removeAt l i).length = n := by have := removeAt_length l i hi; omega
      have hq' := (ih _ q hlen).1 hq
      exact (List.Perm.cons _ hq').trans (Part.removeAt_perm l i hi).symm
    · intro hp
      cases p with
      | nil => have := hp.length_eq; simp [hl] at this
      | cons x q =>
        have hx : x ∈ l := hp.subset (List.mem_cons_self)
        obtain ⟨i, hi, rfl⟩ := List.mem_iff_getElem.1 hx
        have hlen : (removeAt l i).length = n := by have := removeAt_length l i hi; omega
        refine ⟨i, hi, q, (ih _ q hlen).2 ?_, rfl⟩
        exact (hp.trans (Part.removeAt_perm l i hi)).cons_inv

theorem lexPerms_perm {l p : List α} (h : p ∈ lexPerms l) : p.Perm l :=
  (mem_lexPermsAux l.length l p rfl).1 h

theorem lexPerms_complete {l p : List α} (h : p.Perm l) : p ∈ lexPerms l :=
  (mem_lexPermsAux l.length l p rfl).2 h

theorem mem_lexPerms {l p : List α} : p ∈ lexPerms l ↔ p.Perm l :=
  mem_lexPermsAux l.length l p rfl

theorem lexPermsAux_nodup (n : Nat) (l : List α) (hl : l.length = n) (hnd : l.Nodup) :
    (lexPermsAux n l).Nodup := by
  induction n generalizing l with
  | zero =>
    have : l = [] := List.length_eq_zero_iff.1 hl
    subst this
    simp [lexPermsAux]
  | succ n ih =>
    cases l with
    | nil => simp at hl
    | cons a t =>
      rw [lexPermsAux_succ_cons, List.nodup_flatMap]
      constructor
      · intro i hi
        have hi' : i < (a :: t).length := List.mem_range.1 hi
        rw [List.getElem?_eq_getElem hi']
        have hlen : (removeAt (a :: t) i).length = n := by
          have := removeAt_length (a :: t) i hi'; omega
        refine (ih _ hlen (hnd.sublist (Part.removeAt_sublist _ i))).map ?_
        intro p q hpq
        exact (List.cons.inj hpq).2
      · refine List.Pairwise.imp_of_mem ?_ (List.nodup_range (n := (a :: t).length))
        intro i j hi hj hij
        have hi' : i < (a :: t).length := List.mem_range.1 hi
        have hj' : j < (a :: t).length := List.mem_range.1 hj
        simp only [Function.onFun]
        rw [List.getElem?_eq_getElem hi', List.getElem?_eq_getElem hj']
        intro p hp1 hp2
        obtain ⟨q1, _, rfl⟩ := List.mem_map.1 hp1
        obtain ⟨q2, _, h2⟩ := List.mem_map.1 hp2
        have := (List.cons.inj h2).1
        exact hij ((List.Nodup.getElem_inj_iff hnd).1 this.symm)

theorem lexPerms_nodup {l : List α} (h : l.Nodup) : (lexPerms l).Nodup :=
  lexPermsAux_nodup l.length l rfl h

example : [2, 0, 1] ∈ lexPerms (List.range 3) := lexPerms_complete (by decide)
example : (lexPerms (List.range 3)).Nodup := lexPerms_nodup List.nodup_range
example : ([1, 0] : List Nat).Perm (List.range 2) := lexPerms_perm (by decide)

/-! ## `all_combinations` of the sums-only manager (C13c) -/

/-- the sums of `pairBy b1 b2 perm` (`CKKOpt.pairBy_sums`) -/
def _root_.Prtpy.CKKOpt.pairS (T1 T2 : List Nat) (perm : List Nat) : List Nat :=
  List.zipWith (fun p s2 => T1.getD p 0 + s2) perm T2

/-- canonical form of a pairing for the sums manager: its sums, sorted -/
def canonS (b1 b2 : List Nat) (perm : List Nat) : List Nat :=
  sortAsc id (CKKOpt.pairS b1 b2 perm)

theorem allCombSumsAux_cons (b1 b2 : List Nat) (perm : List Nat) (rest acc : List (List Nat)) :
    allCombSumsAux b1 b2 (perm :: rest) acc =
      if canonS b1 b2 perm ∈ acc then allCombSumsAux b1 b2 rest acc
      else allCombSumsAux b1 b2 rest (canonS b1 b2 perm :: acc) := by
  simp only [allCombSumsAux, canonS, CKKOpt.pairS, List.contains_iff_mem]
  -- the two sides differ in the decidability instance of the test only
  congr

end Prtpy.CKKProofs

/-! ## keeping the first element of every class -/
namespace Prtpy.CKKF

/-- keep the elements whose key has not been seen yet -/
def firsts {γ κ : Type} [BEq κ] (key : γ → κ) : List γ → List κ → List γ
  | [], _ => []
  | x :: xs, seen => if seen.contains (key x) then firsts key xs seen else x :: firsts key xs (key x :: seen)

theorem firsts_sublist {γ κ : Type} [BEq κ] (key : γ → κ) : ∀ (l : List γ) (seen : List κ),
    (firsts key l seen).Sublist l
  | [], _ => List.Sublist.refl _
  | x :: xs, seen => by
    simp only [firsts]
    split
    · exact (firsts_sublist key xs seen).cons x
    · exact (firsts_sublist key xs _).cons_cons x

/-- every class that has not been seen yet is represented -/
theorem firsts_complete {γ κ : Type} [BEq κ] [LawfulBEq κ] (key : γ → κ) : ∀ (l : List γ) (seen : List κ) {x : γ},
    x ∈ l → key x ∉ seen → ∃ y ∈ firsts key l seen, key y = key x
  | y :: ys, seen, x, hx, hns => by
    simp only [firsts]
    split
    · rename_i hc
      rcases List.mem_cons.1 hx with rfl | hx
      · exact absurd (List.contains_iff_mem.1 hc) hns
      · exact firsts_complete key ys seen hx hns
    · rcases List.mem_cons.1 hx with rfl | hx
      · exact ⟨_, List.mem_cons_self, rfl⟩
      · by_cases hk : key x = key y
        · exact ⟨y, List.mem_cons_self, hk.symm⟩
        · obtain ⟨z, hz, hzk⟩ := firsts_complete key ys (key y :: seen) hx
            (fun h => (List.mem_cons.1 h).elim hk hns)
          exact ⟨z, List.mem_cons_of_mem _ hz, hzk⟩

/-- no class twice, and none that had been seen -/
theorem firsts_pairwise {γ κ : Type} [BEq κ] [LawfulBEq κ] (key : γ → κ) : ∀ (l : List γ) (seen : List κ),
    (firsts key l seen).Pairwise (fun a b => key a ≠ key b) ∧ ∀ x ∈ firsts key l seen, key x ∉ seen
  | [], _ => ⟨List.Pairwise.nil, fun _ h => nomatch h⟩
  | x :: xs, seen => by
    simp only [firsts]
    split
    · exact firsts_pairwise key xs seen
    · rename_i hc
      obtain ⟨ih1, ih2⟩ := firsts_pairwise key xs (key x :: seen)
      refine ⟨List.pairwise_cons.2 ⟨fun b hb e => ih2 b hb (e ▸ List.mem_cons_self), ih1⟩, fun y hy => ?_⟩
      rcases List.mem_cons.1 hy with rfl | hy
      · exact fun h => hc (List.contains_iff_mem.2 h)
      · exact fun h => ih2 y hy (List.mem_cons_of_mem _ h)

theorem allCombSumsAux_eq_firsts (b1 b2 : List Nat) (perms acc : List (List Nat)) :
    allCombSumsAux b1 b2 perms acc = acc.reverse ++ firsts id (perms.map (CKKProofs.canonS b1 b2)) acc := by
  induction perms generalizing acc with
  | nil => simp [allCombSumsAux, firsts]
  | cons perm rest ih =>
    rw [CKKProofs.allCombSumsAux_cons]
    simp only [List.map_cons, firsts, id]
    by_cases h : CKKProofs.canonS b1 b2 perm ∈ acc
    · rw [if_pos h, if_pos (List.contains_iff_mem.2 h)]
      exact ih acc
    · have h' : ¬ acc.contains (CKKProofs.canonS b1 b2 perm) = true := fun hc => h (List.contains_iff_mem.1 hc)
      rw [if_neg h, if_neg h', ih]
      simp

theorem allCombSums_eq_firsts (b1 b2 : List Nat) :
    allCombSums b1 b2 = firsts id ((lexPerms (List.range b1.length)).map (CKKProofs.canonS b1 b2)) [] := by
  unfold allCombSums
  rw [allCombSumsAux_eq_firsts]
  simp

end Prtpy.CKKF

namespace Prtpy.CKKProofs

theorem allCombSums_sound {b1 b2 : List Nat} {k : Nat} (hk : b1.length = k) {s : List Nat}
    (h : s ∈ allCombSums b1 b2) :
    ∃ perm : List Nat, perm.Perm (List.range k) ∧
      s = sortAsc id (List.zipWith (fun p s2 => b1.getD p 0 + s2) perm b2) := by
  rw [CKKF.allCombSums_eq_firsts] at h
  obtain ⟨perm, hp, rfl⟩ := List.mem_map.1 ((CKKF.firsts_sublist _ _ _).subset h)
  exact ⟨perm, hk ▸ lexPerms_perm hp, rfl⟩

theorem allCombSums_complete {b1 b2 : List Nat} {k : Nat} (hk : b1.length = k) {perm : List Nat}
    (h : perm.Perm (List.range k)) :
    sortAsc id (List.zipWith (fun p s2 => b1.getD p 0 + s2) perm b2) ∈ allCombSums b1 b2 := by
  rw [CKKF.allCombSums_eq_firsts]
  obtain ⟨y, hy, rfl⟩ := CKKF.firsts_complete id _ []
    (List.mem_map_of_mem (f := canonS b1 b2) (lexPerms_complete (hk ▸ h))) List.not_mem_nil
  exact hy

theorem allCombSums_nodup (b1 b2 : List Nat) : (allCombSums b1 b2).Nodup := by
  rw [CKKF.allCombSums_eq_firsts]
  exact (CKKF.firsts_pairwise id _ []).1

example : [3, 3, 6] ∈ allCombSums [1, 2, 3] [1, 2, 3] :=
  allCombSums_complete (k := 3) rfl (perm := [1, 0, 2]) (by decide)
example : ∃ perm : List Nat, perm.Perm (List.range 2) ∧
    [5, 5] = sortAsc id (List.zipWith (fun p s2 => [1, 4].getD p 0 + s2) perm [1, 4]) :=
  allCombSums_sound (k := 2) rfl (by decide)

end Prtpy.CKKProofs
