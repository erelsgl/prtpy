/-
  PrtpyProofs.BCProofs — bin completion (`Prtpy.BC`, packing/bin_completion.py): refusal (C19), feasibility of the
  result (C03), optimality given enough fuel (C04).  Each of the two loops (`runBranch`, `search`) is handled through
  one unfolding lemma and one invariant rule.  Optimality rests on semantic dominance `SDom` and an exchange argument:
  whatever shares a bin with `x` in some packing is dominated by a completion that `find_bin_completions` offers, so
  one of the branches tried can still reach the optimum; a weight on the queue bounds the fuel that takes.

  What `fuel` stands for.  Python's `while branches:` runs until the queue is empty; `BC.search` counts the rounds
  and, unlike `cg` (which reports `Err.fuel`), returns the incumbent *silently* when the fuel runs out.  The theorems
  stated for every `fuel` (`bc_isPacking`, `bc_bounds`, `bc_le_bfd`, `bc_fuel_mono`, `bc_error_iff`) therefore also speak
  of truncated searches, which the implementation never returns.  A model run is the Python run when
  `enoughFuel n ≤ fuel` (`n` non-zero items; the bound is generous: `enoughFuel 3 = 2604`), and then `bc_optimal` says
  it is optimal; or when its result meets the lower bound: then more fuel changes nothing (`bc_fuel_stable`) and the
  result is optimal (`bc_optimal_of_eq_lowerBound`).  `ex_run_enough` is obtained that way.

  "The values fit into `m` bins of capacity `B`" occurs in four forms:
    `Packable B m vals`          an assignment list (Spec.lean; what `optBins` decides);
    `Packs B m vals`             `SDom (replicate m B) vals`: grouped into `m` slots (the form of the exchange argument);
    `IsArrangement B items bins` the list of bins the search returns, none of them empty (`bc_isArrangement`;
                                 `bc_isPacking` is its unfolding);
    `IsPacking`                  a `Bins` value with its sums (the fit heuristics; `BCNamed.bcNamed_isPacking`).
  A list of bins gives `Packable` by `packable_of_arrangement` (= `LPT43.partition_packable`, end of Oracle.lean),
  `Packs B m` is the case `P l := sumL l ≤ B` of `Part.SplitInto` (`packs_iff_bins`), and so is `Packable`
  (`LPT43.packable_iff_splitInto`, Oracle.lean): that is how `Packable` gives `Packs`; `IsPacking` gives `Packable` by
  `Gaps.packable_of_isPacking`.

  The file rests on `Fit.bfDecreasing_ok_isPacking` (the start incumbent) and `Fit.packing_lower_bound`;
  `Oracle.assignment_lists`/`lists_sums_assignment` (assignment list ↔ list of bins: `sdom_of_locs`, `locs_of_sdom`);
  `Checkers.optBins_spec` (`bc_bounds`) and `Checkers.optBins_eq_some_iff` (`bc_optimal`); `Part.SplitInto.bin_of`
  (`step_complete`: the bin of `x` in a packing); the summation lemmas `Part.binSum_*` for the weight `bw` of the
  queue (`runBranch_weight`); Batteries' `List.diff` for `BC.lwi` (`lwi_eq_diff`).

  `decide +kernel` occurs only in `example`s, in the evaluated runs `ex_run`, `ex_completions` and for the numeral
  inequality of `ex_run_enough`.
-/
import PrtpyProofs.Fit
import PrtpyProofs.Checkers
import Batteries.Data.List.Perm

namespace Prtpy.BCProofs
open Prtpy

/-- decidable equality on results (`Prtpy.decEqExcept` at this type), a local instance for evaluating the concrete runs
    of the examples -/
@[instance_reducible] def decEqResult : DecidableEq (Except Err (List (List Nat)))
  | .ok a, .ok b => if h : a = b then isTrue (by rw [h]) else isFalse (fun h' => h (Except.ok.inj h'))
  | .error a, .error b =>
    if h : a = b then isTrue (by rw [h]) else isFalse (fun h' => h (Except.error.inj h'))
  | .ok _, .error _ => isFalse (fun h => by cases h)
  | .error _, .ok _ => isFalse (fun h => by cases h)

attribute [local instance] decEqResult

/-- the run most examples refer to: best-fit-decreasing needs five bins, the search finds four.  It is evaluated
    here once, by the kernel. -/
theorem ex_run : BC.binCompletion 20 [5, 10, 4, 10, 8, 6, 4, 10, 5, 4, 4, 10] 100 =
    .ok [[10, 10], [10, 10], [8, 4, 4, 4], [6, 5, 5, 4]] := by decide +kernel

/-- `Part.le_sumL_of_mem` -/
theorem le_sumL_of_mem : ∀ {l : List Nat} {v : Nat}, v ∈ l → v ≤ sumL l :=
  fun h => Part.le_sumL_of_mem h

theorem packable_of_arrangement {B : Nat} {items : List Nat} {bins : List (List Nat)}
    (hp : bins.flatten.Perm items) (hle : ∀ bin ∈ bins, sumL bin ≤ B) : Packable B bins.length items :=
  LPT43.partition_packable bins rfl hp hle

/-! ### refusal (C19) and the shape of a successful run -/

theorem bc_of_oversize {B : Nat} {items : List Nat} (fuel : Nat) (h : ∃ x ∈ items, B < x) :
    BC.binCompletion B items fuel = .error .valueError := by
  unfold BC.binCompletion
  rw [if_pos (by simpa using h)]

theorem bfd_ok {B : Nat} {items : List Nat} (hall : ∀ x ∈ items, x ≤ B) :
    ∃ bfd, bfDecreasing id B (items.filter (· != 0)) = .ok bfd :=
  let ⟨b, hb, _⟩ := Fit.bfDecreasing_isPacking (v := id) fun x hx => hall x (List.mem_filter.1 hx).1
  ⟨b, hb⟩

theorem bc_unfold {B : Nat} {items : List Nat} (fuel : Nat) {bfd : Bins Nat} (hall : ∀ x ∈ items, x ≤ B)
    (hb : bfDecreasing id B (items.filter (· != 0)) = .ok bfd) :
    BC.binCompletion B items fuel = .ok
      (if bfd.lists.length = BC.lowerBound B (items.filter (· != 0)) then bfd.lists
       else BC.search B (BC.lowerBound B (items.filter (· != 0))) fuel
          [⟨sortDesc id (items.filter (· != 0)), [], 0⟩] bfd.lists) := by
  unfold BC.binCompletion
  rw [if_neg (by simpa using hall)]
  simp only [hb]
  split <;> rfl

/-- C19: `bin_completion` fails exactly when some item is larger than the bin size, and then with `ValueError` -/
theorem bc_error_iff {B : Nat} {items : List Nat} {fuel : Nat} {e : Err} :
    BC.binCompletion B items fuel = .error e ↔ (e = .valueError ∧ ∃ x ∈ items, B < x) := by
  by_cases hall : ∀ x ∈ items, x ≤ B
  · obtain ⟨bfd, hb⟩ := bfd_ok hall
    rw [bc_unfold fuel hall hb]
    exact ⟨fun h => (by cases h), fun ⟨_, x, hx, hlt⟩ => absurd (hall x hx) (by omega)⟩
  · have hex : ∃ x ∈ items, B < x := by simpa using hall
    rw [bc_of_oversize fuel hex]
    exact ⟨fun h => by cases h; exact ⟨rfl, hex⟩, fun ⟨h, _⟩ => by rw [h]⟩

example : BC.binCompletion 20 [5, 10, 21, 4] 100 = .error .valueError :=
  bc_error_iff.2 ⟨rfl, 21, by decide, by decide⟩
example : ∃ x ∈ [5, 10, 21, 4, 21], 20 < x :=
  (bc_error_iff (fuel := 7) (e := .valueError)).1 (by decide +kernel) |>.2

theorem bc_ok_all_le {B : Nat} {items : List Nat} {fuel : Nat} {bins : List (List Nat)}
    (h : BC.binCompletion B items fuel = .ok bins) : ∀ x ∈ items, x ≤ B := by
  intro x hx
  apply Nat.le_of_not_lt
  intro hlt
  rw [bc_of_oversize fuel ⟨x, hx, hlt⟩] at h
  cases h

theorem bc_ok_of_all_le {B : Nat} {items : List Nat} (fuel : Nat) (h : ∀ x ∈ items, x ≤ B) :
    ∃ bins, BC.binCompletion B items fuel = .ok bins :=
  let ⟨_, hb⟩ := bfd_ok h
  ⟨_, bc_unfold fuel h hb⟩

/-- a successful run returns the packing of best-fit-decreasing if that meets the lower bound, and otherwise
    what the search makes of it -/
theorem bc_ok_cases {B : Nat} {items : List Nat} {fuel : Nat} {bins : List (List Nat)}
    (h : BC.binCompletion B items fuel = .ok bins) :
    ∃ bfd, bfDecreasing id B (items.filter (· != 0)) = .ok bfd ∧
      bins = if bfd.lists.length = BC.lowerBound B (items.filter (· != 0)) then bfd.lists
        else BC.search B (BC.lowerBound B (items.filter (· != 0))) fuel
          [⟨sortDesc id (items.filter (· != 0)), [], 0⟩] bfd.lists := by
  have hall := bc_ok_all_le h
  obtain ⟨bfd, hb⟩ := bfd_ok hall
  rw [bc_unfold fuel hall hb] at h
  exact ⟨bfd, hb, (Except.ok.inj h).symm⟩

/-! ### the fast path -/

theorem bc_fastpath {B : Nat} {items : List Nat} {fuel : Nat} {bfd : Bins Nat}
    (hall : ∀ x ∈ items, x ≤ B)
    (hb : bfDecreasing id B (items.filter (· != 0)) = .ok bfd)
    (hlen : bfd.lists.length = BC.lowerBound B (items.filter (· != 0))) :
    BC.binCompletion B items fuel = .ok bfd.lists := by
  rw [bc_unfold fuel hall hb, if_pos hlen]

example : BC.binCompletion 10 [5, 0, 5, 4, 6] 3 = .ok [[6, 4], [5, 5]] :=
  bc_fastpath (bfd := ⟨[10, 10], [[6, 4], [5, 5]]⟩) (by decide) rfl (by decide)

/-- packing `vals` into `m` bins of capacity `B > 0` takes `m ≥ ⌈total / B⌉` -/
theorem lowerBound_le_packable {B m : Nat} {vals : List Nat} (hB : 0 < B) (h : Packable B m vals) :
    BC.lowerBound B vals ≤ m := by
  have h1 := Fit.packing_lower_bound h
  unfold BC.lowerBound
  rw [if_neg (by omega)]
  have : sumL vals + B - 1 < (m + 1) * B := by
    rw [Nat.add_mul]; omega
  have := (Nat.div_lt_iff_lt_mul hB).2 this
  omega

theorem lowerBound_le_packing {B : Nat} {items : List Nat} {bins : List (List Nat)} (hB : 0 < B)
    (hperm : bins.flatten.Perm items) (hle : ∀ bin ∈ bins, sumL bin ≤ B) :
    BC.lowerBound B items ≤ bins.length :=
  lowerBound_le_packable hB (packable_of_arrangement hperm hle)

example : BC.lowerBound 10 [6, 6, 6, 1, 1] ≤ [[6, 1], [6, 1], [6]].length :=
  lowerBound_le_packing (by decide) (by decide) (by decide)
example : BC.lowerBound 10 [6, 6, 6, 1, 1] = 2 := by decide

theorem lowerBound_filter (B : Nat) (items : List Nat) :
    BC.lowerBound B (items.filter (· != 0)) = BC.lowerBound B items := by
  simp only [BC.lowerBound, Part.sumL_filter_ne_zero]

/-- C04 on the fast path: the result is optimal, no arrangement of the (non-zero) items uses fewer bins -/
theorem bc_fastpath_optimal {B : Nat} {items : List Nat} {fuel : Nat} {bfd : Bins Nat} (hB : 0 < B)
    (hall : ∀ x ∈ items, x ≤ B)
    (hb : bfDecreasing id B (items.filter (· != 0)) = .ok bfd)
    (hlen : bfd.lists.length = BC.lowerBound B (items.filter (· != 0))) :
    BC.binCompletion B items fuel = .ok bfd.lists ∧
    (∀ bins : List (List Nat), bins.flatten.Perm (items.filter (· != 0)) → (∀ bin ∈ bins, sumL bin ≤ B) →
      bfd.lists.length ≤ bins.length) ∧
    (∀ bins : List (List Nat), bins.flatten.Perm items → (∀ bin ∈ bins, sumL bin ≤ B) →
      bfd.lists.length ≤ bins.length) ∧
    (∀ m, Packable B m items → bfd.lists.length ≤ m) := by
  refine ⟨bc_fastpath hall hb hlen, ?_, ?_, ?_⟩
  · intro bins hp hle
    rw [hlen]; exact lowerBound_le_packing hB hp hle
  · intro bins hp hle
    rw [hlen, lowerBound_filter]; exact lowerBound_le_packing hB hp hle
  · intro m hm
    rw [hlen, lowerBound_filter]; exact lowerBound_le_packable hB hm

example : ∀ bins : List (List Nat), bins.flatten.Perm [5, 0, 5, 4, 6] → (∀ bin ∈ bins, sumL bin ≤ 10) →
    2 ≤ bins.length :=
  (bc_fastpath_optimal (fuel := 0) (bfd := ⟨[10, 10], [[6, 4], [5, 5]]⟩) (by decide) (by decide)
    rfl (by decide)).2.2.1

/-! ### never worse than best-fit-decreasing -/

/-- the incumbent of `search` after the branch `cb` has been run -/
abbrev newBest (cb : BC.Branch) (best : List (List Nat)) : List (List Nat) :=
  if cb.items.isEmpty && decide (cb.bins.length < best.length) then cb.bins else best

theorem search_zero (B lb : Nat) (queue : List BC.Branch) (best : List (List Nat)) :
    BC.search B lb 0 queue best = best := by rw [BC.search]

theorem search_nil (B lb fuel : Nat) (best : List (List Nat)) : BC.search B lb fuel [] best = best := by
  cases fuel <;> rw [BC.search]

theorem search_succ (B lb fuel : Nat) (cb : BC.Branch) (queue : List BC.Branch) (best : List (List Nat)) :
    BC.search B lb (fuel + 1) (cb :: queue) best =
      if (newBest (BC.runBranch B best.length (cb.items.length + 1) cb []).1 best).length = lb
      then newBest (BC.runBranch B best.length (cb.items.length + 1) cb []).1 best
      else BC.search B lb fuel (queue ++ (BC.runBranch B best.length (cb.items.length + 1) cb []).2)
        (newBest (BC.runBranch B best.length (cb.items.length + 1) cb []).1 best) := rfl

theorem newBest_length_le (cb : BC.Branch) (best : List (List Nat)) : (newBest cb best).length ≤ best.length := by
  unfold newBest
  split <;> rename_i h
  · simp only [Bool.and_eq_true, decide_eq_true_eq] at h; omega
  · exact Nat.le_refl _

/-- the invariant rule for the loop of `search`: what holds of fuel, queue and incumbent at the start and is kept by
    every round holds of the result, with what is left of fuel and queue; and the loop ends because the fuel or
    the queue is used up or the incumbent meets the lower bound -/
theorem search_rule {B lb : Nat} {P : Nat → List BC.Branch → List (List Nat) → Prop}
    (step : ∀ {fuel cb queue best}, P (fuel + 1) (cb :: queue) best →
      P fuel (queue ++ (BC.runBranch B best.length (cb.items.length + 1) cb []).2)
        (newBest (BC.runBranch B best.length (cb.items.length + 1) cb []).1 best)) :
    ∀ (fuel : Nat) (queue : List BC.Branch) (best : List (List Nat)), P fuel queue best →
      ∃ fuel' queue', P fuel' queue' (BC.search B lb fuel queue best) ∧
        (fuel' = 0 ∨ queue' = [] ∨ (BC.search B lb fuel queue best).length = lb)
  | 0, queue, best, h => ⟨0, queue, h, Or.inl rfl⟩
  | fuel + 1, [], best, h => ⟨fuel + 1, [], h, Or.inr (Or.inl rfl)⟩
  | fuel + 1, cb :: queue, best, h => by
    rw [search_succ]
    split
    · rename_i heq
      exact ⟨fuel, _, step h, Or.inr (Or.inr heq)⟩
    · exact search_rule step fuel _ _ (step h)

theorem search_length_le (B lb fuel : Nat) (queue : List BC.Branch) (best : List (List Nat)) :
    (BC.search B lb fuel queue best).length ≤ best.length := by
  obtain ⟨_, _, h, _⟩ := search_rule (lb := lb) (P := fun _ _ b => b.length ≤ best.length)
    (fun h => Nat.le_trans (newBest_length_le _ _) h) fuel queue best (Nat.le_refl _)
  exact h

theorem bc_le_bfd {B : Nat} {items : List Nat} {fuel : Nat} {bins : List (List Nat)} {bfd : Bins Nat}
    (h : BC.binCompletion B items fuel = .ok bins)
    (hb : bfDecreasing id B (items.filter (· != 0)) = .ok bfd) :
    bins.length ≤ bfd.lists.length := by
  obtain ⟨bfd', hb', rfl⟩ := bc_ok_cases h
  rw [hb] at hb'
  cases hb'
  split
  · exact Nat.le_refl _
  · exact search_length_le _ _ _ _ _

example : ([[10, 10], [10, 10], [8, 4, 4, 4], [6, 5, 5, 4]] : List (List Nat)).length ≤
    ([[10, 10], [10, 10], [8, 6, 5], [5, 4, 4, 4], [4]] : List (List Nat)).length :=
  bc_le_bfd (bfd := ⟨[20, 20, 19, 17, 4], [[10, 10], [10, 10], [8, 6, 5], [5, 4, 4, 4], [4]]⟩) ex_run rfl

theorem search_fuel_mono (B lb : Nat) : ∀ {fuel fuel' : Nat}, fuel ≤ fuel' → ∀ (queue : List BC.Branch)
    (best : List (List Nat)), (BC.search B lb fuel' queue best).length ≤ (BC.search B lb fuel queue best).length
  | 0, _, _, queue, best => by
    rw [search_zero]
    exact search_length_le B lb _ queue best
  | fuel + 1, fuel' + 1, _, [], best => by rw [search_nil, search_nil]; exact Nat.le_refl _
  | fuel + 1, fuel' + 1, hf, cb :: queue, best => by
    rw [search_succ, search_succ]
    split
    · exact Nat.le_refl _
    · exact search_fuel_mono B lb (Nat.le_of_succ_le_succ hf) _ _

/-- a search that has met the lower bound is over: more fuel gives the same result.  (`best.length ≠ lb` holds at
    every call: `binCompletion` takes the fast path otherwise, and `search` returns at once when it becomes true.) -/
theorem search_fuel_stable (B lb : Nat) : ∀ {fuel fuel' : Nat}, fuel ≤ fuel' → ∀ (queue : List BC.Branch)
    (best : List (List Nat)), best.length ≠ lb → (BC.search B lb fuel queue best).length = lb →
    BC.search B lb fuel' queue best = BC.search B lb fuel queue best
  | 0, _, _, _, best, hne, h => absurd h hne
  | _ + 1, _, _, [], best, hne, h => absurd (by rwa [search_nil] at h) hne
  | fuel + 1, fuel' + 1, hf, cb :: queue, best, _, h => by
    rw [search_succ] at h ⊢
    rw [search_succ]
    split
    · rfl
    · rename_i hne'
      rw [if_neg hne'] at h
      exact search_fuel_stable B lb (Nat.le_of_succ_le_succ hf) _ _ hne' h

/-- a result that meets the lower bound is final: every larger fuel returns the same bins -/
theorem bc_fuel_stable {B : Nat} {items : List Nat} {fuel fuel' : Nat} {bins : List (List Nat)}
    (hf : fuel ≤ fuel') (h : BC.binCompletion B items fuel = .ok bins)
    (hlb : bins.length = BC.lowerBound B (items.filter (· != 0))) : BC.binCompletion B items fuel' = .ok bins := by
  have hall := bc_ok_all_le h
  obtain ⟨bfd, hb, rfl⟩ := bc_ok_cases h
  rw [bc_unfold fuel' hall hb]
  split
  · rfl
  · rename_i hne
    rw [if_neg hne] at hlb
    rw [search_fuel_stable B _ hf _ _ hne hlb]

/-- anytime behaviour of `bin_completion`: more fuel never gives more bins -/
theorem bc_fuel_mono {B : Nat} {items : List Nat} {fuel fuel' : Nat} {bins bins' : List (List Nat)}
    (hf : fuel ≤ fuel') (h : BC.binCompletion B items fuel = .ok bins)
    (h' : BC.binCompletion B items fuel' = .ok bins') : bins'.length ≤ bins.length := by
  obtain ⟨bfd, hb, rfl⟩ := bc_ok_cases h
  obtain ⟨bfd', hb', rfl⟩ := bc_ok_cases h'
  rw [hb] at hb'
  cases hb'
  split
  · exact Nat.le_refl _
  · exact search_fuel_mono _ _ hf _ _

example : ([[10, 10], [10, 10], [8, 4, 4, 4], [6, 5, 5, 4]] : List (List Nat)).length ≤
    ([[10, 10], [10, 10], [8, 6, 5], [5, 4, 4, 4], [4]] : List (List Nat)).length :=
  bc_fuel_mono (B := 20) (items := [5, 10, 4, 10, 8, 6, 4, 10, 5, 4, 4, 10]) (fuel := 0) (fuel' := 100)
    (by decide) (by decide +kernel) ex_run


/-! ### `find_bin_completions` and its parts -/

section lwi
variable {β : Type} [BEq β]

theorem lwi_nil (items : List β) : BC.lwi items [] = items := rfl

/-- `list_without_items` is the multiset difference of Batteries, whose lemmas apply -/
theorem lwi_eq_diff [LawfulBEq β] (items comp : List β) : BC.lwi items comp = items.diff comp :=
  (List.diff_eq_foldl _ _).symm

theorem lwi_sublist [LawfulBEq β] (items comp : List β) : (BC.lwi items comp).Sublist items :=
  lwi_eq_diff items comp ▸ List.diff_sublist _ _

theorem lwi_perm [LawfulBEq β] {items comp : List β} (h : List.Subperm comp items) :
    (comp ++ BC.lwi items comp).Perm items :=
  lwi_eq_diff items comp ▸ List.subperm_append_diff_self_of_count_le (List.subperm_ext_iff.1 h)

example : ([4, 10, 4] ++ BC.lwi [5, 10, 4, 10, 8, 4] [4, 10, 4]).Perm [5, 10, 4, 10, 8, 4] :=
  lwi_perm (List.subperm_ext_iff.2 (by decide))
example : BC.lwi [5, 10, 4, 10, 8, 4] [4, 10, 4] = [5, 10, 8] := by decide

variable [LawfulBEq β]

theorem mem_lwi_of_not_mem {e : β} {rem l : List β} (h : e ∈ l) (hn : e ∉ rem) : e ∈ BC.lwi l rem :=
  lwi_eq_diff l rem ▸ List.mem_diff_of_mem h hn

/-- the loop of `unique_list`: the accumulator stays free of duplicates and ends up holding exactly what it held
    and what the loop has seen -/
theorem uniq_aux : ∀ (l out : List β), out.Nodup →
    (l.foldl (fun out e => if out.contains e then out else out ++ [e]) out).Nodup ∧
    ∀ e, e ∈ l.foldl (fun out e => if out.contains e then out else out ++ [e]) out ↔ e ∈ out ∨ e ∈ l
  | [], out, h => ⟨h, fun e => by simp⟩
  | a :: l, out, h => by
    rw [List.foldl_cons]
    by_cases ha : out.contains a = true
    · rw [if_pos ha]
      have ha' : a ∈ out := by simpa using ha
      obtain ⟨h1, h2⟩ := uniq_aux l out h
      refine ⟨h1, fun e => (h2 e).trans ?_⟩
      rw [List.mem_cons]
      exact ⟨fun h => h.elim Or.inl (Or.inr ∘ Or.inr),
        fun h => h.elim Or.inl fun h => h.elim (fun h => Or.inl (h ▸ ha')) Or.inr⟩
    · rw [if_neg ha]
      have ha' : a ∉ out := by simpa using ha
      obtain ⟨h1, h2⟩ := uniq_aux l (out ++ [a]) (by
        rw [List.nodup_append]
        exact ⟨h, by simp, fun x hx y hy => by
          rw [List.mem_singleton] at hy; subst hy; exact fun e => ha' (e ▸ hx)⟩)
      exact ⟨h1, fun e => by rw [h2 e, List.mem_append, List.mem_singleton, List.mem_cons, or_assoc]⟩

theorem uniq_nodup (l : List β) : (BC.uniq l).Nodup := (uniq_aux l [] List.nodup_nil).1

theorem mem_uniq_iff {e : β} {l : List β} : e ∈ BC.uniq l ↔ e ∈ l := by
  simpa [BC.uniq] using (uniq_aux l [] List.nodup_nil).2 e

theorem length_uniq_le (l : List β) : (BC.uniq l).length ≤ l.length :=
  (List.subperm_of_subset (uniq_nodup l) fun _ => mem_uniq_iff.1).length_le

end lwi

/-! `itertools.combinations` -/

theorem combs_zero (items : List Nat) : BC.combs 0 items = [[]] := by
  cases items <;> rfl

theorem mem_combs_iff {r : Nat} {items fc : List Nat} :
    fc ∈ BC.combs r items ↔ fc.Sublist items ∧ fc.length = r := by
  induction items generalizing r fc with
  | nil =>
    cases r with
    | zero => simp [BC.combs]
    | succ r =>
      simp only [BC.combs, List.not_mem_nil, List.sublist_nil, false_iff]
      rintro ⟨rfl, h⟩
      cases h
  | cons x xs ih =>
    cases r with
    | zero =>
      simp only [BC.combs, List.mem_singleton, List.length_eq_zero_iff]
      exact ⟨fun h => ⟨h ▸ List.nil_sublist _, h⟩, fun h => h.2⟩
    | succ r =>
      simp only [BC.combs, List.mem_append, List.mem_map, ih, List.sublist_cons_iff]
      constructor
      · rintro (⟨fc', ⟨h1, h2⟩, rfl⟩ | ⟨h1, h2⟩)
        · exact ⟨Or.inr ⟨fc', rfl, h1⟩, by simp [h2]⟩
        · exact ⟨Or.inl h1, h2⟩
      · rintro ⟨h1 | ⟨fc', rfl, h1⟩, h2⟩
        · exact Or.inr ⟨h1, h2⟩
        · exact Or.inl ⟨fc', ⟨h1, by simpa using h2⟩, rfl⟩

example : [10, 8, 4] ∈ BC.combs 3 [5, 10, 4, 10, 8, 4] := mem_combs_iff.2 ⟨by decide, rfl⟩

/-! `find_undominated_pairs` -/

/-- the two-pointer loop adds at most `fuel` pairs to `acc`; each consists of two distinct positions of `items`
    and fits next to the constant part -/
theorem undPairsLoop_spec (c y B : Nat) (items : List Nat) :
    ∀ (fuel s e : Nat) (acc : List (List Nat)), e ≤ items.length - 1 →
      ∃ new, BC.undPairsLoop c y B items fuel s e acc = (new ++ acc).reverse ∧ new.length ≤ fuel ∧
        ∀ p ∈ new, p.Sublist items ∧ c + sumL p ≤ B
  | 0, _, _, acc, _ => ⟨[], rfl, Nat.le_refl _, by simp⟩
  | fuel + 1, s, e, acc, he => by
    rw [BC.undPairsLoop]
    by_cases hse : s < e
    · rw [if_pos hse]
      have hel : e < items.length := by omega
      have hsl : s < items.length := by omega
      rw [Part.getD_eq_getElem hsl, Part.getD_eq_getElem hel]
      dsimp only
      split
      · obtain ⟨new, h1, h2, h3⟩ := undPairsLoop_spec c y B items fuel (s + 1) e acc he
        exact ⟨new, h1, Nat.le_succ_of_le h2, h3⟩
      · split
        · obtain ⟨new, h1, h2, h3⟩ := undPairsLoop_spec c y B items fuel s (e - 1) acc (by omega)
          exact ⟨new, h1, Nat.le_succ_of_le h2, h3⟩
        · obtain ⟨new, h1, h2, h3⟩ := undPairsLoop_spec c y B items fuel (s + 1) (e - 1)
            ([items[s], items[e]] :: acc) (by omega)
          refine ⟨new ++ [[items[s], items[e]]], by simpa using h1, by simpa using h2, fun p hp => ?_⟩
          rcases List.mem_append.1 hp with hp | hp
          · exact h3 p hp
          · rw [List.mem_singleton.1 hp]
            refine ⟨?_, by simp only [sumL]; omega⟩
            simpa using List.map_getElem_sublist (l := items) (is := [⟨s, hsl⟩, ⟨e, hel⟩]) (by simpa using hse)
    · rw [if_neg hse]
      exact ⟨[], rfl, Nat.zero_le _, by simp⟩

theorem undPairs_spec (c y B : Nat) (items : List Nat) :
    (BC.undPairs c y items B).length ≤ items.length ∧
      ∀ p ∈ BC.undPairs c y items B, p.Sublist items ∧ c + sumL p ≤ B := by
  obtain ⟨new, h1, h2, h3⟩ := undPairsLoop_spec c y B items items.length 0 (items.length - 1) [] (Nat.le_refl _)
  rw [BC.undPairs, h1]
  exact ⟨by simpa using h2, fun p hp => h3 p (by simpa using hp)⟩

/-! `find_bin_completions` -/

/-- what is required of a completion of the bin `[x]` from the remaining `items` -/
def IsCompletion (x B : Nat) (items c : List Nat) : Prop := List.Subperm c items ∧ x + sumL c ≤ B

/-- what a feasible subset `fc` contributes: itself extended by each undominated pair, or itself alone if there
    is no such pair and it is not empty -/
theorem mem_contrib {x y B : Nat} {items fc c : List Nat} :
    c ∈ BC.contrib x y B items fc ↔ x + sumL fc ≤ B ∧
      ((∃ p ∈ BC.undPairs (x + sumL fc) y (BC.lwi items fc) B, c = sortDesc id (p ++ fc)) ∨
        (BC.undPairs (x + sumL fc) y (BC.lwi items fc) B = [] ∧ fc ≠ [] ∧ c = fc)) := by
  unfold BC.contrib
  by_cases hfit : B < x + sumL fc
  · rw [if_pos hfit]
    exact ⟨fun h => (by cases h), fun h => absurd h.1 (by omega)⟩
  · rw [if_neg hfit]
    dsimp only
    cases BC.undPairs (x + sumL fc) y (BC.lwi items fc) B with
    | nil => cases fc <;> simp [-Obj.sumL_cons] <;> omega
    | cons p up =>
      have : x + sumL fc ≤ B := by omega
      -- the model lists `ext ++ ext` (each completion twice): `or_self` absorbs the copy
      simp only [List.isEmpty_cons, Bool.not_false, if_true, List.mem_append, or_self, List.mem_map, this,
        true_and, reduceCtorEq, false_and, or_false]
      exact ⟨fun ⟨q, hq, e⟩ => ⟨q, hq, e.symm⟩, fun ⟨q, hq, e⟩ => ⟨q, hq, e.symm⟩⟩

theorem mem_checkDom {c : List Nat} {comps : List (List Nat)} (h : c ∈ BC.checkDom comps) : c ∈ comps := by
  unfold BC.checkDom at h
  split at h
  · exact h
  · exact (lwi_sublist _ _).subset ((Part.sortDesc_perm _ _).mem_iff.1 h)

/-- the list `found_completions` of `find_bin_completions`, before deduplication and the dominance filter -/
def found (x B : Nat) (items : List Nat) (y : Nat) : List (List Nat) :=
  [y] :: (List.range (items.length + 1)).flatMap fun r =>
    (BC.combs r items).flatMap fun fc => BC.contrib x y B items fc

/-- `find_bin_completions` when some remaining item `y` fits next to `x` -/
theorem completions_eq {x B : Nat} {items : List Nat} {y : Nat}
    (hy : items.find? (fun i => decide (x + i ≤ B)) = some y) :
    BC.completions x items B =
      if y = 0 then [] else BC.checkDom (BC.uniq (sortDesc sumL (found x B items y))) := by
  have hne : items.isEmpty = false := by
    cases items with
    | nil => simp at hy
    | cons _ _ => rfl
  unfold BC.completions
  simp only [hne, Bool.false_eq_true, if_false, hy, Option.getD_some, found]

theorem completions_eq_nil {x B : Nat} {items : List Nat}
    (hy : items.find? (fun i => decide (x + i ≤ B)) = none) : BC.completions x items B = [] := by
  unfold BC.completions
  simp [hy]

theorem mem_found {x B : Nat} {items c : List Nat} {y : Nat} :
    c ∈ found x B items y ↔ c = [y] ∨ ∃ fc, fc.Sublist items ∧ c ∈ BC.contrib x y B items fc := by
  unfold found
  simp only [List.mem_cons, List.mem_flatMap, List.mem_range]
  refine or_congr_right ⟨fun ⟨r, _, fc, hfc, hc⟩ => ⟨fc, (mem_combs_iff.1 hfc).1, hc⟩, fun ⟨fc, hfc, hc⟩ => ?_⟩
  exact ⟨fc.length, Nat.lt_succ_of_le hfc.length_le, fc, mem_combs_iff.2 ⟨hfc, rfl⟩, hc⟩

theorem found_spec {x B : Nat} {items c : List Nat} {y : Nat}
    (hy : items.find? (fun i => decide (x + i ≤ B)) = some y) (hc : c ∈ found x B items y) :
    IsCompletion x B items c := by
  rcases mem_found.1 hc with rfl | ⟨fc, hfc, hc⟩
  · have hfit := List.find?_some hy
    simp only [decide_eq_true_eq] at hfit
    exact ⟨List.singleton_subperm_iff.2 (List.mem_of_find?_eq_some hy), by simp only [sumL]; omega⟩
  · obtain ⟨hfit, ⟨p, hp, rfl⟩ | ⟨_, _, rfl⟩⟩ := mem_contrib.1 hc
    · obtain ⟨hp1, hp2⟩ := (undPairs_spec _ _ _ _).2 p hp
      have hsort := Part.sortDesc_perm id (p ++ fc)
      refine ⟨(hsort.subperm_right).2 ?_, ?_⟩
      · have h1 : List.Subperm (p ++ fc) (BC.lwi items fc ++ fc) :=
          (List.subperm_append_right fc).2 hp1.subperm
        exact h1.trans (List.perm_append_comm.trans (lwi_perm hfc.subperm)).subperm
      · rw [Part.sumL_perm hsort, Part.sumL_append]; omega
    · exact ⟨hfc.subperm, hfit⟩

theorem completions_spec {x B : Nat} {items c : List Nat} (h : c ∈ BC.completions x items B) :
    IsCompletion x B items c := by
  cases hy : items.find? (fun i => decide (x + i ≤ B)) with
  | none => rw [completions_eq_nil hy] at h; cases h
  | some y =>
    rw [completions_eq hy] at h
    split at h
    · cases h
    · exact found_spec hy ((Part.sortDesc_perm _ _).mem_iff.1 (mem_uniq_iff.1 (mem_checkDom h)))

theorem completions_sum_le {x B : Nat} {items c : List Nat} (h : c ∈ BC.completions x items B) :
    List.Subperm c items ∧ sumL c ≤ B - x := by
  obtain ⟨h1, h2⟩ := completions_spec h
  exact ⟨h1, by omega⟩

theorem ex_completions : BC.completions 8 [6, 5, 5, 4, 4, 4, 4] 20 = [[4, 4, 4], [6, 5]] := by decide +kernel

example : List.Subperm [6, 5] [6, 5, 5, 4, 4, 4, 4] ∧ sumL [6, 5] ≤ 20 - 8 :=
  completions_sum_le (x := 8) (items := [6, 5, 5, 4, 4, 4, 4]) (by rw [ex_completions]; decide)
example : BC.completions 8 [6, 5, 5, 4, 4, 4, 4] 20 = [[4, 4, 4], [6, 5]] := ex_completions


/-! ### the loop over one branch; the branch invariant and feasibility of the result (C03) -/

/-- the branch obtained by completing the new bin `[x]` with `comp` -/
abbrev childBranch (cb : BC.Branch) (x : Nat) (upd comp : List Nat) : BC.Branch :=
  ⟨BC.lwi upd comp, (cb.bins ++ [[x]]).modify cb.idx (· ++ comp), cb.idx + 1⟩

/-- the bound test of the search: with these bins and items the branch cannot beat `bestLen` bins -/
abbrev Pruned (B bestLen : Nat) (b : BC.Branch) : Prop := bestLen * B ≤ b.bins.length * B + sumL b.items

/-- the completions `runBranch` goes through for the bin `[x]`: the first is taken by the branch itself, the
    others are spawned.  When `find_bin_completions` offers nothing the bin stays as it is, which is the empty
    completion. -/
def tried (x : Nat) (upd : List Nat) (B : Nat) : List (List Nat) :=
  match BC.completions x upd B with
  | [] => [[]]
  | comps => comps

theorem mem_tried {x B : Nat} {upd c : List Nat} :
    c ∈ tried x upd B ↔ c ∈ BC.completions x upd B ∨ (BC.completions x upd B = [] ∧ c = []) := by
  unfold tried
  split <;> rename_i h0
  · simp [h0]
  · simp [show BC.completions x upd B ≠ [] from fun h => h0 h]

theorem tried_ne_nil (x : Nat) (upd : List Nat) (B : Nat) : ∃ c0 others, tried x upd B = c0 :: others := by
  unfold tried
  split
  · exact ⟨_, _, rfl⟩
  · rename_i h
    exact List.exists_cons_of_ne_nil fun h' => h h'

/-- the branches spawned for the completions `others`: the children that pass the bound test -/
def spawn (B bestLen : Nat) (cb : BC.Branch) (x : Nat) (upd : List Nat) (others : List (List Nat)) :
    List BC.Branch :=
  (others.map (childBranch cb x upd)).filter fun b => !decide (Pruned B bestLen b)

theorem mem_spawn {B bestLen : Nat} {cb b : BC.Branch} {x : Nat} {upd : List Nat} {others : List (List Nat)} :
    b ∈ spawn B bestLen cb x upd others ↔ ∃ c ∈ others, b = childBranch cb x upd c ∧ ¬ Pruned B bestLen b := by
  simp only [spawn, List.mem_filter, List.mem_map, Bool.not_eq_eq_eq_not, Bool.not_true, decide_eq_false_iff_not]
  exact ⟨fun ⟨⟨c, hc, e⟩, h⟩ => ⟨c, hc, e.symm, h⟩, fun ⟨c, hc, e, h⟩ => ⟨⟨c, hc, e.symm⟩, h⟩⟩

/-- The `foldl` on the left is the one in `BC.runBranch`, lambda included, verbatim: `runBranch_succ` rewrites
    with this equation, so the two must be kept in step with the model. -/
theorem spawn_eq (B bestLen : Nat) (cb : BC.Branch) (x : Nat) (upd : List Nat) :
    ∀ (others : List (List Nat)) (acc : List BC.Branch),
      others.foldl (fun (acc : List BC.Branch) comp =>
        let ni := BC.lwi upd comp
        let nb := (cb.bins ++ [[x]]).modify cb.idx (· ++ comp)
        if decide (bestLen * B ≤ nb.length * B + sumL ni) then acc else acc ++ [⟨ni, nb, cb.idx + 1⟩]) acc =
      acc ++ spawn B bestLen cb x upd others
  | [], acc => by simp [spawn]
  | comp :: others, acc => by
    rw [List.foldl_cons, spawn_eq B bestLen cb x upd others, spawn, spawn, List.map_cons, List.filter_cons]
    by_cases h : Pruned B bestLen (childBranch cb x upd comp)
    · simp only [h, decide_true, if_true, Bool.not_true, Bool.false_eq_true, if_false]
    · simp only [h, decide_false, Bool.false_eq_true, if_false, Bool.not_false, if_true, List.append_assoc,
        List.singleton_append]

theorem runBranch_nil {B bestLen : Nat} {cb : BC.Branch} (fuel : Nat) (spawned : List BC.Branch)
    (hitems : cb.items = []) : BC.runBranch B bestLen fuel cb spawned = (cb, spawned) := by
  cases fuel with
  | zero => rfl
  | succ fuel => rw [BC.runBranch]; simp only [hitems]

/-- one round of the `while cb.items` loop: the branch takes the first of the completions tried for the new bin
    `[x]`, the others are spawned; it stops when it is pruned (`Pruned`: the bound test) or has no item left -/
theorem runBranch_succ {B bestLen : Nat} (fuel : Nat) {cb : BC.Branch} (spawned : List BC.Branch) {x : Nat}
    {upd c0 : List Nat} {others : List (List Nat)} (hitems : cb.items = x :: upd)
    (htried : tried x upd B = c0 :: others) :
    BC.runBranch B bestLen (fuel + 1) cb spawned =
      let cb' := childBranch cb x upd c0
      let sp := spawned ++ spawn B bestLen cb x upd others
      if decide (Pruned B bestLen cb') then (cb', sp)
      else if cb'.items.isEmpty then (cb', sp)
      else BC.runBranch B bestLen fuel cb' sp := by
  rw [BC.runBranch]
  simp only [hitems]
  unfold tried at htried
  split at htried
  · rename_i h0
    cases htried
    simp only [h0, childBranch, Pruned, spawn, lwi_nil, List.map_nil, List.filter_nil, List.append_nil]
    -- nothing offered: the model's `(· ++ [])` has been normalised to `fun b => b` by the `simp only` above
    rw [show (cb.bins ++ [[x]]).modify cb.idx (fun b => b) = cb.bins ++ [[x]] from List.modify_id _ _]
  · rw [htried]
    simp only [spawn_eq]

/-- the invariant rule for the loop of `runBranch`: what holds of the branch and the spawned list at the start
    and is kept by every round holds at the end; and with fuel for all its items (each round removes one at least)
    the loop ends because no item is left or because the branch is pruned -/
theorem runBranch_rule {B bestLen : Nat} {P : BC.Branch → List BC.Branch → Prop}
    (step : ∀ {cb spawned x upd c0 others}, cb.items = x :: upd → tried x upd B = c0 :: others → P cb spawned →
      P (childBranch cb x upd c0) (spawned ++ spawn B bestLen cb x upd others)) :
    ∀ (fuel : Nat) (cb : BC.Branch) (spawned : List BC.Branch), P cb spawned →
      P (BC.runBranch B bestLen fuel cb spawned).1 (BC.runBranch B bestLen fuel cb spawned).2 ∧
      (cb.items.length ≤ fuel → (BC.runBranch B bestLen fuel cb spawned).1.items = [] ∨
        Pruned B bestLen (BC.runBranch B bestLen fuel cb spawned).1)
  | 0, _, _, h => ⟨h, fun hf => Or.inl (List.eq_nil_of_length_eq_zero (Nat.le_zero.1 hf))⟩
  | fuel + 1, cb, spawned, h => by
    cases hitems : cb.items with
    | nil => rw [runBranch_nil _ _ hitems]; exact ⟨h, fun _ => Or.inl hitems⟩
    | cons x upd =>
      obtain ⟨c0, others, htried⟩ := tried_ne_nil x upd B
      have h' := step hitems htried h
      rw [runBranch_succ fuel spawned hitems htried]
      dsimp only
      split
      · rename_i hc; exact ⟨h', fun _ => Or.inr (of_decide_eq_true hc)⟩
      · split
        · rename_i he; exact ⟨h', fun _ => Or.inl (List.isEmpty_iff.1 he)⟩
        · obtain ⟨k1, k2⟩ := runBranch_rule step fuel _ _ h'
          refine ⟨k1, fun hf => k2 ?_⟩
          show (BC.lwi upd c0).length ≤ fuel
          have := (lwi_sublist upd c0).length_le
          simp only [List.length_cons] at hf
          omega

/-- invariant of a branch of the search: bins plus remaining items are the input, bins are feasible and
    non-empty, `idx` counts the bins -/
structure Inv (B : Nat) (items0 : List Nat) (cb : BC.Branch) : Prop where
  perm : (cb.bins.flatten ++ cb.items).Perm items0
  ok : ∀ bin ∈ cb.bins, sumL bin ≤ B ∧ bin ≠ []
  idx : cb.idx = cb.bins.length

theorem inv_step {B : Nat} {items0 : List Nat} {cb : BC.Branch} {x : Nat} {upd comp : List Nat}
    (h : Inv B items0 cb) (hitems : cb.items = x :: upd) (hc : IsCompletion x B upd comp) :
    Inv B items0 (childBranch cb x upd comp) := by
  have hmod : (cb.bins ++ [[x]]).modify cb.idx (· ++ comp) = cb.bins ++ [x :: comp] := by
    rw [h.idx, Part.modify_length_append]; rfl
  rw [childBranch, hmod]
  refine ⟨?_, ?_, ?_⟩
  · have hp := h.perm
    rw [hitems] at hp
    refine List.Perm.trans ?_ hp
    simp only [List.flatten_append, List.flatten_cons, List.flatten_nil, List.append_nil,
      List.append_assoc, List.cons_append]
    exact List.Perm.append_left _ ((lwi_perm hc.1).cons x)
  · intro bin hbin
    rcases List.mem_append.1 hbin with hbin | hbin
    · exact h.ok bin hbin
    · rw [List.mem_singleton] at hbin
      subst hbin
      exact ⟨by simp only [sumL]; exact hc.2, by simp⟩
  · simp [h.idx]

theorem runBranch_inv {B : Nat} {items0 : List Nat} (hall : ∀ x ∈ items0, x ≤ B) (bestLen fuel : Nat)
    (cb : BC.Branch) (spawned : List BC.Branch) (h : Inv B items0 cb) (hs : ∀ b ∈ spawned, Inv B items0 b) :
    Inv B items0 (BC.runBranch B bestLen fuel cb spawned).1 ∧
      ∀ b ∈ (BC.runBranch B bestLen fuel cb spawned).2, Inv B items0 b := by
  refine (runBranch_rule (P := fun cb sp => Inv B items0 cb ∧ ∀ b ∈ sp, Inv B items0 b) ?_ fuel cb spawned
    ⟨h, hs⟩).1
  rintro cb sp x upd c0 others hitems htried ⟨h, hs⟩
  have hx : x ≤ B := hall x (h.perm.subset (by simp [hitems]))
  have hc : ∀ c ∈ c0 :: others, IsCompletion x B upd c := by
    intro c hc
    rcases mem_tried.1 (htried ▸ hc) with h | ⟨_, rfl⟩
    · exact completions_spec h
    · exact ⟨List.nil_subperm, hx⟩
  refine ⟨inv_step h hitems (hc c0 List.mem_cons_self), fun b hb => ?_⟩
  rcases List.mem_append.1 hb with hb | hb
  · exact hs b hb
  · obtain ⟨c, hc', rfl, _⟩ := mem_spawn.1 hb
    exact inv_step h hitems (hc c (List.mem_cons_of_mem _ hc'))

/-- `bins` arranges `items0` into bins of capacity `B`, none of them empty (for a non-empty input) -/
def IsArrangement (B : Nat) (items0 : List Nat) (bins : List (List Nat)) : Prop :=
  bins.flatten.Perm items0 ∧ (∀ bin ∈ bins, sumL bin ≤ B) ∧ (items0 ≠ [] → ∀ bin ∈ bins, bin ≠ [])

theorem Inv.arrangement {B : Nat} {items0 : List Nat} {cb : BC.Branch} (h : Inv B items0 cb)
    (he : cb.items.isEmpty = true) : IsArrangement B items0 cb.bins := by
  have hp := h.perm
  rw [List.isEmpty_iff.1 he, List.append_nil] at hp
  exact ⟨hp, fun bin hb => (h.ok bin hb).1, fun _ bin hb => (h.ok bin hb).2⟩

/-- every incumbent of `search` (in particular its result) is an arrangement of the input -/
theorem bc_search_isPacking {B : Nat} {items0 : List Nat} (hall : ∀ x ∈ items0, x ≤ B) (lb : Nat) :
    ∀ (fuel : Nat) (queue : List BC.Branch) (best : List (List Nat)),
      (∀ b ∈ queue, Inv B items0 b) → IsArrangement B items0 best →
      IsArrangement B items0 (BC.search B lb fuel queue best) := by
  intro fuel queue best hq hb
  have key := search_rule (B := B) (lb := lb)
    (P := fun _ q b => (∀ c ∈ q, Inv B items0 c) ∧ IsArrangement B items0 b) ?_ fuel queue best ⟨hq, hb⟩
  · obtain ⟨_, _, h, _⟩ := key
    exact h.2
  · rintro _ cb queue best ⟨hq, hb⟩
    have hr := runBranch_inv hall best.length (cb.items.length + 1) cb []
      (hq cb List.mem_cons_self) (by simp)
    generalize BC.runBranch B best.length (cb.items.length + 1) cb [] = r at hr ⊢
    refine ⟨fun b hbq => ?_, ?_⟩
    · rcases List.mem_append.1 hbq with hbq | hbq
      · exact hq b (List.mem_cons_of_mem _ hbq)
      · exact hr.2 b hbq
    · unfold newBest
      split <;> rename_i h
      · simp only [Bool.and_eq_true] at h
        exact hr.1.arrangement h.1
      · exact hb

/-- the bins of a packing of plain numbers, as lists: each sums to at most `B` -/
theorem isPacking_sumL_le {B : Nat} {vals : List Nat} {b : Bins Nat} (h : IsPacking id B vals b) :
    ∀ bin ∈ b.lists, sumL bin ≤ B := by
  intro bin hbin
  have := h.2.2.1 (binSum id bin) (by rw [h.2.1]; exact List.mem_map_of_mem hbin)
  rwa [Part.binSum_id] at this

/-- the result is an arrangement of the non-zero items, also when `B = 0` -/
theorem bc_isArrangement {B : Nat} {items : List Nat} {fuel : Nat} {bins : List (List Nat)}
    (h : BC.binCompletion B items fuel = .ok bins) : IsArrangement B (items.filter (· != 0)) bins := by
  have hall : ∀ x ∈ items.filter (· != 0), x ≤ B :=
    fun x hx => bc_ok_all_le h x (List.mem_filter.1 hx).1
  obtain ⟨bfd, hbfd, rfl⟩ := bc_ok_cases h
  have hpk := Fit.bfDecreasing_ok_isPacking hbfd
  have hbest : IsArrangement B (items.filter (· != 0)) bfd.lists := ⟨hpk.1, isPacking_sumL_le hpk, hpk.2.2.2⟩
  split
  · exact hbest
  · exact bc_search_isPacking hall _ fuel _ _
      (by
        intro b hb
        rw [List.mem_singleton.1 hb]
        exact ⟨by simpa using Part.sortDesc_perm id (items.filter (· != 0)), by simp, rfl⟩) hbest

/-- C03 for bin completion: the result arranges the non-zero items into feasible, non-empty bins
    (`hB` is not needed: `bc_isArrangement`) -/
theorem bc_isPacking {B : Nat} {items : List Nat} {fuel : Nat} {bins : List (List Nat)} (hB : 0 < B)
    (h : BC.binCompletion B items fuel = .ok bins) :
    bins.flatten.Perm (items.filter (· != 0)) ∧ (∀ bin ∈ bins, sumL bin ≤ B) ∧
      (items.filter (· != 0) ≠ [] → ∀ bin ∈ bins, bin ≠ []) :=
  bc_isArrangement h

example : ([[10, 10], [10, 10], [8, 4, 4, 4], [6, 5, 5, 4]] : List (List Nat)).flatten.Perm
    ([5, 10, 4, 10, 8, 6, 4, 10, 5, 4, 4, 10].filter (· != 0)) :=
  (bc_isPacking (by decide) ex_run).1


/-! ### bounds on the result -/

/-- the result is sandwiched: `⌈total/B⌉ ≤ optimum ≤ result ≤ BFD` -/
theorem bc_bounds {B : Nat} {items : List Nat} {fuel : Nat} {bins : List (List Nat)} (hB : 0 < B)
    (h : BC.binCompletion B items fuel = .ok bins) :
    ∃ m, optBins B (items.filter (· != 0)) = some m ∧ BC.lowerBound B items ≤ m ∧ m ≤ bins.length ∧
      ∀ bfd, bfDecreasing id B (items.filter (· != 0)) = .ok bfd → bins.length ≤ bfd.lists.length := by
  have hall : ∀ x ∈ items.filter (· != 0), x ≤ B :=
    fun x hx => bc_ok_all_le h x (List.mem_filter.1 hx).1
  obtain ⟨m, hm, hpk, hmin⟩ := Checkers.optBins_spec hall
  obtain ⟨h1, h2, _⟩ := bc_isPacking hB h
  refine ⟨m, hm, ?_, hmin _ (packable_of_arrangement h1 h2), fun bfd hb => bc_le_bfd h hb⟩
  rw [← lowerBound_filter]
  exact lowerBound_le_packable hB hpk

/-- whenever the result meets the lower bound (the early exit of `search`, or the fast path) it is optimal -/
theorem bc_optimal_of_eq_lowerBound {B : Nat} {items : List Nat} {fuel : Nat} {bins : List (List Nat)}
    (hB : 0 < B) (h : BC.binCompletion B items fuel = .ok bins) (hlb : bins.length = BC.lowerBound B items) :
    optBins B (items.filter (· != 0)) = some bins.length := by
  obtain ⟨m, hm, h1, h2, _⟩ := bc_bounds hB h
  rw [hm]; congr 1; omega

example : optBins 20 ([5, 10, 4, 10, 8, 6, 4, 10, 5, 4, 4, 10].filter (· != 0)) = some 4 :=
  bc_optimal_of_eq_lowerBound (by decide) ex_run (by decide)

/-! ### optimality (C04): semantic dominance -/

/-- group `i` fits into slot `i` -/
def GroupsFit : List (List Nat) → List Nat → Prop
  | [], [] => True
  | g :: gs, v :: c => sumL g ≤ v ∧ GroupsFit gs c
  | _, _ => False

/-- semantic dominance (Martello–Toth): the items `S` can be grouped into slots with capacities `c`.
    `SDom (replicate n B) R` says that `R` can be packed into `n` bins of capacity `B`. -/
def SDom (c S : List Nat) : Prop := ∃ gs : List (List Nat), GroupsFit gs c ∧ gs.flatten.Perm S

theorem groupsFit_nil_left {c : List Nat} : GroupsFit [] c ↔ c = [] := by
  cases c <;> simp [GroupsFit]

theorem groupsFit_nil_right {gs : List (List Nat)} : GroupsFit gs [] ↔ gs = [] := by
  cases gs <;> simp [GroupsFit]

theorem groupsFit_cons {g : List Nat} {gs : List (List Nat)} {v : Nat} {c : List Nat} :
    GroupsFit (g :: gs) (v :: c) ↔ sumL g ≤ v ∧ GroupsFit gs c := Iff.rfl

/-- equal slots: the groups are bins of capacity `B` -/
theorem groupsFit_replicate {B : Nat} : ∀ {gs : List (List Nat)} {m : Nat},
    GroupsFit gs (List.replicate m B) ↔ gs.length = m ∧ ∀ g ∈ gs, sumL g ≤ B
  | [], 0 => by simp [GroupsFit]
  | [], _ + 1 => by simp [GroupsFit, List.replicate_succ]
  | _ :: _, 0 => by simp [GroupsFit]
  | g :: gs, m + 1 => by
    simp only [List.replicate_succ, groupsFit_cons, groupsFit_replicate (gs := gs) (m := m), List.length_cons,
      Nat.add_right_cancel_iff, List.forall_mem_cons]
    exact ⟨fun ⟨a, b, c⟩ => ⟨b, a, c⟩, fun ⟨b, a, c⟩ => ⟨a, b, c⟩⟩

theorem GroupsFit.length_eq : ∀ {gs : List (List Nat)} {c : List Nat}, GroupsFit gs c → gs.length = c.length
  | [], [], _ => rfl
  | [], _ :: _, h => h.elim
  | _ :: _, [], h => h.elim
  | _ :: _, _ :: _, h => by simp [GroupsFit.length_eq h.2]

theorem SDom.perm_right {c S S' : List Nat} (h : SDom c S) (hp : S.Perm S') : SDom c S' := by
  obtain ⟨gs, h1, h2⟩ := h
  exact ⟨gs, h1, h2.trans hp⟩

theorem sdom_nil_left {S : List Nat} : SDom [] S ↔ S = [] := by
  constructor
  · rintro ⟨gs, h1, h2⟩
    rw [groupsFit_nil_right.1 h1] at h2
    exact h2.symm.eq_nil
  · rintro rfl; exact ⟨[], trivial, List.Perm.refl _⟩

theorem sdom_cons {v : Nat} {c S : List Nat} :
    SDom (v :: c) S ↔ ∃ G S0, sumL G ≤ v ∧ SDom c S0 ∧ (G ++ S0).Perm S := by
  constructor
  · rintro ⟨gs, h1, h2⟩
    match gs, h1 with
    | G :: gs, h1 => exact ⟨G, gs.flatten, h1.1, ⟨gs, h1.2, List.Perm.refl _⟩, by simpa using h2⟩
  · rintro ⟨G, S0, h1, ⟨gs, h2, h3⟩, h4⟩
    exact ⟨G :: gs, ⟨h1, h2⟩, by simpa using (h3.append_left G).trans h4⟩

/-- the item `v` may be replaced by a whole group `G` that is not heavier -/
theorem SDom.subst : ∀ {c S G : List Nat} {v : Nat}, SDom c S → v ∈ S → sumL G ≤ v → SDom c (S.erase v ++ G)
  | [], S, G, v, h, hv, _ => by
    rw [sdom_nil_left.1 h] at hv
    cases hv
  | w :: c, S, G, v, h, hv, hG => by
    obtain ⟨G', S0, h1, h2, h3⟩ := sdom_cons.1 h
    have hpe := (h3.erase v).append_right G
    by_cases hg : v ∈ G'
    · rw [List.erase_append_left _ hg, List.append_assoc] at hpe
      refine sdom_cons.2 ⟨G'.erase v ++ G, S0, ?_, h2, ?_⟩
      · have := Part.sumL_erase hg
        rw [Part.sumL_append]; omega
      · rw [List.append_assoc]
        exact (List.Perm.append_left _ List.perm_append_comm).trans hpe
    · have hv0 : v ∈ S0 := (List.mem_append.1 (h3.symm.subset hv)).resolve_left hg
      rw [List.erase_append_right _ hg, List.append_assoc] at hpe
      exact sdom_cons.2 ⟨G', _, h1, SDom.subst h2 hv0 hG, hpe⟩

theorem sdom_of_sublist : ∀ {S c : List Nat}, S.Sublist c → SDom c S
  | _, _, .slnil => ⟨[], trivial, List.Perm.refl _⟩
  | _, _, .cons a h => sdom_cons.2 ⟨[], _, Nat.zero_le _, sdom_of_sublist h, List.Perm.refl _⟩
  | _, _, .cons_cons a h =>
    sdom_cons.2 ⟨[a], _, by simp [sumL], sdom_of_sublist h, List.Perm.refl _⟩

theorem sdom_of_subperm {S c : List Nat} (h : List.Subperm S c) : SDom c S := by
  obtain ⟨l, hl, hs⟩ := h
  exact (sdom_of_sublist hs).perm_right hl

theorem sdom_refl (c : List Nat) : SDom c c := sdom_of_sublist (List.Sublist.refl c)

theorem sdom_nil_right (c : List Nat) : SDom c [] := sdom_of_sublist (List.nil_sublist c)

/-- A block `b` of the items may be replaced by items `S` that `b` dominates (item by item: it rests on
    `SDom.subst`).  Transitivity (`SDom.trans`) and the union of two arrangements (`sdom_append`) follow from it. -/
theorem SDom.refine {c : List Nat} : ∀ {b S T : List Nat}, SDom c (b ++ T) → SDom b S → SDom c (S ++ T)
  | [], S, T, h, hb => by rw [sdom_nil_left.1 hb]; exact h
  | v :: b, S, T, h, hb => by
    obtain ⟨G, S0, h1, h2, h3⟩ := sdom_cons.1 hb
    have h' : SDom c (b ++ (T ++ G)) := by
      simpa [List.append_assoc] using h.subst (v := v) List.mem_cons_self h1
    refine (SDom.refine h' h2).perm_right ?_
    rw [← List.append_assoc]
    exact List.perm_append_comm.trans ((List.append_assoc G S0 T).symm ▸ h3.append_right T)

theorem SDom.trans {a b c : List Nat} (hab : SDom a b) (hbc : SDom b c) : SDom a c := by
  simpa using SDom.refine (T := []) (by simpa using hab) hbc

/-- the two groupings side by side: in `c1 ++ c2`, which dominates itself, refine the block `c1` to `S1`, then
    (after a swap) the block `c2` to `S2` -/
theorem sdom_append {c1 c2 S1 S2 : List Nat} (h1 : SDom c1 S1) (h2 : SDom c2 S2) : SDom (c1 ++ c2) (S1 ++ S2) :=
  ((((sdom_refl (c1 ++ c2)).refine h1).perm_right List.perm_append_comm).refine h2).perm_right
    List.perm_append_comm

/-- an item as large as a slot may have that slot for itself: whatever else was in the slot takes the place
    the item had -/
theorem SDom.erase_slot {v : Nat} {d X : List Nat} (h : SDom (v :: d) X) (hv : v ∈ X) (hpos : ∀ w ∈ X, 0 < w) :
    SDom d (X.erase v) := by
  obtain ⟨G, X0, hG, h0, hp⟩ := sdom_cons.1 h
  have hpe := hp.erase v
  by_cases hvG : v ∈ G
  · have hG' : G.erase v = [] := by
      apply Part.sumL_eq_zero_of_pos fun w hw => hpos w (hp.subset (List.mem_append_left _ (List.erase_subset hw)))
      have := Part.sumL_erase hvG; omega
    rw [List.erase_append_left _ hvG, hG', List.nil_append] at hpe
    exact h0.perm_right hpe
  · have hv0 : v ∈ X0 := (List.mem_append.1 (hp.symm.subset hv)).resolve_left hvG
    rw [List.erase_append_right _ hvG] at hpe
    exact (h0.subst hv0 hG).perm_right (List.perm_append_comm.trans hpe)

/-- The exchange argument.  If the items `X` fit into the slots `c ++ caps` and the values `c` themselves are
    among them, then the other items fit into `caps`.  (With `X = S ++ R`, `c` a completion that dominates the
    completion `S`, and `R` what fits into `caps` after `S`: so does what is left over after `c`.) -/
theorem sdom_exchange {caps : List Nat} : ∀ {c X T : List Nat}, SDom (c ++ caps) X → (c ++ T).Perm X →
    (∀ w ∈ X, 0 < w) → SDom caps T
  | [], _, _, h, hp, _ => h.perm_right hp.symm
  | v :: c, X, T, h, hp, hpos => by
    refine sdom_exchange (h.erase_slot (hp.subset List.mem_cons_self) hpos) ?_
      fun w hw => hpos w (List.erase_subset hw)
    simpa using hp.erase v

theorem SDom.sum_le : ∀ {c S : List Nat}, SDom c S → sumL S ≤ sumL c
  | [], S, h => by rw [sdom_nil_left.1 h]; exact Nat.le_refl _
  | v :: c, S, h => by
    obtain ⟨G, S0, h1, h2, h3⟩ := sdom_cons.1 h
    have := SDom.sum_le h2
    rw [← Part.sumL_perm h3, Part.sumL_append]
    simp only [sumL]; omega


abbrev Desc (l : List Nat) : Prop := l.Pairwise (fun a b => b ≤ a)

theorem desc_eq_of_perm {l₁ l₂ : List Nat} (h₁ : Desc l₁) (h₂ : Desc l₂) (hp : l₁.Perm l₂) : l₁ = l₂ :=
  List.Perm.eq_of_pairwise (fun _ _ _ _ h1 h2 => Nat.le_antisymm h2 h1) h₁ h₂ hp

theorem sublist_of_subperm_desc {l₁ l₂ : List Nat} (hp : List.Subperm l₁ l₂) (h₁ : Desc l₁) (h₂ : Desc l₂) :
    l₁.Sublist l₂ := by
  obtain ⟨l, h, h'⟩ := hp
  rw [← desc_eq_of_perm (h₂.sublist h') h₁ h]
  exact h'

/-- when the sums agree, the dominating list is not longer, and of the same length only if it is the same
    multiset -/
theorem SDom.tight {a b : List Nat} (h : SDom a b) (hpos : ∀ v ∈ a, 0 < v) (hsum : sumL b = sumL a) :
    a.length ≤ b.length ∧ (a.length = b.length → a.Perm b) := by
  induction a generalizing b with
  | nil => rw [sdom_nil_left.1 h]; exact ⟨Nat.le_refl _, fun _ => List.Perm.refl _⟩
  | cons v a ih =>
    obtain ⟨G, b0, h1, h2, h3⟩ := sdom_cons.1 h
    have hv := hpos v List.mem_cons_self
    have hle := h2.sum_le
    rw [← Part.sumL_perm h3, Part.sumL_append] at hsum
    simp only [sumL] at hsum
    have hG : sumL G = v := by omega
    obtain ⟨ih1, ih2⟩ := ih h2 (fun w hw => hpos w (List.mem_cons_of_mem _ hw)) (by omega)
    have hlen : b.length = G.length + b0.length := by rw [← h3.length_eq, List.length_append]
    have hGne : 1 ≤ G.length := by
      cases G with
      | nil => simp only [sumL] at hG; omega
      | cons _ _ => simp
    refine ⟨by simp only [List.length_cons]; omega, fun heq => ?_⟩
    simp only [List.length_cons] at heq
    obtain ⟨w, rfl⟩ := List.length_eq_one_iff.1 (show G.length = 1 by omega)
    have hw : w = v := by simpa [sumL] using hG
    subst hw
    exact ((ih2 (by omega)).cons w).trans h3


/-! ### the dominance test `is_dominant` is sound for semantic dominance -/

theorem mem_product {n : Nat} : ∀ {m : Nat} {locs : List Nat}, locs ∈ BC.product n m →
    locs.length = m ∧ ∀ i ∈ locs, i < n
  | 0, locs, h => by
    simp only [BC.product, List.mem_singleton] at h
    subst h; simp
  | m + 1, locs, h => by
    simp only [BC.product, List.mem_flatMap, List.mem_range, List.mem_map] at h
    obtain ⟨i, hi, locs', h', rfl⟩ := h
    obtain ⟨h1, h2⟩ := mem_product h'
    refine ⟨by simp [h1], ?_⟩
    intro j hj
    rcases List.mem_cons.1 hj with rfl | hj
    · exact hi
    · exact h2 j hj

theorem slotTotals_eq_sumsOf (n : Nat) (l2 locs : List Nat) : BC.slotTotals n l2 locs = sumsOf n l2 locs := rfl

theorem groupsFit_iff_fits : ∀ {gs : List (List Nat)} {l1 : List Nat},
    GroupsFit gs l1 ↔ gs.length = l1.length ∧ BC.fits l1 (gs.map sumL) = true
  | [], [] => by simp [GroupsFit, BC.fits]
  | [], _ :: _ => by simp [GroupsFit]
  | _ :: _, [] => by simp [GroupsFit]
  | g :: gs, v :: l1 => by
    have ih := groupsFit_iff_fits (gs := gs) (l1 := l1)
    simp only [BC.fits] at ih
    simp only [GroupsFit, ih, BC.fits, List.map_cons, List.zip_cons_cons, List.all_cons, Bool.and_eq_true,
      decide_eq_true_eq, List.length_cons, Nat.add_right_cancel_iff]
    exact ⟨fun ⟨h1, h2, h3⟩ => ⟨h2, h1, h3⟩, fun ⟨h2, h1, h3⟩ => ⟨h1, h2, h3⟩⟩

/-- an arrangement by slot numbers yields an arrangement by groups -/
theorem sdom_of_locs {l1 l2 locs : List Nat} (h1 : locs.length = l2.length) (h2 : ∀ i ∈ locs, i < l1.length)
    (h3 : BC.fits l1 (BC.slotTotals l1.length l2 locs) = true) : SDom l1 l2 := by
  obtain ⟨L, e1, e2, e3⟩ := Oracle.assignment_lists id l2 (k := l1.length) (asg := locs) ⟨h1, h2⟩
  rw [List.map_id, funext Part.binSum_id] at e3
  exact ⟨L, groupsFit_iff_fits.2 ⟨e1, by rw [e3, ← slotTotals_eq_sumsOf]; exact h3⟩, e2⟩

theorem locs_of_sdom {l1 l2 : List Nat} (h : SDom l1 l2) :
    ∃ locs, locs.length = l2.length ∧ (∀ i ∈ locs, i < l1.length) ∧
      BC.fits l1 (BC.slotTotals l1.length l2 locs) = true := by
  obtain ⟨gs, hfit, hperm⟩ := h
  obtain ⟨hlen, hfits⟩ := groupsFit_iff_fits.1 hfit
  obtain ⟨locs, ⟨h1, h2⟩, hs⟩ := Oracle.lists_sums_assignment id l2 gs hperm
  rw [hlen, List.map_id, funext Part.binSum_id] at hs
  exact ⟨locs, h1, hlen ▸ h2, by rw [slotTotals_eq_sumsOf, hs]; exact hfits⟩

/-- if `is_dominant(l1, l2)` holds, the items of `l2` can be arranged into slots with capacities `l1`: either
    `l2` is a sub-multiset of `l1` (the shortcuts), or the arrangement was found by enumeration -/
theorem isDom_sdom {l1 l2 : List Nat} (h : BC.isDom l1 l2 = true) : SDom l1 l2 := by
  have shortcut : (∀ x ∈ l2, l2.count x ≤ l1.count x) → SDom l1 l2 :=
    fun hcnt => sdom_of_subperm (List.subperm_ext_iff.2 hcnt)
  unfold BC.isDom at h
  split at h
  · rename_i he
    exact shortcut (by rw [List.isEmpty_iff.1 he]; simp)
  · split at h
    · cases h
    · split at h
      · rename_i hall
        rw [List.all_eq_true] at hall
        exact shortcut fun x hx => by simpa using hall x hx
      · split at h
        · cases h
        · rw [List.any_eq_true] at h
          obtain ⟨locs, hlocs, hfit⟩ := h
          obtain ⟨h1, h2⟩ := mem_product hlocs
          exact sdom_of_locs h1 h2 hfit

/-- the same by slot numbers, in the vocabulary of the code -/
theorem isDom_sound {l1 l2 : List Nat} (h : BC.isDom l1 l2 = true) :
    ∃ locs, locs.length = l2.length ∧ (∀ i ∈ locs, i < l1.length) ∧
      BC.fits l1 (BC.slotTotals l1.length l2 locs) = true :=
  locs_of_sdom (isDom_sdom h)

example : ∃ locs, locs.length = [4, 4, 3].length ∧ (∀ i ∈ locs, i < [8, 5].length) ∧
    BC.fits [8, 5] (BC.slotTotals [8, 5].length [4, 4, 3] locs) = true :=
  isDom_sound (by decide)
example : BC.isDom [6, 4, 4] [4, 6] = true := by decide

example : SDom [8, 5] [4, 4, 3] := isDom_sdom (by decide)

theorem isDom_sum_le {l1 l2 : List Nat} (h : BC.isDom l1 l2 = true) : sumL l2 ≤ sumL l1 :=
  (isDom_sdom h).sum_le

example : sumL [4, 4, 3] ≤ sumL [8, 5] := isDom_sum_le (by decide)


/-! ### `found` and `checkDom` are complete -/

/-- every feasible non-empty completion `S` is dominated by a member of `found`: sorted, `S` is one of the subsets
    `fc`, and what `fc` contributes contains `fc` -/
theorem found_complete {x B : Nat} {items S : List Nat} (y : Nat) (hd : Desc items)
    (hS : List.Subperm S items) (hne : S ≠ []) (hfit : x + sumL S ≤ B) :
    ∃ c ∈ found x B items y, SDom c S := by
  have hperm := Part.sortDesc_perm id S
  have hsub : (sortDesc id S).Sublist items :=
    sublist_of_subperm_desc ((hperm.subperm_right).2 hS) (Part.sortDesc_sorted id S) hd
  have hfit' : x + sumL (sortDesc id S) ≤ B := by rw [Part.sumL_perm hperm]; exact hfit
  have key : ∃ c ∈ BC.contrib x y B items (sortDesc id S), List.Subperm S c := by
    cases hup : BC.undPairs (x + sumL (sortDesc id S)) y (BC.lwi items (sortDesc id S)) B with
    | nil =>
      refine ⟨_, mem_contrib.2 ⟨hfit', Or.inr ⟨hup, fun h => hne ?_, rfl⟩⟩, hperm.symm.subperm⟩
      rw [h] at hperm
      exact hperm.symm.eq_nil
    | cons p up =>
      refine ⟨_, mem_contrib.2 ⟨hfit', Or.inl ⟨p, by rw [hup]; exact List.mem_cons_self, rfl⟩⟩, ?_⟩
      refine (List.Perm.subperm_left (Part.sortDesc_perm id _)).2 ?_
      exact hperm.symm.subperm.trans (List.sublist_append_right _ _).subperm
  obtain ⟨c, hc, hsc⟩ := key
  exact ⟨c, mem_found.2 (Or.inr ⟨_, hsub, hc⟩), sdom_of_subperm hsc⟩

theorem found_desc {x B : Nat} {items c : List Nat} {y : Nat} (hd : Desc items)
    (hc : c ∈ found x B items y) : Desc c := by
  rcases mem_found.1 hc with rfl | ⟨fc, hfc, hc⟩
  · simp [Desc]
  · obtain ⟨_, ⟨p, _, rfl⟩ | ⟨_, _, rfl⟩⟩ := mem_contrib.1 hc
    · exact Part.sortDesc_sorted id _
    · exact hd.sublist hfc

/-- Dominance between two different descending lists is strict: the dominating one is heavier, or as heavy and
    shorter (`SDom.tight`: with equal sums and equal lengths the two would be the same multiset). -/
theorem SDom.strict {a c : List Nat} (h : SDom a c) (ha : Desc a) (hc : Desc c) (hpos : ∀ v ∈ a, 0 < v)
    (hne : a ≠ c) : sumL c < sumL a ∨ (sumL c = sumL a ∧ a.length < c.length) := by
  by_cases heq : sumL c = sumL a
  · obtain ⟨t1, t2⟩ := h.tight hpos heq
    exact Or.inr ⟨heq, Nat.lt_of_le_of_ne t1 fun hl => hne (desc_eq_of_perm ha hc (t2 hl))⟩
  · exact Or.inl (Nat.lt_of_le_of_ne h.sum_le heq)

/-! the dominance filter -/

/-- what the loops of `check_for_dominance` guarantee about every entry of `dominated` -/
def DomOk (comps dom : List (List Nat)) : Prop :=
  ∀ b ∈ dom, ∃ a ∈ comps, a ≠ b ∧ BC.isDom a b = true

theorem domInner_ok {comps : List (List Nat)} {a : List Nat} (ha : a ∈ comps) :
    ∀ (rest dom : List (List Nat)), (∀ b ∈ rest, b ∈ comps) → a ∉ rest → DomOk comps dom →
      DomOk comps (BC.domInner a rest dom)
  | [], dom, _, _, h => h
  | b :: rest, dom, hsub, hna, h => by
    have hab : a ≠ b := fun e => hna (e ▸ List.mem_cons_self)
    have hsub' : ∀ b' ∈ rest, b' ∈ comps := fun b' hb' => hsub b' (List.mem_cons_of_mem _ hb')
    have hna' : a ∉ rest := fun h' => hna (List.mem_cons_of_mem _ h')
    rw [BC.domInner]
    split
    · exact domInner_ok ha rest dom hsub' hna' h
    · split
      · rename_i hd
        refine domInner_ok ha rest _ hsub' hna' ?_
        intro c hc
        rcases List.mem_append.1 hc with hc | hc
        · exact h c hc
        · rw [List.mem_singleton] at hc
          subst hc
          exact ⟨a, ha, hab, hd⟩
      · split
        · rename_i hd
          intro c hc
          rcases List.mem_append.1 hc with hc | hc
          · exact h c hc
          · rw [List.mem_singleton] at hc
            subst hc
            exact ⟨b, hsub b List.mem_cons_self, fun e => hab e.symm, hd⟩
        · exact domInner_ok ha rest dom hsub' hna' h

theorem domOuter_ok {comps : List (List Nat)} : ∀ (l dom : List (List Nat)), (∀ b ∈ l, b ∈ comps) →
    l.Nodup → DomOk comps dom → DomOk comps (BC.domOuter l dom)
  | [], dom, _, _, h => by simpa [BC.domOuter] using h
  | [_], dom, _, _, h => by simpa [BC.domOuter] using h
  | a :: b :: rest, dom, hsub, hnd, h => by
    simp only [BC.domOuter]
    have hsub' : ∀ c ∈ b :: rest, c ∈ comps := fun c hc => hsub c (List.mem_cons_of_mem _ hc)
    have hnd' := (List.nodup_cons.1 hnd)
    split
    · exact domOuter_ok (b :: rest) dom hsub' hnd'.2 h
    · exact domOuter_ok (b :: rest) _ hsub' hnd'.2
        (domInner_ok (hsub a List.mem_cons_self) (b :: rest) dom hsub' hnd'.1 h)

/-- `check_for_dominance` is complete: every completion it drops is dominated by one it keeps.  (`M` is any bound
    on the sums; it only serves to make the chain `c`, the `a` that made `c` drop, … — each heavier than the one
    before, or as heavy and shorter — a measure.) -/
theorem checkDom_complete {comps : List (List Nat)} {M : Nat} (hnd : comps.Nodup)
    (hgood : ∀ c ∈ comps, Desc c ∧ (∀ v ∈ c, 0 < v) ∧ sumL c ≤ M) (c : List Nat) (hc : c ∈ comps) :
    ∃ c' ∈ BC.checkDom comps, SDom c' c := by
  by_cases hlen : comps.length ≤ 1
  · exact ⟨c, by unfold BC.checkDom; rw [if_pos hlen]; exact hc, sdom_refl c⟩
  · have hok : DomOk comps (BC.domOuter comps []) :=
      domOuter_ok comps [] (fun _ h => h) hnd (fun _ h => by cases h)
    by_cases hcd : c ∈ BC.domOuter comps []
    · obtain ⟨a, ha, hne, hdom⟩ := hok c hcd
      have hs := isDom_sdom hdom
      -- `a` may have been dropped in turn: recurse on `a`, which is heavier than `c`, or as heavy and shorter
      have hdec := hs.strict (hgood a ha).1 (hgood c hc).1 (hgood a ha).2.1 hne
      obtain ⟨c', hc', hdom'⟩ := checkDom_complete hnd hgood a ha
      exact ⟨c', hc', hdom'.trans hs⟩
    · refine ⟨c, ?_, sdom_refl c⟩
      unfold BC.checkDom
      rw [if_neg hlen]
      exact (Part.sortDesc_perm _ _).mem_iff.2 (mem_lwi_of_not_mem hc hcd)
termination_by (M - sumL c, c.length)
decreasing_by
  have := (hgood a ha).2.2
  have := (hgood c hc).2.2
  rcases hdec with h | ⟨h1, h2⟩
  · exact Prod.Lex.left _ _ (by omega)
  · rw [h1]; exact Prod.Lex.right _ h2


/-! ### some offered completion leads to an optimal continuation -/

/-- Completeness of `find_bin_completions` (on non-increasing positive items): whatever feasible set `S`
    of remaining items shares the bin with `x`, some offered completion dominates it; and if nothing is
    offered, nothing fits. -/
theorem completions_complete {x B : Nat} {items S : List Nat} (hd : Desc items) (hpos : ∀ v ∈ items, 0 < v)
    (hS : List.Subperm S items) (hfit : x + sumL S ≤ B) :
    (BC.completions x items B = [] ∧ S = []) ∨ ∃ c ∈ BC.completions x items B, SDom c S := by
  cases hy : items.find? (fun i => decide (x + i ≤ B)) with
  | none =>
    left
    refine ⟨completions_eq_nil hy, ?_⟩
    cases S with
    | nil => rfl
    | cons s S =>
      exfalso
      have hs : s ∈ items := hS.subset List.mem_cons_self
      have := List.find?_eq_none.1 hy s hs
      simp only [decide_eq_true_eq] at this
      simp only [sumL] at hfit
      omega
  | some y =>
    right
    have hymem := List.mem_of_find?_eq_some hy
    have hy0 : y ≠ 0 := by have := hpos y hymem; omega
    rw [completions_eq hy, if_neg hy0]
    have hmem : ∀ c, c ∈ BC.uniq (sortDesc sumL (found x B items y)) ↔ c ∈ found x B items y :=
      fun c => mem_uniq_iff.trans (Part.sortDesc_perm _ _).mem_iff
    have hgood : ∀ c ∈ BC.uniq (sortDesc sumL (found x B items y)),
        Desc c ∧ (∀ v ∈ c, 0 < v) ∧ sumL c ≤ B := by
      intro c hc
      have hc' := (hmem c).1 hc
      obtain ⟨h1, h2⟩ := found_spec hy hc'
      exact ⟨found_desc hd hc', fun v hv => hpos v (h1.subset hv), by omega⟩
    have hcomp := checkDom_complete (uniq_nodup _) hgood
    by_cases hne : S = []
    · subst hne
      obtain ⟨c', hc', _⟩ := hcomp [y] ((hmem _).2 (by simp [found]))
      exact ⟨c', hc', sdom_nil_right c'⟩
    · obtain ⟨c, hc, hcS⟩ := found_complete y hd hS hne hfit
      obtain ⟨c', hc', hc'c⟩ := hcomp c ((hmem c).2 hc)
      exact ⟨c', hc', hc'c.trans hcS⟩

/-- `R` can be packed into `n` bins of capacity `B` -/
abbrev Packs (B n : Nat) (R : List Nat) : Prop := SDom (List.replicate n B) R

/-- with `LPT43.packable_iff_splitInto` (Oracle.lean), `Packs B m` is `Packable B m` -/
theorem packs_iff_bins {B m : Nat} {T : List Nat} :
    Packs B m T ↔ Part.SplitInto (fun l => sumL l ≤ B) m T :=
  ⟨fun ⟨Q, h1, h2⟩ => ⟨Q, (groupsFit_replicate.1 h1).1, h2, (groupsFit_replicate.1 h1).2⟩,
   fun ⟨Q, h1, h2, h3⟩ => ⟨Q, groupsFit_replicate.2 ⟨h1, h3⟩, h2⟩⟩

/-- One step of bin completion loses nothing: if `x :: upd` fits into `m` bins then for one of the completions
    `c` tried for the bin `[x]` the rest `lwi upd c` fits into the other `m'` bins (`m = m' + 1`). -/
theorem step_complete {B x m : Nat} {upd : List Nat} (hd : Desc upd) (hpos : ∀ v ∈ upd, 0 < v)
    (h : Packs B m (x :: upd)) : ∃ m', m = m' + 1 ∧ ∃ c ∈ tried x upd B, Packs B m' (BC.lwi upd c) := by
  -- the bin of `x` in the packing: its bin-mates `S`, and the rest `R` in the other bins
  obtain ⟨S, R, k', rfl, hp, hfit, hR⟩ := Part.SplitInto.bin_of (P := fun l => sumL l ≤ B)
    (fun p h => by rwa [← Part.sumL_perm p]) (packs_iff_bins.1 h) List.mem_cons_self
  have hR := packs_iff_bins.2 hR
  have hp' : upd.Perm (S ++ R) := hp.cons_inv
  have hS : List.Subperm S upd := (List.sublist_append_left S R).subperm.trans hp'.symm.subperm
  refine ⟨k', rfl, ?_⟩
  rcases completions_complete hd hpos hS hfit with ⟨h1, rfl⟩ | ⟨c, hc, hcS⟩
  · exact ⟨[], mem_tried.2 (Or.inr ⟨h1, rfl⟩), hR.perm_right (by simpa [lwi_nil] using hp'.symm)⟩
  · refine ⟨c, mem_tried.2 (Or.inl hc), ?_⟩
    exact sdom_exchange (sdom_append hcS hR)
      ((lwi_perm (completions_spec hc).1).trans hp') fun v hv => hpos v (hp'.symm.subset hv)


/-! ### how much fuel suffices -/

/-- `Part.length_flatten_le`, for a `flatMap` -/
theorem length_flatMap_le {β γ : Type} (f : β → List γ) (K : Nat) (l : List β) (h : ∀ a ∈ l, (f a).length ≤ K) :
    (l.flatMap f).length ≤ l.length * K := by
  rw [List.flatMap_def, ← List.length_map (f := f)]
  exact Part.length_flatten_le fun q hq => by
    obtain ⟨a, ha, rfl⟩ := List.mem_map.1 hq
    exact h a ha

theorem length_combs_le : ∀ (r : Nat) (items : List Nat), (BC.combs r items).length ≤ 2 ^ items.length
  | 0, items => by rw [combs_zero]; exact Nat.one_le_two_pow
  | _ + 1, [] => by simp [BC.combs]
  | r + 1, x :: xs => by
    have h1 := length_combs_le r xs
    have h2 := length_combs_le (r + 1) xs
    simp only [BC.combs, List.length_append, List.length_map, List.length_cons, Nat.pow_succ]
    omega

theorem length_contrib_le (x y B : Nat) (items fc : List Nat) :
    (BC.contrib x y B items fc).length ≤ 2 * items.length + 1 := by
  unfold BC.contrib
  split
  · simp
  · dsimp only
    have h1 := (undPairs_spec (x + sumL fc) y B (BC.lwi items fc)).1
    have h2 := (lwi_sublist items fc).length_le
    split
    · simp only [List.length_append, List.length_map]; omega
    · split <;> simp

theorem length_checkDom_le (comps : List (List Nat)) : (BC.checkDom comps).length ≤ comps.length := by
  unfold BC.checkDom
  split
  · exact Nat.le_refl _
  · rw [(Part.sortDesc_perm _ _).length_eq]
    exact (lwi_sublist _ _).length_le

/-- a bound on the number of completions offered for `n` remaining items: `[y]`, then for each of the `n + 1` sizes
    at most `2 ^ n` subsets `fc`, each contributing at most `2 * n + 1` lists (`ext ++ ext` in `contrib`) -/
def compBound (n : Nat) : Nat := 1 + (n + 1) * (2 ^ n * (2 * n + 1))

theorem length_found_le (x B : Nat) (items : List Nat) (y : Nat) :
    (found x B items y).length ≤ compBound items.length := by
  unfold found compBound
  have h := length_flatMap_le (fun r => (BC.combs r items).flatMap fun fc => BC.contrib x y B items fc)
    (2 ^ items.length * (2 * items.length + 1)) (List.range (items.length + 1)) (by
      intro r _
      refine Nat.le_trans (length_flatMap_le _ (2 * items.length + 1) _
        (fun fc _ => length_contrib_le x y B items fc)) ?_
      exact Nat.mul_le_mul_right _ (length_combs_le r items))
  simp only [List.length_range] at h
  simp only [List.length_cons]
  omega

theorem length_completions_le (x B : Nat) (items : List Nat) :
    (BC.completions x items B).length ≤ compBound items.length := by
  cases hy : items.find? (fun i => decide (x + i ≤ B)) with
  | none => rw [completions_eq_nil hy]; simp
  | some y =>
    rw [completions_eq hy]
    split
    · simp
    · refine Nat.le_trans (length_checkDom_le _) (Nat.le_trans (length_uniq_le _) ?_)
      rw [(Part.sortDesc_perm _ _).length_eq]
      exact length_found_le x B items y

theorem length_tried_le (x B : Nat) (upd : List Nat) : (tried x upd B).length ≤ 1 + compBound upd.length := by
  unfold tried
  split
  · simp
  · exact Nat.le_trans (length_completions_le x B upd) (Nat.le_add_left _ _)


/-- the number of `search` iterations a branch with `n` remaining items can cause (itself and all its
    descendants) -/
def branchWeight : Nat → Nat
  | 0 => 1
  | n + 1 => (1 + compBound n) * branchWeight n

theorem branchWeight_pos : ∀ n, 1 ≤ branchWeight n
  | 0 => Nat.le_refl _
  | n + 1 => by
    have := branchWeight_pos n
    simp only [branchWeight]
    exact Nat.le_trans this (Nat.le_mul_of_pos_left _ (by omega))

theorem branchWeight_mono {n m : Nat} (h : n ≤ m) : branchWeight n ≤ branchWeight m := by
  induction h with
  | refl => exact Nat.le_refl _
  | step _ ih => exact Nat.le_trans ih (Nat.le_mul_of_pos_left _ (by omega))

/-- the weight of a branch in the queue; the weight of a queue `q` is `binSum bw q` -/
def bw (b : BC.Branch) : Nat := branchWeight b.items.length

/-- processing a branch replaces its weight by strictly less spawned weight: the weight of the spawned list
    plus that of the branch does not grow from round to round -/
theorem runBranch_weight (B bestLen fuel : Nat) (cb : BC.Branch) (spawned : List BC.Branch) :
    binSum bw (BC.runBranch B bestLen fuel cb spawned).2 + 1 ≤
      binSum bw spawned + branchWeight cb.items.length := by
  have key := runBranch_rule (B := B) (bestLen := bestLen)
    (P := fun cb' sp => binSum bw sp + branchWeight cb'.items.length ≤
      binSum bw spawned + branchWeight cb.items.length) ?_ fuel cb spawned (Nat.le_refl _)
  · have := branchWeight_pos (BC.runBranch B bestLen fuel cb spawned).1.items.length
    have := key.1
    omega
  · intro cb' sp x upd c0 others hitems htried h
    have h1 : binSum bw (spawn B bestLen cb' x upd others) ≤ others.length * branchWeight upd.length := by
      refine Nat.le_trans (Part.binSum_le_binSum (g := fun _ => branchWeight upd.length) ?_) ?_
      · intro b hb
        obtain ⟨c, _, rfl, _⟩ := mem_spawn.1 hb
        exact branchWeight_mono (lwi_sublist upd c).length_le
      · rw [Part.binSum_const]
        exact Nat.mul_le_mul_right _ (Nat.le_trans (List.length_filter_le _ _) (by simp))
    have h2 : others.length * branchWeight upd.length ≤ compBound upd.length * branchWeight upd.length := by
      have := length_tried_le x B upd
      rw [htried, List.length_cons] at this
      exact Nat.mul_le_mul_right _ (by omega)
    have h3 := branchWeight_mono (lwi_sublist upd c0).length_le
    rw [hitems, List.length_cons, branchWeight, Nat.add_mul, Nat.one_mul] at h
    rw [Part.binSum_append]
    show _ + branchWeight (BC.lwi upd c0).length ≤ _
    omega


/-! ### the search keeps a branch that can still reach the optimum -/

/-- the branch holds items of the sorted input `L` and can still be finished with at most `k` bins in total -/
def CanFinish (L : List Nat) (B k : Nat) (cb : BC.Branch) : Prop :=
  cb.items.Sublist L ∧ ∃ m, cb.bins.length + m ≤ k ∧ Packs B m cb.items

theorem canFinish_not_pruned {L : List Nat} {B k bestLen : Nat} {cb : BC.Branch} (hB : 0 < B) (hk : k < bestLen)
    (h : CanFinish L B k cb) : ¬ Pruned B bestLen cb := by
  obtain ⟨_, m, hm, hp⟩ := h
  have h1 := hp.sum_le
  rw [Part.sumL_replicate] at h1
  have h2 : (cb.bins.length + m) * B ≤ k * B := Nat.mul_le_mul_right _ hm
  have h3 : (k + 1) * B ≤ bestLen * B := Nat.mul_le_mul_right _ hk
  rw [Nat.add_mul] at h2
  rw [Nat.add_mul, Nat.one_mul] at h3
  show ¬ bestLen * B ≤ cb.bins.length * B + sumL cb.items
  omega

/-- `runBranch` is complete: if the branch can be finished with `k < bestLen` bins, then either it is
    finished with at most `k` bins, or one of the spawned branches can be finished with `k` bins.  The invariant:
    the branch itself or a spawned one can be finished with `k` bins (`step_complete`); such a branch is not cut,
    so if it is the branch itself the loop ends only when no item is left. -/
theorem runBranch_complete {B k bestLen : Nat} {L : List Nat} (hB : 0 < B) (hk : k < bestLen)
    (hL : Desc L) (hLpos : ∀ v ∈ L, 0 < v) (fuel : Nat) (cb : BC.Branch) (spawned : List BC.Branch)
    (hf : cb.items.length ≤ fuel) (hc : CanFinish L B k cb) :
    ((BC.runBranch B bestLen fuel cb spawned).1.items = [] ∧
      (BC.runBranch B bestLen fuel cb spawned).1.bins.length ≤ k) ∨
    ∃ b ∈ (BC.runBranch B bestLen fuel cb spawned).2, CanFinish L B k b := by
  have key := runBranch_rule (B := B) (bestLen := bestLen)
    (P := fun cb sp => CanFinish L B k cb ∨ ∃ b ∈ sp, CanFinish L B k b) ?_ fuel cb spawned (Or.inl hc)
  · rcases key.1 with hcf | h
    · rcases key.2 hf with h0 | hcut
      · obtain ⟨_, m, hm, _⟩ := hcf
        exact Or.inl ⟨h0, by omega⟩
      · exact absurd hcut (canFinish_not_pruned hB hk hcf)
    · exact Or.inr h
  · rintro cb sp x upd c0 others hitems htried (⟨hsub, m, hm, hp⟩ | ⟨b, hb, hbf⟩)
    · rw [hitems] at hp hsub
      have hupd : upd.Sublist L := (List.sublist_cons_self x upd).trans hsub
      obtain ⟨m', rfl, c, hc, hp'⟩ := step_complete (hL.sublist hupd) (fun v hv => hLpos v (hupd.subset hv)) hp
      have hcf : CanFinish L B k (childBranch cb x upd c) :=
        ⟨(lwi_sublist upd c).trans hupd, m', by
          simp only [List.length_modify, List.length_append, List.length_cons, List.length_nil]; omega, hp'⟩
      rw [htried] at hc
      rcases List.mem_cons.1 hc with rfl | hc
      · exact Or.inl hcf
      · exact Or.inr ⟨_, List.mem_append_right _ (mem_spawn.2 ⟨c, hc, rfl, canFinish_not_pruned hB hk hcf⟩), hcf⟩
    · exact Or.inr ⟨b, List.mem_append_left _ hb, hbf⟩


/-- `search` is complete: with fuel for the whole queue, if the incumbent is longer than `k` but some queued
    branch can be finished with `k` bins (`k` at least the lower bound), the result has at most `k` bins. -/
theorem search_complete {B k lb : Nat} {L : List Nat} (hB : 0 < B) (hlb : lb ≤ k)
    (hL : Desc L) (hLpos : ∀ v ∈ L, 0 < v) (fuel : Nat) (queue : List BC.Branch) (best : List (List Nat))
    (hw : binSum bw queue ≤ fuel) (hcase : best.length ≤ k ∨ ∃ b ∈ queue, CanFinish L B k b) :
    (BC.search B lb fuel queue best).length ≤ k := by
  have key := search_rule (B := B) (lb := lb)
    (P := fun fuel q best => binSum bw q ≤ fuel ∧ (best.length ≤ k ∨ ∃ b ∈ q, CanFinish L B k b)) ?_
    fuel queue best ⟨hw, hcase⟩
  · obtain ⟨fuel', queue', ⟨hw', hcase'⟩, hexit⟩ := key
    rcases hcase' with h | ⟨b, hb, _⟩
    · exact h
    · rcases hexit with rfl | rfl | h
      · -- a branch in the queue weighs something: the fuel is not used up
        obtain ⟨c, q, rfl⟩ := List.exists_cons_of_ne_nil (List.ne_nil_of_mem hb)
        have := branchWeight_pos c.items.length
        rw [Part.binSum_cons, bw] at hw'
        omega
      · cases hb
      · omega
  · rintro fuel cb queue best ⟨hw, hcase⟩
    have hr1 := runBranch_weight B best.length (cb.items.length + 1) cb []
    have hr2 : k < best.length → CanFinish L B k cb →
        ((BC.runBranch B best.length (cb.items.length + 1) cb []).1.items = [] ∧
          (BC.runBranch B best.length (cb.items.length + 1) cb []).1.bins.length ≤ k) ∨
        ∃ b ∈ (BC.runBranch B best.length (cb.items.length + 1) cb []).2, CanFinish L B k b := fun hk hcf =>
      runBranch_complete hB hk hL hLpos (cb.items.length + 1) cb [] (Nat.le_succ _) hcf
    generalize BC.runBranch B best.length (cb.items.length + 1) cb [] = r at hr1 hr2 ⊢
    rw [Part.binSum_nil, Nat.zero_add] at hr1
    rw [Part.binSum_cons, bw] at hw
    refine ⟨by rw [Part.binSum_append]; omega, ?_⟩
    by_cases hbk : best.length ≤ k
    · exact Or.inl (Nat.le_trans (newBest_length_le _ _) hbk)
    · rcases hcase with h | ⟨b, hb, hbf⟩
      · exact absurd h hbk
      · rcases List.mem_cons.1 hb with rfl | hb
        · rcases hr2 (by omega) hbf with ⟨h1, h2⟩ | ⟨b', hb', hbf'⟩
          · left
            rw [newBest, if_pos (by
              simp only [Bool.and_eq_true, decide_eq_true_eq]
              exact ⟨by rw [h1]; rfl, by omega⟩)]
            exact h2
          · exact Or.inr ⟨b', List.mem_append_right _ hb', hbf'⟩
        · exact Or.inr ⟨b, List.mem_append_left _ hb, hbf⟩

/-- the fuel that suffices for an input with `n` non-zero items -/
def enoughFuel (n : Nat) : Nat := branchWeight n

/-- C04 in its general form: with enough fuel, bin completion uses no more bins than any packing of the non-zero
    items — the search keeps a branch that can still be finished within `m` bins (`search_complete`) -/
theorem bc_le_packable {B m : Nat} {items : List Nat} {fuel : Nat} {bins : List (List Nat)} (hB : 0 < B)
    (hfuel : enoughFuel (items.filter (· != 0)).length ≤ fuel)
    (h : BC.binCompletion B items fuel = .ok bins) (hpk : Packable B m (items.filter (· != 0))) :
    bins.length ≤ m := by
  have hlb := lowerBound_le_packable hB hpk
  obtain ⟨bfd, _, rfl⟩ := bc_ok_cases h
  split
  · omega
  · have hperm := Part.sortDesc_perm id (items.filter (· != 0))
    refine search_complete (L := sortDesc id (items.filter (· != 0))) hB hlb (Part.sortDesc_sorted id _) ?_ fuel _ _
      ?_ (Or.inr ⟨_, List.mem_singleton.2 rfl, List.Sublist.refl _, m, by simp, ?_⟩)
    · intro v hv
      have := (List.mem_filter.1 (hperm.mem_iff.1 hv)).2
      simp only [bne_iff_ne, ne_eq] at this
      omega
    · rw [Part.binSum_cons, Part.binSum_nil, bw, Nat.add_zero]
      dsimp only
      rw [hperm.length_eq]
      exact hfuel  -- `enoughFuel n` is `branchWeight n`
    · exact (packs_iff_bins.2 (LPT43.packable_iff_splitInto.1 hpk)).perm_right hperm.symm

/-- **C04: bin completion is optimal.**  With enough fuel (`enoughFuel n` for `n` non-zero items) the result has
    the minimum number of bins among all packings of the non-zero items. -/
theorem bc_optimal {B : Nat} {items : List Nat} {fuel : Nat} {bins : List (List Nat)} (hB : 0 < B)
    (hfuel : enoughFuel (items.filter (· != 0)).length ≤ fuel)
    (h : BC.binCompletion B items fuel = .ok bins) :
    optBins B (items.filter (· != 0)) = some bins.length := by
  obtain ⟨h1, h2, _⟩ := bc_isPacking hB h
  exact Checkers.optBins_eq_some_iff.2 ⟨packable_of_arrangement h1 h2, fun _ => bc_le_packable hB hfuel h⟩

/-- the run of `ex_run` with the fuel `bc_optimal` asks for -/
theorem ex_run_enough : BC.binCompletion 20 [5, 10, 4, 10, 8, 6, 4, 10, 5, 4, 4, 10] (enoughFuel 12) =
    .ok [[10, 10], [10, 10], [8, 4, 4, 4], [6, 5, 5, 4]] :=
  bc_fuel_stable (by decide +kernel) ex_run (by decide)

/-- C04 as one statement: with enough fuel the result has the minimum number of bins.
    (`fuel = 0` is not enough even for the empty input: `binCompletion B [] 0 = .ok [[]]`.) -/
def bc_optimal_full : Prop :=
  ∀ (B : Nat) (items : List Nat), 0 < B → ∃ fuel0, ∀ fuel, fuel0 ≤ fuel → ∀ bins,
    BC.binCompletion B items fuel = .ok bins → optBins B (items.filter (· != 0)) = some bins.length

example : BC.binCompletion 5 [] 0 = .ok [[]] := by decide +kernel
example : BC.binCompletion 5 [0] 1 = .ok [] := by decide +kernel

theorem bc_optimal_full_holds : bc_optimal_full := by
  intro B items hB
  exact ⟨enoughFuel (items.filter (· != 0)).length, fun fuel hf bins h => bc_optimal hB hf h⟩

example : optBins 20 ([5, 10, 4, 10, 8, 6, 4, 10, 5, 4, 4, 10].filter (· != 0)) =
    some ([[10, 10], [10, 10], [8, 4, 4, 4], [6, 5, 5, 4]] : List (List Nat)).length :=
  bc_optimal (by decide) (Nat.le_refl _) ex_run_enough

/-- the fuel bound is astronomically generous, but finite: -/
example : enoughFuel 3 = 2604 := by decide +kernel


end Prtpy.BCProofs
