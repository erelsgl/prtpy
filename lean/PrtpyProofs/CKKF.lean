/-
  PrtpyProofs.CKKF — complete Karmarkar–Karp `optimal` after F11 (`Prtpy.ckkF`, Model/CKKF.lean; F11 of
  /verif/known_findings.json): the combinations of two tuples are filtered on their sorted vector of sums
  (`dedupSums`), with either bins-manager.

  With the sums-only manager nothing changes (`ckkF_false_eq`), so its results are those of `ckk`.  With the contents
  manager validity comes from the invariant of `ckk`; the rest goes through the sums: two runs on items
  with the same values up to order, whatever the item types, name keys and managers, proceed in lock-step
  (`ckkF_sums_congr`; `ckkRunF_ls`, PrtpyProofs/CKKFAux.lean), so the vector of sums is the same with either manager,
  for list / dict input and for any order of the items (C06, C07, C18), and the contents manager inherits optimality
  from the sums-only one.  For the code before F11 both statements about the vector of sums are
  false: PrtpyProofs/CKKDedupe.lean.

  The search loop with the list of combinations as a parameter, of which `ckk` and `ckkF` are the two instances, is
  `CKKValid.searchStep`.  That enough fuel suffices (`ckkF_fuel_sufficient`, `ckkF_never_fuel`) stands in
  PrtpyProofs/Total.lean, `ckkF_real_optimal` in PrtpyProofs/SumsOnly.lean.
-/
import PrtpyProofs.Iter
import PrtpyProofs.BinsOps
import PrtpyProofs.Runs
import PrtpyProofs.CKKValid
import PrtpyProofs.CKKFAux
import PrtpyProofs.CKKOpt
import PrtpyProofs.Natural2
open Prtpy

namespace Prtpy.CKKF
open Prtpy.CKKValid (searchStep resultOf_ok resultOf_of_done ckkRun_eq_search)
open Prtpy.Natural Prtpy.Natural2

variable {α β : Type}
attribute [local instance] decEqBins

/-! ## The sums-only manager is unchanged -/

/-- with the sums-only manager `optimal` after F11 is `optimal` before it; C02 for that manager is then
    `CKKOpt.ckk_sums_optimal` -/
theorem ckkF_false_eq (v nm : α → Nat) [BEq α] (k : Nat) (items : List α) (fuel : Nat) :
    ckkF v nm k false items fuel = ckk v nm k false items fuel := by
  simp only [ckkF, ckk, ckkRunF_false_eq]
  rfl

example : ckkF id id 3 false [4, 5, 6, 7, 8] 100 = ckk id id 3 false [4, 5, 6, 7, 8] 100 :=
  ckkF_false_eq id id 3 _ 100
example : ckkF id id 3 false [4, 5, 6, 7, 8] 100 = .ok ⟨[8, 11, 11], [[], [], []]⟩ :=
  (ckkF_false_eq id id 3 _ 100).trans Runs.ckk3_sums

/-! ## Validity -/

/-- C01 for `optimal` after F11, contents manager: the bins returned are a partition of the items into `k` bins -/
theorem ckkF_isPartition {v nm : α → Nat} [BEq α] {k : Nat} {items : List α} {fuel : Nat} {b : Bins α}
    (hk : 0 < k) (h : ckkF v nm k true items fuel = .ok b) : IsPartition v items k b := by
  have hinv := ckkRunF_inv nm k true (CKKValid.SInv v k items) (fun s hs => ckkStepF_inv hs) fuel _
    (CKKValid.ckkInit_inv hk items .negInf)
  obtain ⟨_, b0, hb0, rfl⟩ := resultOf_ok h
  exact CKKValid.sortAsc_isPartition (hinv.bestP b0 hb0).1

example : IsPartition id [4, 5, 6, 7, 8] 3 ⟨[8, 11, 11], [[8], [5, 6], [4, 7]]⟩ :=
  ckkF_isPartition (by decide) Runs.ckkF3_contents

/-- C01 for the sums-only manager: it returns the sums of an assignment (from `ckkF_false_eq` and
    `CKKValid.ckk_sums_valid`) -/
theorem ckkF_sums_valid {v nm : α → Nat} [BEq α] {k : Nat} {items : List α} {fuel : Nat} {b : Bins α}
    (hk : 0 < k) (h : ckkF v nm k false items fuel = .ok b) :
    ∃ asg, IsAssignment k items.length asg ∧ sumsOf k (items.map v) asg = b.sums := by
  rw [ckkF_false_eq] at h
  exact CKKValid.ckk_sums_valid hk h

theorem ckkF_sums_sorted {v nm : α → Nat} [BEq α] {k : Nat} {c : Bool} {items : List α} {fuel : Nat} {b : Bins α}
    (h : ckkF v nm k c items fuel = .ok b) : b.sums.Pairwise (· ≤ ·) :=
  CKKValid.resultOf_sorted h

example : ([8, 11, 11] : List Nat).Pairwise (· ≤ ·) :=
  ckkF_sums_sorted Runs.ckkF3_contents

/-! ## More fuel changes nothing; a successful run had items -/

/-- C01 (totality part): the result does not depend on the fuel — once `ckkF` has returned `.ok b`, every larger
    fuel returns the same `b` -/
theorem ckkF_fuel_mono {v nm : α → Nat} [BEq α] {k : Nat} {contents : Bool} {items : List α} {fuel fuel' : Nat}
    {b : Bins α} (h : ckkF v nm k contents items fuel = .ok b) (hf : fuel ≤ fuel') :
    ckkF v nm k contents items fuel' = .ok b := by
  rw [ckkF_eq_resultOf, Iter.ckkRunF_eq] at h ⊢
  rw [Iter.run_eq_of_done_le hf _ (resultOf_ok h).1]
  exact h

example : ckkF id id 3 true [4, 5, 6, 7, 8] 1000 = .ok ⟨[8, 11, 11], [[8], [5, 6], [4, 7]]⟩ :=
  ckkF_fuel_mono Runs.ckkF3_contents (by decide)

/-- on an empty input the search never finds an incumbent -/
theorem ckkRunF_empty {v nm : α → Nat} [BEq α] {k : Nat} {contents : Bool} (best : EInt) (fuel : Nat) :
    (ckkRunF nm k contents fuel (ckkInit v k [] best)).bestP = none :=
  (ckkRunF_inv nm k contents _ (fun s hs => CKKValid.stepRel_empty (ckkStepF_cases nm k contents s) hs) fuel _
    (CKKValid.ckkInit_nil v k best)).2

theorem ckkF_ne_nil {v nm : α → Nat} [BEq α] {k : Nat} {c : Bool} {items : List α} {fuel : Nat} {b : Bins α}
    (h : ckkF v nm k c items fuel = .ok b) : items ≠ [] := by
  rintro rfl
  obtain ⟨_, b0, hb0, _⟩ := resultOf_ok h
  rw [ckkRunF_empty] at hb0
  cases hb0

/-! ## The vector of sums depends only on the values: not on the manager, not on the names -/

/-- the invariant carried by a run with manager `c`: all of `SInv` for the contents manager, balance alone for the
    sums-only one (whose lists are empty) -/
def Side (v : α → Nat) (k : Nat) (items : List α) : Bool → CkkState α → Prop
  | true, s => CKKValid.SInv v k items s
  | false, s => BalS s

theorem side_step {v nm : α → Nat} [BEq α] {k : Nat} {items : List α} (c : Bool) {s : CkkState α}
    (h : Side v k items c s) : Side v k items c (ckkStepF nm k c s) := by
  cases c with
  | true => exact ckkStepF_inv h
  | false => exact ckkStepF_balS h

theorem side_good {v nm : α → Nat} [BEq α] [LawfulBEq α] {k : Nat} {items : List α} (c : Bool) {s : CkkState α}
    (h : Side v k items c s) : ∀ g ∈ s.stack, CombGood nm c g := by
  cases c with
  | true => exact fun g hg => combGood_true nm (CKKValid.SInv.stack h g hg)
  | false => exact fun g _ => combGood_false nm g

theorem side_balS {v : α → Nat} {k : Nat} {items : List α} (c : Bool) {s : CkkState α}
    (h : Side v k items c s) : BalS s := by
  cases c with
  | true => exact balS_of_sinv h
  | false => exact h

theorem side_init (v : α → Nat) {k : Nat} (hk : 0 < k) (items : List α) (best : EInt) (c : Bool) :
    Side v k items c (ckkInit v k items best) := by
  cases c with
  | true => exact CKKValid.ckkInit_inv hk items best
  | false => exact ckkInit_balS v k items best

/-- **the sums of `optimal` are a function of the multiset of the values**: two runs on items with the same values up
    to order, whatever their types, name keys and managers, proceed in lock-step (same fuel); the answers (errors
    included) have the same sums -/
theorem ckkF_sums_congr {v nm : α → Nat} {v' nm' : β → Nat} [BEq α] [LawfulBEq α] [BEq β] [LawfulBEq β]
    (c₁ c₂ : Bool) {k : Nat} (hk : 0 < k) {items : List α} {items' : List β}
    (hp : (items.map v).Perm (items'.map v')) (fuel : Nat) :
    (ckkF v nm k c₁ items fuel).map (·.sums) = (ckkF v' nm' k c₂ items' fuel).map (·.sums) := by
  rw [ckkF_eq_resultOf, ckkF_eq_resultOf]
  have i₁ := side_init v hk items .negInf c₁
  have i₂ := side_init v' hk items' .negInf c₂
  have hls := ckkRunF_ls (nm := nm) (nm' := nm') (k := k) (c := c₁) (c' := c₂)
    (Side v k items c₁) (Side v' k items' c₂) (fun _ h => side_step c₁ h) (fun _ h => side_step c₂ h)
    (fun _ h => side_good c₁ h) (fun _ h => side_good c₂ h) fuel _ _ i₁ i₂ (ckkInit_vls hp k .negInf)
  exact resultOf_ls hls
    (side_balS c₁ (ckkRunF_inv nm k c₁ (Side v k items c₁) (fun _ h => side_step c₁ h) fuel _ i₁))
    (side_balS c₂ (ckkRunF_inv nm' k c₂ (Side v' k items' c₂) (fun _ h => side_step c₂ h) fuel _ i₂))

/-- C06 for `optimal` after F11 at equal fuel: the manager does not matter, errors included -/
theorem ckkF_sums_manager_eq_fuel {v nm : α → Nat} [BEq α] [LawfulBEq α] {k : Nat} (hk : 0 < k)
    (items : List α) (fuel : Nat) :
    (ckkF v nm k true items fuel).map (·.sums) = (ckkF v nm k false items fuel).map (·.sums) :=
  ckkF_sums_congr true false hk (List.Perm.refl _) fuel

/-- `ckkF_sums_congr` between two successful runs with any two fuels: both results are also the results at the larger
    fuel (`ckkF_fuel_mono`) -/
theorem ckkF_sums_any {β : Type} {v nm : α → Nat} {v' nm' : β → Nat} [BEq α] [LawfulBEq α] [BEq β] [LawfulBEq β]
    {c₁ c₂ : Bool} {k : Nat} {items : List α} {items' : List β} {f₁ f₂ : Nat} {b₁ : Bins α} {b₂ : Bins β}
    (hp : (items.map v).Perm (items'.map v')) (hk : 0 < k)
    (h₁ : ckkF v nm k c₁ items f₁ = .ok b₁) (h₂ : ckkF v' nm' k c₂ items' f₂ = .ok b₂) : b₁.sums = b₂.sums := by
  have h := ckkF_sums_congr (nm := nm) (nm' := nm') c₁ c₂ hk hp (max f₁ f₂)
  rw [ckkF_fuel_mono h₁ (Nat.le_max_left _ _), ckkF_fuel_mono h₂ (Nat.le_max_right _ _)] at h
  exact Except.ok.inj h

/-- C06 + C07 together: a run on named items and a run on their bare values (dict / list input) return the same
    sums, for any managers and any fuels -/
theorem ckkF_sums_values {v nm : α → Nat} [BEq α] [LawfulBEq α] {c₁ c₂ : Bool} {k : Nat} {items : List α}
    {f₁ f₂ : Nat} {b₁ : Bins α} {b₂ : Bins Nat} (hk : 0 < k)
    (h₁ : ckkF v nm k c₁ items f₁ = .ok b₁) (h₂ : ckkF id id k c₂ (items.map v) f₂ = .ok b₂) :
    b₁.sums = b₂.sums :=
  ckkF_sums_any (by rw [List.map_id]) hk h₁ h₂

/-- **C06 for `optimal` after F11**: the *whole vector* of sums is the same with either manager (any fuels) -/
theorem ckkF_sums_manager_independent {v nm : α → Nat} [BEq α] [LawfulBEq α] {k : Nat} {items : List α}
    {f₁ f₂ : Nat} {b₁ b₂ : Bins α} (hk : 0 < k)
    (h₁ : ckkF v nm k true items f₁ = .ok b₁) (h₂ : ckkF v nm k false items f₂ = .ok b₂) : b₁.sums = b₂.sums :=
  ckkF_sums_any (List.Perm.refl _) hk h₁ h₂

/-- C07 for `optimal` after F11: dict input and list input, contents manager -/
theorem ckkF_list_dict_sums {v nm : α → Nat} [BEq α] [LawfulBEq α] {k : Nat} {items : List α}
    {f₁ f₂ : Nat} {b₁ : Bins α} {b₂ : Bins Nat} (hk : 0 < k)
    (h₁ : ckkF v nm k true items f₁ = .ok b₁) (h₂ : ckkF id id k true (items.map v) f₂ = .ok b₂) :
    b₂.sums = b₁.sums :=
  (ckkF_sums_values hk h₁ h₂).symm

/-- the sums of the sums-only run depend only on the values of the items (no hypothesis at all) -/
theorem ckkF_sums_names_irrelevant (v nm : α → Nat) [BEq α] (k : Nat) (items : List α) (fuel : Nat) :
    (ckkF v nm k false items fuel).map (·.sums) = (ckkF id id k false (items.map v) fuel).map (·.sums) := by
  rw [ckkF_eq_resultOf, ckkF_eq_resultOf]
  have i₁ := ckkInit_balS v k items .negInf
  have i₂ := ckkInit_balS id k (items.map v) .negInf
  have hls := ckkRunF_ls (nm := nm) (nm' := id) (k := k) (c := false) (c' := false) BalS BalS
    (fun _ h => ckkStepF_balS h) (fun _ h => ckkStepF_balS h)
    (fun _ _ g _ => combGood_false nm g) (fun _ _ g _ => combGood_false id g) fuel _ _
    i₁ i₂ (ckkInit_ls v k items .negInf)
  exact resultOf_ls hls (ckkRunF_inv nm k false BalS (fun _ h => ckkStepF_balS h) fuel _ i₁)
    (ckkRunF_inv id k false BalS (fun _ h => ckkStepF_balS h) fuel _ i₂)

/-! ## Optimality -/

/-- **C02 for `optimal` after F11**, either manager: the difference of the sums returned is the optimum.  The contents
    manager inherits it from the sums-only one through `ckkF_sums_manager_eq_fuel`. -/
theorem ckkF_optimal {v nm : α → Nat} [BEq α] [LawfulBEq α] {k : Nat} (c : Bool) {items : List α} {fuel : Nat}
    {b : Bins α} (hk : 0 < k) (hne : items ≠ []) (h : ckkF v nm k c items fuel = .ok b) :
    IsOptimalValue .minDiff k (items.map v) (Objective.minDiff.value b.sums false) := by
  cases c with
  | false =>
    rw [ckkF_false_eq] at h
    exact CKKOpt.ckk_sums_optimal hk hne h
  | true =>
    have e := ckkF_sums_manager_eq_fuel (v := v) (nm := nm) hk items fuel
    rw [h] at e
    cases h2 : ckkF v nm k false items fuel with
    | error err => rw [h2] at e; cases e
    | ok b₂ =>
      rw [h2] at e
      have hs : b.sums = b₂.sums := Except.ok.inj e
      rw [ckkF_false_eq] at h2
      rw [hs]
      exact CKKOpt.ckk_sums_optimal hk hne h2

/-! ## Naturality -/

theorem dedupSumsAux_natural (f : α → β) (l : List (Bins α)) (seen : List (List Nat)) :
    dedupSumsAux (l.map (Bins.mapItems f)) seen = (dedupSumsAux l seen).map (Bins.mapItems f) := by
  induction l generalizing seen with
  | nil => rfl
  | cons b rest ih =>
    simp only [List.map_cons, dedupSumsAux]
    by_cases hc : seen.contains (sortAsc id b.sums) = true
    · have hc' : seen.contains (sortAsc id (Bins.mapItems f b).sums) = true := hc
      rw [if_pos hc, if_pos hc']; exact ih seen
    · have hc' : ¬ seen.contains (sortAsc id (Bins.mapItems f b).sums) = true := hc
      rw [if_neg hc, if_neg hc', List.map_cons, ih]; rfl

theorem dedupSums_natural (f : α → β) (l : List (Bins α)) :
    dedupSums (l.map (Bins.mapItems f)) = (dedupSums l).map (Bins.mapItems f) :=
  dedupSumsAux_natural f l []

section Naturality
variable (f : α → β) [BEq α] [LawfulBEq α] [BEq β] [LawfulBEq β] (hinj : ∀ a b, f a = f b → a = b)
  (nmα : α → Nat) (nmβ : β → Nat) (hnm : ∀ a, nmβ (f a) = nmα a)
include hinj hnm

theorem ckkRunF_natural (k : Nat) (contents : Bool) (fuel : Nat) (s : CkkState α) :
    ckkRunF nmβ k contents fuel (mapCkkState f s) = mapCkkState f (ckkRunF nmα k contents fuel s) := by
  rw [ckkRunF_eq_search, ckkRunF_eq_search]
  exact searchRun_natural f (fun b₁ b₂ => by
    rw [combsF, combsF, allComb_natural f hinj nmα nmβ hnm, dedupSums_natural]) k false true fuel s

end Naturality

/-- C07: `optimal` after F11 is natural for injective renamings that preserve values and name keys
    (same statement as `Natural2.ckk_natural`) -/
theorem ckkF_natural (f : α → β) [BEq α] [LawfulBEq α] [BEq β] [LawfulBEq β] (hinj : ∀ a b, f a = f b → a = b)
    (nmα : α → Nat) (nmβ : β → Nat) (hnm : ∀ a, nmβ (f a) = nmα a)
    (vα : α → Nat) (vβ : β → Nat) (hf : ∀ a, vβ (f a) = vα a)
    (k : Nat) (contents : Bool) (items : List α) (fuel : Nat) :
    ckkF vβ nmβ k contents (items.map f) fuel = (ckkF vα nmα k contents items fuel).map (Bins.mapItems f) := by
  rw [ckkF_eq_resultOf, ckkF_eq_resultOf, ckkInit_natural f vα vβ hf, ckkRunF_natural f hinj nmα nmβ hnm]
  exact resultOf_natural f _

/-! ## The inputs on which the code before F11 disagrees (PrtpyProofs/CKKDedupe.lean) -/

/-- the list `[5, 4, 2, 2, 2, 2, 2, 1]` (items = values) -/
def exVals : List Nat := [5, 4, 2, 2, 2, 2, 2, 1]
/-- the same values as a dict `(name, value)` -/
def exItems : List (Nat × Nat) := [(0, 5), (1, 4), (2, 2), (3, 2), (4, 2), (5, 2), (6, 2), (7, 1)]

theorem ex_list_contents :
    ckkF id id 4 true exVals 200 = .ok ⟨[4, 5, 5, 6], [[4], [1, 2, 2], [5], [2, 2, 2]]⟩ := by decide +kernel
theorem ex_list_sums : ckkF id id 4 false exVals 200 = .ok ⟨[4, 5, 5, 6], [[], [], [], []]⟩ :=
  (ckkF_false_eq id id 4 exVals 200).trans Runs.ckk4_sums
theorem ex_dict_contents :
    ckkF Prod.snd Prod.fst 4 true exItems 200 =
      .ok ⟨[4, 5, 5, 6], [[(1, 4)], [(3, 2), (4, 2), (7, 1)], [(0, 5)], [(2, 2), (5, 2), (6, 2)]]⟩ := by decide +kernel

/-- the list input: before F11 the two managers returned `[4,4,6,6]` and `[4,5,5,6]` -/
example : (⟨[4, 5, 5, 6], [[4], [1, 2, 2], [5], [2, 2, 2]]⟩ : Bins Nat).sums
    = (⟨[4, 5, 5, 6], [[], [], [], []]⟩ : Bins Nat).sums :=
  ckkF_sums_manager_independent (by decide) ex_list_contents ex_list_sums

/-- list / dict: before F11 `[4,4,6,6]` against `[4,5,5,6]` -/
example : (⟨[4, 5, 5, 6], [[4], [1, 2, 2], [5], [2, 2, 2]]⟩ : Bins Nat).sums
    = (⟨[4, 5, 5, 6], [[(1, 4)], [(3, 2), (4, 2), (7, 1)], [(0, 5)], [(2, 2), (5, 2), (6, 2)]]⟩ :
        Bins (Nat × Nat)).sums :=
  ckkF_list_dict_sums (by decide) ex_dict_contents ex_list_contents

example : (ckkF Prod.snd Prod.fst 4 true exItems 200).map (·.sums) = (ckkF id id 4 false exVals 200).map (·.sums) :=
  ckkF_sums_congr (items := exItems) (items' := exVals) true false (by decide) (List.Perm.refl _) 200

example : (ckkF Prod.snd Prod.fst 4 true exItems 200).map (·.sums)
    = (ckkF Prod.snd Prod.fst 4 false exItems 200).map (·.sums) :=
  ckkF_sums_manager_eq_fuel (by decide) exItems 200

example : (⟨[4, 5, 5, 6], [[(1, 4)], [(3, 2), (4, 2), (7, 1)], [(0, 5)], [(2, 2), (5, 2), (6, 2)]]⟩ :
      Bins (Nat × Nat)).sums = (⟨[4, 5, 5, 6], [[], [], [], []]⟩ : Bins Nat).sums :=
  ckkF_sums_values (by decide) ex_dict_contents ex_list_sums

example : IsOptimalValue .minDiff 4 (exVals.map id) (Objective.minDiff.value [4, 5, 5, 6] false) :=
  ckkF_optimal (b := ⟨[4, 5, 5, 6], _⟩) true (by decide) (by decide) ex_list_contents

example : exVals ≠ [] := ckkF_ne_nil ex_list_sums

example : ∃ asg, IsAssignment 4 exVals.length asg ∧ sumsOf 4 (exVals.map id) asg = [4, 5, 5, 6] :=
  ckkF_sums_valid (by decide) ex_list_sums

example : (ckkF Prod.snd Prod.fst 4 false exItems 200).map (·.sums)
    = (ckkF id id 4 false (exItems.map Prod.snd) 200).map (·.sums) :=
  ckkF_sums_names_irrelevant Prod.snd Prod.fst 4 exItems 200

/-- naturality, on the example of `Natural2.ckk_natural` -/
example : ckkF Prod.fst (fun p => p.2.toNat) 3 true (exNames.map entry) 1000
    = (ckkF exVal Char.toNat 3 true exNames 1000).map (Bins.mapItems entry) :=
  ckkF_natural entry (fun _ _ h => congrArg Prod.snd h) Char.toNat (fun p => p.2.toNat) (fun _ => rfl)
    exVal Prod.fst (fun _ => rfl) 3 true exNames 1000

end Prtpy.CKKF
