/-
  PrtpyProofs.FFD119GapC — property C09: the upper sub-range `B/5 < a ≤ B/4` of the gap (`GapCountHigh` of
  `PrtpyProofs.FFD119GapB`; open, it contains Johnson's tight family `FFD.johnson`).

  With `B < 5a` a bin, and a group of the optimum, holds at most four items, and at most three bins are irregular.
  So a bound for every duplicate-free collection that fits into one bin follows from the bound for 1, 2, 3 and 4
  pairwise different items (`opt_split_four`), and the counting statement of the sub-range follows from a weighting
  with the run's side discharged (`gapCountHigh_of_weights`).  `deco_heads_partner` is the greedy property in the
  form such a weighting would use it: of two first items that fit together, one has a partner at least as large as
  the other.
-/
import PrtpyProofs.FFD119GapB
open Prtpy

namespace Prtpy.FFD119GapC

open Prtpy.FFD119 Prtpy.FFD119Gap Prtpy.FFD119GapB

/-! ## The sub-range `B < 5a` -/

theorem nf_bin_length_le_four {B a : Nat} {Ls : List (List Nat)} (hnf : NF B a Ls) (h5 : B < 5 * a)
    {L : List Nat} (hL : L ∈ Ls) : L.length ≤ 4 :=
  LPT43.items_per_bin (hnf.ge L hL) h5 (hnf.le L hL)

theorem high_item_count {B a m : Nat} {vals : List Nat} (h5 : B < 5 * a) (hge : ∀ y ∈ vals, a ≤ y)
    (hm : Packable B m vals) : vals.length ≤ 4 * m :=
  Nat.mul_comm m 4 ▸ LPT43.item_count_le h5 hge hm

theorem four_items_full {B a : Nat} {L : List Nat} (h5 : B < 5 * a) (hge : ∀ y ∈ L, a ≤ y) (h4 : 4 ≤ L.length) :
    B < sumL L + a := by
  have h1 := Part.length_mul_le a L hge
  have h2 : 4 * a ≤ L.length * a := Nat.mul_le_mul_right a h4
  omega

/-- irregular of one of the classes `2, 3, 4` -/
def irrHigh (B : Nat) (L : List Nat) : Bool := irr B 2 L || irr B 3 L || irr B 4 L

/-- at most three bins of a normal form are irregular of a class `≤ 4` -/
theorem nf_irregular_le_three {B a : Nat} {Ls : List (List Nat)} (hnf : NF B a Ls) :
    Ls.countP (irrHigh B) ≤ 3 := by
  have h2 := nf_irr_count (t := 2) hnf
  have h3 := nf_irr_count (t := 3) hnf
  have h4 := nf_irr_count (t := 4) hnf
  have e2 := Part.countP_or_le (fun L => irr B 2 L || irr B 3 L) (irr B 4) Ls
  have e3 := Part.countP_or_le (irr B 2) (irr B 3) Ls
  have : Ls.countP (irrHigh B) = Ls.countP (fun L => (irr B 2 L || irr B 3 L) || irr B 4 L) := rfl
  omega

/-- `regular_bin_of` in the sub-range (`n = 4`) -/
theorem regular_bin_high {B a : Nat} {Ls : List (List Nat)} (hnf : NF B a Ls) (h5 : B < 5 * a) (haB : a ≤ B)
    {L : List Nat} (hL : L ∈ Ls) (hreg : irrHigh B L = false) :
    ∃ x r t, L = x :: r ∧ 1 ≤ t ∧ t ≤ 4 ∧ B < (t + 1) * x ∧ t * x ≤ B ∧ t ≤ L.countP (big B t) := by
  refine regular_bin_of hnf h5 haB hL (fun t h2 h4 => ?_)
  simp only [irrHigh, Bool.or_eq_false_iff] at hreg
  have ht : t = 2 ∨ t = 3 ∨ t = 4 := by omega
  rcases ht with rfl | rfl | rfl
  · exact hreg.1.1
  · exact hreg.1.2
  · exact hreg.2

/-! ## The optimum's side as a case split over at most four items -/

/-- case split: if all decorated items under consideration (`P`) have value `≥ a > B/5`, the bound `hi` for the
    duplicate-free collections that fit into one bin follows from the bound for one, two, three and four pairwise
    different items -/
theorem opt_split_four {B a hi : Nat} (h5 : B < 5 * a) (P : DItem → Prop) (hP : ∀ e, P e → a ≤ e.val)
    (h1 : ∀ e, P e → e.val ≤ B → e.wt ≤ hi)
    (h2 : ∀ e1 e2, P e1 → P e2 → e1 ≠ e2 → e1.val + e2.val ≤ B → e1.wt + e2.wt ≤ hi)
    (h3 : ∀ e1 e2 e3, P e1 → P e2 → P e3 → e1 ≠ e2 → e1 ≠ e3 → e2 ≠ e3 → e1.val + e2.val + e3.val ≤ B →
      e1.wt + e2.wt + e3.wt ≤ hi)
    (h4 : ∀ e1 e2 e3 e4, P e1 → P e2 → P e3 → P e4 → e1 ≠ e2 → e1 ≠ e3 → e1 ≠ e4 → e2 ≠ e3 → e2 ≠ e4 → e3 ≠ e4 →
      e1.val + e2.val + e3.val + e4.val ≤ B → e1.wt + e2.wt + e3.wt + e4.wt ≤ hi)
    (T : List DItem) (hnd : T.Nodup) (hT : ∀ e ∈ T, P e) (hs : binSum DItem.val T ≤ B) :
    binSum DItem.wt T ≤ hi := by
  have hps := Part.sortDesc_perm DItem.val T
  rw [← Part.binSum_perm DItem.wt hps]
  exact opt_split_sorted h5 P hP h1 (fun e1 e2 p1 p2 n _ => h2 e1 e2 p1 p2 n)
    (fun e1 e2 e3 p1 p2 p3 n12 n13 n23 _ _ => h3 e1 e2 e3 p1 p2 p3 n12 n13 n23)
    (fun e1 e2 e3 e4 p1 p2 p3 p4 n12 n13 n14 n23 n24 n34 _ _ _ =>
      h4 e1 e2 e3 e4 p1 p2 p3 p4 n12 n13 n14 n23 n24 n34)
    _ (hps.nodup_iff.2 hnd) (Part.sortDesc_sorted _ T) (fun e he => hT e (hps.mem_iff.1 he))
    (by rw [Part.binSum_perm _ hps]; exact hs)

/-! ## Decorated items and the greedy property -/

theorem mk_val_mem (i : Nat) : ∀ (p : Nat) (L ws : List Nat), ∀ e ∈ mk i p L ws, e.val ∈ L :=
  fun p L ws _ he => mk_val i p L ws ▸ List.mem_map_of_mem he

theorem mk_pos_unique {i p : Nat} {L ws : List Nat} {e e' : DItem} (he : e ∈ mk i p L ws)
    (he' : e' ∈ mk i p L ws) (hp : e.pos = p) (hp' : e'.pos = p) : e = e' := by
  match L, he, he' with
  | [], he, _ => simp [mk] at he
  | x :: xs, he, he' =>
    rw [mk_cons, List.mem_cons] at he he'
    rcases he with rfl | he
    · rcases he' with rfl | he'
      · rfl
      · have := (mk_tag i (p + 1) xs ws.tail e' he').2; omega
    · have := (mk_tag i (p + 1) xs ws.tail e he).2; omega

theorem mk_head {i p : Nat} {x : Nat} {xs ws : List Nat} {e : DItem} (he : e ∈ mk i p (x :: xs) ws)
    (hp : e.pos = p) : e.val = x := by
  rw [mk_pos_unique he (mk_cons i p x xs ws ▸ List.mem_cons_self) hp rfl]

/-- the greedy property for decorated first items: two different decorated items of a normal form, both at
    position `0` of their bins, whose values fit together into one bin: one of the two bins has a second item, and
    this item is at least as large as the first item of the other bin -/
theorem deco_heads_partner {B a : Nat} {Ls : List (List Nat)} (hnf : NF B a Ls) (wts : List Nat → List Nat)
    {e e' : DItem} (he : e ∈ deco wts 0 Ls) (he' : e' ∈ deco wts 0 Ls) (hne : e ≠ e')
    (hp : e.pos = 0) (hp' : e'.pos = 0) (hfit : e.val + e'.val ≤ B) :
    (∃ y r, e.val :: y :: r ∈ Ls ∧ e'.val ≤ y) ∨ (∃ y r, e'.val :: y :: r ∈ Ls ∧ e.val ≤ y) := by
  have key : ∀ {e e' : DItem} {L L' : List Nat} {j j' : Nat}, L ∈ Ls → VRel B L L' → e ∈ mk j 0 L (wts L) →
      e' ∈ mk j' 0 L' (wts L') → e.pos = 0 → e'.pos = 0 → e.val + e'.val ≤ B →
      ∃ y r, e.val :: y :: r ∈ Ls ∧ e'.val ≤ y := by
    intro e e' L L' j j' hL hr h1 h2 hp hp' hfit
    match L, L', h1, h2, hL, hr with
    | [], _, h1, _, _, _ => simp [mk] at h1
    | _ :: _, [], _, h2, _, _ => simp [mk] at h2
    | x :: r, z :: r', h1, h2, hL, hr =>
      have e1 := mk_head h1 hp
      have e2 := mk_head h2 hp'
      obtain ⟨y, r₂, h3, h4⟩ := vrel_second_ge hr (by omega)
      subst h3
      exact ⟨y, r₂, by rw [e1]; exact hL, by omega⟩
  rcases deco_mem2 wts 0 Ls hnf.rel e he e' he' with
    ⟨L, hL, j, h1, h2⟩ | ⟨L, hL, L', _, j, j', hr, h1, h2⟩ | ⟨L, hL, L', _, j, j', hr, h1, h2⟩
  · -- the same bin: two items at position `0` of the same bin are equal
    exact absurd (mk_pos_unique h1 h2 hp hp') hne
  · exact Or.inl (key hL hr h1 h2 hp hp' hfit)
  · exact Or.inr (key hL hr h1 h2 hp' hp (by omega))

/-! ## The counting statement of the sub-range from a weighting, run's side discharged -/

/-- **`GapCountHigh` from a weighting**: on a normal form with `B/5 < a ≤ B/4`, a rule `wts` (unit `1/u`) under which
    every regular bin weighs at least `9u` and every bin at least `9u − d`, and the bound `11u` for the collections of
    one to four pairwise different decorated items that fit into one bin, give `9·(k' + 1) ≤ 11·m + c` as soon as
    `3·d + 9·u ≤ c·u` -/
theorem gapCountHigh_of_weights {B a m u wa d c : Nat} {Ls : List (List Nat)} (hu : 0 < u)
    (hnf : NF B a Ls) (h5 : B < 5 * a) (wts : List Nat → List Nat)
    (hreg : ∀ L ∈ Ls, irrHigh B L = false → 9 * u ≤ binWt wts L)
    (hirr : ∀ L ∈ Ls, 9 * u ≤ binWt wts L + d)
    (hc : 3 * d + 9 * u ≤ c * u)
    (hval : ∀ e ∈ decoNF wts a wa Ls, a ≤ e.val)
    (h1 : ∀ e, e ∈ decoNF wts a wa Ls → e.val ≤ B → e.wt ≤ 11 * u)
    (h2 : ∀ e1 e2, e1 ∈ decoNF wts a wa Ls → e2 ∈ decoNF wts a wa Ls → e1 ≠ e2 → e1.val + e2.val ≤ B →
      e1.wt + e2.wt ≤ 11 * u)
    (h3 : ∀ e1 e2 e3, e1 ∈ decoNF wts a wa Ls → e2 ∈ decoNF wts a wa Ls → e3 ∈ decoNF wts a wa Ls →
      e1 ≠ e2 → e1 ≠ e3 → e2 ≠ e3 → e1.val + e2.val + e3.val ≤ B → e1.wt + e2.wt + e3.wt ≤ 11 * u)
    (h4 : ∀ e1 e2 e3 e4, e1 ∈ decoNF wts a wa Ls → e2 ∈ decoNF wts a wa Ls → e3 ∈ decoNF wts a wa Ls →
      e4 ∈ decoNF wts a wa Ls → e1 ≠ e2 → e1 ≠ e3 → e1 ≠ e4 → e2 ≠ e3 → e2 ≠ e4 → e3 ≠ e4 →
      e1.val + e2.val + e3.val + e4.val ≤ B → e1.wt + e2.wt + e3.wt + e4.wt ≤ 11 * u)
    (hm : Packable B m (Ls.flatten ++ [a])) : 9 * (Ls.length + 1) ≤ 11 * m + c := by
  have hdef : sumL (Ls.map fun L => if irrHigh B L then d else 0) ≤ 3 * d :=
    Part.binSum_ite_le (irrHigh B) d (nf_irregular_le_three hnf)
  refine gapCount_of_weights (u := u) (wa := wa) hu wts (fun L => if irrHigh B L then d else 0) ?_ (by omega) ?_ hm
  · intro L hL
    by_cases hi : irrHigh B L = true
    · simp only [hi, if_true]; exact hirr L hL
    · have := hreg L hL (by simpa using hi)
      simp only [hi, Bool.false_eq_true, if_false]; omega
  · intro T hnd hT hs
    exact opt_split_four h5 (fun e => e ∈ decoNF wts a wa Ls) hval h1 h2 h3 h4 T hnd hT hs

/-! ## Examples -/

example : ([26, 23, 23, 23] : List Nat).length ≤ 4 := nf_bin_length_le_four ex_nf (by decide) (by simp)

example : ([[51, 27], [26, 23, 23, 23]].flatten ++ [23]).length ≤ 4 * 3 :=
  high_item_count (a := 23) (by decide) (by decide) ex_nf_packable

example : 100 < sumL [26, 23, 23, 23] + 23 := four_items_full (by decide) (by decide) (by decide)

example : ∃ t, 1 ≤ t ∧ t ≤ 4 ∧ 100 < (t + 1) * 26 ∧ t * 26 ≤ 100 :=
  size_class (by decide) (by decide) (by decide)

example : [[51, 27], [26, 23, 23, 23]].countP (irrHigh 100) ≤ 3 := nf_irregular_le_three ex_nf

example : ∃ x r t, [51, 27] = x :: r ∧ 1 ≤ t ∧ t ≤ 4 ∧ 100 < (t + 1) * x ∧ t * x ≤ 100 ∧
    t ≤ [51, 27].countP (big 100 t) :=
  regular_bin_high ex_nf (by decide) (by decide) (by simp) (by decide)

example : sumL ([[51, 27], [26, 23, 23, 23]].map fun L => if irrHigh 100 L then 18 else 0) ≤ 3 * 18 :=
  Part.binSum_ite_le (irrHigh 100) 18 (nf_irregular_le_three ex_nf)

/-- the two decorated first items `51` and `26` of the normal form fit together (`77 ≤ 100`): the bin of `51` has a
    second item (`27`), at least `26` -/
example : (∃ y r, (51 : Nat) :: y :: r ∈ [[51, 27], [26, 23, 23, 23]] ∧ 26 ≤ y) ∨
    (∃ y r, (26 : Nat) :: y :: r ∈ [[51, 27], [26, 23, 23, 23]] ∧ 51 ≤ y) :=
  deco_heads_partner ex_nf (wts2 100 23) (e := ⟨51, 48, 0, 0⟩) (e' := ⟨26, 24, 1, 0⟩) (by decide) (by decide)
    (by decide) rfl rfl (by decide)

/-- a rule for the example below: `[x, y] ↦ 52, 20`, every other item `18` -/
def exW : List Nat → List Nat
  | [_, _] => [52, 20]
  | L => L.map fun _ => 18

/-- `gapCountHigh_of_weights` on the normal form `[[51, 27], [26, 23, 23, 23]]`, `a = 23`, with the rule `exW` and
    `u = 8`: both bins weigh `72 = 9u`, no deficit (`c = 9`); a collection that fits weighs at most `88 = 11u`
    (`{51, 26, 23}`: `52 + 18 + 18`) -/
example : 9 * (2 + 1) ≤ 11 * 3 + 9 := by
  have hD : decoNF exW 23 18 [[51, 27], [26, 23, 23, 23]] =
      [⟨51, 52, 0, 0⟩, ⟨27, 20, 0, 1⟩, ⟨26, 18, 1, 0⟩, ⟨23, 18, 1, 1⟩, ⟨23, 18, 1, 2⟩, ⟨23, 18, 1, 3⟩,
        ⟨23, 18, 2, 0⟩] := by decide
  have hw : ∀ e ∈ decoNF exW 23 18 [[51, 27], [26, 23, 23, 23]],
      (e.wt ≤ 18 ∧ 23 ≤ e.val) ∨ (e.wt = 20 ∧ e.val = 27) ∨ (e.wt = 52 ∧ e.val = 51) := by
    rw [hD]
    decide
  refine gapCountHigh_of_weights (B := 100) (a := 23) (m := 3) (u := 8) (wa := 18) (d := 0) (c := 9)
    (by decide) ex_nf (by decide) exW ?_ ?_ (by decide) ?_ ?_ ?_ ?_ ?_ ex_nf_packable
  · decide
  · decide
  · intro e he
    have := hw e he
    omega
  · intro e he hv
    have := hw e he
    omega
  · intro e1 e2 he1 he2 _ hv
    have := hw e1 he1
    have := hw e2 he2
    omega
  · intro e1 e2 e3 he1 he2 he3 _ _ _ hv
    have := hw e1 he1
    have := hw e2 he2
    have := hw e3 he3
    omega
  · intro e1 e2 e3 e4 he1 he2 he3 he4 _ _ _ _ _ _ hv
    have := hw e1 he1
    have := hw e2 he2
    have := hw e3 he3
    have := hw e4 he4
    omega

end Prtpy.FFD119GapC
