/-
  PrtpyProofs.SumsOnly — property C06 for the exact difference-minimisers: "choosing a cheaper output type never
  changes the answer".  In the library a sums-only output type runs the algorithm with the sums-only bins manager
  (`contents = false`: `all_combinations` de-duplicates on sorted sums and keeps no item lists), a partition output
  with the contents manager (`contents = true`).

  SNP and RNP are proved optimal at the level of sums (`Real`: the sums of some partition of the items) for both
  managers at once: all they use of the 2-way complete Karmarkar–Karp sub-routine is `TwoOK` (the sums of a split
  of minimum difference; both notions: PrtpyProofs/SNPOpt.lean), which it provides with either manager (`ckk2_twoOK`).
  The theorems have `TwoOK` as a hypothesis: `snp_optimal_of` (SNPOpt.lean) for SNP, `rounds_optimal` (RNPOpt.lean),
  about every recursion whose step is `RNPRound.round`, for RNP.
  `snp_sums_optimal`, `rnpF_sums_optimal` are the case `contents = false`; as both managers reach the optimum, the
  value returned does not depend on the manager.

  That the whole vector of sums does not depend on the manager (`snp_sums_manager_independent`,
  `rnpF_sums_manager_independent`) is a case of `ValueSim.snp_sums_congr`, `RNPDict.rnpF_sums_congr` (two runs on
  items with the same values up to order return the same sums): PermSums.lean.

  `CKKF.ckkF_real_optimal` (from which `TwoOK` is obtained) stands here, in its namespace `Prtpy.CKKF`, because it
  speaks of `Real`.
-/
import Mathlib.Data.List.Perm.Basic
import PrtpyProofs.Oracle
import PrtpyProofs.Runs
import PrtpyProofs.SNP
import PrtpyProofs.RNPRound
import PrtpyProofs.CKKValid
import PrtpyProofs.CKKOpt
import PrtpyProofs.RNPF
import PrtpyProofs.SNPOpt
import PrtpyProofs.CKKF
import PrtpyProofs.CKKGenComplete
import PrtpyProofs.RNPOpt

attribute [local instance] Prtpy.decEqBins

namespace Prtpy.SumsOnly
open Prtpy
open Prtpy.SNPProofs (spread_perm value_minDiff)

variable {α : Type}

/-! ## Complete Karmarkar–Karp before F11 (`ckk`) -/

theorem ckk_sums_sorted {v nm : α → Nat} [BEq α] {k : Nat} {c : Bool} {items : List α} {fuel : Nat} {b : Bins α}
    (h : ckk v nm k c items fuel = .ok b) : b.sums.Pairwise (· ≤ ·) :=
  CKKValid.resultOf_sorted h

theorem ckk_real_optimal {v nm : α → Nat} [BEq α] [LawfulBEq α] {k : Nat} (c : Bool) {items : List α} {fuel : Nat}
    {b : Bins α} (hk : 0 < k) (hne : items ≠ []) (h : ckk v nm k c items fuel = .ok b) :
    Real v items k b.sums ∧ IsOptimalValue .minDiff k (items.map v) (Objective.minDiff.value b.sums false) := by
  cases c with
  | true => exact ⟨real_of_partition (CKKValid.ckk_isPartition hk h), CKKOpt.ckk_optimal hk hne h⟩
  | false =>
    obtain ⟨asg, h1, h2⟩ := CKKValid.ckk_sums_valid hk h
    exact ⟨real_of_assignment h1 h2, CKKOpt.ckk_sums_optimal hk hne h⟩

/-- 2-way complete Karmarkar–Karp (the code before F11) returns the same vector of sums with either manager (for
    the code after F11 and any number of bins: `CKKF.ckkF_sums_manager_independent`) -/
theorem ckk_two_sums_manager_independent {v nm : α → Nat} [BEq α] [LawfulBEq α] {items : List α}
    {fuel₁ fuel₂ : Nat} {b₁ b₂ : Bins α} (hne : items ≠ []) (h₁ : ckk v nm 2 true items fuel₁ = .ok b₁)
    (h₂ : ckk v nm 2 false items fuel₂ = .ok b₂) : b₂.sums = b₁.sums := by
  obtain ⟨hr₁, ho₁⟩ := ckk_real_optimal true (by omega) hne h₁
  obtain ⟨hr₂, ho₂⟩ := ckk_real_optimal false (by omega) hne h₂
  exact twoOK_sums_eq ⟨hr₂, fun L hl hp => le_of_optimal ho₂ hl hp⟩ (ckk_sums_sorted h₂)
    ⟨hr₁, fun L hl hp => le_of_optimal ho₁ hl hp⟩ (ckk_sums_sorted h₁)

example : (⟨[15, 15], [[], []]⟩ : Bins Nat).sums = (⟨[15, 15], [[4, 5, 6], [7, 8]]⟩ : Bins Nat).sums :=
  ckk_two_sums_manager_independent (v := id) (nm := id) (items := [4, 5, 6, 7, 8]) (fuel₁ := 100) (fuel₂ := 100)
    (by decide) (by decide +kernel) Runs.ckk2_sums

theorem ckk_ne_nil {v nm : α → Nat} [BEq α] {k : Nat} {c : Bool} {items : List α} {fuel : Nat} {b : Bins α}
    (h : ckk v nm k c items fuel = .ok b) : items ≠ [] := by
  rintro rfl
  obtain ⟨_, b0, hb0, _⟩ := CKKValid.resultOf_ok h
  rw [CKKOpt.ckkRun_empty] at hb0
  cases hb0

theorem spread_eq_of_optimal {k : Nat} {vals s₁ s₂ : List Nat}
    (o₁ : IsOptimalValue .minDiff k vals (Objective.minDiff.value s₁ false))
    (o₂ : IsOptimalValue .minDiff k vals (Objective.minDiff.value s₂ false)) : spread s₁ = spread s₂ := by
  have := Oracle.isOptimalValue_unique o₁ o₂
  rw [value_minDiff, value_minDiff] at this
  exact_mod_cast this

/-- C06 for `ckk` (the code before F11), any number of bins, the value only: the difference returned is the same
    with either manager (both are the optimum).  From four bins on the vectors of sums can differ:
    `CKKDedupe.ckk_sums_manager_dependent`. -/
theorem ckk_value_manager_independent {v nm : α → Nat} [BEq α] [LawfulBEq α] {k : Nat} {items : List α}
    {fuel₁ fuel₂ : Nat} {b₁ b₂ : Bins α} (hk : 0 < k) (h₁ : ckk v nm k true items fuel₁ = .ok b₁)
    (h₂ : ckk v nm k false items fuel₂ = .ok b₂) : spread b₁.sums = spread b₂.sums := by
  have hne := ckk_ne_nil h₁
  exact spread_eq_of_optimal (CKKOpt.ckk_optimal hk hne h₁) (CKKOpt.ckk_sums_optimal hk hne h₂)

example : spread (⟨[8, 11, 11], [[8], [5, 6], [4, 7]]⟩ : Bins Nat).sums
    = spread (⟨[8, 11, 11], [[], [], []]⟩ : Bins Nat).sums :=
  ckk_value_manager_independent (v := id) (nm := id) (k := 3) (items := [4, 5, 6, 7, 8])
    (fuel₁ := 100) (fuel₂ := 100) (by decide) Runs.ckk3_contents Runs.ckk3_sums

end Prtpy.SumsOnly

namespace Prtpy.CKKF
open Prtpy.SumsOnly (Real)
variable {α : Type}

/-- C02 for `ckkF` (complete Karmarkar–Karp after F11) with either manager, in the form SNP and RNP use it:
    realisable sums of minimum difference -/
theorem ckkF_real_optimal {v nm : α → Nat} [BEq α] [LawfulBEq α] {k : Nat} (c : Bool) {items : List α}
    {fuel : Nat} {b : Bins α} (hk : 0 < k) (hne : items ≠ []) (h : ckkF v nm k c items fuel = .ok b) :
    Real v items k b.sums ∧ IsOptimalValue .minDiff k (items.map v) (Objective.minDiff.value b.sums false) := by
  refine ⟨?_, ckkF_optimal c hk hne h⟩
  cases c with
  | true => exact SumsOnly.real_of_partition (ckkF_isPartition hk h)
  | false =>
    obtain ⟨asg, h1, h2⟩ := ckkF_sums_valid hk h
    exact SumsOnly.real_of_assignment h1 h2

example : Real id exVals 4 [4, 5, 5, 6] ∧
    IsOptimalValue .minDiff 4 (exVals.map id) (Objective.minDiff.value [4, 5, 5, 6] false) :=
  ckkF_real_optimal true (by decide) (by decide) ex_list_contents

end Prtpy.CKKF

namespace Prtpy.SumsOnly
open Prtpy.RNPF (rnpRecF_cur_zero)
variable {α : Type}

/-! ## The 2-way sub-routine `ckk2` (= `ckkF … 2 …`) with either manager -/

theorem ckk2_twoOK {v nm : α → Nat} [BEq α] [LawfulBEq α] (c : Bool) {items : List α} {fuel : Nat} {two : Bins α}
    (h : ckk2 v nm c items fuel = .ok two) : TwoOK v items two ∧ two.sums.Pairwise (· ≤ ·) := by
  obtain ⟨hne, h⟩ := SNPProofs.ckk2_ok h
  obtain ⟨hr, hopt⟩ := CKKF.ckkF_real_optimal c (by omega) hne h
  exact ⟨⟨hr, fun L hl hp => le_of_optimal hopt hl hp⟩, CKKF.ckkF_sums_sorted h⟩

example : TwoOK id [4, 5, 6, 7, 8] (⟨[15, 15], [[], []]⟩ : Bins Nat) :=
  (ckk2_twoOK (nm := id) false (fuel := 100) (by
    rw [ckk2, if_neg (by decide)]
    exact (CKKF.ckkF_false_eq id id 2 _ 100).trans Runs.ckk2_sums)).1

/-! ## SNP with either manager -/

/-- C01 + C02 for SNP with either manager: the sums returned are the sums of a partition of the items into `k`
    bins, and the difference between the largest and the smallest of them is the optimum. -/
theorem snp_optimal_any {v nm : α → Nat} [BEq α] [LawfulBEq α] (c : Bool) {k : Nat} {items : List α}
    {fuel : Nat} {b : Bins α} (hk : 0 < k) (hne : items ≠ []) (h : snp v nm k c items fuel = .ok b) :
    Real v items k b.sums ∧
      IsOptimalValue .minDiff k (items.map v) (Objective.minDiff.value b.sums false) :=
  snp_optimal_of (fun _ _ h => (ckk2_twoOK c h).1) hk hne h

/-- **C01 + C02 for SNP with the sums-only manager** (`contents = false`; what C06 rests on): the sums returned are
    the sums of some assignment of the items to `k` bins, and their difference is the optimal one.

    (What the model returns besides the sums: the item lists of the *prior* bins are built by the tree even with the
    sums-only manager — `prior.lists ++ [sub]` — and only the two bins that come from the 2-way search have empty
    lists; when KK's first answer is kept, it is returned with all its lists.  See the examples below.  A sums-only
    output type only reads `b.sums`.) -/
theorem snp_sums_optimal {v nm : α → Nat} [BEq α] [LawfulBEq α] {k : Nat} {items : List α}
    {fuel : Nat} {b : Bins α} (hk : 0 < k) (hne : items ≠ []) (h : snp v nm k false items fuel = .ok b) :
    IsOptimalValue .minDiff k (items.map v) (Objective.minDiff.value b.sums false) ∧
      ∃ asg, IsAssignment k items.length asg ∧ (sumsOf k (items.map v) asg).Perm b.sums := by
  obtain ⟨hr, hopt⟩ := snp_optimal_any false hk hne h
  obtain ⟨asg, h1, h2⟩ := real_assignment hr
  exact ⟨hopt, asg, h1, h2 ▸ List.Perm.refl _⟩

/-- six items, three bins; KK's first answer `[5, 5, 7]` has difference 2, the search improves it; the
    two bins that come from the 2-way search carry no items -/
example : IsOptimalValue .minDiff 3 ([5, 3, 3, 2, 2, 2].map id) 1 ∧
    ∃ asg, IsAssignment 3 6 asg ∧ (sumsOf 3 ([5, 3, 3, 2, 2, 2].map id) asg).Perm [6, 6, 5] :=
  snp_sums_optimal (v := id) (nm := id) (k := 3) (fuel := 100) (b := ⟨[6, 6, 5], [[], [], [5]]⟩)
    (by decide) (by decide) (by decide +kernel)

/-- five bins: three prior bins with their items, two bins without -/
example : snp id id 5 false [11, 9, 9, 6, 6, 4, 4, 4] 1000 = .ok ⟨[12, 12, 9, 11, 9], [[], [], [9], [11], [9]]⟩ ∧
    snp id id 5 true [11, 9, 9, 6, 6, 4, 4, 4] 1000
      = .ok ⟨[12, 12, 9, 11, 9], [[4, 4, 4], [6, 6], [9], [11], [9]]⟩ := ⟨Runs.snp_five_sums, Runs.snp_five⟩

/-! ## RNP (after F10, `numbins ≤ 5`) with either manager -/

/-- outside the modelled range `1 ≤ numbins ≤ 5`, `rnpF` answers with KK's partition or not at all -/
theorem rnpF_unmodelled {v nm : α → Nat} [BEq α] {c : Bool} {k fuel : Nat} {b : Bins α} {items : List α}
    (hk : ¬ (0 < k ∧ k ≤ 5)) (h : rnpF v nm k c items fuel = .ok b) : kk v k items = .ok b := by
  obtain ⟨best, hb, ⟨_, rfl⟩ | ⟨_, _, h⟩⟩ := SNPProofs.rnpF_ok h
  · exact hb
  · obtain rfl : k = 0 := by omega
    rw [hb, rnpRecF_cur_zero h]

/-- C01 + C02 for `rnpF` with either manager, every `numbins ≤ 5`: the sums returned are the sums of a partition
    of the items into `k` bins, and the difference between the largest and the smallest of them is the optimum. -/
theorem rnpF_optimal_any {v nm : α → Nat} [BEq α] [LawfulBEq α] (c : Bool) {k : Nat} {items : List α} {fuel : Nat}
    {b : Bins α} (hk : 0 < k) (hk5 : k ≤ 5) (hne : items ≠ []) (h : rnpF v nm k c items fuel = .ok b) :
    Real v items k b.sums ∧
      IsOptimalValue .minDiff k (items.map v) (Objective.minDiff.value b.sums false) := by
  obtain ⟨best, hbest, ⟨h0, rfl⟩ | ⟨hk', h⟩⟩ := RNPF.rnpF_cases hk hne h
  · exact ⟨real_of_partition hbest, optimal_of_le (real_of_partition hbest) (fun L _ _ => by omega)⟩
  · have h2 := fun its two (h : ckk2 v nm c its fuel = .ok two) => (ckk2_twoOK c h).1
    have hr := rounds_real (RNPRound.rnpRecF_succ v nm c fuel) h2 (by omega) hk5 (real_of_partition hbest) h
    exact ⟨hr, optimal_of_le hr (rounds_optimal (RNPRound.rnpRecF_succ v nm c fuel) h2 (RNPF.ckkGenComplete v nm)
      (by omega) hk5 (fun _ _ _ => rfl) h)⟩

/-- **C01 + C02 for `rnpF` with the sums-only manager** (`contents = false`, `numbins ≤ 5`; what C06 rests on): the
    sums returned are the sums of some assignment of the items to `k` bins, and their difference is the optimal one.
    (The top-level 2-way generator of the even case runs with a contents manager whatever the flag, as in the code.) -/
theorem rnpF_sums_optimal {v nm : α → Nat} [BEq α] [LawfulBEq α] {k : Nat} {items : List α}
    {fuel : Nat} {b : Bins α} (hk : 0 < k) (hk5 : k ≤ 5) (hne : items ≠ [])
    (h : rnpF v nm k false items fuel = .ok b) :
    IsOptimalValue .minDiff k (items.map v) (Objective.minDiff.value b.sums false) ∧
      ∃ asg, IsAssignment k items.length asg ∧ (sumsOf k (items.map v) asg).Perm b.sums := by
  obtain ⟨hr, hopt⟩ := rnpF_optimal_any false hk hk5 hne h
  obtain ⟨asg, h1, h2⟩ := real_assignment hr
  exact ⟨hopt, asg, h1, h2 ▸ List.Perm.refl _⟩

/-- five bins (the odd case on top of the even case with a non-empty prior); only the first prior bin
    carries its items: the sub-results of the even case are concatenations of 2-way results -/
example : IsOptimalValue .minDiff 5 ([11, 9, 9, 6, 6, 4, 4, 4].map id) 3 ∧
    ∃ asg, IsAssignment 5 8 asg ∧ (sumsOf 5 ([11, 9, 9, 6, 6, 4, 4, 4].map id) asg).Perm [9, 9, 12, 11, 12] :=
  rnpF_sums_optimal (by decide) (by decide) (by decide) Runs.rnpF_five_sums

/-- four bins (the even case at top level) -/
example : IsOptimalValue .minDiff 4 ([5, 3, 3, 3, 2, 2, 2, 2].map id) 1 ∧
    ∃ asg, IsAssignment 4 8 asg ∧ (sumsOf 4 ([5, 3, 3, 3, 2, 2, 2, 2].map id) asg).Perm [5, 6, 5, 6] :=
  rnpF_sums_optimal (v := id) (nm := id) (k := 4) (fuel := 1000) (b := ⟨[5, 6, 5, 6], [[], [], [], []]⟩)
    (by decide) (by decide) (by decide) (by decide +kernel)

/-- three bins (the odd case) -/
example : IsOptimalValue .minDiff 3 ([5, 3, 3, 2, 2, 2].map id) 1 ∧
    ∃ asg, IsAssignment 3 6 asg ∧ (sumsOf 3 ([5, 3, 3, 2, 2, 2].map id) asg).Perm [5, 6, 6] :=
  rnpF_sums_optimal (v := id) (nm := id) (k := 3) (fuel := 1000) (b := ⟨[5, 6, 6], [[5], [], []]⟩)
    (by decide) (by decide) (by decide) (by decide +kernel)

/-! ## C06: the value does not depend on the manager, through optimality -/

/-- C06 for SNP, the value: any two runs of `snp`, whatever their managers and fuels, return the same difference
    (both are the optimum) -/
theorem snp_value_any {v nm : α → Nat} [BEq α] [LawfulBEq α] {c₁ c₂ : Bool} {k : Nat} {items : List α}
    {fuel₁ fuel₂ : Nat} {b₁ b₂ : Bins α} (hk : 0 < k) (hne : items ≠ [])
    (h₁ : snp v nm k c₁ items fuel₁ = .ok b₁) (h₂ : snp v nm k c₂ items fuel₂ = .ok b₂) :
    spread b₁.sums = spread b₂.sums :=
  spread_eq_of_optimal (snp_optimal_any c₁ hk hne h₁).2 (snp_optimal_any c₂ hk hne h₂).2

/-- C06 for RNP (`numbins ≤ 5`), the value -/
theorem rnpF_value_any {v nm : α → Nat} [BEq α] [LawfulBEq α] {c₁ c₂ : Bool} {k : Nat} {items : List α}
    {fuel₁ fuel₂ : Nat} {b₁ b₂ : Bins α} (hk : 0 < k) (hk5 : k ≤ 5) (hne : items ≠ [])
    (h₁ : rnpF v nm k c₁ items fuel₁ = .ok b₁) (h₂ : rnpF v nm k c₂ items fuel₂ = .ok b₂) :
    spread b₁.sums = spread b₂.sums :=
  spread_eq_of_optimal (rnpF_optimal_any c₁ hk hk5 hne h₁).2 (rnpF_optimal_any c₂ hk hk5 hne h₂).2

end Prtpy.SumsOnly
