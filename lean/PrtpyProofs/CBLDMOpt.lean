/-
  PrtpyProofs.CBLDMOpt — optimality of the complete balanced largest-differencing method (`Prtpy.cbldm`)
  without a time limit (property C12): the result is never the placeholder and its sum difference is the
  least one over all two-way partitions whose cardinalities differ by at most the bound.

  Proof.  A sub-partition `p` is abstracted to its signature `sig p : Int × Int` = (sum of bin 1 − sum of bin 0,
  cardinality of bin 1 − cardinality of bin 0); `sumDiff p` and `lenDiff p` are the absolute values.
  `Comb L X M`: `(X, M)` is a signed combination `Σ ±cᵢ` of the signatures in `L`.  Every signed
  combination of a node's signatures is a leaf below one of its children (`comb_children`): those of
  `a :: b :: rest` are those of `b − a :: rest` (the split child) and those of `a + b :: rest` (the combine child).
  (The converse, `comb_of_child`, holds too and is not needed.)  Both prunes are sound because every signed
  combination has `|X| ≥ 2 * max |xᵢ| − Σ |xᵢ|`, and likewise for the cardinalities.  `cbPart_opt` threads this
  through the run; at the root the signed combinations are the `(2 * sum sub − total, 2 * |sub| − n)` for sub-lists
  `sub` of the values, whence the connection with `optBalanced_spec`.
-/
import PrtpyProofs.CBLDM
import PrtpyProofs.Checkers
open Prtpy Prtpy.CBLDMProofs

namespace Prtpy.CBLDMOpt

variable {α : Type}

/-! ## Signatures and signed combinations -/

/-- signed differences of a sub-partition: (sum of bin 1 − sum of bin 0, size of bin 1 − size of bin 0) -/
def sig (p : Bins α) : Int × Int :=
  ((p.sums.getD 1 0 : Int) - (p.sums.getD 0 0 : Int),
   ((p.lists.getD 1 []).length : Int) - ((p.lists.getD 0 []).length : Int))

theorem absDiff_eq (a b : Nat) : absDiff a b = ((b : Int) - (a : Int)).natAbs := by
  unfold absDiff; split <;> omega

theorem sumDiff_eq (p : Bins α) : sumDiff p = (sig p).1.natAbs := absDiff_eq _ _

theorem lenDiff_eq (p : Bins α) : lenDiff p = (sig p).2.natAbs := absDiff_eq _ _

/-- `(X, M)` is a signed combination `Σ ±cᵢ` of the pairs in the list -/
inductive Comb : List (Int × Int) → Int → Int → Prop
  | nil : Comb [] 0 0
  | pos {L : List (Int × Int)} {X M : Int} (x m : Int) : Comb L X M → Comb ((x, m) :: L) (X + x) (M + m)
  | neg {L : List (Int × Int)} {X M : Int} (x m : Int) : Comb L X M → Comb ((x, m) :: L) (X - x) (M - m)

theorem Comb.cast {L : List (Int × Int)} {X M X' M' : Int} (h : Comb L X M) (hX : X = X') (hM : M = M') :
    Comb L X' M' := by
  subst hX hM; exact h

theorem comb_nil {X M : Int} : Comb [] X M ↔ X = 0 ∧ M = 0 := by
  constructor
  · intro h; cases h; exact ⟨rfl, rfl⟩
  · rintro ⟨rfl, rfl⟩; exact Comb.nil

theorem comb_cons {c : Int × Int} {L : List (Int × Int)} {X M : Int} :
    Comb (c :: L) X M ↔
      ∃ X0 M0, Comb L X0 M0 ∧ ((X = X0 + c.1 ∧ M = M0 + c.2) ∨ (X = X0 - c.1 ∧ M = M0 - c.2)) := by
  constructor
  · intro h
    cases h with
    | pos x m h => exact ⟨_, _, h, Or.inl ⟨rfl, rfl⟩⟩
    | neg x m h => exact ⟨_, _, h, Or.inr ⟨rfl, rfl⟩⟩
  · obtain ⟨x, m⟩ := c
    rintro ⟨X0, M0, h, ⟨rfl, rfl⟩ | ⟨rfl, rfl⟩⟩
    · exact Comb.pos x m h
    · exact Comb.neg x m h

/-- a single entry: the leaf -/
theorem comb_single {c : Int × Int} {X M : Int} (h : Comb [c] X M) :
    X.natAbs = c.1.natAbs ∧ M.natAbs = c.2.natAbs := by
  obtain ⟨x, m⟩ := c
  cases h with
  | pos _ _ h => cases h; exact ⟨by rw [Int.zero_add], by rw [Int.zero_add]⟩
  | neg _ _ h => cases h; exact ⟨by rw [Int.zero_sub, Int.natAbs_neg], by rw [Int.zero_sub, Int.natAbs_neg]⟩

theorem Comb.neg_head {x m : Int} {L : List (Int × Int)} {X M : Int} (h : Comb ((x, m) :: L) X M) :
    Comb ((-x, -m) :: L) X M := by
  cases h with
  | pos _ _ h => exact (Comb.neg (-x) (-m) h).cast (by omega) (by omega)
  | neg _ _ h => exact (Comb.pos (-x) (-m) h).cast (by omega) (by omega)

theorem Comb.perm {L L' : List (Int × Int)} (hp : L.Perm L') : ∀ {X M : Int}, Comb L X M → Comb L' X M := by
  induction hp with
  | nil => intro X M h; exact h
  | cons c _ ih =>
    intro X M h
    rw [comb_cons] at h ⊢
    obtain ⟨X0, M0, h0, hh⟩ := h
    exact ⟨X0, M0, ih h0, hh⟩
  | swap x y l =>
    intro X M h
    cases h with
    | pos _ _ h =>
      cases h with
      | pos _ _ h => exact (Comb.pos _ _ (Comb.pos _ _ h)).cast (by omega) (by omega)
      | neg _ _ h => exact (Comb.neg _ _ (Comb.pos _ _ h)).cast (by omega) (by omega)
    | neg _ _ h =>
      cases h with
      | pos _ _ h => exact (Comb.pos _ _ (Comb.neg _ _ h)).cast (by omega) (by omega)
      | neg _ _ h => exact (Comb.neg _ _ (Comb.neg _ _ h)).cast (by omega) (by omega)
  | trans _ _ ih1 ih2 => intro X M h; exact ih2 (ih1 h)

/-- One branching step: the signed combinations of `a :: b :: rest` are those that give `a` and `b` opposite
    signs (the signed combinations of `b − a :: rest`) and those that give them the same sign (those of
    `a + b :: rest`). -/
theorem comb_pair {a b : Int × Int} {rest : List (Int × Int)} {X M : Int} :
    Comb (a :: b :: rest) X M ↔
      Comb ((b.1 - a.1, b.2 - a.2) :: rest) X M ∨ Comb ((a.1 + b.1, a.2 + b.2) :: rest) X M := by
  obtain ⟨a₁, a₂⟩ := a
  obtain ⟨b₁, b₂⟩ := b
  constructor
  · intro h
    cases h with
    | pos _ _ h =>
      cases h with
      | pos _ _ h => exact Or.inr ((Comb.pos _ _ h).cast (by omega) (by omega))
      | neg _ _ h => exact Or.inl ((Comb.neg _ _ h).cast (by omega) (by omega))
    | neg _ _ h =>
      cases h with
      | pos _ _ h => exact Or.inl ((Comb.pos _ _ h).cast (by omega) (by omega))
      | neg _ _ h => exact Or.inr ((Comb.neg _ _ h).cast (by omega) (by omega))
  · rintro (h | h)
    · cases h with
      | pos _ _ h => exact (Comb.neg _ _ (Comb.pos _ _ h)).cast (by omega) (by omega)
      | neg _ _ h => exact (Comb.pos _ _ (Comb.neg _ _ h)).cast (by omega) (by omega)
    · cases h with
      | pos _ _ h => exact (Comb.pos _ _ (Comb.pos _ _ h)).cast (by omega) (by omega)
      | neg _ _ h => exact (Comb.neg _ _ (Comb.neg _ _ h)).cast (by omega) (by omega)

/-- the converse of `comb_children`: the children's signed combinations are signed combinations of the parent
    (not used by the optimality proof) -/
theorem comb_of_child {a b c : Int × Int} {rest : List (Int × Int)} {X M : Int}
    (hc : (c.1 = b.1 - a.1 ∧ c.2 = b.2 - a.2) ∨ (c.1 = a.1 - b.1 ∧ c.2 = a.2 - b.2) ∨
          (c.1 = a.1 + b.1 ∧ c.2 = a.2 + b.2) ∨ (c.1 = -(a.1 + b.1) ∧ c.2 = -(a.2 + b.2)))
    (h : Comb (c :: rest) X M) : Comb (a :: b :: rest) X M := by
  obtain ⟨c₁, c₂⟩ := c
  dsimp only at hc
  rcases hc with ⟨rfl, rfl⟩ | ⟨rfl, rfl⟩ | ⟨rfl, rfl⟩ | ⟨rfl, rfl⟩
  · exact comb_pair.2 (Or.inl h)
  · have := h.neg_head
    rw [Int.neg_sub, Int.neg_sub] at this
    exact comb_pair.2 (Or.inl this)
  · exact comb_pair.2 (Or.inr h)
  · have := h.neg_head
    rw [Int.neg_neg, Int.neg_neg] at this
    exact comb_pair.2 (Or.inr this)

/-! ## Soundness of the two prunes -/

theorem lower_add {X x : Int} {S B : Nat} (h₁ : X.natAbs ≤ S) (h₂ : 2 * B ≤ X.natAbs + S) :
    (X + x).natAbs ≤ x.natAbs + S ∧ 2 * max x.natAbs B ≤ (X + x).natAbs + (x.natAbs + S) := by
  have ha := Int.natAbs_add_le X x
  have hb := Int.natAbs_sub_le (X + x) x
  have hc := Int.natAbs_sub_le (X + x) X
  rw [Int.add_sub_cancel] at hb
  rw [Int.add_comm X x, Int.add_sub_cancel, Int.add_comm x X] at hc
  generalize (X + x).natAbs = y at *
  generalize X.natAbs = a at *
  generalize x.natAbs = c at *
  omega

theorem lower_sub {X x : Int} {S B : Nat} (h₁ : X.natAbs ≤ S) (h₂ : 2 * B ≤ X.natAbs + S) :
    (X - x).natAbs ≤ x.natAbs + S ∧ 2 * max x.natAbs B ≤ (X - x).natAbs + (x.natAbs + S) := by
  rw [Int.sub_eq_add_neg, ← Int.natAbs_neg x]
  exact lower_add h₁ h₂

/-- every signed combination `X = Σ ±xᵢ` has `|X| ≤ Σ |xᵢ|` and `2 * max |xᵢ| − Σ |xᵢ| ≤ |X|`; same for `M` -/
theorem comb_lower {L : List (Int × Int)} {X M : Int} (h : Comb L X M) :
    (X.natAbs ≤ sumL (L.map fun c => c.1.natAbs) ∧
      2 * maxL (L.map fun c => c.1.natAbs) ≤ X.natAbs + sumL (L.map fun c => c.1.natAbs)) ∧
    (M.natAbs ≤ sumL (L.map fun c => c.2.natAbs) ∧
      2 * maxL (L.map fun c => c.2.natAbs) ≤ M.natAbs + sumL (L.map fun c => c.2.natAbs)) := by
  induction h with
  | nil => exact ⟨⟨Nat.le_refl _, Nat.le_refl _⟩, Nat.le_refl _, Nat.le_refl _⟩
  | pos x m _ ih => exact ⟨lower_add ih.1.1 ih.1.2, lower_add ih.2.1 ih.2.2⟩
  | neg x m _ ih => exact ⟨lower_sub ih.1.1 ih.1.2, lower_sub ih.2.1 ih.2.2⟩

theorem map_sig_fst (subs : List (Bins α)) :
    (subs.map sig).map (fun c => c.1.natAbs) = subs.map sumDiff := by
  rw [List.map_map]
  exact List.map_congr_left (fun p _ => (sumDiff_eq p).symm)

theorem map_sig_snd (subs : List (Bins α)) :
    (subs.map sig).map (fun c => c.2.natAbs) = subs.map lenDiff := by
  rw [List.map_map]
  exact List.map_congr_left (fun p _ => (lenDiff_eq p).symm)

/-- C12, the sum prune is sound: when `2 * max_x − Σx ≥ s`, no leaf below the node has a sum difference `< s` -/
theorem sumPrune_sound {s : Nat} {subs : List (Bins α)} {X M : Int}
    (hp : sumPrune (some s) subs = true) (h : Comb (subs.map sig) X M) : s ≤ X.natAbs := by
  have hl := (comb_lower h).1.2
  rw [map_sig_fst] at hl
  simp only [sumPrune, decide_eq_true_eq] at hp
  omega

/-- C12, the cardinality prune is sound: when `2 * max_m − Σm > d`, no leaf below the node is feasible -/
theorem cardPrune_sound {d : Nat} {subs : List (Bins α)} {X M : Int}
    (hp : cardPrune d subs = true) (h : Comb (subs.map sig) X M) : d < M.natAbs := by
  have hl := (comb_lower h).2.2
  rw [map_sig_snd] at hl
  simp only [cardPrune, decide_eq_true_eq] at hp
  omega

/-! ## Signatures of the two children -/

theorem sig_combine (a b : Bins α) :
    sig (cbCombine a b) = ((sig a).1 + (sig b).1, (sig a).2 + (sig b).2) ∨
    sig (cbCombine a b) = (-((sig a).1 + (sig b).1), -((sig a).2 + (sig b).2)) := by
  simp only [cbCombine, sortAsc_two]
  split
  · left
    simp only [sig, List.getD_cons_zero, List.getD_cons_succ, List.length_append, Prod.mk.injEq]
    omega
  · right
    simp only [sig, List.getD_cons_zero, List.getD_cons_succ, List.length_append, Prod.mk.injEq]
    omega

theorem sig_split (a b : Bins α) :
    sig (cbSplit a b) = ((sig b).1 - (sig a).1, (sig b).2 - (sig a).2) ∨
    sig (cbSplit a b) = (-((sig b).1 - (sig a).1), -((sig b).2 - (sig a).2)) := by
  simp only [cbSplit, sortAsc_two]
  split
  · left
    simp only [sig, List.getD_cons_zero, List.getD_cons_succ, List.length_append, Prod.mk.injEq]
    omega
  · right
    simp only [sig, List.getD_cons_zero, List.getD_cons_succ, List.length_append, Prod.mk.injEq]
    omega

/-- Completeness of one branching step: every leaf below a node is below its split child or below its
    combine child. -/
theorem comb_children (a b : Bins α) {rest : List (Int × Int)} {X M : Int}
    (h : Comb (sig a :: sig b :: rest) X M) :
    Comb (sig (cbSplit a b) :: rest) X M ∨ Comb (sig (cbCombine a b) :: rest) X M := by
  rcases comb_pair.1 h with h | h
  · left
    rcases sig_split a b with e | e <;> rw [e]
    · exact h
    · exact h.neg_head
  · right
    rcases sig_combine a b with e | e <;> rw [e]
    · exact h
    · exact h.neg_head

/-! ## Coverage: after a call, `sd` is at most the sum difference of every feasible leaf below the node -/

open Anytime2 in
/-- Without a time limit, after a call on a non-empty node with enough fuel `sd` is at most the sum difference
    `|X|` of every feasible (`|M| ≤ d`) leaf `(X, M)` below the node.  (That the state stays coherent and `sd` never
    grows is `Anytime2.cbPart_mono`, for every clock.) -/
theorem cbPart_opt (n d : Nat) :
    ∀ fuel (st : CbState α) subs, subs.length ≤ fuel → subs ≠ [] → Coh st → OptOK st →
      ∀ X M, Comb (subs.map sig) X M → M.natAbs ≤ d → sdLE (cbPart n d none fuel st subs).sd (some X.natAbs) := by
  refine cbPart_induct n d none
    (fun fuel st subs out => subs.length ≤ fuel → subs ≠ [] → Coh st → OptOK st →
      ∀ X M, Comb (subs.map sig) X M → M.natAbs ≤ d → sdLE out.sd (some X.natAbs)) ?_ ?_ ?_ ?_ ?_ ?_
  · intro st subs hl hne
    cases subs with
    | nil => exact absurd rfl hne
    | cons _ _ => simp only [List.length_cons] at hl; omega
  · intro fuel st subs hstop _ _ _ hopt X M _ _ y _
    rw [stopNow_none_eq] at hstop
    exact ⟨0, hopt hstop, Nat.zero_le _⟩
  · intro fuel st _ _ hne; exact absurd rfl hne
  · intro fuel st p _ _ _ hcoh _ X M hC hM
    obtain ⟨hX, hM'⟩ := comb_single hC
    rw [hX, ← sumDiff_eq]
    exact (leaf_coh_mono d (tickSt st) p hcoh).2.2.2 (by rw [lenDiff_eq, ← hM']; exact hM)
  · intro fuel st subs _ _ hp _ _ _ _ X M hC hM y hy
    cases Option.some.inj hy
    rcases Bool.or_eq_true_iff.1 hp with hp | hp
    · cases hsd : st.sd with
      | none => rw [hsd] at hp; simp [sumPrune] at hp
      | some s =>
        rw [hsd] at hp
        exact ⟨s, hsd, sumPrune_sound hp hC⟩
    · have := cardPrune_sound hp hC
      omega
  · intro fuel st subs a b rest st1 st2 _ _ _ ho e1 e2 ih1 ih2 hl _ hcoh hopt X M hC hM
    have hperm : (a :: b :: rest).Perm subs := ho ▸ cbOrder_perm n subs
    have hlen := hperm.length_eq
    simp only [List.length_cons] at hlen
    have hfuel : ∀ c : Bins α, (rest ++ [c]).length ≤ fuel := fun c => by
      simp only [List.length_append, List.length_cons, List.length_nil]; omega
    -- the state between the two children is coherent, and the second child does not lose what the first found
    obtain ⟨c1, _, o1⟩ := cbPart_mono n d none fuel (tickSt st) (rest ++ [cbSplit a b]) hcoh
    obtain ⟨_, m2, _⟩ := cbPart_mono n d none fuel st1 (rest ++ [cbCombine a b]) (e1 ▸ c1)
    rw [← e1] at c1 o1
    rw [← e2] at m2
    have hC' : Comb (sig a :: sig b :: rest.map sig) X M := hC.perm (hperm.symm.map sig)
    rcases comb_children a b hC' with h | h
    · have h' : Comb ((rest ++ [cbSplit a b]).map sig) X M :=
        h.perm ((List.perm_append_singleton (cbSplit a b) rest).symm.map sig)
      exact sdLE_trans m2 (ih1 (hfuel _) (by simp) hcoh hopt X M h' hM)
    · have h' : Comb ((rest ++ [cbCombine a b]).map sig) X M :=
        h.perm ((List.perm_append_singleton (cbCombine a b) rest).symm.map sig)
      exact ih2 (hfuel _) (by simp) c1 (o1 hopt) X M h' hM

/-! ## The root: signed combinations are the sub-lists -/

/-- the pair attached to a single value at the root -/
def sigUnit (x : Nat) : Int × Int := ((x : Int), 1)

/-- at the root every sub-list `sub` of the values (against its complement) is a signed combination of the
    root's signatures -/
theorem comb_of_sublist {sub vals : List Nat} (h : sub.Sublist vals) :
    Comb (vals.map sigUnit) (2 * (sumL sub : Int) - (sumL vals : Int))
      (2 * (sub.length : Int) - (vals.length : Int)) := by
  induction h with
  | slnil => exact Comb.nil.cast (by simp [sumL]) (by simp)
  | cons a _ ih =>
    exact (Comb.neg (a : Int) 1 ih).cast (by simp only [sumL]; omega) (by simp only [List.length_cons]; omega)
  | cons_cons a _ ih =>
    exact (Comb.pos (a : Int) 1 ih).cast (by simp only [sumL]; omega) (by simp only [List.length_cons]; omega)

theorem init_sig (v : α → Nat) (l : List α) :
    (l.map fun x => (Bins.new 2).add v x 1).map sig = (l.map v).map sigUnit := by
  rw [List.map_map, List.map_map]
  refine List.map_congr_left (fun x _ => ?_)
  simp only [Function.comp, init_sub, sig, sigUnit, binSum, List.getD_cons_zero, List.getD_cons_succ,
    List.map_cons, List.map_nil, sumL, List.length_cons, List.length_nil]
  simp

/-- the specification's `optBalanced.absDiffN` and the model's `absDiff` are the same function, written twice -/
theorem absDiffN_eq_absDiff (a b : Nat) : optBalanced.absDiffN a b = absDiff a b := rfl

theorem absDiffN_two_mul (a b : Nat) :
    optBalanced.absDiffN (2 * a) b = (2 * (a : Int) - (b : Int)).natAbs := by
  rw [absDiffN_eq_absDiff, absDiff_eq, ← Int.natAbs_neg, Int.neg_sub, Int.natCast_mul]; rfl

theorem absDiffN_half (n : Nat) : optBalanced.absDiffN (2 * (n / 2)) n = n % 2 := by
  unfold optBalanced.absDiffN; split <;> omega

theorem absDiffN_double (a b : Nat) : optBalanced.absDiffN (2 * a) (a + b) = absDiff a b := by
  unfold optBalanced.absDiffN absDiff; split <;> split <;> omega

theorem absDiffN_mul (c a b : Nat) : optBalanced.absDiffN (c * a) (c * b) = c * optBalanced.absDiffN a b := by
  rcases Nat.eq_zero_or_pos c with rfl | hc
  · simp [optBalanced.absDiffN]
  · unfold optBalanced.absDiffN
    by_cases h : a ≤ b
    · rw [if_pos h, if_pos (Nat.mul_le_mul_left c h), Nat.mul_sub]
    · have h' : ¬ c * a ≤ c * b := fun hh => h (Nat.le_of_mul_le_mul_left hh hc)
      rw [if_neg h, if_neg h', Nat.mul_sub]

theorem absDiffN_le {a n d : Nat} (ha : a ≤ n) (hd : n ≤ d) : optBalanced.absDiffN (2 * a) n ≤ d := by
  unfold optBalanced.absDiffN; split <;> omega

/-- The result exists, obeys the bound and is at least as good as every sub-list (against its complement) that
    obeys the bound.  A bound of 0 is allowed when the number of items is even (with an odd number of items and
    bound 0 nothing is feasible and the model returns the placeholder).  The three results below use it with
    `1 ≤ dd` only: `cbldmValidate` refuses a smaller `partition_difference`. -/
theorem cbldm_core (v : α → Nat) (items : List α) (d : Option Nat) (hne : items ≠ [])
    (hd : ∀ dd, d = some dd → 1 ≤ dd ∨ items.length % 2 = 0) :
    ∃ b, cbldm v items d none = some b ∧ lenDiff b ≤ d.getD (items.length + 1) ∧
      ∀ sub : List Nat, sub.Sublist (items.map v) →
        optBalanced.absDiffN (2 * sub.length) items.length ≤ d.getD (items.length + 1) →
        sumDiff b ≤ optBalanced.absDiffN (2 * sumL sub) (sumL (items.map v)) := by
  have hsp := Part.sortDesc_perm v items
  have hlen : (sortDesc v items).length = items.length := hsp.length_eq
  have hpos : 1 ≤ items.length := List.length_pos_iff.2 hne
  let subs0 := (sortDesc v items).map fun x => (Bins.new 2).add v x 1
  let st0 : CbState α := { best := none, sd := none, opt := false, tick := 0 }
  let dd := d.getD ((sortDesc v items).length + 1)
  let out := cbPart (sortDesc v items).length dd none ((sortDesc v items).length + 1) st0 subs0
  have hrun : cbldm v items d none = out.best := rfl
  have hdd : dd = d.getD (items.length + 1) := by simp only [dd, hlen]
  have hsubs_len : subs0.length = (sortDesc v items).length := by simp only [subs0, List.length_map]
  have hsubs_ne : subs0 ≠ [] := List.ne_nil_of_length_pos (by rw [hsubs_len, hlen]; exact hpos)
  have hC := cbPart_opt (sortDesc v items).length dd ((sortDesc v items).length + 1) st0 subs0
    (by rw [hsubs_len]; omega) hsubs_ne rfl (fun h => by cases h)
  have hI : Anytime2.Coh out := (Anytime2.cbPart_mono _ dd none _ st0 subs0 rfl).1
  -- every admissible sub-list bounds the final `sd`
  have hcover : ∀ sub : List Nat, sub.Sublist (items.map v) →
      optBalanced.absDiffN (2 * sub.length) items.length ≤ dd →
      Anytime2.sdLE out.sd (some (optBalanced.absDiffN (2 * sumL sub) (sumL (items.map v)))) := by
    intro sub hsub hcard
    have h2 := (comb_of_sublist hsub).perm (((hsp.map v).symm).map sigUnit)
    rw [← init_sig] at h2
    rw [absDiffN_two_mul] at hcard ⊢
    simp only [List.length_map] at h2
    exact hC _ _ h2 hcard
  -- a feasible sub-list exists: the first half
  have hfeas : optBalanced.absDiffN (2 * ((items.map v).take (items.length / 2)).length) items.length ≤ dd := by
    rw [List.length_take, List.length_map, Nat.min_eq_left (Nat.div_le_self _ _), absDiffN_half]
    have h1 : 1 ≤ dd ∨ items.length % 2 = 0 := by
      cases d with
      | none => left; simp only [dd, Option.getD_none]; omega
      | some x => simp only [dd, Option.getD_some]; exact hd x rfl
    omega
  obtain ⟨t, ht, _⟩ := hcover _ (List.take_sublist _ _) hfeas _ rfl
  obtain ⟨b, hb, hbt⟩ := hI.best_of_sd ht
  refine ⟨b, hrun.trans hb, ?_, ?_⟩
  · rw [← hdd]
    exact (cbldm_best v items d none b (hrun.trans hb)).2
  · intro sub hsub hcard
    rw [← hdd] at hcard
    obtain ⟨t', ht', hle⟩ := hcover sub hsub hcard _ rfl
    rw [ht] at ht'
    cases ht'
    omega

/-! ## The main theorems (C12) -/

/-- C12 (and C01), never the placeholder: without a time limit, a non-empty input and a cardinality bound `≥ 1`
    (or none) always produce a partition. -/
theorem cbldm_some {v : α → Nat} {items : List α} {d : Option Nat} (hne : items ≠ [])
    (hd : ∀ dd, d = some dd → 1 ≤ dd) : ∃ b, cbldm v items d none = some b := by
  obtain ⟨b, hb, _⟩ := cbldm_core v items d hne (fun dd h => Or.inl (hd dd h))
  exact ⟨b, hb⟩

/-- non-vacuity: five items, cardinality bound 1 -/
example : ∃ b, cbldm (id : Nat → Nat) [4, 5, 6, 7, 8] (some 1) none = some b :=
  cbldm_some (by simp) (by intro dd h; cases h; exact Nat.le_refl 1)

/-- the two bins of a 2-partition, in terms of `optBalanced_spec`'s quantities -/
theorem partition_sublist {v : α → Nat} {items : List α} {b : Bins α} (h : IsPartition v items 2 b) :
    ∃ sub : List Nat, sub.Sublist (items.map v) ∧
      optBalanced.absDiffN (2 * sub.length) (items.map v).length = lenDiff b ∧
      optBalanced.absDiffN (2 * sumL sub) (sumL (items.map v)) = sumDiff b := by
  obtain ⟨sums, lists⟩ := b
  obtain ⟨hperm, hlen, hsums⟩ := h
  simp only at hperm hlen hsums
  match lists, hlen with
  | [l0, l1], _ =>
    simp only [List.flatten_cons, List.flatten_nil, List.append_nil] at hperm
    simp only [List.map_cons, List.map_nil] at hsums
    subst hsums
    obtain ⟨l0', hp0, hs0⟩ := List.exists_perm_sublist (List.sublist_append_left l0 l1) hperm
    refine ⟨l0'.map v, hs0.map v, ?_, ?_⟩
    · have e1 : (l0'.map v).length = l0.length := by rw [List.length_map]; exact hp0.length_eq
      have e2 : (items.map v).length = l0.length + l1.length := by
        rw [List.length_map, ← hperm.length_eq, List.length_append]
      rw [e1, e2]
      exact absDiffN_double _ _
    · have e1 : sumL (l0'.map v) = binSum v l0 := Part.sumL_perm (hp0.map v)
      have e2 : sumL (items.map v) = binSum v l0 + binSum v l1 := by
        rw [← Part.binSum_append]
        exact (Part.sumL_perm (hperm.map v)).symm
      rw [e1, e2]
      exact absDiffN_double _ _

/-- **Optimality** (C12): without a time limit, the sum difference of the result is the least one among all
    two-way partitions of the items whose cardinalities differ by at most the bound (`optBalanced`, see
    `Checkers.optBalanced_spec`; a bound `≥ n` never binds). -/
theorem cbldm_optimal {v : α → Nat} {items : List α} {d : Option Nat} {b : Bins α} (hne : items ≠ [])
    (hd : ∀ dd, d = some dd → 1 ≤ dd) (h : cbldm v items d none = some b) :
    optBalanced (d.getD (items.length + 1)) (items.map v) = some (sumDiff b) := by
  obtain ⟨b', hb', hcard, hmin⟩ := cbldm_core v items d hne (fun dd h => Or.inl (hd dd h))
  rw [h] at hb'
  cases hb'
  obtain ⟨sub, hsub, e1, e2⟩ := partition_sublist (cbldm_isPartition v items d none b h)
  refine Checkers.optBalanced_spec.2 ⟨⟨sub, hsub, ?_, e2⟩, ?_⟩
  · rw [e1]; exact hcard
  · intro sub' hsub' hc'
    rw [List.length_map] at hc'
    exact hmin sub' hsub' hc'

/-- non-vacuity: `[1, 1, 1, 1, 10]` with cardinality bound 1: the model returns `{1, 1, 1}` against `{10, 1}`
    (difference 8), and 8 is the balanced optimum although the unbalanced optimum is 6 -/
example : optBalanced 1 [1, 1, 1, 1, 10] = some 8 :=
  cbldm_optimal (v := (id : Nat → Nat)) (items := [1, 1, 1, 1, 10]) (d := some 1)
    (b := ⟨[3, 11], [[1, 1, 1], [10, 1]]⟩) (by simp) (by intro dd h; cases h; exact Nat.le_refl 1) (by rfl)

/-- non-vacuity, unbounded: `{1, 1, 1, 1}` against `{10}`, difference 6 -/
example : optBalanced 6 [1, 1, 1, 1, 10] = some 6 :=
  cbldm_optimal (v := (id : Nat → Nat)) (items := [1, 1, 1, 1, 10]) (d := none)
    (b := ⟨[4, 10], [[1, 1, 1, 1], [10]]⟩) (by simp) (by intro dd h; cases h) (by rfl)

/-- The same statement spelled out with sub-lists (no oracle): the result obeys the bound, and no sub-list of
    the values that obeys the bound does better against its complement. -/
theorem cbldm_optimal_sublist {v : α → Nat} {items : List α} {d : Option Nat} {b : Bins α} (hne : items ≠ [])
    (hd : ∀ dd, d = some dd → 1 ≤ dd) (h : cbldm v items d none = some b) :
    lenDiff b ≤ d.getD (items.length + 1) ∧
    ∀ sub : List Nat, sub.Sublist (items.map v) →
      optBalanced.absDiffN (2 * sub.length) items.length ≤ d.getD (items.length + 1) →
      sumDiff b ≤ optBalanced.absDiffN (2 * sumL sub) (sumL (items.map v)) := by
  obtain ⟨b', hb', hcard, hmin⟩ := cbldm_core v items d hne (fun dd h => Or.inl (hd dd h))
  rw [h] at hb'
  cases hb'
  exact ⟨hcard, hmin⟩

end Prtpy.CBLDMOpt
