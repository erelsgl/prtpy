/-
  PrtpyProofs.Obj — properties C20 (objectives compute their documented quantity) and C13a (the part of C13 about
  `objectives.py`: lower bounds are admissible and independent of the `sorted` flag); last, the order on the extended
  integers `EInt` of Prtpy/Objectives.lean in which the searches compare bounds with incumbents.
-/
import PrtpyProofs.Basic

namespace Prtpy.Obj
open Prtpy Prtpy.Part

/-! ## `sumL`, `minL`, `maxL`

The base facts of this namespace (`Obj.sumL_cons`, `Obj.maxL_cons`, `Obj.minL_singleton`, `Obj.minL_le_maxL`,
`Obj.headD_eq_minL`, `Obj.lastD_eq_maxL`, …) are in Basic.lean. -/

/-! the four facts registered for C20, under its names; they restate `Part.minL_le`, `Part.le_maxL`, `Part.minL_mem`,
    `Part.maxL_mem` of Basic.lean, which the proof files cite -/

theorem minL_le {sums : List Nat} {s : Nat} (hs : s ∈ sums) : minL sums ≤ s := Part.minL_le hs

theorem le_maxL {sums : List Nat} {s : Nat} (hs : s ∈ sums) : s ≤ maxL sums := Part.le_maxL hs

theorem minL_mem {sums : List Nat} (h : sums ≠ []) : minL sums ∈ sums := Part.minL_mem h

theorem maxL_mem {sums : List Nat} (h : sums ≠ []) : maxL sums ∈ sums := Part.maxL_mem h

theorem minL_le_and_le_maxL {sums : List Nat} :
    (∀ s ∈ sums, minL sums ≤ s ∧ s ≤ maxL sums) ∧
    (sums ≠ [] → minL sums ∈ sums ∧ maxL sums ∈ sums) :=
  ⟨fun _ hs => ⟨minL_le hs, le_maxL hs⟩, fun h => ⟨minL_mem h, maxL_mem h⟩⟩

theorem minL_eq_iff {sums : List Nat} (h : sums ≠ []) (m : Nat) :
    minL sums = m ↔ m ∈ sums ∧ ∀ s ∈ sums, m ≤ s := by
  constructor
  · rintro rfl; exact ⟨minL_mem h, fun _ hs => minL_le hs⟩
  · rintro ⟨hm, hle⟩
    exact Nat.le_antisymm (minL_le hm) (hle _ (minL_mem h))

theorem maxL_eq_iff {sums : List Nat} (h : sums ≠ []) (m : Nat) :
    maxL sums = m ↔ m ∈ sums ∧ ∀ s ∈ sums, s ≤ m := by
  constructor
  · rintro rfl; exact ⟨maxL_mem h, fun _ hs => le_maxL hs⟩
  · rintro ⟨hm, hle⟩
    exact Nat.le_antisymm (hle _ (maxL_mem h)) (le_maxL hm)

/-! ## C20: objectives compute their documented quantity -/

/-
  Remark on the side conditions `sums ≠ []`, `1 ≤ k` of `value_eq_doc`, `value_sorted_fast`: they delimit the
  range on which the *model* was validated against Python (`sorted_sums[-0:]` is the whole list in
  Python, `lastK 0 l = []` in the model; `min([])` raises).  Inside the model the theorems below hold
  without them: see the general forms `*_gen`.
-/

/-- The model takes the `k` largest as `s[len-k:]`, the documentation as the first `k` of the
    reversed sorted list: same elements, so same sum (for every `k`, also `k = 0`, `k > len`). -/
theorem sumL_lastK_eq (k : Nat) (s : List Nat) : sumL (lastK k s) = sumL (s.reverse.take k) := by
  rw [List.take_reverse, sumL_perm (List.reverse_perm _)]; rfl

theorem lastK_eq_reverse_take (k : Nat) (s : List Nat) : lastK k s = (s.reverse.take k).reverse := by
  rw [List.take_reverse, List.reverse_reverse]; rfl

/-- C20, general form: no side condition is needed in the model. -/
theorem value_eq_doc_gen (o : Objective) (sums : List Nat) : o.value sums false = o.doc sums := by
  cases o with
  | maxSmallest => rfl
  | maxKSmallest k => rfl
  | minLargest => rfl
  | minKLargest k =>
    simp only [Objective.value, Objective.doc, Bool.false_eq_true, if_false]
    rw [sumL_lastK_eq]
  | minDiff => rfl

/-- C20, on the range where model and Python were compared. -/
theorem value_eq_doc {o : Objective} {sums : List Nat} (_h : sums ≠ [])
    (_hk : match o with | .maxKSmallest k | .minKLargest k => 1 ≤ k | _ => True) :
    o.value sums false = o.doc sums :=
  value_eq_doc_gen o sums

example : (Objective.minKLargest 2).value [5, 1, 4, 2] false = (Objective.minKLargest 2).doc [5, 1, 4, 2] :=
  value_eq_doc (by decide) (by decide)
example : (Objective.minKLargest 2).doc [5, 1, 4, 2] = 9 := by decide
example : (Objective.maxKSmallest 7).value [5, 1, 4, 2] false = -12 := by decide

/-- the unsorted path does not depend on the order of the sums (C20's name for `Part.value_eq_of_perm`, which the proof
    files cite) -/
theorem value_perm {o : Objective} {sums₁ sums₂ : List Nat} (hp : sums₁.Perm sums₂) :
    o.value sums₁ false = o.value sums₂ false := value_eq_of_perm o hp

example : (Objective.minDiff).value [3, 9, 4] false = (Objective.minDiff).value [9, 4, 3] false :=
  value_perm (by decide)

theorem doc_perm {o : Objective} {sums₁ sums₂ : List Nat} (hp : sums₁.Perm sums₂) :
    o.doc sums₁ = o.doc sums₂ := by
  rw [← value_eq_doc_gen, ← value_eq_doc_gen]; exact value_perm hp

/-- the fast path (`sorted = true`) agrees whenever the sums really are sorted -/
theorem value_sorted_fast_gen (o : Objective) {sums : List Nat} (hs : SortedAsc sums) :
    o.value sums true = o.value sums false := by
  cases o <;>
    simp only [Objective.value, Bool.false_eq_true, if_false, if_true, headD_eq_minL hs, lastD_eq_maxL hs,
      sortAsc_eq_self hs]

/-- C20: `value_sorted_fast_gen` with the side conditions of `value_eq_doc` -/
theorem value_sorted_fast {o : Objective} {sums : List Nat} (hs : SortedAsc sums) (_h : sums ≠ [])
    (_hk : match o with | .maxKSmallest k | .minKLargest k => 1 ≤ k | _ => True) :
    o.value sums true = o.value sums false :=
  value_sorted_fast_gen o hs

example : (Objective.minKLargest 2).value [1, 2, 4, 5] true = (Objective.minKLargest 2).value [1, 2, 4, 5] false :=
  value_sorted_fast (by simp [SortedAsc]) (by decide) (by decide)

/-- the hypothesis `SortedAsc` cannot be dropped: on unsorted input the fast path is wrong -/
example : (Objective.maxSmallest).value [3, 1] true ≠ (Objective.maxSmallest).value [3, 1] false := by
  decide

theorem value_sorted_eq_doc (o : Objective) {sums : List Nat} (hs : SortedAsc sums) :
    o.value sums true = o.doc sums := by
  rw [value_sorted_fast_gen o hs, value_eq_doc_gen]

/-! ### the documented quantities, spelled out -/

theorem doc_maxSmallest (sums : List Nat) : Objective.maxSmallest.doc sums = -(minL sums : Int) := rfl
theorem doc_minLargest (sums : List Nat) : Objective.minLargest.doc sums = (maxL sums : Int) := rfl
theorem doc_minDiff (sums : List Nat) :
    Objective.minDiff.doc sums = (maxL sums : Int) - (minL sums : Int) := rfl

/-- In a list ordered by `r` (reflexive, transitive, compatible with `+`), the sum of the first `|t|` entries is
    `r`-related to the sum of every sublist `t`: each entry of `t` is matched with an earlier entry of the list. -/
theorem sumL_take_rel_of_sublist (r : Nat → Nat → Prop) (hr : ∀ a, r a a)
    (htr : ∀ {a b c}, r a b → r b c → r a c)
    (hadd : ∀ {a b c d}, r a b → r c d → r (a + c) (b + d)) {s t : List Nat}
    (hs : s.Pairwise r) (ht : t.Sublist s) : r (sumL (s.take t.length)) (sumL t) := by
  induction ht with
  | slnil => exact hr _
  | @cons t s' a hsub ih =>
    have ha := List.pairwise_cons.1 hs
    have ih := ih ha.2
    cases t with
    | nil => exact hr _
    | cons b t' =>
      have hn : t'.length < s'.length := hsub.length_le
      have e : sumL (List.take (t'.length + 1) s') = s'[t'.length] + sumL (List.take t'.length s') := by
        rw [← List.take_append_getElem hn, sumL_append]; simp [sumL]; omega
      simp only [List.length_cons, List.take_succ_cons, sumL_cons] at ih ⊢
      rw [e] at ih
      exact htr (hadd (ha.1 _ (List.getElem_mem hn)) (hr _)) ih
  | @cons_cons t' s' a hsub ih =>
    simp only [List.length_cons, List.take_succ_cons, sumL_cons]
    exact hadd (hr a) (ih (List.pairwise_cons.1 hs).2)

theorem sumL_take_le_of_sublist {s t : List Nat} (hs : SortedAsc s) (ht : t.Sublist s) :
    sumL (s.take t.length) ≤ sumL t :=
  sumL_take_rel_of_sublist (· ≤ ·) Nat.le_refl Nat.le_trans Nat.add_le_add hs ht

theorem sumL_le_take_of_sublist {s t : List Nat} (hs : s.Pairwise (· ≥ ·)) (ht : t.Sublist s) :
    sumL t ≤ sumL (s.take t.length) :=
  sumL_take_rel_of_sublist (· ≥ ·) Nat.le_refl (fun h1 h2 => Nat.le_trans h2 h1) Nat.add_le_add hs ht

/-- Meaning of the `k`-smallest objective: `-doc` is at most the sum of any `k` of the bin sums
    (`t` is any selection of `k` entries of `sums`), … -/
theorem doc_kSmallest_le {sums t : List Nat} {k : Nat} (ht : t.Sublist sums) (hk : t.length = k) :
    -(Objective.maxKSmallest k).doc sums ≤ (sumL t : Int) := by
  obtain ⟨l', hl', hsub⟩ := List.exists_perm_sublist ht (sortAsc_perm id sums).symm
  have h := sumL_take_le_of_sublist (Part.sortAsc_sorted id sums) hsub
  have e1 : l'.length = k := by rw [hl'.length_eq, hk]
  have e2 : sumL l' = sumL t := sumL_perm hl'
  rw [e1, e2] at h
  simp only [Objective.doc, Int.neg_neg]
  exact Int.ofNat_le.2 h

/-- … and it is attained by some `min k n` of them: so it is the sum of the `k` smallest sums. -/
theorem doc_kSmallest_attained (sums : List Nat) (k : Nat) :
    ∃ t : List Nat, t.Sublist sums ∧ t.length = min k sums.length ∧
      -(Objective.maxKSmallest k).doc sums = (sumL t : Int) := by
  obtain ⟨t, htp, hts⟩ :=
    List.exists_perm_sublist (List.take_sublist k (sortAsc id sums)) (sortAsc_perm id sums)
  refine ⟨t, hts, ?_, ?_⟩
  · rw [htp.length_eq, List.length_take, (sortAsc_perm id sums).length_eq]
  · simp only [Objective.doc, Int.neg_neg, sumL_perm htp]

/-- Meaning of the `k`-largest objective: `doc` is at least the sum of any `k` of the bin sums, … -/
theorem doc_kLargest_ge {sums t : List Nat} {k : Nat} (ht : t.Sublist sums) (hk : t.length = k) :
    (sumL t : Int) ≤ (Objective.minKLargest k).doc sums := by
  have hp : (sortAsc id sums).reverse.Perm sums :=
    (List.reverse_perm _).trans (sortAsc_perm id sums)
  obtain ⟨l', hl', hsub⟩ := List.exists_perm_sublist ht hp.symm
  have hdesc : (sortAsc id sums).reverse.Pairwise (· ≥ ·) := by
    rw [List.pairwise_reverse]; exact Part.sortAsc_sorted id sums
  have h := sumL_le_take_of_sublist hdesc hsub
  have e1 : l'.length = k := by rw [hl'.length_eq, hk]
  have e2 : sumL l' = sumL t := sumL_perm hl'
  rw [e1, e2] at h
  simp only [Objective.doc]
  exact Int.ofNat_le.2 h

/-- … and it is attained: so it is the sum of the `k` largest sums. -/
theorem doc_kLargest_attained (sums : List Nat) (k : Nat) :
    ∃ t : List Nat, t.Sublist sums ∧ t.length = min k sums.length ∧
      (Objective.minKLargest k).doc sums = (sumL t : Int) := by
  have hp : (sortAsc id sums).reverse.Perm sums :=
    (List.reverse_perm _).trans (sortAsc_perm id sums)
  obtain ⟨t, htp, hts⟩ :=
    List.exists_perm_sublist (List.take_sublist k (sortAsc id sums).reverse) hp
  refine ⟨t, hts, ?_, ?_⟩
  · rw [htp.length_eq, List.length_take, List.length_reverse, (sortAsc_perm id sums).length_eq]
  · simp only [Objective.doc, sumL_perm htp]

example : -(Objective.maxKSmallest 2).doc [5, 1, 4, 2] ≤ (sumL [1, 4] : Int) :=
  doc_kSmallest_le (by decide) rfl
example : (sumL [1, 4] : Int) ≤ (Objective.minKLargest 2).doc [5, 1, 4, 2] :=
  doc_kLargest_ge (by decide) rfl

/-! ### the weighted objective -/

theorem minRat_cons_cons (x y : Rat) (ys : List Rat) :
    minRat (x :: y :: ys) = if x ≤ minRat (y :: ys) then x else minRat (y :: ys) := rfl

/-- `minRat` is core's `List.min?` (0 on the empty list) -/
theorem minRat_eq_min? (l : List Rat) : minRat l = l.min?.getD 0 := by
  induction l with
  | nil => rfl
  | cons x xs ih =>
    cases xs with
    | nil => rfl
    | cons y ys =>
      rw [minRat_cons_cons, ih, List.min?_cons (x := x)]
      simp only [List.min?_cons (x := y), Option.getD_some, Option.elim_some]
      rfl

/-- `minRat` returns an entry of the list that is `≤` every entry. -/
theorem minRat_spec {l : List Rat} (h : l ≠ []) :
    ∃ i, ∃ hi : i < l.length, minRat l = l[i] ∧ ∀ j (hj : j < l.length), l[i] ≤ l[j] := by
  cases hm : l.min? with
  | none => exact absurd (List.min?_eq_none_iff.1 hm) h
  | some m =>
    obtain ⟨hmem, hle⟩ := List.min?_eq_some_iff.1 hm
    obtain ⟨i, hi, e⟩ := List.getElem_of_mem hmem
    exact ⟨i, hi, by rw [minRat_eq_min?, hm, e]; rfl, fun j hj => e ▸ hle _ (List.getElem_mem hj)⟩

/-- The weighted objective is minus the smallest weight-normalised sum.
    (Positivity of the weights is not needed for this; it is what makes the quotient meaningful.) -/
theorem weighted_def {weights : List Rat} {sums : List Nat}
    (hlen : weights.length = sums.length) (h : sums ≠ []) (_hpos : ∀ w ∈ weights, 0 < w) :
    ∃ i, ∃ hi : i < sums.length, ∃ hw : i < weights.length,
      weightedValue weights sums = -((sums[i] : Rat) / weights[i]) ∧
      ∀ j (hj : j < sums.length) (hj' : j < weights.length),
        (sums[i] : Rat) / weights[i] ≤ (sums[j] : Rat) / weights[j] := by
  have hzlen : (List.zipWith (fun (s : Nat) (w : Rat) => (s : Rat) / w) sums weights).length
      = sums.length := by
    rw [List.length_zipWith, hlen, Nat.min_self]
  have hne : List.zipWith (fun (s : Nat) (w : Rat) => (s : Rat) / w) sums weights ≠ [] := by
    intro he
    rw [he] at hzlen
    exact h (List.eq_nil_of_length_eq_zero hzlen.symm)
  obtain ⟨i, hi, hmin, hle⟩ := minRat_spec hne
  have hi' : i < sums.length := hzlen ▸ hi
  refine ⟨i, hi', hlen ▸ hi', ?_, ?_⟩
  · unfold weightedValue
    rw [hmin, List.getElem_zipWith]
  · intro j hj hj'
    have := hle j (hzlen ▸ hj)
    rw [List.getElem_zipWith, List.getElem_zipWith] at this
    exact this

example : weightedValue [2, 1, 4] [6, 5, 8] = -2 := by decide +kernel
example := weighted_def (weights := [2, 1, 4]) (sums := [6, 5, 8]) rfl (by decide) (by decide)

/-! ## C13a: lower bounds are admissible -/

theorem sumL_zipWith_add {a b : List Nat} (h : b.length = a.length) :
    sumL (List.zipWith (· + ·) a b) = sumL a + sumL b := by
  induction a generalizing b with
  | nil => cases b with
    | nil => rfl
    | cons _ _ => simp at h
  | cons x a ih =>
    cases b with
    | nil => simp at h
    | cons y b =>
      have := ih (b := b) (by simpa using h)
      simp only [List.zipWith_cons_cons, sumL_cons, this]
      omega

theorem minL_mul_le_sumL_take (l : List Nat) {m : Nat} (hm : m ≤ l.length) :
    minL l * m ≤ sumL (l.take m) := by
  have := length_mul_le (minL l) (l.take m) (fun x hx => minL_le (List.mem_of_mem_take hx))
  rwa [List.length_take, Nat.min_eq_left hm, Nat.mul_comm] at this

theorem maxL_le_maxL_zipWith {a b : List Nat} (h : b.length = a.length) :
    maxL a ≤ maxL (List.zipWith (· + ·) a b) := by
  induction a generalizing b with
  | nil => simp
  | cons x a ih =>
    cases b with
    | nil => simp at h
    | cons y b =>
      have := ih (b := b) (by simpa using h)
      simp only [List.zipWith_cons_cons, maxL_cons]
      omega

theorem zipWith_modify_add (s adds : List Nat) (i w : Nat) :
    List.zipWith (· + ·) (s.modify i (· + w)) adds = List.zipWith (· + ·) s (adds.modify i (· + w)) := by
  apply List.ext_getElem
  · simp
  · intro n h1 h2
    simp only [List.getElem_zipWith, List.getElem_modify]
    split <;> omega

theorem minL_zipWith_le (s adds : List Nat) (h : adds.length = s.length) :
    minL (List.zipWith (· + ·) s adds) ≤ minL s + sumL adds := by
  by_cases hs : s = []
  · subst hs; simp
  · obtain ⟨j, hj, hje⟩ := List.mem_iff_getElem.1 (minL_mem hs)
    have hj' : j < (List.zipWith (· + ·) s adds).length := by
      rw [List.length_zipWith, h, Nat.min_self]; exact hj
    have h1 := minL_le (List.getElem_mem hj')
    rw [List.getElem_zipWith] at h1
    have h2 : adds[j]'(by omega) ≤ sumL adds := Part.le_sumL_of_mem (List.getElem_mem _)
    omega

/-- A permutation of the bins can be lifted to the additions: the multiset of final sums is the same. -/
theorem exists_adds_of_perm {s sums : List Nat} (hp : sums.Perm s) :
    ∀ adds : List Nat, adds.length = sums.length →
      ∃ adds' : List Nat, adds'.length = s.length ∧ sumL adds' = sumL adds ∧
        (List.zipWith (· + ·) s adds').Perm (List.zipWith (· + ·) sums adds) := by
  induction hp with
  | nil =>
    intro adds h
    exact ⟨adds, h, rfl, List.Perm.refl _⟩
  | @cons x l₁ l₂ _ ih =>
    intro adds h
    cases adds with
    | nil => simp at h
    | cons a adds =>
      obtain ⟨adds', h1, h2, h3⟩ := ih adds (by simpa using h)
      refine ⟨a :: adds', by simpa using h1, by simp [h2], ?_⟩
      simp only [List.zipWith_cons_cons]
      exact List.Perm.cons _ h3
  | swap x y l =>
    intro adds h
    match adds, h with
    | a :: b :: adds, h =>
      refine ⟨b :: a :: adds, by simpa using h, by simp; omega, ?_⟩
      simp only [List.zipWith_cons_cons]
      exact List.Perm.swap _ _ _
  | trans _ _ ih₁ ih₂ =>
    intro adds h
    obtain ⟨adds₁, h1, h2, h3⟩ := ih₁ adds h
    obtain ⟨adds₂, h1', h2', h3'⟩ := ih₂ adds₁ h1
    exact ⟨adds₂, h1', h2'.trans h2, h3'.trans h3⟩

/-- what the loop of Robin's algorithm returns: the floor of
    (running total + the next `t` sums) / (counter + `t`) for some stopping point `t` -/
theorem lbMaxMinLoop_spec (rest : List Nat) (i run : Nat) :
    ∃ t, t ≤ rest.length ∧ lbMaxMinLoop rest i run = (run + sumL (rest.take t)) / (i + t) := by
  induction rest generalizing i run with
  | nil => exact ⟨0, Nat.le_refl _, by simp [lbMaxMinLoop]⟩
  | cons s rest ih =>
    simp only [lbMaxMinLoop]
    split
    · exact ⟨0, Nat.zero_le _, by simp⟩
    · obtain ⟨t, ht, he⟩ := ih (i + 1) (run + s)
      refine ⟨t + 1, by simpa using ht, ?_⟩
      rw [he, List.take_succ_cons, sumL_cons]
      congr 1 <;> omega

/-- `lbMaxMinAbs` is `(rem + sum of the m smallest sums) / m` for some `1 ≤ m ≤ n`. -/
theorem lbMaxMinAbs_spec {sums : List Nat} (h : sums ≠ []) (rem : Nat) (sorted : Bool) :
    ∃ m, 1 ≤ m ∧ m ≤ sums.length ∧
      lbMaxMinAbs sums rem sorted =
        (rem + sumL ((if sorted then sums else sortAsc id sums).take m)) / m := by
  have hlen : (if sorted then sums else sortAsc id sums).length = sums.length := by
    split
    · rfl
    · exact (sortAsc_perm id sums).length_eq
  unfold lbMaxMinAbs
  generalize (if sorted = true then sums else sortAsc id sums) = s at hlen ⊢
  cases s with
  | nil =>
    exfalso; apply h; apply List.eq_nil_of_length_eq_zero; rw [← hlen]; rfl
  | cons s0 rest =>
    obtain ⟨t, ht, he⟩ := lbMaxMinLoop_spec rest 1 (rem + s0)
    refine ⟨t + 1, by omega, by rw [← hlen]; simpa using ht, ?_⟩
    simp only [he, List.take_succ_cons, sumL_cons]
    congr 1 <;> omega

/-- core of the admissibility argument, for the list `s` the loop actually runs on: the smallest final sum is at
    most the average of the first `m` final sums, and these receive at most `sumL adds` in total -/
theorem minL_zipWith_le_div {s adds : List Nat} {m : Nat} (hm1 : 1 ≤ m) (hm : m ≤ s.length)
    (hlen : adds.length = s.length) :
    minL (List.zipWith (· + ·) s adds) ≤ (sumL adds + sumL (s.take m)) / m := by
  rw [Nat.le_div_iff_mul_le (by omega)]
  have hfl : (List.zipWith (· + ·) s adds).length = s.length := by
    rw [List.length_zipWith, hlen, Nat.min_self]
  have h1 := minL_mul_le_sumL_take (List.zipWith (· + ·) s adds) (m := m) (by omega)
  rw [List.take_zipWith, sumL_zipWith_add (by simp [hlen])] at h1
  have h3 := sumL_take_le adds m
  omega

/-- C13a, max-min: Robin's bound is at least the smallest final sum, however the remaining
    total `rem` is distributed over the bins.  (Holds for either value of the flag, and even when
    the flag is `true` but the sums are not sorted.) -/
theorem lbMaxMin_admissible {sums adds : List Nat} {rem : Nat}
    (hlen : adds.length = sums.length) (hsum : sumL adds = rem) (h : sums ≠ []) (sorted : Bool) :
    lbMaxMinAbs sums rem sorted ≥ minL (List.zipWith (· + ·) sums adds) := by
  obtain ⟨m, hm1, hm, he⟩ := lbMaxMinAbs_spec h rem sorted
  have hp : sums.Perm (if sorted then sums else sortAsc id sums) := by
    split
    · exact List.Perm.refl _
    · exact (sortAsc_perm id sums).symm
  rw [he]
  generalize (if sorted = true then sums else sortAsc id sums) = s at hp ⊢
  obtain ⟨adds', h1, h2, h3⟩ := exists_adds_of_perm hp adds hlen
  rw [← minL_eq_of_perm h3, ← hsum, ← h2]
  exact minL_zipWith_le_div hm1 (by rw [← hp.length_eq]; exact hm) h1

/-- C13a, min-max: the bound is at most the largest final sum. -/
theorem lbMinMax_admissible {sums adds : List Nat} {rem : Nat}
    (hlen : adds.length = sums.length) (hsum : sumL adds = rem) (h : sums ≠ []) (sorted : Bool) :
    lbMinMax sums rem sorted ≤ maxL (List.zipWith (· + ·) sums adds) := by
  have hn : 0 < sums.length := List.length_pos_iff.2 h
  have hfl : (List.zipWith (· + ·) sums adds).length = sums.length := by
    rw [List.length_zipWith, hlen, Nat.min_self]
  unfold lbMinMax
  apply Nat.max_le.2
  constructor
  · have h1 : (if sorted = true then lastD sums 0 else maxL sums) ≤ maxL sums := by
      split
      · exact lastD_le_maxL sums
      · exact Nat.le_refl _
    exact Nat.le_trans h1 (maxL_le_maxL_zipWith hlen)
  · have h1 := Part.sumL_le_length_mul (List.zipWith (· + ·) sums adds)
      (maxL (List.zipWith (· + ·) sums adds)) 0 (fun x hx => le_maxL hx)
    rw [hfl, sumL_zipWith_add hlen, hsum] at h1
    apply Nat.le_of_lt_succ
    rw [Nat.div_lt_iff_lt_mul hn, Nat.succ_mul, Nat.mul_comm]
    omega

example : lbMaxMinAbs [8, 1, 3] 7 false ≥ minL (List.zipWith (· + ·) [8, 1, 3] [0, 5, 2]) :=
  lbMaxMin_admissible (sums := [8, 1, 3]) (adds := [0, 5, 2]) rfl rfl (by decide) false
example : lbMaxMinAbs [8, 1, 3] 7 false = 5 ∧ minL (List.zipWith (· + ·) [8, 1, 3] [0, 5, 2]) = 5 := by
  decide
example : lbMinMax [8, 1, 3] 7 false ≤ maxL (List.zipWith (· + ·) [8, 1, 3] [0, 5, 2]) :=
  lbMinMax_admissible (sums := [8, 1, 3]) (adds := [0, 5, 2]) rfl rfl (by decide) false
example : lbMinMax [8, 1, 3] 7 false = 8 ∧ lbMinMax [2, 1, 3] 7 false = 5 := by decide

/-- C13a for all five objectives, without the sortedness hypothesis. -/
theorem lb_admissible_gen (o : Objective) {sums adds : List Nat} {rem : Nat}
    (hlen : adds.length = sums.length) (hsum : sumL adds = rem) (h : sums ≠ []) (sorted : Bool) :
    EInt.le (o.lowerBound sums rem sorted)
      (.fin (o.value (List.zipWith (· + ·) sums adds) false)) = true := by
  have h1 := lbMaxMin_admissible hlen hsum h sorted
  have h2 := lbMinMax_admissible hlen hsum h sorted
  cases o <;>
    simp only [Objective.lowerBound, Objective.value, EInt.le, Bool.false_eq_true, if_false,
      decide_eq_true_eq] <;>
    omega

/-- C13a; the sortedness hypothesis is not needed: see `lb_admissible_gen`. -/
theorem lb_admissible {o : Objective} {sums adds : List Nat} {rem : Nat}
    (hlen : adds.length = sums.length) (hsum : sumL adds = rem) (h : sums ≠ []) (sorted : Bool)
    (_hs : sorted = true → SortedAsc sums) :
    EInt.le (o.lowerBound sums rem sorted)
      (.fin (o.value (List.zipWith (· + ·) sums adds) false)) = true :=
  lb_admissible_gen o hlen hsum h sorted

example : EInt.le (Objective.minDiff.lowerBound [1, 3, 8] 7 true)
    (.fin (Objective.minDiff.value (List.zipWith (· + ·) [1, 3, 8] [5, 2, 0]) false)) = true :=
  lb_admissible (o := .minDiff) (sums := [1, 3, 8]) (adds := [5, 2, 0]) rfl rfl (by decide) true (fun _ => by unfold SortedAsc; decide)
example : Objective.minDiff.lowerBound [1, 3, 8] 7 true = .fin 3 := by decide
example : Objective.maxSmallest.lowerBound [8, 1, 3] 7 false = .fin (-5) := by decide

/-! ### independence of the `sorted` flag -/

theorem lbMaxMinAbs_sorted_flag (sums : List Nat) (rem : Nat) :
    lbMaxMinAbs (sortAsc id sums) rem true = lbMaxMinAbs sums rem false := by
  simp only [lbMaxMinAbs, if_true, Bool.false_eq_true, if_false]

theorem lbMinMax_sorted_flag (sums : List Nat) (rem : Nat) :
    lbMinMax (sortAsc id sums) rem true = lbMinMax sums rem false := by
  simp only [lbMinMax, if_true, Bool.false_eq_true, if_false]
  rw [lastD_eq_maxL (Part.sortAsc_sorted id sums), maxL_eq_of_perm (sortAsc_perm id sums),
    sumL_perm (sortAsc_perm id sums), (sortAsc_perm id sums).length_eq]

/-- sorting first and using the fast path gives the same bound as the slow path -/
theorem lb_sorted_flag (o : Objective) (sums : List Nat) (rem : Nat) :
    o.lowerBound (sortAsc id sums) rem true = o.lowerBound sums rem false := by
  cases o <;> simp only [Objective.lowerBound, lbMaxMinAbs_sorted_flag, lbMinMax_sorted_flag]

theorem lb_flag_irrelevant (o : Objective) {sums : List Nat} (hs : SortedAsc sums) (rem : Nat) :
    o.lowerBound sums rem true = o.lowerBound sums rem false := by
  have := lb_sorted_flag o sums rem
  rwa [sortAsc_eq_self hs] at this

example : Objective.minDiff.lowerBound (sortAsc id [8, 1, 3]) 7 true
    = Objective.minDiff.lowerBound [8, 1, 3] 7 false := lb_sorted_flag _ _ _

end Prtpy.Obj

/-! ## the order on `EInt`
  (`Prtpy/Objectives.lean`; in the namespace `CGOpt`, under which CGValid, CGOpt, CKKOpt, CKKGenComplete and Anytime2
  use these lemmas) -/

namespace Prtpy.CGOpt

theorem ele_refl (a : EInt) : EInt.le a a = true := by
  cases a <;> simp [EInt.le]

theorem ele_trans {a b c : EInt} (h1 : EInt.le a b = true) (h2 : EInt.le b c = true) :
    EInt.le a c = true := by
  cases a <;> cases b <;> cases c <;> simp_all [EInt.le] <;> omega

theorem ele_of_lt {a b : EInt} (h : EInt.lt a b = true) : EInt.le a b = true := by
  cases a <;> cases b <;> simp_all [EInt.le, EInt.lt] <;> omega

theorem ele_of_not_lt {a b : EInt} (h : EInt.lt a b = false) : EInt.le b a = true := by
  simpa [EInt.lt] using h

theorem ele_fin {a b : Int} : EInt.le (.fin a) (.fin b) = true ↔ a ≤ b := by
  simp [EInt.le]

theorem elt_fin {a b : Int} : EInt.lt (.fin a) (.fin b) = true ↔ a < b := by
  simp [EInt.lt, EInt.le]

theorem ele_negInf (a : EInt) : EInt.le .negInf a = true := by
  cases a <;> rfl

theorem not_posInf_le_fin (x : Int) : EInt.le .posInf (.fin x) = false := rfl

theorem posInf_le_false {y : EInt} (h : y ≠ .posInf) : EInt.le .posInf y = false := by
  cases y with
  | negInf => rfl
  | fin _ => rfl
  | posInf => exact absurd rfl h

end Prtpy.CGOpt
