/-
  The layer between `Prtpy/Spec.lean` and the ratio theorems: a feasible solution as a list of bins whose flattening is a
  permutation of the items (`Part.SplitInto P k vals` of Basic.lean, for a property `P` of a bin).
  Packing and min-max: `Packable T k vals` of `Prtpy/Spec.lean` is the case `P l := sumL l ≤ T` (`packable_iff_splitInto`,
  at the end of Oracle.lean so that Checkers and bin completion have it too); here are its closure properties
  (permutation, sorting, larger capacity, removing items, a smaller item) and `packable_of_opt` for an optimum.
  Max-min: `Covers W k vals`, defined here, is the case `P l := W ≤ sumL l` (all values in `k` bins of at least `W`, no
  leftover — not `Coverable` of `Prtpy/Spec.lean`), with `cover_of_opt` for an optimum.
  The optimum's side of a weighting argument: if every bin that fits weighs at most `c` (plus a slack), the items weigh
  at most `m * c` (plus the slack) (`packable_weight_le_add_map`; for a given list of bins `weight_lt_of_bins`,
  `weight_le_of_bins_min` beside `Part.SplitInto.le_weight` of Basic.lean).  `large_fits` is the counting statement for
  items above a third of the capacity that LPT43, FFD and KK43 share; `run_opened` is `Fit.Run.opened` on a sorted input
  that fits, as FFD, FFD119 and MultiFit122 use it.  Neither this file nor its imports use Mathlib.
  The declarations keep the namespace `Prtpy.LPT43`, under which the whole development refers to them (so `LPT43.x` may
  be in this file, in LPT43.lean, or — `packable_partition`, `packable_item_le` — at the end of Oracle.lean).
-/
import PrtpyProofs.Fit
import PrtpyProofs.Oracle
open Prtpy

namespace Prtpy.LPT43

variable {α : Type}

/-! ## Small facts on lists of numbers -/

theorem length_mul_minL_le (s : List Nat) : s.length * minL s ≤ sumL s := by
  exact Part.length_mul_le (minL s) s fun _ ha => Part.minL_le ha

theorem flatten_length_le {β : Type} (Ls : List (List β)) (h : ∀ l ∈ Ls, l.length ≤ 1) :
    Ls.flatten.length ≤ Ls.length := by
  simpa using Part.length_flatten_le h

theorem length_le_flatten_length {β : Type} (L : List (List β)) (h : ∀ l ∈ L, l ≠ []) :
    L.length ≤ L.flatten.length := by
  simpa using Part.le_length_flatten (c := 1) fun l hl => List.length_pos_iff.2 (h l hl)

/-- pigeonhole: fewer items than bins leaves a bin empty -/
theorem nil_mem_of_flatten_lt {β : Type} (Ls : List (List β)) (h : Ls.flatten.length < Ls.length) :
    [] ∈ Ls := by
  apply Classical.byContradiction
  intro hn
  have := length_le_flatten_length Ls fun l hl e => hn (e ▸ hl)
  omega

theorem le1_of_flatten_le {β : Type} : ∀ (L : List (List β)), (∀ l ∈ L, l ≠ []) →
    L.flatten.length ≤ L.length → ∀ l ∈ L, l.length ≤ 1
  | [], _, _ => by simp
  | l :: L, hne, hlen => by
    have h1 : l ≠ [] := hne l List.mem_cons_self
    have h2 := length_le_flatten_length L (fun l' hl' => hne l' (List.mem_cons_of_mem _ hl'))
    have h3 : 0 < l.length := List.length_pos_iff.2 h1
    simp only [List.flatten_cons, List.length_append, List.length_cons] at hlen
    intro l' hl'
    rcases List.mem_cons.1 hl' with rfl | hl'
    · omega
    · exact le1_of_flatten_le L (fun l' hl' => hne l' (List.mem_cons_of_mem _ hl')) (by omega) l' hl'

theorem sumL_add_one_le_mul (B : Nat) (l : List Nat) (h : ∀ a ∈ l, a ≤ B) (hm : ∃ m ∈ l, m < B) :
    sumL l + 1 ≤ l.length * B := by
  obtain ⟨m, hm, hlt⟩ := hm
  have := Part.sumL_le_length_mul' l m (B - m) (fun a ha => by have := h a ha; omega) hm
  rw [← Nat.mul_add, Nat.add_sub_cancel' (Nat.le_of_lt hlt)] at this
  omega

/-! ## Bins weighed item by item

The counting arguments of LPT43, MaxMin3, MaxMin5 give every value `y` a weight `w y`; the weight of a bin
`l` is `binSum w l`.  It is additive over bins and does not depend on their order (`Part.sumL_map_binSum`,
`Part.binSum_perm`), so `k` bins of the values `vals` weigh `binSum w vals` together. -/

section Weigh
variable (w : Nat → Nat) {c k : Nat} {vals : List Nat} (Q : List (List Nat))

theorem weight_lt_of_bins (hk : Q.length = k) (hp : Q.flatten.Perm vals) (h : ∀ l ∈ Q, binSum w l ≤ c)
    (hlt : ∃ l ∈ Q, binSum w l < c) : binSum w vals < k * c := by
  have := sumL_add_one_le_mul c (Q.map (binSum w)) (fun a ha => by
    obtain ⟨l, hl, rfl⟩ := List.mem_map.1 ha
    exact h l hl) (by obtain ⟨l, hl, h⟩ := hlt; exact ⟨_, List.mem_map_of_mem hl, h⟩)
  rwa [Part.sumL_map_binSum, Part.binSum_perm w hp, List.length_map, hk] at this

theorem weight_le_of_bins_min {L M : Nat} (hk : Q.length = k) (hp : Q.flatten.Perm vals)
    (h : ∀ l ∈ Q, binSum w l ≤ L + M) (hmin : ∃ l ∈ Q, binSum w l = L) :
    binSum w vals + M ≤ k * L + k * M := by
  have := Part.sumL_le_length_mul' (Q.map (binSum w)) L M (fun a ha => by
    obtain ⟨l, hl, rfl⟩ := List.mem_map.1 ha
    exact h l hl) (by obtain ⟨l, hl, h⟩ := hmin; exact List.mem_map.2 ⟨l, hl, h⟩)
  rwa [Part.sumL_map_binSum, Part.binSum_perm w hp, List.length_map, hk] at this

end Weigh

/-! ## Feasibility: `Packable T k vals` -/

/-- The optimum's side of a weighting argument for bin packing, with a slack `g`.  If some of the items (`l`: part of
    a rearrangement `F` of the items, so each at most as often as it is there) that fit into one bin weigh at most `c`
    plus their `g`-weight, then items whose values can be packed into `m` bins weigh at most `m * c` plus their
    `g`-weight. -/
theorem packable_weight_le_add_map {β : Type} {v w g : β → Nat} {B m c : Nat} {items : List β}
    (hm : Packable B m (items.map v))
    (hbin : ∀ l : List β, (∃ F, l.Sublist F ∧ F.Perm items) → binSum v l ≤ B → binSum w l ≤ c + binSum g l) :
    binSum w items ≤ m * c + binSum g items := by
  obtain ⟨Q, hk, hp, hT⟩ := packable_partition_map hm
  have := Part.binSum_le_binSum (l := Q) fun l hl => hbin l ⟨_, List.sublist_flatten_of_mem hl, hp⟩ (hT l hl)
  rwa [Part.binSum_add, Part.binSum_const, ← Part.binSum_flatten, ← Part.binSum_flatten, Part.binSum_perm w hp,
    Part.binSum_perm g hp, hk] at this

/-- without slack: items that fit into one bin weigh at most `c` -/
theorem packable_weight_le_map {β : Type} {v w : β → Nat} {B m c : Nat} {items : List β}
    (hm : Packable B m (items.map v))
    (hbin : ∀ l : List β, (∃ F, l.Sublist F ∧ F.Perm items) → binSum v l ≤ B → binSum w l ≤ c) :
    binSum w items ≤ m * c := by
  have := packable_weight_le_add_map (g := fun _ => 0) hm fun l hl h => Nat.le_add_right_of_le (hbin l hl h)
  rwa [Part.binSum_const, Nat.mul_zero] at this

theorem packable_weight_le {w : Nat → Nat} {B m c : Nat} {vals : List Nat} (hm : Packable B m vals)
    (hbin : ∀ l : List Nat, (∀ x ∈ l, x ∈ vals) → sumL l ≤ B → binSum w l ≤ c) : binSum w vals ≤ m * c :=
  packable_weight_le_map (v := id) (by rwa [List.map_id]) fun l ⟨_, hs, hp⟩ h =>
    hbin l (fun x hx => hp.mem_iff.1 (hs.subset hx)) (by rwa [← Part.binSum_id])

/-- items `≥ a > B/(c+1)` that fit into one bin: at most `c` -/
theorem items_per_bin {B a c : Nat} {l : List Nat} (ha : ∀ y ∈ l, a ≤ y) (hB : B < (c + 1) * a)
    (hl : sumL l ≤ B) : l.length ≤ c := by
  have h1 := Part.length_mul_le a l ha
  apply Nat.le_of_not_lt
  intro hlt
  have h2 : (c + 1) * a ≤ l.length * a := Nat.mul_le_mul_right a hlt
  omega

/-- the dual: items `≤ B/t` that leave no room for one more item `≤ B/t`: at least `t` -/
theorem many_per_bin {B t z : Nat} {l : List Nat} (hl : ∀ u ∈ l, t * u ≤ B) (hz : t * z ≤ B)
    (hfull : B < sumL l + z) : t ≤ l.length := by
  have h1 := Part.binSum_le_binSum (f := fun u => t * id u) (g := fun _ => B) hl
  rw [Part.binSum_mul_left, Part.binSum_const, Part.binSum_id] at h1
  rcases Nat.eq_zero_or_pos t with rfl | ht
  · exact Nat.zero_le _
  · have h2 : t * B < t * (sumL l + z) := (Nat.mul_lt_mul_left ht).2 hfull
    rw [Nat.mul_add] at h2
    have h3 : t * B < (l.length + 1) * B := by rw [Nat.add_mul, Nat.one_mul]; omega
    exact Nat.le_of_lt_succ (Nat.lt_of_mul_lt_mul_right h3)

/-- values `≥ a > B/(c+1)` that can be packed into `m` bins: at most `m * c` -/
theorem item_count_le {B a c m : Nat} {vals : List Nat} (hB : B < (c + 1) * a) (ha : ∀ y ∈ vals, a ≤ y)
    (hm : Packable B m vals) : vals.length ≤ m * c := by
  have := packable_weight_le (w := fun _ => 1) hm fun l hl h => by
    rw [Part.binSum_const, Nat.mul_one]
    exact items_per_bin (fun y hy => ha y (hl y hy)) hB h
  rwa [Part.binSum_const, Nat.mul_one] at this

theorem packable_pos {B m : Nat} {vals : List Nat} (h : Packable B m vals) (hne : vals ≠ []) : 1 ≤ m := by
  obtain ⟨asg, ⟨hlen, hlt⟩, _⟩ := h
  cases asg with
  | nil => exact absurd (List.length_eq_zero_iff.1 hlen.symm) hne
  | cons a t => have := hlt a (by simp); omega

theorem packable_perm {T k : Nat} {vals₁ vals₂ : List Nat} (hp : vals₁.Perm vals₂)
    (h : Packable T k vals₁) : Packable T k vals₂ :=
  packable_iff_splitInto.2 ((packable_iff_splitInto.1 h).perm hp)

theorem packable_sortDesc {β : Type} {v : β → Nat} {B m : Nat} {items : List β}
    (hm : Packable B m (items.map v)) : Packable B m ((sortDesc v items).map v) :=
  packable_perm ((Part.sortDesc_perm v items).map v).symm hm

theorem packable_mono {T T' k : Nat} {vals : List Nat} (hT : T ≤ T') (h : Packable T k vals) :
    Packable T' k vals :=
  packable_iff_splitInto.2 ((packable_iff_splitInto.1 h).mono fun _ hl => Nat.le_trans hl hT)

theorem packable_snoc {T k : Nat} {vals : List Nat} {x : Nat} (h : Packable T k (vals ++ [x])) :
    Packable T k vals :=
  packable_iff_splitInto.2 (Part.SplitInto.replace (ys := []) (fun p h => by rwa [← Part.sumL_perm p])
    (fun l hl => by simp only [sumL, List.nil_append] at hl ⊢; omega)
    ((packable_iff_splitInto.1 h).perm (List.perm_append_singleton x vals)))

/-- Truncation lemma (feasibility form): removing items keeps a schedule feasible. -/
theorem packable_prefix {T k : Nat} {vals : List Nat} (rest : List Nat) (h : Packable T k (vals ++ rest)) :
    Packable T k vals := by
  induction rest using Part.snoc_induction with
  | nil => simpa using h
  | snoc r x ih =>
    rw [← List.append_assoc] at h
    exact ih (packable_snoc h)

theorem packable_drop_left {T k : Nat} {E R : List Nat} (h : Packable T k (E ++ R)) : Packable T k R :=
  packable_prefix E (packable_perm List.perm_append_comm h)

/-- making an item smaller keeps a schedule feasible -/
theorem packable_replace_head {T k x x' : Nat} {X : List Nat} (hx : x' ≤ x) (h : Packable T k (x :: X)) :
    Packable T k (x' :: X) :=
  packable_iff_splitInto.2 (Part.SplitInto.replace (ys := [x']) (fun p h => by rwa [← Part.sumL_perm p])
    (fun l hl => by simp only [sumL, List.singleton_append] at hl ⊢; omega) (packable_iff_splitInto.1 h))

/-- The moment bin number `j ≥ 1` of a run on a sorted input that fits into `m` bins of capacity `T` was opened
    (`Fit.Run.opened`): up to the opener `a` the input is sorted and fits as well, so `a` is not larger than any item
    before it. -/
theorem run_opened {β : Type} {v : β → Nat} {B T m j : Nat} {ρ : Fit.Rule β} {xs : List β} {Ls : List (List β)}
    (hr : Fit.Run v B ρ xs Ls) (hs : xs.Pairwise (fun a c => v c ≤ v a)) (hp : Packable T m (xs.map v))
    (hj : 0 < j) (hjl : j < Ls.length) :
    ∃ P a S Ls', xs = P ++ a :: S ∧ Fit.Run v B ρ P Ls' ∧ Ls'.length = j ∧ (∀ L ∈ Ls', B < binSum v L + v a) ∧
      (P ++ [a]).Pairwise (fun a c => v c ≤ v a) ∧ Packable T m ((P ++ [a]).map v) ∧
      (Ls.map List.head?)[j]? = some (some a) := by
  obtain ⟨P, a, S, Ls', e, hr', hlen, hno, hhead⟩ := hr.opened j hj hjl
  have e' : xs = (P ++ [a]) ++ S := by rw [e, List.append_assoc, List.singleton_append]
  rw [e'] at hs
  rw [e', List.map_append] at hp
  exact ⟨P, a, S, Ls', e, hr', hlen, hno, (List.pairwise_append.1 hs).1, packable_prefix _ hp, hhead⟩

/-- the optimal largest sum is a feasible capacity -/
theorem packable_of_opt {k : Nat} {vals : List Nat} {opt : Int}
    (hopt : IsOptimalValue .minLargest k vals opt) : ∃ T : Nat, (T : Int) = opt ∧ Packable T k vals := by
  obtain ⟨⟨asg, hasg, he⟩, _⟩ := hopt
  refine ⟨maxL (sumsOf k vals asg), by simpa [Objective.value] using he, asg, hasg, ?_⟩
  intro s hs
  exact Part.le_maxL hs

theorem opt_le_of_packable {k T : Nat} {vals : List Nat} {opt : Int}
    (hopt : IsOptimalValue .minLargest k vals opt) (h : Packable T k vals) : opt ≤ T := by
  obtain ⟨asg, hasg, hT⟩ := h
  have h1 := hopt.2 asg hasg
  have h2 : maxL (sumsOf k vals asg) ≤ T := Part.maxL_le hT
  simp only [Objective.value, Bool.false_eq_true, if_false] at h1
  omega

/-- a way to certify an optimum: an assignment with largest sum `T`, and `k · (T − 1) < total` -/
theorem isOptimal_of_total {k : Nat} {vals asg : List Nat} {T : Nat} (hasg : IsAssignment k vals.length asg)
    (hT : maxL (sumsOf k vals asg) = T) (hlow : k * (T - 1) < sumL vals) :
    IsOptimalValue .minLargest k vals T := by
  refine ⟨⟨asg, hasg, by simp [Objective.value, hT]⟩, ?_⟩
  intro asg' hasg'
  have hp : Packable (maxL (sumsOf k vals asg')) k vals := ⟨asg', hasg', fun s hs => Part.le_maxL hs⟩
  have h1 := Fit.packing_lower_bound hp
  simp only [Objective.value, Bool.false_eq_true, if_false]
  have h2 : T ≤ maxL (sumsOf k vals asg') := by
    apply Nat.le_of_not_lt
    intro hlt
    have := Nat.mul_le_mul_left k (show maxL (sumsOf k vals asg') ≤ T - 1 by omega)
    omega
  exact_mod_cast h2

/-- Truncation lemma (optimum form): the optimum of a part of the items is at most the optimum of all. -/
theorem opt_prefix_le {k : Nat} {vals rest : List Nat} {o₁ o₂ : Int}
    (h₁ : IsOptimalValue .minLargest k vals o₁) (h₂ : IsOptimalValue .minLargest k (vals ++ rest) o₂) :
    o₁ ≤ o₂ := by
  obtain ⟨T, hT, hp⟩ := packable_of_opt h₂
  rw [← hT]
  exact opt_le_of_packable h₁ (packable_prefix rest hp)


/-- Graham's instance: two bins, optimal largest sum `6` (LPT gives `7`); the standing example of the min-max files -/
theorem opt_33222 : IsOptimalValue .minLargest 2 ([3, 3, 2, 2, 2].map id) 6 :=
  isOptimal_of_total (asg := [0, 0, 1, 1, 1]) (T := 6) ⟨rfl, by decide⟩ (by decide) (by decide)

/-! ## Large items: two per bin -/

/-- the weight of an item in the counting argument for large items: an item that cannot share a bin with `m` counts
    twice -/
def mw (T m y : Nat) : Nat := if T < y + m then 2 else 1

/-- Two per bin.  If every item exceeds a third of the capacity, a bin holds at most two items. -/
theorem two_per_bin {T m : Nat} {l : List Nat} (hm : ∀ y ∈ l, m ≤ y) (hT : T < 3 * m) (hl : sumL l ≤ T) :
    l.length ≤ 2 :=
  items_per_bin hm (by omega) hl

/-- If every item exceeds a third of the capacity, an item `y` that cannot share a bin with the smallest item
    (`y + m > T`) is alone in its bin: a feasible bin weighs at most two. -/
theorem two_per_bin_mw {T m : Nat} {l : List Nat} (hm : ∀ y ∈ l, m ≤ y) (hT : T < 3 * m) (hl : sumL l ≤ T) :
    binSum (mw T m) l ≤ 2 := by
  match l, hm, hl with
  | [], _, _ => simp [binSum, sumL]
  | [y], _, _ => simp only [binSum, List.map_cons, List.map_nil, sumL, mw]; split <;> omega
  | [y, z], hm, hl =>
    have h1 := hm y (by simp)
    have h2 := hm z (by simp)
    simp only [sumL] at hl
    simp only [binSum, List.map_cons, List.map_nil, sumL, mw]
    split <;> split <;> omega
  | y :: z :: w :: t, hm, hl =>
    have h1 := hm y (by simp)
    have h2 := hm z (by simp)
    have h3 := hm w (by simp)
    simp only [sumL] at hl
    omega

/-- The counting form of "two per bin".  If all items are `≥ m > T / 3` and fit into `k` bins of capacity
    `T`, then `(number of items) + (number of items y with y + m > T) ≤ 2k`. -/
theorem two_per_bin_count {T k m : Nat} {vals : List Nat} (h : Packable T k vals) (hm : ∀ y ∈ vals, m ≤ y)
    (hT : T < 3 * m) : binSum (mw T m) vals ≤ k * 2 := by
  exact packable_weight_le h fun l hl hs => two_per_bin_mw (fun y hy => hm y (hl y hy)) hT hs

/-- The smallest item always fits.  Let the items `vals ++ [m]` be feasible for capacity `T`, all of them
    `≥ m > T / 3`.  Then in *every* distribution `LL` of `vals` over `k` bins some bin has room for `m`.
    (Otherwise each bin of `LL` holds two items or an item that cannot be paired, so it weighs `≥ 2`; a bin of a
    packing of `vals ++ [m]` weighs `≤ 2`, and `m` weighs something.) -/
theorem large_fits {T k m : Nat} {vals : List Nat} (LL : List (List Nat)) (hlen : LL.length = k)
    (hperm : LL.flatten.Perm vals) (hfeas : Packable T k (vals ++ [m])) (hm : ∀ y ∈ vals, m ≤ y)
    (hT : T < 3 * m) : ∃ l ∈ LL, sumL l + m ≤ T := by
  apply Classical.byContradiction
  intro hex
  have hno : ∀ l ∈ LL, T < sumL l + m := fun l hl => Nat.lt_of_not_le fun hc => hex ⟨l, hl, hc⟩
  have hmT : m ≤ T := packable_item_le hfeas (by simp)
  have h1 := Part.SplitInto.le_weight (w := mw T m) (c := 2) ⟨LL, hlen, hperm, fun l hl => by
    have := hno l hl
    match l, this with
    | [], this => simp only [sumL] at this; omega
    | [y], this =>
      simp only [sumL] at this
      simp only [binSum, List.map_cons, List.map_nil, sumL, mw]; split <;> omega
    | y :: z :: t, _ =>
      simp only [binSum, List.map_cons, sumL, mw]; split <;> split <;> omega⟩
  have h2 := two_per_bin_count hfeas (m := m) (fun y hy => by
    rcases List.mem_append.1 hy with hy | hy
    · exact hm y hy
    · simp at hy; omega) hT
  rw [Part.binSum_append, Part.binSum_cons, Part.binSum_nil] at h2
  have : 1 ≤ mw T m m := by unfold mw; split <;> omega
  omega

/-! ## Covers: `k` bins of sum at least `W` -/

/-- `vals` can be split into `k` bins of sum `≥ W` each -/
def Covers (W k : Nat) (vals : List Nat) : Prop := Part.SplitInto (fun l => W ≤ sumL l) k vals

namespace Covers
variable {W k : Nat} {vals : List Nat}

theorem perm {vals' : List Nat} (h : Covers W k vals) (hp : vals.Perm vals') : Covers W k vals' :=
  Part.SplitInto.perm h hp

theorem cons {l : List Nat} (hl : W ≤ sumL l) (h : Covers W k vals) : Covers W (k + 1) (l ++ vals) :=
  Part.SplitInto.cons hl h

/-- further items go to any bin -/
theorem absorb (l : List Nat) (h : Covers W (k + 1) vals) : Covers W (k + 1) (l ++ vals) := by
  obtain ⟨Q, h1, h2, h3⟩ := h
  match Q, h1 with
  | q :: Q, h1 =>
    refine ⟨(l ++ q) :: Q, h1, by simpa [List.append_assoc] using h2.append_left l, ?_⟩
    obtain ⟨hq, hQ⟩ := List.forall_mem_cons.1 h3
    exact List.forall_mem_cons.2 ⟨by rw [Part.sumL_append]; omega, hQ⟩

/-- the bin of `x` -/
theorem bin_of {x : Nat} (h : Covers W k vals) (hx : x ∈ vals) :
    ∃ l r k', k = k' + 1 ∧ vals.Perm (x :: (l ++ r)) ∧ W ≤ x + sumL l ∧ Covers W k' r :=
  Part.SplitInto.bin_of (fun p h => by rwa [← Part.sumL_perm p]) h hx

/-- pigeonhole: more than `k` members of a class, two of them share a bin -/
theorem two_of (p : Nat → Bool) (h : Covers W k vals) (hc : k < vals.countP p) :
    ∃ u u' l r k', k = k' + 1 ∧ p u = true ∧ p u' = true ∧ vals.Perm (u :: u' :: (l ++ r)) ∧
      Covers W k' r := by
  obtain ⟨Q, h1, h2, h3⟩ := h
  have : ∃ g ∈ Q, 2 ≤ g.countP p := by
    apply Classical.byContradiction
    intro hno
    have := Part.binSum_le_binSum (f := List.countP p) (g := fun _ => 1) (l := Q)
      fun g hg => Nat.le_of_not_lt fun hlt => hno ⟨g, hg, hlt⟩
    rw [← Part.countP_flatten_eq, Part.binSum_const, h2.countP_eq] at this
    omega
  obtain ⟨g, hg, hg2⟩ := this
  obtain ⟨r, k', e, pr, -, c⟩ := Part.SplitInto.erase_bin h1 h2 h3 hg
  obtain ⟨u, hu, hpu⟩ := List.countP_pos_iff.1 (show 0 < g.countP p by omega)
  have p1 := List.perm_cons_erase hu
  have c1 : g.countP p = (g.erase u).countP p + 1 := by
    rw [p1.countP_eq, List.countP_cons_of_pos hpu]
  obtain ⟨u', hu', hpu'⟩ := List.countP_pos_iff.1 (show 0 < (g.erase u).countP p by omega)
  have p2 := List.perm_cons_erase hu'
  exact ⟨u, u', _, r, k', e, hpu, hpu', pr.trans ((p1.trans (p2.cons u)).append_right r), c⟩

end Covers

/-- the optimal smallest sum, as a covering (`Objective.value .maxSmallest` is minus the smallest sum, so the
    optimum of `.maxSmallest` is `-opt` with `opt` the largest smallest sum over all assignments) -/
theorem cover_of_opt {k : Nat} {vals : List Nat} {opt : Int}
    (hopt : IsOptimalValue .maxSmallest k vals (-opt)) :
    ∃ W : Nat, (W : Int) = opt ∧ Covers W k vals := by
  obtain ⟨⟨asg, hasg, he⟩, _⟩ := hopt
  obtain ⟨Q, hQk, hQp, hQs⟩ := assignment_partition hasg
  refine ⟨minL (sumsOf k vals asg), ?_, Q, hQk, hQp, ?_⟩
  · simp only [Objective.value, Bool.false_eq_true, if_false] at he; omega
  · intro l hl
    rw [← hQs]
    exact Part.minL_le (List.mem_map_of_mem hl)


/-- a way to certify an optimal smallest sum: an assignment with smallest sum `W`, and `total < k · (W + 1)` -/
theorem isOptimalMin_of_total {k : Nat} {vals asg : List Nat} {W : Nat} (hasg : IsAssignment k vals.length asg)
    (hW : minL (sumsOf k vals asg) = W) (hhigh : sumL vals < k * (W + 1)) :
    IsOptimalValue .maxSmallest k vals (-(W : Int)) := by
  refine ⟨⟨asg, hasg, by simp [Objective.value, hW]⟩, ?_⟩
  intro asg' hasg'
  obtain ⟨Q, hQk, hQp, hQs⟩ := assignment_partition hasg'
  have h1 := length_mul_minL_le (sumsOf k vals asg')
  rw [← hQs, ← Part.sumL_flatten, Part.sumL_perm hQp, List.length_map, hQk] at h1
  have h2 : minL (Q.map sumL) ≤ W := by
    apply Nat.le_of_not_lt
    intro hlt
    have := Nat.mul_le_mul_left k (show W + 1 ≤ minL (Q.map sumL) from hlt)
    omega
  simp only [Objective.value, Bool.false_eq_true, if_false]
  rw [← hQs]
  omega

end Prtpy.LPT43
