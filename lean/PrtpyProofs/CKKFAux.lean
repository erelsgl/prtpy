/-
  PrtpyProofs.CKKFAux — what PrtpyProofs.CKKF needs about `Prtpy.ckkF` (`optimal` after F11).  The three
  de-duplication loops (the `sums_seen` filter of F11, `all_combinations` of either manager) are instances of one
  filter `firsts` (PrtpyProofs/CKK.lean, AllComb.lean); composing two of them (`firsts_comp`) shows that after the
  filter the contents manager pushes the very sums the sums-only manager pushes (`dedupSums_allCombContents`).
  Hence two runs whose states agree on the heap keys stay in lock-step (`LockStep`, `ckkRunF_ls`), whatever their
  managers and the types of their items.  `LockStep.stack` says `CKKValid.HSim`, heap by heap (as an equation
  between lists of keys).  Declares into `Prtpy.CKKF`.
-/
import PrtpyProofs.Iter
import PrtpyProofs.Part
import PrtpyProofs.CKK
import PrtpyProofs.AllComb
import PrtpyProofs.Natural
import PrtpyProofs.CKKValid
open Prtpy

namespace Prtpy.CKKF
open Prtpy.CKKValid (searchBody searchStep resultOf searchStep_cases ckkRun_eq_search)

variable {α β : Type}

/-! ## `ckkF` as an instance of the search loop (`CKKValid.searchStep`, `Iter.run`, `CKKValid.resultOf`) -/

/-- the combinations of `optimal` after F11 -/
abbrev combsF (nm : α → Nat) [BEq α] (contents : Bool) (b1 b2 : Bins α) : List (Bins α) :=
  dedupSums (allComb nm contents b1 b2)

theorem ckkStepF_eq_search (nm : α → Nat) [BEq α] (k : Nat) (contents : Bool) (s : CkkState α) :
    ckkStepF nm k contents s = searchStep (combsF nm contents) k false true s := by
  unfold ckkStepF searchStep searchBody CKKValid.prunedB
  simp only [Bool.true_or, Bool.and_true, if_true]
  rfl

theorem ckkRunF_eq_search (nm : α → Nat) [BEq α] (k : Nat) (contents : Bool) (fuel : Nat) (s : CkkState α) :
    ckkRunF nm k contents fuel s = Iter.run (·.done) (searchStep (combsF nm contents) k false true) fuel s := by
  rw [Iter.ckkRunF_eq, funext (ckkStepF_eq_search nm k contents)]

theorem ckkRunF_inv (nm : α → Nat) [BEq α] (k : Nat) (contents : Bool) (P : CkkState α → Prop)
    (hstep : ∀ s, P s → P (ckkStepF nm k contents s)) (fuel : Nat) (s : CkkState α) (hs : P s) :
    P (ckkRunF nm k contents fuel s) := by
  rw [Iter.ckkRunF_eq]; exact Iter.run_inv P hstep fuel s hs

theorem ckkF_eq_resultOf (v nm : α → Nat) [BEq α] (k : Nat) (contents : Bool) (items : List α) (fuel : Nat) :
    ckkF v nm k contents items fuel = resultOf (ckkRunF nm k contents fuel (ckkInit v k items .negInf)) := rfl

/-! ## The filter -/

theorem dedupSumsAux_eq_firsts (l : List (Bins α)) (seen : List (List Nat)) :
    dedupSumsAux l seen = firsts (fun b : Bins α => sortAsc id b.sums) l seen := by
  induction l generalizing seen with
  | nil => rfl
  | cons b rest ih =>
    simp only [dedupSumsAux, firsts]
    split
    · exact ih seen
    · rw [ih]

theorem dedupSums_eq_firsts (l : List (Bins α)) :
    dedupSums l = firsts (fun b : Bins α => sortAsc id b.sums) l [] :=
  dedupSumsAux_eq_firsts l []

theorem dedupSums_sublist (l : List (Bins α)) : (dedupSums l).Sublist l := by
  rw [dedupSums_eq_firsts]; exact firsts_sublist _ _ _

theorem dedupSums_length_le (l : List (Bins α)) : (dedupSums l).length ≤ l.length :=
  (dedupSums_sublist l).length_le

theorem dedupSums_ne_nil {l : List (Bins α)} (h : l ≠ []) : dedupSums l ≠ [] := by
  cases l with
  | nil => exact absurd rfl h
  | cons b rest => simp [dedupSums, dedupSumsAux]

theorem firsts_eq_self {γ κ : Type} [BEq κ] [LawfulBEq κ] (key : γ → κ) : ∀ (l : List γ) (seen : List κ),
    (l.map key).Nodup → (∀ x ∈ l, key x ∉ seen) → firsts key l seen = l
  | [], _, _, _ => rfl
  | x :: xs, seen, hnd, hns => by
    have hx : ¬ seen.contains (key x) = true := fun hc => hns x List.mem_cons_self (List.contains_iff_mem.1 hc)
    rw [List.map_cons, List.nodup_cons] at hnd
    simp only [firsts, hx, Bool.false_eq_true, if_false]
    rw [firsts_eq_self key xs (key x :: seen) hnd.2]
    intro y hy hys
    rcases List.mem_cons.1 hys with e | hys
    · exact hnd.1 (e ▸ List.mem_map_of_mem hy)
    · exact hns y (List.mem_cons_of_mem _ hy) hys

theorem firsts_id_of_nodup {κ : Type} [BEq κ] [LawfulBEq κ] : ∀ (l seen : List κ), l.Nodup →
    (∀ x ∈ l, x ∉ seen) → firsts id l seen = l :=
  fun l seen hnd hns => firsts_eq_self id l seen (by rwa [List.map_id]) hns

/-- `firsts` only looks at keys -/
theorem firsts_map {γ κ : Type} [BEq κ] (key : γ → κ) : ∀ (l : List γ) (seen : List κ),
    (firsts key l seen).map key = firsts id (l.map key) seen
  | [], _ => rfl
  | x :: xs, seen => by
    simp only [firsts, List.map_cons, id]
    split
    · exact firsts_map key xs seen
    · rw [List.map_cons, firsts_map key xs]

/-- two filters in a row: filtering on a finer key `f` first does not change what a filter on `g` keeps (as
    keys), provided equal `f`-keys imply equal `g`-keys and every element already dropped by `f` is dropped by `g` -/
theorem firsts_comp {γ κ₁ κ₂ : Type} [BEq κ₁] [LawfulBEq κ₁] [BEq κ₂] [LawfulBEq κ₂] (f : γ → κ₁) (g : γ → κ₂) :
    ∀ (l : List γ) (seenF : List κ₁) (seenG : List κ₂),
      (∀ x ∈ l, ∀ y ∈ l, f x = f y → g x = g y) → (∀ x ∈ l, f x ∈ seenF → g x ∈ seenG) →
      (firsts g (firsts f l seenF) seenG).map g = firsts id (l.map g) seenG
  | [], _, _, _, _ => rfl
  | x :: xs, seenF, seenG, H, C => by
    have H' : ∀ a ∈ xs, ∀ b ∈ xs, f a = f b → g a = g b :=
      fun a ha b hb => H a (List.mem_cons_of_mem _ ha) b (List.mem_cons_of_mem _ hb)
    have C' : ∀ a ∈ xs, f a ∈ seenF → g a ∈ seenG := fun a ha => C a (List.mem_cons_of_mem _ ha)
    by_cases hF : seenF.contains (f x) = true
    · have hG : seenG.contains (g x) = true :=
        List.contains_iff_mem.2 (C x List.mem_cons_self (List.contains_iff_mem.1 hF))
      simp only [firsts, hF, if_true, List.map_cons, id, hG]
      exact firsts_comp f g xs seenF seenG H' C'
    · simp only [firsts, hF, Bool.false_eq_true, if_false, List.map_cons, id]
      by_cases hG : seenG.contains (g x) = true
      · simp only [hG, if_true]
        refine firsts_comp f g xs (f x :: seenF) seenG H' ?_
        intro a ha hfa
        rcases List.mem_cons.1 hfa with e | hfa
        · rw [H a (List.mem_cons_of_mem _ ha) x List.mem_cons_self e]
          exact List.contains_iff_mem.1 hG
        · exact C' a ha hfa
      · simp only [hG, Bool.false_eq_true, if_false, List.map_cons]
        congr 1
        refine firsts_comp f g xs (f x :: seenF) (g x :: seenG) H' ?_
        intro a ha hfa
        rcases List.mem_cons.1 hfa with e | hfa
        · rw [H a (List.mem_cons_of_mem _ ha) x List.mem_cons_self e]
          exact List.mem_cons_self
        · exact List.mem_cons_of_mem _ (C' a ha hfa)

/-- the sorted key of a canonical pairing of the contents manager is the canonical pairing of the sums manager -/
theorem canonC_key (nm : α → Nat) (b1 b2 : Bins α) (perm : List Nat) (hb2 : b2.sums.length = b2.lists.length) :
    sortAsc id (AllComb.canonC nm b1 b2 perm).sums = CKKProofs.canonS b1.sums b2.sums perm := by
  unfold AllComb.canonC
  rw [CKKValid.binsSortAsc_sums _ (by simp [pairBy, hb2]), Part.sortAsc_idem]
  rfl

/-- **Key lemma for F11**: after the `sums_seen` filter, the combinations of the contents manager have exactly
    the sums (in the same order) that the sums-only manager generates -/
theorem dedupSums_allCombContents [BEq α] [LawfulBEq α] (v nm : α → Nat) {k : Nat} {b1 b2 : Bins α}
    (c1 : b1.Consistent v) (c2 : b2.Consistent v) (hk1 : b1.sums.length = k) (hk2 : b2.sums.length = k) :
    (dedupSums (allCombContents nm b1 b2)).map (·.sums) = allCombSums b1.sums b2.sums := by
  have hspec : ∀ nb ∈ (lexPerms (List.range b1.sums.length)).map (AllComb.canonC nm b1 b2),
      nb.Consistent v ∧ nb.sums.Pairwise (· ≤ ·) := by
    intro nb hnb
    obtain ⟨perm, hp, rfl⟩ := List.mem_map.1 hnb
    have hperm : perm.Perm (List.range k) := hk1 ▸ CKKProofs.lexPerms_perm hp
    obtain ⟨q1, _, _, q4, _⟩ := AllComb.canonC_spec v nm c1 c2 ((Part.consistent_length v c1).symm.trans hk1)
      ((Part.consistent_length v c2).symm.trans hk2) hperm
    exact ⟨q1, q4⟩
  rw [dedupSums_eq_firsts, allCombContents_eq_firsts]
  -- every element kept is a canonical pairing, so its sums are already sorted
  have hmap : (firsts (fun b : Bins α => sortAsc id b.sums)
        (firsts (fun b : Bins α => b.lists)
          ((lexPerms (List.range b1.sums.length)).map (AllComb.canonC nm b1 b2)) []) []).map (·.sums)
      = (firsts (fun b : Bins α => sortAsc id b.sums)
        (firsts (fun b : Bins α => b.lists)
          ((lexPerms (List.range b1.sums.length)).map (AllComb.canonC nm b1 b2)) []) []).map
          (fun b : Bins α => sortAsc id b.sums) := by
    apply List.map_congr_left
    intro nb hnb
    have h1 := (firsts_sublist _ _ _).subset hnb
    have h2 := (firsts_sublist _ _ _).subset h1
    exact (Part.sortAsc_eq_self (hspec nb h2).2).symm
  rw [hmap, firsts_comp (fun b : Bins α => b.lists) (fun b : Bins α => sortAsc id b.sums) _ [] [] ?_ ?_]
  · rw [allCombSums_eq_firsts, List.map_map]
    congr 1
    apply List.map_congr_left
    intro perm _
    exact canonC_key nm b1 b2 perm (Part.consistent_length v c2)
  · intro x hx y hy hxy
    have ex := (hspec x hx).1
    have ey := (hspec y hy).1
    unfold Bins.Consistent at ex ey
    show sortAsc id x.sums = sortAsc id y.sums
    rw [ex, ey, hxy]
  · intro x _ h; cases h

/-- the sums-only manager has already de-duplicated on sorted sums: the filter changes nothing -/
theorem dedupSums_allComb_false (nm : α → Nat) [BEq α] (b1 b2 : Bins α) :
    dedupSums (allComb nm false b1 b2) = allComb nm false b1 b2 := by
  simp only [allComb, Bool.false_eq_true, if_false]
  rw [dedupSums_eq_firsts]
  have hsorted : ∀ s ∈ allCombSums b1.sums b2.sums, sortAsc id s = s := by
    intro s hs
    obtain ⟨perm, _, rfl⟩ := CKKProofs.allCombSums_sound rfl hs
    exact Part.sortAsc_idem _
  refine firsts_eq_self _ _ [] ?_ (fun _ _ h => by cases h)
  have e : (allCombSums b1.sums b2.sums).map
      ((fun b : Bins α => sortAsc id b.sums) ∘ fun s => ⟨s, List.replicate s.length []⟩)
      = allCombSums b1.sums b2.sums :=
    (List.map_congr_left (fun s hs => hsorted s hs)).trans (List.map_id _)
  rw [List.map_map, e]
  exact CKKProofs.allCombSums_nodup _ _

theorem dedupSums_allComb_false_sums (nm : α → Nat) [BEq α] (b1 b2 : Bins α) :
    (dedupSums (allComb nm false b1 b2)).map (·.sums) = allCombSums b1.sums b2.sums := by
  rw [dedupSums_allComb_false]
  simp only [allComb, Bool.false_eq_true, if_false, List.map_map]
  exact List.map_id'' (fun _ => rfl) _

/-- with the sums-only manager `ckkF` runs the loop of `ckk` -/
theorem combsF_false (nm : α → Nat) [BEq α] : combsF nm false = allComb nm false := by
  funext b1 b2
  exact dedupSums_allComb_false nm b1 b2

theorem ckkRunF_false_eq (nm : α → Nat) [BEq α] (k : Nat) (fuel : Nat) (s : CkkState α) :
    ckkRunF nm k false fuel s = ckkRun nm k false false true fuel s := by
  rw [ckkRunF_eq_search, ckkRun_eq_search, combsF_false]

theorem allComb_bal (nm : α → Nat) [BEq α] (contents : Bool) (b1 b2 nb : Bins α)
    (h : nb ∈ allComb nm contents b1 b2) : nb.sums.length = nb.lists.length := by
  cases contents with
  | true =>
    simp only [allComb, if_true] at h
    obtain ⟨perm, _, rfl⟩ := AllComb.allCombContents_sound nm rfl h
    exact CKKValid.binsSortAsc_bal _
  | false =>
    simp only [allComb, Bool.false_eq_true, if_false, List.mem_map] at h
    obtain ⟨s, _, rfl⟩ := h
    simp

/-! ## Heterogeneous simulation -/

theorem htop_hsim {h : Heap α} {g : Heap β} (hs : CKKValid.HSim h g) : (htop h).map CKKValid.key = (htop g).map CKKValid.key := by
  have := congrArg (Option.map (·.1)) (Part.hpop_keys CKKValid.key CKKValid.key hs (CKKValid.hsim_before hs))
  simpa only [Part.htop_eq_hpop, Option.map_map, Function.comp_def] using this

theorem topDiffOf_hsim {h : Heap α} {g : Heap β} (hs : CKKValid.HSim h g) : topDiffOf h = topDiffOf g :=
  Part.topDiffOf_keys (·.1) (fun _ => rfl) (fun _ => rfl) hs (CKKValid.hsim_before hs)

theorem prunedB_hsim {h : Heap α} {g : Heap β} (hs : CKKValid.HSim h g) (k : Nat) (best : EInt) :
    CKKValid.prunedB k h best = CKKValid.prunedB k g best :=
  CKKValid.prunedB_keys (·.2.2) (fun _ => rfl) (fun _ => rfl) hs k best

theorem ckkStepF_cases (nm : α → Nat) [BEq α] (k : Nat) (contents : Bool) (s : CkkState α) :
    CKKValid.StepRel nm contents false true s (ckkStepF nm k contents s) := by
  rw [ckkStepF_eq_search]
  exact searchStep_cases (fun _ _ nb hnb => (dedupSums_sublist _).subset hnb) k false true s

theorem ckkStepF_inv {v nm : α → Nat} [BEq α] {k : Nat} {items : List α} {s : CkkState α}
    (hs : CKKValid.SInv v k items s) : CKKValid.SInv v k items (ckkStepF nm k true s) :=
  CKKValid.sinv_of_stepRel (ckkStepF_cases nm k true s) hs

/-- balanced heaps, incumbent and yields (`CKKValid.Bal`) -/
def BalS (s : CkkState α) : Prop :=
  (∀ h ∈ s.stack, CKKValid.Bal h) ∧ (∀ b, s.bestP = some b → b.sums.length = b.lists.length) ∧
    ∀ b ∈ s.yields, b.sums.length = b.lists.length

theorem ckkStepF_balS {nm : α → Nat} [BEq α] {k : Nat} {contents : Bool} {s : CkkState α} (hs : BalS s) :
    BalS (ckkStepF nm k contents s) :=
  CKKValid.stepRel_inv (ckkStepF_cases nm k contents s) (fun e he => he e List.mem_cons_self)
    (fun h e1 _ e2 h2 nb c hbal hp1 hp2 _ => CKKValid.hpush_bal c nb fun e he => hbal e
      ((Part.hpop2_perm hp1 hp2).mem_iff.2 (by simp [he])))
    hs.1 hs.2.1 hs.2.2

theorem balS_of_sinv {v : α → Nat} {k : Nat} {items : List α} {s : CkkState α}
    (h : CKKValid.SInv v k items s) : BalS s := by
  refine ⟨?_, fun b hb => Part.consistent_length v (h.bestP b hb).1.2.2,
    fun b hb => Part.consistent_length v (h.yields b hb).1.2.2⟩
  intro g hg e he
  obtain ⟨_, c, _, _⟩ := (h.stack g hg).2 e he
  exact Part.consistent_length v c

/-! ### lock-step -/

/-- the heap as the managers and the heap discipline see it -/
abbrev keys (h : Heap α) : List (Nat × Nat × List Nat) := h.map CKKValid.key

/-- the combinations of the two best tuples of `h` have, after the filter, the sums of the sums-only manager -/
def CombGood (nm : α → Nat) [BEq α] (c : Bool) (h : Heap α) : Prop :=
  ∀ e1 h1 e2 h2, hpop h = some (e1, h1) → hpop h1 = some (e2, h2) →
    (dedupSums (allComb nm c e1.bins e2.bins)).map (·.sums) = allCombSums e1.bins.sums e2.bins.sums

theorem combGood_false (nm : α → Nat) [BEq α] (h : Heap α) : CombGood nm false h :=
  fun e1 _ e2 _ _ _ => dedupSums_allComb_false_sums nm e1.bins e2.bins

theorem combGood_true {v : α → Nat} (nm : α → Nat) [BEq α] [LawfulBEq α] {k : Nat} {items : List α} {h : Heap α}
    (hh : CKKValid.HInv v k items h) : CombGood nm true h := by
  intro e1 h1 e2 h2 hp1 hp2
  obtain ⟨⟨l1, c1, _, _⟩, ⟨l2, c2, _, _⟩⟩ := CKKValid.hinv_pop2 hh hp1 hp2
  simp only [allComb, if_true]
  exact dedupSums_allCombContents v nm c1 c2 (by rw [Part.consistent_length v c1, l1])
    (by rw [Part.consistent_length v c2, l2])

/-- two search states that look the same to the heap discipline and to the sums -/
structure LockStep (s : CkkState α) (t : CkkState β) : Prop where
  stack : s.stack.map keys = t.stack.map keys
  cnt : s.cnt = t.cnt
  best : s.best = t.best
  done : s.done = t.done
  bestP : s.bestP.map (·.sums) = t.bestP.map (·.sums)

/-- pushing combinations with the same sums on clones of simulating heaps -/
theorem clones_hsim {h2 : Heap α} {g2 : Heap β} (hs : CKKValid.HSim h2 g2) :
    ∀ (combs : List (Bins α)) (combs' : List (Bins β)) (c : Nat), combs.map (·.sums) = combs'.map (·.sums) →
      (∀ nb ∈ combs, nb.sums.length = nb.lists.length) → (∀ nb ∈ combs', nb.sums.length = nb.lists.length) →
      (CKKValid.clones h2 c combs).map keys = (CKKValid.clones g2 c combs').map keys
  | [], [], _, _, _, _ => rfl
  | [], _ :: _, _, hm, _, _ => by simp at hm
  | _ :: _, [], _, hm, _, _ => by simp at hm
  | nb :: rest, nb' :: rest', c, hm, hb, hb' => by
    simp only [List.map_cons, List.cons.injEq] at hm
    simp only [CKKValid.clones, List.map_cons]
    rw [clones_hsim hs rest rest' (c + 1) hm.2 (fun x hx => hb x (List.mem_cons_of_mem _ hx))
      (fun x hx => hb' x (List.mem_cons_of_mem _ hx))]
    congr 1
    exact CKKValid.hpush_sim c hs hm.1 (hb nb List.mem_cons_self) (hb' nb' List.mem_cons_self)

/-- the top difference, read off the keys: `topDiffOf` factors through `keys` (`tdK_keys`), which is why sorting heaps by
    `topDiffOf` commutes with `map keys` (`Natural.sortDesc_map`, used in `searchBody_ls`) -/
def tdK (ks : List (Nat × Nat × List Nat)) : Nat :=
  topDiffOf (ks.map fun p => (⟨p.1, p.2.1, ⟨p.2.2, []⟩⟩ : HEntry Unit))

theorem tdK_keys (h : Heap α) : tdK (keys h) = topDiffOf h := by
  unfold tdK
  refine (topDiffOf_hsim ?_).symm
  unfold CKKValid.HSim keys
  rw [List.map_map, List.map_map]
  rfl

/-- One pass of the loop body on two heaps with the same keys keeps the states in lock-step.  One-tuple heap: the
    test and the new incumbent read the key only (difference and sums).  Expansion: both sides pop entries with equal
    keys (`hpop_sim`), the combinations have equal sums on both sides by `CombGood`, so the clones have equal keys
    (`clones_hsim`), and sorting the clones by `topDiffOf` commutes with `map keys` because `topDiffOf` factors through
    the keys (`tdK_keys`). -/
theorem searchBody_ls {nm : α → Nat} {nm' : β → Nat} [BEq α] [BEq β] {c c' : Bool} {h : Heap α} {g : Heap β}
    {s : CkkState α} {t : CkkState β} (hs : CKKValid.HSim h g) (hls : LockStep s t)
    (hg : CombGood nm c h) (hg' : CombGood nm' c' g) :
    LockStep (searchBody (combsF nm c) false true h s) (searchBody (combsF nm' c') false true g t) := by
  unfold searchBody
  simp only [Bool.true_or, Bool.and_true, if_true]
  rw [← CKKValid.hsim_length hs, ← topDiffOf_hsim hs]
  have hlt : EInt.lt t.best (.fin (-((topDiffOf h : Nat) : Int))) = EInt.lt s.best (.fin (-((topDiffOf h : Nat) : Int))) := by
    rw [hls.best]
  split
  · -- a leaf
    rw [hlt]
    split
    · have hbp : ((htop h).map (·.bins)).map (·.sums) = ((htop g).map (·.bins)).map (·.sums) := by
        have := htop_hsim hs
        rw [Option.map_map, Option.map_map]
        have e1 : (htop h).map ((fun b : Bins α => b.sums) ∘ fun e => e.bins)
            = ((htop h).map CKKValid.key).map (·.2.2) := by rw [Option.map_map]; rfl
        have e2 : (htop g).map ((fun b : Bins β => b.sums) ∘ fun e => e.bins)
            = ((htop g).map CKKValid.key).map (·.2.2) := by rw [Option.map_map]; rfl
        rw [e1, e2, this]
      split
      · exact ⟨hls.stack, hls.cnt, rfl, rfl, hbp⟩
      · exact ⟨hls.stack, hls.cnt, rfl, hls.done, hbp⟩
    · exact hls
  · -- an inner node
    cases hp1 : hpop h with
    | none => rw [CKKValid.hpop_none_hsim hs hp1]; exact hls
    | some p1 =>
      obtain ⟨e1, h1⟩ := p1
      obtain ⟨e1', g1, hq1, hk1, hs1⟩ := CKKValid.hpop_sim hs hp1
      rw [hq1]
      simp only []
      cases hp2 : hpop h1 with
      | none => rw [CKKValid.hpop_none_hsim hs1 hp2]; exact hls
      | some p2 =>
        obtain ⟨e2, h2⟩ := p2
        obtain ⟨e2', g2, hq2, hk2, hs2⟩ := CKKValid.hpop_sim hs1 hp2
        rw [hq2]
        simp only []
        have hsums : (dedupSums (allComb nm c e1.bins e2.bins)).map (·.sums)
            = (dedupSums (allComb nm' c' e1'.bins e2'.bins)).map (·.sums) := by
          rw [hg e1 h1 e2 h2 hp1 hp2, hg' e1' g1 e2' g2 hq1 hq2, (CKKValid.key_eq hk1).2.2, (CKKValid.key_eq hk2).2.2]
        have r1 := clones_hsim hs2 _ _ s.cnt hsums
          (fun nb hnb => allComb_bal nm c _ _ nb ((dedupSums_sublist _).subset hnb))
          (fun nb hnb => allComb_bal nm' c' _ _ nb ((dedupSums_sublist _).subset hnb))
        have r2 : (dedupSums (allComb nm c e1.bins e2.bins)).length
            = (dedupSums (allComb nm' c' e1'.bins e2'.bins)).length := by
          simpa using congrArg List.length hsums
        simp only [CKKValid.foldl_push_eq, List.nil_append]
        rw [hls.cnt] at r1 ⊢
        refine ⟨?_, by rw [r2], hls.best, hls.done, hls.bestP⟩
        simp only [List.map_append, List.map_reverse, hls.stack]
        congr 2
        rw [← Natural.sortDesc_map keys topDiffOf tdK (fun a => tdK_keys a),
          ← Natural.sortDesc_map keys topDiffOf tdK (fun a => tdK_keys a), r1]

/-- Not by cases on `CKKValid.Step`: that relation describes one run, and here two runs have to take the *same* case;
    so the stack is analysed once for both sides (equal length by `LockStep.stack`, equal prune test by `prunedB_hsim`)
    and the loop body is `searchBody_ls`. -/
theorem ckkStepF_ls {nm : α → Nat} {nm' : β → Nat} [BEq α] [BEq β] {k : Nat} {c c' : Bool}
    {s : CkkState α} {t : CkkState β} (hls : LockStep s t)
    (hg : ∀ h ∈ s.stack, CombGood nm c h) (hg' : ∀ g ∈ t.stack, CombGood nm' c' g) :
    LockStep (ckkStepF nm k c s) (ckkStepF nm' k c' t) := by
  rw [ckkStepF_eq_search, ckkStepF_eq_search]
  unfold searchStep
  obtain ⟨hst, hcnt, hbest, hdone, hbp⟩ := hls
  cases hs : s.stack with
  | nil =>
    rw [hs] at hst
    have : t.stack = [] := by simpa using hst.symm
    rw [this]
    exact ⟨by simp, hcnt, hbest, rfl, hbp⟩
  | cons h st =>
    rw [hs] at hst
    cases ht : t.stack with
    | nil => rw [ht] at hst; simp at hst
    | cons g st' =>
      rw [ht] at hst
      simp only [List.map_cons, List.cons.injEq] at hst
      have hsim : CKKValid.HSim h g := hst.1
      simp only []
      have hpr : CKKValid.prunedB k h s.best = CKKValid.prunedB k g t.best := by rw [prunedB_hsim hsim k, hbest]
      rw [hpr]
      have hls0 : LockStep { s with stack := st } { t with stack := st' } := ⟨hst.2, hcnt, hbest, hdone, hbp⟩
      split
      · exact hls0
      · exact searchBody_ls hsim hls0 (hg h (by rw [hs]; exact List.mem_cons_self))
          (hg' g (by rw [ht]; exact List.mem_cons_self))

/-- the whole run in lock-step; `P`, `Q` are invariants of the two runs that provide `CombGood` -/
theorem ckkRunF_ls {nm : α → Nat} {nm' : β → Nat} [BEq α] [BEq β] {k : Nat} {c c' : Bool}
    (P : CkkState α → Prop) (Q : CkkState β → Prop)
    (hP : ∀ s, P s → P (ckkStepF nm k c s)) (hQ : ∀ t, Q t → Q (ckkStepF nm' k c' t))
    (hPg : ∀ s, P s → ∀ h ∈ s.stack, CombGood nm c h) (hQg : ∀ t, Q t → ∀ g ∈ t.stack, CombGood nm' c' g) :
    ∀ (fuel : Nat) (s : CkkState α) (t : CkkState β), P s → Q t → LockStep s t →
      LockStep (ckkRunF nm k c fuel s) (ckkRunF nm' k c' fuel t) := by
  intro fuel s t hs ht hls
  rw [Iter.ckkRunF_eq, Iter.ckkRunF_eq]
  exact (Iter.run_rel (fun s t => (P s ∧ Q t) ∧ LockStep s t) (fun _ _ h => h.2.done)
    (fun s t h _ => ⟨⟨hP s h.1.1, hQ t h.1.2⟩, ckkStepF_ls h.2 (hPg s h.1.1) (hQg t h.1.2)⟩) fuel s t ⟨⟨hs, ht⟩, hls⟩).2

theorem resultOf_ls {s : CkkState α} {t : CkkState β} (hls : LockStep s t) (hs : BalS s) (ht : BalS t) :
    (resultOf s).map (·.sums) = (resultOf t).map (·.sums) := by
  unfold resultOf
  rw [← hls.done]
  split
  · rfl
  · have hb := hls.bestP
    cases h1 : s.bestP with
    | none =>
      rw [h1] at hb
      cases h2 : t.bestP with
      | none => rfl
      | some _ => rw [h2] at hb; cases hb
    | some b =>
      rw [h1] at hb
      cases h2 : t.bestP with
      | none => rw [h2] at hb; cases hb
      | some b' =>
        rw [h2] at hb
        simp only [Option.map_some, Option.some.injEq] at hb
        show Except.ok b.sortAsc.sums = Except.ok b'.sortAsc.sums
        rw [CKKValid.binsSortAsc_sums b (hs.2.1 b h1), CKKValid.binsSortAsc_sums b' (ht.2.1 b' h2), hb]

/-- the initial states on the items and on their values simulate each other -/
theorem ckkInit_ls (v : α → Nat) (k : Nat) (items : List α) (best : EInt) :
    LockStep (ckkInit v k items best) (ckkInit id k (items.map v) best) := by
  have h := Natural.pushAll_natural v v id (fun _ => rfl) k (sortDesc v items) [] 0
  simp only [List.map_nil] at h
  refine ⟨?_, ?_, rfl, rfl, rfl⟩
  · simp only [ckkInit, Natural.sortDesc_map v v id (fun _ => rfl), h, List.map_cons, List.map_nil, keys,
      List.map_map]
    rfl
  · simp only [ckkInit, Natural.sortDesc_map v v id (fun _ => rfl), h]

/-- the initial states of two runs whose items have the same values up to order simulate each other -/
theorem ckkInit_vls {v : α → Nat} {v' : β → Nat} {items : List α} {items' : List β}
    (hp : (items.map v).Perm (items'.map v')) (k : Nat) (best : EInt) :
    LockStep (ckkInit v k items best) (ckkInit v' k items' best) := by
  have h1 := ckkInit_ls v k items best
  have h2 := ckkInit_ls v' k items' best
  have e : ckkInit id k (items.map v) best = ckkInit id k (items'.map v') best := by
    simp only [ckkInit, Natural.sortDesc_id_perm hp]
  rw [e] at h1
  exact ⟨h1.stack.trans h2.stack.symm, h1.cnt.trans h2.cnt.symm, h1.best.trans h2.best.symm,
    h1.done.trans h2.done.symm, h1.bestP.trans h2.bestP.symm⟩

theorem ckkInit_balS (v : α → Nat) (k : Nat) (items : List α) (best : EInt) : BalS (ckkInit v k items best) := by
  refine ⟨?_, fun b hb => by simp [ckkInit] at hb, fun b hb => by simp [ckkInit] at hb⟩
  intro h hh
  simp only [ckkInit, List.mem_singleton] at hh
  subst hh
  exact (Part.pushAll_induction (Φ := fun _ H => CKKValid.Bal H) _ (fun _ _ _ c _ hh => CKKValid.hpush_bal c _ hh) [] [] 0
    (fun e he => by cases he)).1

end Prtpy.CKKF
