/-
  PrtpyProofs.RNPDict — recursive number partitioning (`numbins ≤ 5`): the vector of sums is a function of the
  multiset of the values (`rnpF_sums_congr`: two runs on items of any two types, with any name keys, managers and
  fuels, whose values are the same up to order).  Property C07, list input = dict input (`rnpF_list_dict_sums`), is the
  instance `β := Nat`, `v' := id`; C06 and C18 for `rnpF` (PrtpyProofs/PermSums.lean) are instances too.

  With two or three bins RNP only runs the 2-way search, where the ascending pair of sums is unique
  (`ValueSim.ckk2_vsim`).  With four and five bins the even case iterates over the 2-way splits yielded by
  `ckkGen … 2 true items (some d0)`, the generator with the *contents* manager, whose `all_combinations`
  de-duplicates on contents: tuples of names for a dict, tuples of values for a list.  Where one run explores two
  combinations with the same value-contents, the other may explore one.  The generator gets a big-step semantics
  `yieldsOf` (the yields of the sub-tree of a heap); the yields of the two runs are the same sequence of blocks up to
  blocks explored twice on either side (`UpToRepeats`, `yieldsOf_sim`); and a fold that only keeps strict improvements
  of a state-free score cannot see a block explored twice (`keep_fold_upToRepeats`).  The rounds of the recursion are
  those of PrtpyProofs/RNPRound.lean, followed on both sides at once (`evenLevel_vsim`, `oddLevel_vsim`, `rounds_vsim`).
  Two heaps are compared by `Part.hpop_keys_some` with `Part.before_of_cnt_lt`: the push counters differ on the two
  sides, so `before` has to be decided by difference and position alone (that is what `CntOK` is for).
  The last theorem, `Prtpy.CKKDedupe.rnpF_list_dict_sums_partial_k_le_three` (two or three bins), is a corollary of the
  general one and stands here for that reason.
-/
import Mathlib.Data.List.Perm.Basic
import PrtpyProofs.Runs
import PrtpyProofs.Part
import PrtpyProofs.SNP
import PrtpyProofs.CKK
import PrtpyProofs.RNPRound
import PrtpyProofs.AllComb
import PrtpyProofs.Natural
import PrtpyProofs.CKKValid
import PrtpyProofs.CKKFAux
import PrtpyProofs.CKKOpt
import PrtpyProofs.Natural2
import PrtpyProofs.ValueSim
open Prtpy

attribute [local instance] Prtpy.decEqBins

namespace Prtpy.RNPDict

variable {α β : Type}

/-! ## a fold that keeps strict improvements does not see repeated blocks -/

/-- `X` and `Y` are the same sequence of blocks, except that either side may explore a block twice -/
inductive UpToRepeats {A B : Type} (E : A → B → Prop) : List A → List B → Prop
  | nil : UpToRepeats E [] []
  | one {a : A} {b : B} : E a b → UpToRepeats E [a] [b]
  | append {x1 x2 : List A} {y1 y2 : List B} : UpToRepeats E x1 y1 → UpToRepeats E x2 y2 → UpToRepeats E (x1 ++ x2) (y1 ++ y2)
  | duplL {x1 x2 : List A} {y : List B} : UpToRepeats E x1 y → UpToRepeats E x2 y → UpToRepeats E (x1 ++ x2) y
  | duplR {x : List A} {y1 y2 : List B} : UpToRepeats E x y1 → UpToRepeats E x y2 → UpToRepeats E x (y1 ++ y2)

/-- the step of a fold that scores every element independently of the state and keeps strict improvements -/
def keepStep {A σ : Type} (g : A → Except Err σ) (key : σ → Nat) (st : σ) (a : A) : Except Err σ :=
  match g a with
  | .error e => .error e
  | .ok p => if key p < key st then .ok p else .ok st

theorem keepStep_ok {A σ : Type} {g : A → Except Err σ} {key : σ → Nat} {st r : σ} {a : A}
    (h : keepStep g key st a = .ok r) :
    ∃ p, g a = .ok p ∧ ((key p < key st ∧ r = p) ∨ (¬ key p < key st ∧ r = st)) := by
  unfold keepStep at h
  cases hg : g a with
  | error e => rw [hg] at h; cases h
  | ok p =>
    rw [hg] at h
    simp only at h
    split at h
    · rename_i hlt; cases h; exact ⟨_, rfl, Or.inl ⟨hlt, rfl⟩⟩
    · rename_i hlt; cases h; exact ⟨_, rfl, Or.inr ⟨hlt, rfl⟩⟩

theorem keepStep_le {A σ : Type} {g : A → Except Err σ} {key : σ → Nat} {st r : σ} {a : A}
    (h : keepStep g key st a = .ok r) : key r ≤ key st ∧ ∃ p, g a = .ok p ∧ key r ≤ key p := by
  obtain ⟨p, hg, hc⟩ := keepStep_ok h
  rcases hc with ⟨hlt, rfl⟩ | ⟨hlt, rfl⟩
  · exact ⟨Nat.le_of_lt hlt, r, hg, Nat.le_refl _⟩
  · exact ⟨Nat.le_refl _, p, hg, Nat.not_lt.1 hlt⟩

theorem keep_fold_le {A σ : Type} (g : A → Except Err σ) (key : σ → Nat) (l : List A) (st r : σ)
    (h : foldE (keepStep g key) st l = .ok r) : ∀ a ∈ l, ∃ p, g a = .ok p ∧ key r ≤ key p := fun a ha =>
  SNPProofs.foldE_reach (fun s => ∃ p, g a = .ok p ∧ key s ≤ key p) (keepStep g key) a
    (fun _ _ _ ⟨p, hg, hp⟩ hs => ⟨p, hg, Nat.le_trans (keepStep_le hs).1 hp⟩)
    (fun _ _ hs => (keepStep_le hs).2) l st r ha h

theorem keep_fold_id {A σ : Type} (g : A → Except Err σ) (key : σ → Nat) :
    ∀ (l : List A) (st : σ), (∀ a ∈ l, ∃ p, g a = .ok p ∧ key st ≤ key p) → foldE (keepStep g key) st l = .ok st := by
  intro l
  induction l with
  | nil => intro st _; rfl
  | cons a as ih =>
    intro st h
    obtain ⟨p, hg, hp⟩ := h a List.mem_cons_self
    simp only [foldE, keepStep, hg]
    rw [if_neg (by omega)]
    exact ih st (fun b hb => h b (List.mem_cons_of_mem _ hb))

/-- The two folds end in related states.  In a `dupl` case the fold over the single copy has ended in a state that
    is at least as good as every element of the block; started again from there it stays there (`keep_fold_id`), and
    that second run is what the second copy on the other side is compared with. -/
theorem keep_fold_upToRepeats {A B σ τ : Type} (E : A → B → Prop) (g : A → Except Err σ) (g' : B → Except Err τ)
    (key : σ → Nat) (key' : τ → Nat) (S : σ → τ → Prop) (hS : ∀ s t, S s t → key s = key' t)
    (hE : ∀ a b p p', E a b → g a = .ok p → g' b = .ok p' → S p p') {X : List A} {Y : List B} (hr : UpToRepeats E X Y) :
    ∀ (st r : σ) (st' r' : τ), S st st' → foldE (keepStep g key) st X = .ok r →
      foldE (keepStep g' key') st' Y = .ok r' → S r r' := by
  induction hr with
  | nil => intro st r st' r' hs h h'; simp only [foldE] at h h'; cases h; cases h'; exact hs
  | @one a b hab =>
    intro st r st' r' hs h h'
    rw [SNPProofs.foldE_singleton] at h h'
    obtain ⟨p, hg, hc⟩ := keepStep_ok h
    obtain ⟨p', hg', hc'⟩ := keepStep_ok h'
    have hp := hE a b p p' hab hg hg'
    -- related candidates and related states have equal scores, so both sides take the same branch
    rw [hS _ _ hp, hS _ _ hs] at hc
    rcases hc with ⟨hlt, rfl⟩ | ⟨hlt, rfl⟩ <;> rcases hc' with ⟨hlt', rfl⟩ | ⟨hlt', rfl⟩
    · exact hp
    · exact absurd hlt hlt'
    · exact absurd hlt' hlt
    · exact hs
  | append _ _ ih1 ih2 =>
    intro st r st' r' hs h h'
    obtain ⟨s1, h1, h2⟩ := SNPProofs.foldE_append_ok.1 h
    obtain ⟨s1', h1', h2'⟩ := SNPProofs.foldE_append_ok.1 h'
    exact ih2 s1 r s1' r' (ih1 st s1 st' s1' hs h1 h1') h2 h2'
  | @duplL x1 x2 y _ _ ih1 ih2 =>
    intro st r st' r' hs h h'
    obtain ⟨s1, h1, h2⟩ := SNPProofs.foldE_append_ok.1 h
    exact ih2 s1 r r' r' (ih1 st s1 st' r' hs h1 h') h2
      (keep_fold_id g' key' y r' (keep_fold_le g' key' y st' r' h'))
  | @duplR x y1 y2 _ _ ih1 ih2 =>
    intro st r st' r' hs h h'
    obtain ⟨s1', h1', h2'⟩ := SNPProofs.foldE_append_ok.1 h'
    exact ih2 r r s1' r' (ih1 st r st' s1' hs h h1')
      (keep_fold_id g key x r (keep_fold_le g key x st r h)) h2'

/-! ## big-step semantics of the generator with a fixed bound -/

/-- explore a list of heaps one after the other, threading the push counter -/
def thread (f : Nat → Heap α → List (Bins α) × Nat) : Nat → List (Heap α) → List (Bins α) × Nat
  | c, [] => ([], c)
  | c, g :: gs => ((f c g).1 ++ (thread f (f c g).2 gs).1, (thread f (f c g).2 gs).2)

theorem thread_append (f : Nat → Heap α → List (Bins α) × Nat) (c : Nat) (l1 l2 : List (Heap α)) :
    thread f c (l1 ++ l2) =
      ((thread f c l1).1 ++ (thread f (thread f c l1).2 l2).1, (thread f (thread f c l1).2 l2).2) := by
  induction l1 generalizing c with
  | nil => simp [thread]
  | cons g gs ih => simp only [List.cons_append, thread, ih, List.append_assoc]

theorem thread_congr {f f' : Nat → Heap α → List (Bins α) × Nat} {l : List (Heap α)}
    (h : ∀ g ∈ l, ∀ c, f c g = f' c g) (c : Nat) : thread f c l = thread f' c l := by
  induction l generalizing c with
  | nil => rfl
  | cons g gs ih =>
    simp only [thread, h g List.mem_cons_self]
    rw [ih (fun x hx => h x (List.mem_cons_of_mem _ hx))]

/-- the children of a heap, in the order in which they are explored, and the counter after the pushes -/
def children (nm : α → Nat) [BEq α] (c : Nat) (e1 e2 : HEntry α) (h2 : Heap α) : List (Heap α) × Nat :=
  (CKKValid.children (allComb nm true e1.bins e2.bins) h2 c, c + (allComb nm true e1.bins e2.bins).length)

/-- the partitions yielded while the sub-tree of `h` is explored (chronological order), and the push counter
    afterwards; the incumbent bound `B` never changes in this mode.  `n` is the number of tuples of `h`. -/
def yieldsOf (nm : α → Nat) [BEq α] (k : Nat) (B : EInt) : Nat → Nat → Heap α → List (Bins α) × Nat
  | n, c, h =>
    if CKKValid.prunedB k h B then ([], c) else
    if h.length == 1 then
      if EInt.lt B (.fin (-((topDiffOf h : Nat) : Int))) then
        (match (htop h).map (·.bins) with | some b => [b] | none => [], c)
      else ([], c)
    else
      match n with
      | 0 => ([], c)
      | n + 1 =>
        match hpop h with
        | none => ([], c)
        | some (e1, h1) =>
          match hpop h1 with
          | none => ([], c)
          | some (e2, h2) => thread (yieldsOf nm k B n) (children nm c e1 e2 h2).2 (children nm c e1 e2 h2).1

def stackYields (nm : α → Nat) [BEq α] (k : Nat) (B : EInt) (c : Nat) (st : List (Heap α)) : List (Bins α) × Nat :=
  thread (fun c h => yieldsOf nm k B h.length c h) c st

/-- a child is the rest `h2` with one combination pushed, under a counter of this expansion -/
theorem mem_children {nm : α → Nat} [BEq α] {c : Nat} {e1 e2 : HEntry α} {h2 g : Heap α}
    (hg : g ∈ (children nm c e1 e2 h2).1) :
    ∃ nb ∈ allComb nm true e1.bins e2.bins, ∃ c', c ≤ c' ∧ c' < (children nm c e1 e2 h2).2 ∧
      g = (hpush h2 c' nb).1 :=
  CKKValid.mem_clones ((CKKValid.children_perm _ _ _).mem_iff.1 hg)

theorem children_length {nm : α → Nat} [BEq α] {c : Nat} {e1 e2 : HEntry α} {h2 g : Heap α}
    (hg : g ∈ (children nm c e1 e2 h2).1) : g.length = h2.length + 1 := by
  obtain ⟨nb, _, c', _, _, rfl⟩ := mem_children hg
  exact Part.hpush_length _ _ _

/-- one iteration of the generator loop (`gen = true`, `isBest = false`) in terms of `stackYields` -/
theorem genStep_spec (nm : α → Nat) [BEq α] (k : Nat) (s : CkkState α) (h : Heap α) (st : List (Heap α))
    (hs : s.stack = h :: st) :
    (ckkStep nm k true true false s).done = s.done ∧ (ckkStep nm k true true false s).best = s.best ∧
    ∃ ys, (ckkStep nm k true true false s).yields = ys.reverse ++ s.yields ∧
      (stackYields nm k s.best s.cnt (h :: st)).1 =
        ys ++ (stackYields nm k s.best (ckkStep nm k true true false s).cnt (ckkStep nm k true true false s).stack).1 := by
  have hGS : stackYields nm k s.best s.cnt (h :: st) =
      ((yieldsOf nm k s.best h.length s.cnt h).1 ++ (stackYields nm k s.best (yieldsOf nm k s.best h.length s.cnt h).2 st).1,
       (stackYields nm k s.best (yieldsOf nm k s.best h.length s.cnt h).2 st).2) := rfl
  rw [hGS]
  generalize hs' : ckkStep nm k true true false s = s'
  have hstep : CKKValid.Step (allComb nm true) k true false s s' :=
    hs' ▸ CKKValid.ckkStep_step nm k true true false s
  -- in every case: what `yieldsOf` says of the popped heap
  cases hstep with
  | stop hst => rw [hs] at hst; cases hst
  | prune hst hpr =>
    obtain ⟨rfl, rfl⟩ := List.cons.inj (hs.symm.trans hst)
    have hG : yieldsOf nm k s.best h.length s.cnt h = ([], s.cnt) := by unfold yieldsOf; rw [if_pos hpr]
    exact ⟨rfl, rfl, [], rfl, by rw [hG]⟩
  | noHeap hst =>
    obtain ⟨rfl, rfl⟩ := List.cons.inj (hs.symm.trans hst)
    have hG : yieldsOf nm k s.best ([] : Heap α).length s.cnt [] = ([], s.cnt) := by
      unfold yieldsOf; split <;> rfl
    exact ⟨rfl, rfl, [], rfl, by rw [hG]⟩
  | @leafNo e _ hst hpr hlt =>
    obtain ⟨rfl, rfl⟩ := List.cons.inj (hs.symm.trans hst)
    have hG : yieldsOf nm k s.best [e].length s.cnt [e] = ([], s.cnt) := by
      unfold yieldsOf
      simp only [hpr, Bool.false_eq_true, if_false, List.length_singleton, beq_self_eq_true, if_true,
        CKKValid.topDiffOf_singleton, hlt]
    exact ⟨rfl, rfl, [], rfl, by rw [hG]⟩
  | @leafYes e _ hst hpr hlt =>
    obtain ⟨rfl, rfl⟩ := List.cons.inj (hs.symm.trans hst)
    have hG : yieldsOf nm k s.best [e].length s.cnt [e] = ([e.bins], s.cnt) := by
      unfold yieldsOf
      simp only [hpr, Bool.false_eq_true, if_false, List.length_singleton, beq_self_eq_true, if_true,
        CKKValid.topDiffOf_singleton, hlt, Part.htop_singleton, Option.map_some]
    exact ⟨by simp, by simp, [e.bins], rfl, by rw [hG]⟩
  | @expand _ h1 h2 e1 e2 _ hst hpr hp1 hp2 hperm =>
    obtain ⟨rfl, rfl⟩ := List.cons.inj (hs.symm.trans hst)
    have hlen' : h.length = (h2.length + 1) + 1 := by simpa using hperm.length_eq
    have hG : yieldsOf nm k s.best h.length s.cnt h =
        thread (yieldsOf nm k s.best (h2.length + 1)) (children nm s.cnt e1 e2 h2).2 (children nm s.cnt e1 e2 h2).1 := by
      rw [hlen']
      unfold yieldsOf
      rw [if_neg (by simp [hpr]), if_neg (by simp [hlen'])]
      simp only [hp1, hp2]
    have hcong : thread (yieldsOf nm k s.best (h2.length + 1)) (children nm s.cnt e1 e2 h2).2
          (children nm s.cnt e1 e2 h2).1
        = thread (fun c h => yieldsOf nm k s.best h.length c h) (children nm s.cnt e1 e2 h2).2
          (children nm s.cnt e1 e2 h2).1 :=
      thread_congr (fun g hg c => by simp only [children_length hg]) _
    refine ⟨rfl, rfl, [], rfl, ?_⟩
    rw [hG, hcong]
    show _ = [] ++ (thread (fun c h => yieldsOf nm k s.best h.length c h) _ (_ ++ st)).1
    rw [thread_append]
    rfl

/-- The generator loop computes `stackYields`: once the loop has stopped, the yields are those of the stack.  Every
    iteration conserves "the yields still to come from the stack, then those made" (`genStep_spec`), and a stopped run
    has an empty stack: `Iter.run_inv` (as `CKKValid.ckkRun_inv`). -/
theorem run_yields (nm : α → Nat) [BEq α] (k : Nat) (fuel : Nat) (s : CkkState α) (hd : s.done = false)
    (h : (ckkRun nm k true true false fuel s).done = true) :
    (ckkRun nm k true true false fuel s).yields = (stackYields nm k s.best s.cnt s.stack).1.reverse ++ s.yields := by
  obtain ⟨hΦ, _, hstop⟩ := CKKValid.ckkRun_inv nm k true true false
    (fun s' => (stackYields nm k s'.best s'.cnt s'.stack).1.reverse ++ s'.yields
        = (stackYields nm k s.best s.cnt s.stack).1.reverse ++ s.yields ∧
      s'.best = s.best ∧ (s'.done = true → s'.stack = []))
    (fun s' ⟨h1, h2, h3⟩ => by
      cases hs : s'.stack with
      | nil =>
        have e : ckkStep nm k true true false s' = { s' with done := true } := by
          rw [CKKValid.ckkStep_eq_search, CKKValid.searchStep, hs]
        rw [e]
        exact ⟨h1, h2, fun _ => hs⟩
      | cons g st =>
        obtain ⟨e1, e2, ys, e3, e4⟩ := genStep_spec nm k s' g st hs
        refine ⟨?_, e2.trans h2, fun hd' => ?_⟩
        · rw [← h1, e2, e3, hs, e4]
          simp
        · rw [e1] at hd'
          rw [h3 hd'] at hs
          cases hs)
    fuel s ⟨rfl, rfl, fun hd' => by rw [hd] at hd'; cases hd'⟩
  rw [← hΦ, hstop h]
  simp [stackYields, thread]

/-! ## the value image of a bins-array; what the heap discipline sees of a heap -/

def mapLists {β : Type} (φ : List α → List β) (b : Bins α) : Bins β := ⟨b.sums, b.lists.map φ⟩

theorem sortAsc_mapLists {β : Type} (φ : List α → List β) (b : Bins α) :
    (mapLists φ b).sortAsc = mapLists φ b.sortAsc := by
  simp only [mapLists, Bins.sortAsc, List.zip_map_right]
  rw [Natural.sortAsc_map (Prod.map id φ) (fun p => p.1) (fun p => p.1) (fun _ => rfl)]
  simp only [List.map_map]
  constructor

/-- the values of a bin, in ascending order -/
def cvl (v : α → Nat) (l : List α) : List Nat := sortAsc id (l.map v)

/-- the value image of a bins-array -/
def CV (v : α → Nat) (b : Bins α) : Bins Nat := mapLists (cvl v) b

theorem cvl_nil (v : α → Nat) : cvl v [] = [] := rfl

theorem cvl_perm (v : α → Nat) {l1 l2 : List α} (h : l1.Perm l2) : cvl v l1 = cvl v l2 :=
  Part.sortAsc_congr (h.map v)

theorem cvl_append (v : α → Nat) (a b : List α) : cvl v (a ++ b) = sortAsc id (cvl v a ++ cvl v b) := by
  unfold cvl
  apply Part.sortAsc_congr
  rw [List.map_append]
  exact ((Part.sortAsc_perm id _).append (Part.sortAsc_perm id _)).symm

theorem getD_map_cvl (v : α → Nat) (ls : List (List α)) (p : Nat) :
    (ls.map (cvl v)).getD p [] = cvl v (ls.getD p []) := by
  simp only [List.getD_eq_getElem?_getD, List.getElem?_map]
  cases ls[p]? <;> rfl

/-- the pairing of two value images -/
def PB (c1 c2 : Bins Nat) (perm : List Nat) : Bins Nat :=
  ⟨CKKOpt.pairS c1.sums c2.sums perm,
   List.zipWith (fun p l2 => sortAsc id (c1.lists.getD p [] ++ l2)) perm c2.lists⟩

/-- the value image of a canonical pairing depends only on the value images of the two tuples -/
theorem CV_canonC (v nm : α → Nat) (b1 b2 : Bins α) (perm : List Nat) :
    CV v (AllComb.canonC nm b1 b2 perm) = (PB (CV v b1) (CV v b2) perm).sortAsc := by
  unfold AllComb.canonC CV
  rw [← sortAsc_mapLists]
  congr 1
  simp only [mapLists, PB, CKKOpt.pairS, pairBy, List.map_map]
  congr 1
  generalize b2.lists = L2
  induction perm generalizing L2 with
  | nil => rfl
  | cons p ps ih =>
    cases L2 with
    | nil => rfl
    | cons l ls =>
      simp only [List.zipWith_cons_cons, List.map_cons, ih, Function.comp, getD_map_cvl]
      congr 1
      rw [cvl_perm v (Part.sortAsc_perm nm _), cvl_append]

/-- what the heap discipline (without the counters) and the values see of an entry -/
def valueKey (v : α → Nat) (e : HEntry α) : Nat × Bins Nat := (e.diff, CV v e.bins)

/-- the counters increase along the heap and are below the next counter -/
def CntOK (c : Nat) (h : Heap α) : Prop := h.Pairwise (fun a b => a.cnt < b.cnt) ∧ ∀ e ∈ h, e.cnt < c

theorem cntOK_mono {c c' : Nat} {h : Heap α} (hc : c ≤ c') (h1 : CntOK c h) : CntOK c' h :=
  ⟨h1.1, fun e he => Nat.lt_of_lt_of_le (h1.2 e he) hc⟩

theorem cntOK_sublist {c : Nat} {h h' : Heap α} (hs : h'.Sublist h) (h1 : CntOK c h) : CntOK c h' :=
  ⟨h1.1.sublist hs, fun e he => h1.2 e (hs.subset he)⟩

theorem hpush_cntOK {c : Nat} {h : Heap α} (b : Bins α) (hc : CntOK c h) : CntOK (c + 1) (hpush h c b).1 := by
  unfold hpush
  refine ⟨?_, ?_⟩
  · rw [List.pairwise_append]
    refine ⟨hc.1, List.pairwise_singleton _ _, ?_⟩
    intro a ha b hb
    rw [List.mem_singleton] at hb
    subst hb
    exact hc.2 a ha
  · intro e he
    rcases List.mem_append.1 he with he | he
    · exact Nat.lt_succ_of_lt (hc.2 e he)
    · rw [List.mem_singleton] at he; subst he; exact Nat.lt_succ_self _

/-! ### two bins: two pairings, one child or two -/

theorem lexPerms_two : lexPerms (List.range 2) = [[0, 1], [1, 0]] := by decide

/-- with two bins `all_combinations` tries two pairings and drops the second if its contents repeat the first -/
theorem allComb_two_eq (nm : α → Nat) [BEq α] [LawfulBEq α] (b1 b2 : Bins α) (h : b1.sums.length = 2)
    (hc : (AllComb.canonC nm b1 b2 [1, 0]).lists = (AllComb.canonC nm b1 b2 [0, 1]).lists) :
    allComb nm true b1 b2 = [AllComb.canonC nm b1 b2 [0, 1]] := by
  simp only [allComb, if_true]
  rw [CKKF.allCombContents_eq_firsts, h, lexPerms_two]
  simp only [List.map_cons, List.map_nil, CKKF.firsts]
  rw [if_neg (by simp), if_pos (List.contains_iff_mem.2 (by simp [hc]))]

theorem allComb_two_ne (nm : α → Nat) [BEq α] [LawfulBEq α] (b1 b2 : Bins α) (h : b1.sums.length = 2)
    (hc : (AllComb.canonC nm b1 b2 [1, 0]).lists ≠ (AllComb.canonC nm b1 b2 [0, 1]).lists) :
    allComb nm true b1 b2 = [AllComb.canonC nm b1 b2 [0, 1], AllComb.canonC nm b1 b2 [1, 0]] := by
  simp only [allComb, if_true]
  rw [CKKF.allCombContents_eq_firsts, h, lexPerms_two]
  simp only [List.map_cons, List.map_nil, CKKF.firsts]
  rw [if_neg (by simp), if_neg (fun hh => hc (by simpa using List.contains_iff_mem.1 hh))]

theorem children_one (nm : α → Nat) [BEq α] (c : Nat) (e1 e2 : HEntry α) (h2 : Heap α) (x : Bins α)
    (h : allComb nm true e1.bins e2.bins = [x]) : children nm c e1 e2 h2 = ([(hpush h2 c x).1], c + 1) := by
  unfold children; rw [h]; rfl

theorem children_two (nm : α → Nat) [BEq α] (c : Nat) (e1 e2 : HEntry α) (h2 : Heap α) (x0 x1 : Bins α)
    (h : allComb nm true e1.bins e2.bins = [x0, x1]) :
    children nm c e1 e2 h2 =
      ((sortDesc topDiffOf [(hpush h2 c x0).1, (hpush h2 (c + 1) x1).1]).reverse, c + 2) := by
  unfold children; rw [h]; rfl

theorem sortDesc_two {γ : Type} (key : γ → Nat) (a b : γ) :
    sortDesc key [a, b] = if key b ≤ key a then [a, b] else [b, a] := rfl

theorem children_cntOK {nm : α → Nat} [BEq α] {c : Nat} {e1 e2 : HEntry α} {h2 : Heap α} (hc : CntOK c h2) :
    ∀ d ∈ (children nm c e1 e2 h2).1, CntOK (children nm c e1 e2 h2).2 d := by
  intro d hd
  obtain ⟨nb, _, c', h1, h2', rfl⟩ := mem_children hd
  exact cntOK_mono (Nat.succ_le_of_lt h2') (hpush_cntOK nb (cntOK_mono h1 hc))

/-! ### the counters only grow -/

theorem children_cnt_le (nm : α → Nat) [BEq α] (c : Nat) (e1 e2 : HEntry α) (h2 : Heap α) :
    c ≤ (children nm c e1 e2 h2).2 :=
  Nat.le_add_right _ _

theorem thread_mono {f : Nat → Heap α → List (Bins α) × Nat} (hf : ∀ c g, c ≤ (f c g).2) :
    ∀ (l : List (Heap α)) (c : Nat), c ≤ (thread f c l).2
  | [], _ => Nat.le_refl _
  | g :: gs, c => Nat.le_trans (hf c g) (thread_mono hf gs (f c g).2)

theorem yieldsOf_mono (nm : α → Nat) [BEq α] (k : Nat) (B : EInt) : ∀ (n c : Nat) (h : Heap α), c ≤ (yieldsOf nm k B n c h).2 := by
  intro n
  induction n with
  | zero =>
    intro c h
    unfold yieldsOf
    split
    · exact Nat.le_refl _
    · split
      · split <;> exact Nat.le_refl _
      · exact Nat.le_refl _
  | succ n ih =>
    intro c h
    unfold yieldsOf
    split
    · exact Nat.le_refl _
    · split
      · split <;> exact Nat.le_refl _
      · simp only []
        split
        · exact Nat.le_refl _
        · split
          · exact Nat.le_refl _
          · exact Nat.le_trans (children_cnt_le nm c _ _ _) (thread_mono ih _ _)

/-- Exploring two lists of heaps that are related up to repeats yields lists of partitions related up to repeats, if
    exploring two related heaps does.  The counters are arbitrary as long as they are above those of the heaps explored
    (`CntOK`, which later counters keep: `cntOK_mono`), which is why a heap explored twice on one side — under two
    different counters — is matched by its one exploration on the other side. -/
theorem thread_upToRepeats {R : Heap α → Heap β → Prop} {E : Bins α → Bins β → Prop} {P : Heap α → Prop}
    {Q : Heap β → Prop} {f : Nat → Heap α → List (Bins α) × Nat} {f' : Nat → Heap β → List (Bins β) × Nat}
    (hf : ∀ c g, c ≤ (f c g).2) (hf' : ∀ c g, c ≤ (f' c g).2)
    (hstep : ∀ c c' d l, R d l → P d → Q l → CntOK c d → CntOK c' l → UpToRepeats E (f c d).1 (f' c' l).1)
    {ds : List (Heap α)} {ls : List (Heap β)} (h : UpToRepeats R ds ls) :
    ∀ c c', (∀ d ∈ ds, P d ∧ CntOK c d) → (∀ l ∈ ls, Q l ∧ CntOK c' l) →
      UpToRepeats E (thread f c ds).1 (thread f' c' ls).1 := by
  -- the second part of an appended list is explored under a later counter
  have later : ∀ {x1 x2 : List (Heap α)} {c : Nat}, (∀ d ∈ x1 ++ x2, P d ∧ CntOK c d) →
      ∀ d ∈ x2, P d ∧ CntOK (thread f c x1).2 d := fun hd d hm =>
    ⟨(hd d (List.mem_append_right _ hm)).1, cntOK_mono (thread_mono hf _ _) (hd d (List.mem_append_right _ hm)).2⟩
  have later' : ∀ {y1 y2 : List (Heap β)} {c : Nat}, (∀ l ∈ y1 ++ y2, Q l ∧ CntOK c l) →
      ∀ l ∈ y2, Q l ∧ CntOK (thread f' c y1).2 l := fun hl l hm =>
    ⟨(hl l (List.mem_append_right _ hm)).1, cntOK_mono (thread_mono hf' _ _) (hl l (List.mem_append_right _ hm)).2⟩
  induction h with
  | nil => intro _ _ _ _; exact UpToRepeats.nil
  | @one d l r =>
    intro c c' hd hl
    simp only [thread, List.append_nil]
    exact hstep c c' d l r (hd d (by simp)).1 (hl l (by simp)).1 (hd d (by simp)).2 (hl l (by simp)).2
  | append _ _ ih1 ih2 =>
    intro c c' hd hl
    rw [thread_append, thread_append]
    exact UpToRepeats.append
      (ih1 c c' (fun d hm => hd d (List.mem_append_left _ hm)) (fun l hm => hl l (List.mem_append_left _ hm)))
      (ih2 _ _ (later hd) (later' hl))
  | duplL _ _ ih1 ih2 =>
    intro c c' hd hl
    rw [thread_append]
    exact UpToRepeats.duplL (ih1 c c' (fun d hm => hd d (List.mem_append_left _ hm)) hl) (ih2 _ c' (later hd) hl)
  | duplR _ _ ih1 ih2 =>
    intro c c' hd hl
    rw [thread_append]
    exact UpToRepeats.duplR (ih1 c c' hd (fun l hm => hl l (List.mem_append_left _ hm))) (ih2 c _ hd (later' hl))

/-! ## the 2-way generator on two item lists with the same values -/

/-- the two bins-arrays hold the same values: same sums, and bin by bin the same multiset of values -/
def VEq (v : α → Nat) (v' : β → Nat) (b : Bins α) (b' : Bins β) : Prop := CV v b = CV v' b'

theorem veq_getD {v : α → Nat} {v' : β → Nat} {top : Bins α} {top' : Bins β} (h : VEq v v' top top') (i : Nat) :
    ((top.lists.getD i []).map v).Perm ((top'.lists.getD i []).map v') := by
  have := congrArg Bins.lists h
  simp only [CV, RNPDict.mapLists] at this
  have e : cvl v (top.lists.getD i []) = cvl v' (top'.lists.getD i []) := by
    rw [← RNPDict.getD_map_cvl, ← RNPDict.getD_map_cvl, this]
  exact ((Part.sortAsc_perm id _).symm.trans (List.Perm.of_eq e)).trans (Part.sortAsc_perm id _)

theorem pushAll_cntOK (v : α → Nat) (k : Nat) : ∀ (xs : List α) (h : Heap α) (c : Nat), CntOK c h →
    CntOK (pushAll v k xs h c).2 (pushAll v k xs h c).1
  | [], _, _, hh => hh
  | x :: xs, h, c, hh => by
    simp only [pushAll]
    exact pushAll_cntOK v k xs _ _ (hpush_cntOK _ hh)

theorem valueKey_mapEntry (v : α → Nat) (e : HEntry α) : valueKey id (Natural.mapEntry v e) = valueKey v e := by
  simp only [valueKey, Natural.mapEntry, CV, mapLists, Bins.mapItems, List.map_map]
  congr 2
  apply List.map_congr_left
  intro l _
  simp only [Function.comp, cvl, List.map_map]
  rfl

section Gen
open Prtpy.ValueSim
variable {v nm : α → Nat} {v' nm' : β → Nat}

/-- the two heaps hold the same tuples, up to names -/
def SameValues (v : α → Nat) (v' : β → Nat) (h : Heap α) (g : Heap β) : Prop := h.map (valueKey v) = g.map (valueKey v')

theorem sameValues_length {h : Heap α} {g : Heap β} (hs : SameValues v v' h g) : h.length = g.length := by
  have := congrArg List.length hs
  simpa using this

theorem valueKey_eq {e : HEntry α} {e' : HEntry β} (h : valueKey v e = valueKey v' e') :
    e.diff = e'.diff ∧ CV v e.bins = CV v' e'.bins := by
  simp only [valueKey, Prod.mk.injEq] at h
  exact h

theorem sameValues_before {h : Heap α} {g : Heap β} {c c' : Nat} (hs : SameValues v v' h g) (hc : CntOK c h) (hc' : CntOK c' g) :
    (h.zip g).Pairwise (fun p q => q.1.before p.1 = q.2.before p.2) :=
  Part.before_of_cnt_lt hc.1 hc'.1 fun p hp => (valueKey_eq (Part.mem_zip_of_map_eq hs p hp)).1

theorem hpop_rel {h h' : Heap α} {g : Heap β} {e : HEntry α} {c c' : Nat} (hs : SameValues v v' h g)
    (hc : CntOK c h) (hc' : CntOK c' g) (hp : hpop h = some (e, h')) :
    ∃ e' g', hpop g = some (e', g') ∧ valueKey v e = valueKey v' e' ∧ SameValues v v' h' g' :=
  Part.hpop_keys_some hs (sameValues_before hs hc hc') hp

theorem topDiff_rel {h : Heap α} {g : Heap β} {c c' : Nat} (hs : SameValues v v' h g)
    (hc : CntOK c h) (hc' : CntOK c' g) : topDiffOf h = topDiffOf g :=
  Part.topDiffOf_keys (·.1) (fun _ => rfl) (fun _ => rfl) hs (sameValues_before hs hc hc')

theorem prunedB_rel {h : Heap α} {g : Heap β} (hs : SameValues v v' h g) (k : Nat) (B : EInt) :
    CKKValid.prunedB k h B = CKKValid.prunedB k g B :=
  CKKValid.prunedB_keys (·.2.sums) (fun _ => rfl) (fun _ => rfl) hs k B

theorem hpush_rel {h : Heap α} {g : Heap β} (c c' : Nat) {b : Bins α} {b' : Bins β}
    (hs : SameValues v v' h g) (hb : CV v b = CV v' b') : SameValues v v' (hpush h c b).1 (hpush g c' b').1 := by
  unfold SameValues at *
  have e1 : CV v b.sortAsc = CV v' b'.sortAsc := by
    unfold CV at *
    rw [← sortAsc_mapLists, ← sortAsc_mapLists, hb]
  have e2 : b.sortAsc.sums = b'.sortAsc.sums := congrArg Bins.sums e1
  simp only [hpush, List.map_append, hs, List.map_cons, List.map_nil, valueKey, e1, e2]

/-- equal contents of the two pairings make them equal (the sums are those of the contents) -/
theorem canonC_eq_of_lists {nm : α → Nat} {e1 e2 : HEntry α} (o1 : CKKValid.EOK v 2 e1) (o2 : CKKValid.EOK v 2 e2)
    (hd : (AllComb.canonC nm e1.bins e2.bins [1, 0]).lists = (AllComb.canonC nm e1.bins e2.bins [0, 1]).lists) :
    AllComb.canonC nm e1.bins e2.bins [1, 0] = AllComb.canonC nm e1.bins e2.bins [0, 1] := by
  obtain ⟨q0, _⟩ := AllComb.canonC_spec v nm o1.2.1 o2.2.1 o1.1 o2.1 (show ([0, 1] : List Nat).Perm (List.range 2) by decide)
  obtain ⟨q1, _⟩ := AllComb.canonC_spec v nm o1.2.1 o2.2.1 o1.1 o2.1 (show ([1, 0] : List Nat).Perm (List.range 2) by decide)
  exact CKKOpt.consistent_ext q1 q0 hd

/-- the children of related heaps are related up to repeats: each side has one child or two (its second pairing repeats
    the contents of the first, or not); with two on both sides they are related pairwise, otherwise the one child of a
    side is related to both of the other -/
theorem children_sim [BEq α] [LawfulBEq α] [BEq β] [LawfulBEq β] {c c' : Nat} {e1 e2 : HEntry α}
    {e1' e2' : HEntry β} {h2 : Heap α} {g2 : Heap β} (hk1 : valueKey v e1 = valueKey v' e1') (hk2 : valueKey v e2 = valueKey v' e2')
    (hs2 : SameValues v v' h2 g2) (hc2 : CntOK c h2) (hc2' : CntOK c' g2)
    (o1 : CKKValid.EOK v 2 e1) (o2 : CKKValid.EOK v 2 e2) (o1' : CKKValid.EOK v' 2 e1') (o2' : CKKValid.EOK v' 2 e2') :
    UpToRepeats (SameValues v v') (children nm c e1 e2 h2).1 (children nm' c' e1' e2' g2).1 := by
  have cv1 := (valueKey_eq hk1).2
  have cv2 := (valueKey_eq hk2).2
  have hlen1 : e1.bins.sums.length = 2 := by rw [Part.consistent_length v o1.2.1]; exact o1.1
  have hlen1' : e1'.bins.sums.length = 2 := by rw [Part.consistent_length v' o1'.2.1]; exact o1'.1
  have E0 : CV v (AllComb.canonC nm e1.bins e2.bins [0, 1]) = CV v' (AllComb.canonC nm' e1'.bins e2'.bins [0, 1]) := by
    rw [CV_canonC, CV_canonC, cv1, cv2]
  have E1 : CV v (AllComb.canonC nm e1.bins e2.bins [1, 0]) = CV v' (AllComb.canonC nm' e1'.bins e2'.bins [1, 0]) := by
    rw [CV_canonC, CV_canonC, cv1, cv2]
  have k0 : CntOK (c + 2) (hpush h2 c (AllComb.canonC nm e1.bins e2.bins [0, 1])).1 :=
    cntOK_mono (Nat.le_succ _) (hpush_cntOK _ hc2)
  have k1 : CntOK (c + 2) (hpush h2 (c + 1) (AllComb.canonC nm e1.bins e2.bins [1, 0])).1 :=
    hpush_cntOK _ (cntOK_mono (Nat.le_succ _) hc2)
  have k0' : CntOK (c' + 2) (hpush g2 c' (AllComb.canonC nm' e1'.bins e2'.bins [0, 1])).1 :=
    cntOK_mono (Nat.le_succ _) (hpush_cntOK _ hc2')
  have k1' : CntOK (c' + 2) (hpush g2 (c' + 1) (AllComb.canonC nm' e1'.bins e2'.bins [1, 0])).1 :=
    hpush_cntOK _ (cntOK_mono (Nat.le_succ _) hc2')
  have r0 : SameValues v v' (hpush h2 c (AllComb.canonC nm e1.bins e2.bins [0, 1])).1
      (hpush g2 c' (AllComb.canonC nm' e1'.bins e2'.bins [0, 1])).1 := hpush_rel c c' hs2 E0
  have t0 := topDiff_rel r0 k0 k0'
  -- In the mixed cases both children of the two-child side are related to the one child of the other side, hence have
  -- the same top difference: the stable sort leaves them in push order, and `reverse` puts the `[1, 0]` child first.
  by_cases hd : (AllComb.canonC nm e1.bins e2.bins [1, 0]).lists = (AllComb.canonC nm e1.bins e2.bins [0, 1]).lists
  · have hA := allComb_two_eq nm e1.bins e2.bins hlen1 hd
    by_cases hd' : (AllComb.canonC nm' e1'.bins e2'.bins [1, 0]).lists
        = (AllComb.canonC nm' e1'.bins e2'.bins [0, 1]).lists
    · have hA' := allComb_two_eq nm' e1'.bins e2'.bins hlen1' hd'
      rw [children_one nm c e1 e2 h2 _ hA, children_one nm' c' e1' e2' g2 _ hA']
      exact UpToRepeats.one r0
    · -- the left run drops the second pairing, the right run keeps it
      have hA' := allComb_two_ne nm' e1'.bins e2'.bins hlen1' hd'
      rw [canonC_eq_of_lists o1 o2 hd] at E1
      have r1 : SameValues v v' (hpush h2 c (AllComb.canonC nm e1.bins e2.bins [0, 1])).1
          (hpush g2 (c' + 1) (AllComb.canonC nm' e1'.bins e2'.bins [1, 0])).1 := hpush_rel c (c' + 1) hs2 E1
      have t1 := topDiff_rel r1 k0 k1'
      rw [children_one nm c e1 e2 h2 _ hA, children_two nm' c' e1' e2' g2 _ _ hA', sortDesc_two,
        if_pos (by rw [← t0, ← t1]; exact Nat.le_refl _)]
      exact UpToRepeats.duplR (UpToRepeats.one r1) (UpToRepeats.one r0)
  · have hA := allComb_two_ne nm e1.bins e2.bins hlen1 hd
    by_cases hd' : (AllComb.canonC nm' e1'.bins e2'.bins [1, 0]).lists
        = (AllComb.canonC nm' e1'.bins e2'.bins [0, 1]).lists
    · -- the right run drops the second pairing, the left run keeps it
      have hA' := allComb_two_eq nm' e1'.bins e2'.bins hlen1' hd'
      rw [canonC_eq_of_lists o1' o2' hd'] at E1
      have r1 : SameValues v v' (hpush h2 (c + 1) (AllComb.canonC nm e1.bins e2.bins [1, 0])).1
          (hpush g2 c' (AllComb.canonC nm' e1'.bins e2'.bins [0, 1])).1 := hpush_rel (c + 1) c' hs2 E1
      have t1 := topDiff_rel r1 k1 k0'
      rw [children_two nm c e1 e2 h2 _ _ hA, children_one nm' c' e1' e2' g2 _ hA', sortDesc_two,
        if_pos (by rw [t0, t1]; exact Nat.le_refl _)]
      exact UpToRepeats.duplL (UpToRepeats.one r1) (UpToRepeats.one r0)
    · -- both runs keep both pairings
      have hA' := allComb_two_ne nm' e1'.bins e2'.bins hlen1' hd'
      have r1 : SameValues v v' (hpush h2 (c + 1) (AllComb.canonC nm e1.bins e2.bins [1, 0])).1
          (hpush g2 (c' + 1) (AllComb.canonC nm' e1'.bins e2'.bins [1, 0])).1 := hpush_rel (c + 1) (c' + 1) hs2 E1
      have t1 := topDiff_rel r1 k1 k1'
      rw [children_two nm c e1 e2 h2 _ _ hA, children_two nm' c' e1' e2' g2 _ _ hA', sortDesc_two, sortDesc_two,
        t0, t1]
      by_cases hle : topDiffOf (hpush g2 (c' + 1) (AllComb.canonC nm' e1'.bins e2'.bins [1, 0])).1
          ≤ topDiffOf (hpush g2 c' (AllComb.canonC nm' e1'.bins e2'.bins [0, 1])).1
      · rw [if_pos hle, if_pos hle]
        exact UpToRepeats.append (UpToRepeats.one r1) (UpToRepeats.one r0)
      · rw [if_neg hle, if_neg hle]
        exact UpToRepeats.append (UpToRepeats.one r0) (UpToRepeats.one r1)

theorem children_hinv [BEq α] {items : List α} {c : Nat} {h h1 h2 : Heap α} {e1 e2 : HEntry α}
    (hh : CKKValid.HInv v 2 items h) (hp1 : hpop h = some (e1, h1)) (hp2 : hpop h1 = some (e2, h2)) :
    ∀ d ∈ (children nm c e1 e2 h2).1, CKKValid.HInv v 2 items d := by
  intro d hd
  obtain ⟨nb, hnb, c', _, _, rfl⟩ := mem_children hd
  exact CKKValid.hinv_expand c' hh hp1 hp2 hnb

theorem yieldsOf_sim [BEq α] [LawfulBEq α] [BEq β] [LawfulBEq β] {items : List α} {items' : List β} (B : EInt) :
    ∀ (n c c' : Nat) (h : Heap α) (g : Heap β), SameValues v v' h g → CntOK c h → CntOK c' g →
      CKKValid.HInv v 2 items h → CKKValid.HInv v' 2 items' g → h.length = n →
      UpToRepeats (VEq v v') (yieldsOf nm 2 B n c h).1 (yieldsOf nm' 2 B n c' g).1 := by
  intro n
  induction n with
  | zero =>
    intro c c' h g hs hc hc' hl hl' hn
    unfold yieldsOf
    rw [← prunedB_rel hs 2 B, ← sameValues_length hs, hn]
    split <;> exact UpToRepeats.nil
  | succ n ih =>
    intro c c' h g hs hc hc' hl hl' hn
    unfold yieldsOf
    rw [← prunedB_rel hs 2 B, ← sameValues_length hs, ← topDiff_rel hs hc hc']
    by_cases hpr : CKKValid.prunedB 2 h B = true
    · simp only [hpr, if_true]; exact UpToRepeats.nil
    · rw [if_neg hpr, if_neg hpr]
      -- the three shapes of a heap; the other side has the same number of tuples
      rcases CKKValid.heap_cases h with rfl | ⟨e, rfl⟩ | ⟨e1, h1, e2, h2, hlen, hp1, hp2, _⟩
      · cases hn
      · obtain ⟨e', rfl⟩ : ∃ e', g = [e'] := by
          have := sameValues_length hs
          match g, this with
          | [e'], _ => exact ⟨e', rfl⟩
        unfold SameValues at hs
        simp only [List.map_cons, List.map_nil, List.cons.injEq, and_true] at hs
        simp only [List.length_singleton, beq_self_eq_true, if_true, Part.htop_singleton, Option.map_some]
        split
        · exact UpToRepeats.one (valueKey_eq hs).2
        · exact UpToRepeats.nil
      · have hlen' : (h.length == 1) = false := by simpa using hlen
        rw [if_neg (by simp [hlen']), if_neg (by simp [hlen'])]
        obtain ⟨e1', g1, hq1, hk1, hs1⟩ := hpop_rel hs hc hc' hp1
        have hc1 := cntOK_sublist (Part.hpop_sublist hp1) hc
        have hc1' := cntOK_sublist (Part.hpop_sublist hq1) hc'
        obtain ⟨e2', g2, hq2, hk2, hs2⟩ := hpop_rel hs1 hc1 hc1' hp2
        have hc2 := cntOK_sublist (Part.hpop_sublist hp2) hc1
        have hc2' := cntOK_sublist (Part.hpop_sublist hq2) hc1'
        simp only [hp1, hq1, hp2, hq2]
        obtain ⟨o1, o2⟩ := CKKValid.hinv_pop2 hl hp1 hp2
        obtain ⟨o1', o2'⟩ := CKKValid.hinv_pop2 hl' hq1 hq2
        have hlen2 : h2.length + 1 = n := by
          have a1 := Part.hpop_length hp1
          have a2 := Part.hpop_length hp2
          omega
        have kd := children_cntOK (nm := nm) (e1 := e1) (e2 := e2) hc2
        have kd' := children_cntOK (nm := nm') (e1 := e1') (e2 := e2') hc2'
        have kl := children_hinv (nm := nm) (c := c) hl hp1 hp2
        have kl' := children_hinv (nm := nm') (c := c') hl' hq1 hq2
        have klen : ∀ d ∈ (children nm c e1 e2 h2).1, d.length = n :=
          fun d hd => (children_length hd).trans hlen2
        -- the children are related up to repeats, and every child satisfies what the induction hypothesis asks
        exact thread_upToRepeats (P := fun d => CKKValid.HInv v 2 items d ∧ d.length = n)
          (Q := fun l => CKKValid.HInv v' 2 items' l) (yieldsOf_mono nm 2 B n) (yieldsOf_mono nm' 2 B n)
          (fun c c' d l r p q k k' => ih c c' d l r k k' p.1 q p.2)
          (children_sim (nm := nm) (nm' := nm') (c := c) (c' := c') hk1 hk2 hs2 hc2 hc2' o1 o2 o1' o2') _ _
          (fun d hd => ⟨⟨kl d hd, klen d hd⟩, kd d hd⟩) (fun l hl => ⟨kl' l hl, kd' l hl⟩)

theorem init_rel {rem : List α} {rem' : List β} (hp : (rem.map v).Perm (rem'.map v')) :
    SameValues v v' (pushAll v 2 (sortDesc v rem) [] 0).1 (pushAll v' 2 (sortDesc v' rem') [] 0).1 := by
  have n1 := Natural.pushAll_natural v v id (fun _ => rfl) 2 (sortDesc v rem) [] 0
  have n2 := Natural.pushAll_natural v' v' id (fun _ => rfl) 2 (sortDesc v' rem') [] 0
  simp only [List.map_nil] at n1 n2
  have e := congrArg Prod.fst (n1.symm.trans ((sortDesc_vperm hp ▸ rfl : _ = _).trans n2))
  simp only at e
  unfold SameValues
  have k1 : ∀ h : Heap α, h.map (valueKey v) = (h.map (Natural.mapEntry v)).map (valueKey id) := fun h => by
    rw [List.map_map]; exact List.map_congr_left fun e _ => (valueKey_mapEntry v e).symm
  have k2 : ∀ h : Heap β, h.map (valueKey v') = (h.map (Natural.mapEntry v')).map (valueKey id) := fun h => by
    rw [List.map_map]; exact List.map_congr_left fun e _ => (valueKey_mapEntry v' e).symm
  rw [k1, k2, e]

/-- the splits yielded by the 2-way generator on two item lists with the same values up to order: the same sequence
    of splits, up to blocks explored twice -/
theorem ckkGen_sim [BEq α] [LawfulBEq α] [BEq β] [LawfulBEq β] {rem : List α} {rem' : List β}
    {d0 fuel fuel' : Nat} {tops : List (Bins α)} {tops' : List (Bins β)} (hp : (rem.map v).Perm (rem'.map v'))
    (h : ckkGen v nm 2 true rem (some d0) fuel = .ok tops)
    (h' : ckkGen v' nm' 2 true rem' (some d0) fuel' = .ok tops') : UpToRepeats (VEq v v') tops tops' := by
  obtain ⟨_, hb1, hd1, rfl⟩ := CKKValid.ckkGen_ok h
  obtain ⟨_, hb2, hd2, rfl⟩ := CKKValid.ckkGen_ok h'
  obtain rfl := hb1.2 _ rfl
  obtain rfl := hb2.2 _ rfl
  simp only [Option.isNone_some] at hd1 hd2 ⊢
  rw [run_yields nm 2 fuel _ rfl hd1, run_yields nm' 2 fuel' _ rfl hd2]
  have r1 := init_rel hp
  simp only [ckkInit, List.append_nil, List.reverse_reverse, stackYields, thread]
  rw [← sameValues_length r1]
  exact yieldsOf_sim _ _ _ _ _ _ r1 (pushAll_cntOK v 2 _ [] 0 ⟨List.Pairwise.nil, fun _ h => by cases h⟩)
    (pushAll_cntOK v' 2 _ [] 0 ⟨List.Pairwise.nil, fun _ h => by cases h⟩)
    (CKKValid.init_inv (by decide) rem) (CKKValid.init_inv (by decide) rem') rfl

end Gen

/-! ## the rounds of the recursion -/

/-- the score of a split in the even round over a search `g` that does not look at the incumbent: `g` on the two
    halves, scored by `key` -/
def score (key : List Nat → Nat) (g : List α → Except Err (Bins α)) (top : Bins α) : Except Err (Bins α × Nat) :=
  match g (top.lists.getD 0 []) with
  | .error e => .error e
  | .ok nb1 =>
    match g (top.lists.getD 1 []) with
    | .error e => .error e
    | .ok nb2 => .ok (nb1.concat nb2, key (nb1.sums ++ nb2.sums))

theorem score_ok {key : List Nat → Nat} {g : List α → Except Err (Bins α)} {top : Bins α} {p : Bins α × Nat}
    (h : score key g top = .ok p) :
    ∃ nb1 nb2, g (top.lists.getD 0 []) = .ok nb1 ∧ g (top.lists.getD 1 []) = .ok nb2 ∧
      p = (nb1.concat nb2, key (nb1.sums ++ nb2.sums)) := by
  unfold score at h
  cases h1 : g (top.lists.getD 0 []) with
  | error e => rw [h1] at h; cases h
  | ok nb1 =>
    cases h2 : g (top.lists.getD 1 []) with
    | error e => rw [h1, h2] at h; cases h
    | ok nb2 => rw [h1, h2] at h; cases h; exact ⟨nb1, nb2, rfl, rfl, rfl⟩

/-- the loop body of the even round over a call that ignores its incumbent (with four bins: the 2-way search) keeps
    strict improvements of a state-free score -/
theorem evenStep_keep {key : List Nat → Nat} {child : Bins α → List α → Except Err (Bins α)}
    {g : List α → Except Err (Bins α)} (hchild : ∀ b its, child b its = g its) (st : Bins α × Nat) (top : Bins α) :
    RNPRound.evenStep key child st top = keepStep (score key g) (fun p => p.2) st top := by
  unfold RNPRound.evenStep keepStep score
  simp only [hchild]
  cases g (top.lists.getD 0 []) with
  | error e => rfl
  | ok nb1 =>
    cases g (top.lists.getD 1 []) with
    | error e => rfl
    | ok nb2 => rfl

section Rounds
open Prtpy.ValueSim Prtpy.RNPRound
variable {v nm : α → Nat} {v' nm' : β → Nat} [BEq α] [LawfulBEq α] [BEq β] [LawfulBEq β]

/-- two calls that return the same sums whenever their prior bins and incumbents have the same sums and their items
    the same values up to order -/
def ChildSim (v : α → Nat) (v' : β → Nat) (child : Call α) (child' : Call β) : Prop :=
  ∀ (prior2 st nb : Bins α) (prior2' st' nb' : Bins β) (rest : List α) (rest' : List β),
    prior2.sums = prior2'.sums → st.sums = st'.sums → (rest.map v).Perm (rest'.map v') →
    child prior2 st rest = .ok nb → child' prior2' st' rest' = .ok nb' → nb.sums = nb'.sums

/-- the even round on both sides, over searches `g`, `g'` that ignore the incumbent and agree on the sums -/
theorem evenLevel_vsim {fuel fuel' : Nat} {key : List Nat → Nat}
    {child : Bins α → List α → Except Err (Bins α)} {child' : Bins β → List β → Except Err (Bins β)}
    {g : List α → Except Err (Bins α)} {g' : List β → Except Err (Bins β)}
    (hchild : ∀ b its, child b its = g its) (hchild' : ∀ b its, child' b its = g' its)
    (hg : ∀ its its' nb nb', (its.map v).Perm (its'.map v') → g its = .ok nb → g' its' = .ok nb' →
      nb.sums = nb'.sums)
    {best r : Bins α} {best' r' : Bins β} {rem : List α} {rem' : List β}
    (hb : best.sums = best'.sums) (hp : (rem.map v).Perm (rem'.map v'))
    (h : evenLevel v nm fuel key child best rem = .ok r)
    (h' : evenLevel v' nm' fuel' key child' best' rem' = .ok r') : r.sums = r'.sums := by
  obtain ⟨tops, st, _, hgen, hf, rfl⟩ := evenLevel_ok h
  obtain ⟨tops', st', _, hgen', hf', rfl⟩ := evenLevel_ok h'
  rw [← hb] at hgen' hf'
  rw [show evenStep key child = keepStep (score key g) (fun p => p.2) from
    funext fun st => funext fun top => evenStep_keep hchild st top] at hf
  rw [show evenStep key child' = keepStep (score key g') (fun p => p.2) from
    funext fun st => funext fun top => evenStep_keep hchild' st top] at hf'
  refine (keep_fold_upToRepeats (VEq v v') _ _ _ _
    (fun (s : Bins α × Nat) (t : Bins β × Nat) => s.1.sums = t.1.sums ∧ s.2 = t.2)
    (fun _ _ hs => hs.2) ?_ (ckkGen_sim hp hgen hgen') (best, spread best.sums) st
    (best', spread best.sums) st' ⟨hb, rfl⟩ hf hf').1
  intro top top' p p' hveq hs hs'
  obtain ⟨nb1, nb2, h1, h2, rfl⟩ := score_ok hs
  obtain ⟨nb1', nb2', h1', h2', rfl⟩ := score_ok hs'
  have a1 := hg _ _ _ _ (veq_getD hveq 0) h1 h1'
  have a2 := hg _ _ _ _ (veq_getD hveq 1) h2 h2'
  simp only [Bins.concat, a1, a2, and_self]

/-- the odd round on both sides, given the calls below it (`hrec`) -/
theorem oddLevel_vsim {cur : Nat} {child : Call α} {child' : Call β} (hrec : ChildSim v v' child child')
    {prior best r : Bins α} {prior' best' r' : Bins β} {rem : List α} {rem' : List β}
    (hpr : prior.sums = prior'.sums) (hb : best.sums = best'.sums) (hp : (rem.map v).Perm (rem'.map v'))
    (h : oddLevel v child cur prior best rem = .ok r)
    (h' : oddLevel v' child' cur prior' best' rem' = .ok r') : r.sums = r'.sums := by
  rw [oddLevel_eq_treeFold] at h h'
  rw [← binSum_vperm hp, ← hb] at h'
  obtain ⟨Z, z1, z2⟩ := exists_zip (sortDesc_vperm hp)
  rw [← z1] at h
  rw [← z2] at h'
  refine treeFold_vsim (·.1.1) (·.1.2) (fun (b : Bins α) (b' : Bins β) => b.sums = b'.sums) Z (fun z => z.2)
    _ _ _ _ _ _ (fun _ _ _ => rfl) ?_ Z [] [] best best' r r' (by simp) (List.Sublist.refl _) hb h h'
  intro s s' x t t' hx hs ht1 ht2
  obtain ⟨nb, hnb, hcase⟩ := oddStep_cases ht1
  obtain ⟨nb', hnb', hcase'⟩ := oddStep_cases ht2
  have hxv := map_v_eq (v := v) (v' := v') (·.1.1) (·.1.2) (fun z => z.2) x
  have hbs : binSum v (x.map (·.1.1)) = binSum v' (x.map (·.1.2)) := by simp only [binSum, hxv]
  have e := hrec _ _ _ _ _ _ _ _ (by simp only [hpr, hbs]) hs
    (findDiff_vperm (hx.map _) (z1 ▸ Part.sortDesc_perm v rem) (hx.map _) (z2 ▸ Part.sortDesc_perm v' rem') hxv hp)
    hnb hnb'
  rw [← hbs, ← e, ← hs, ← hpr] at hcase'
  rcases hcase with ⟨hlt, rfl⟩ | ⟨hle, rfl⟩ <;> rcases hcase' with ⟨hlt', rfl⟩ | ⟨hle', rfl⟩
  · simp only [Bins.concat, e, hpr, hbs]
  · omega
  · omega
  · exact hs

/-- two recursions whose steps are `RNPRound.round` with scores that see only the sums of the prior bins, two to five
    bins at top level: the same sums on items with the same values up to order -/
theorem rounds_vsim {c c' : Bool} {fuel fuel' : Nat} {key : Bins α → List Nat → Nat} {key' : Bins β → List Nat → Nat}
    (hkey : ∀ (p : Bins α) (p' : Bins β), p.sums = p'.sums → key p = key' p')
    {R : Nat → Nat → Call α} {R' : Nat → Nat → Call β}
    (hR : ∀ rf cur prior best items,
      R (rf + 1) cur prior best items = round v nm c fuel key (R rf) cur prior best items)
    (hR' : ∀ rf cur prior best items,
      R' (rf + 1) cur prior best items = round v' nm' c' fuel' key' (R' rf) cur prior best items)
    {k : Nat} (hk2 : 2 ≤ k) (hk5 : k ≤ 5) {items : List α} {items' : List β} {best b : Bins α} {best' b' : Bins β}
    (hbs : best.sums = best'.sums) (hp : (items.map v).Perm (items'.map v'))
    (h₁ : R (k + 1) k ⟨[], []⟩ best items = .ok b) (h₂ : R' (k + 1) k ⟨[], []⟩ best' items' = .ok b') :
    b.sums = b'.sums := by
  have two : ∀ rf rf', ChildSim v v' (R (rf + 1) 2) (R' (rf' + 1) 2) := by
    intro rf rf' p st nb p' st' nb' rest rest' _ _ hp' hr hr'
    rw [hR, round_two] at hr
    rw [hR', round_two] at hr'
    exact ckk2_vsim hp' hr hr'
  have four : ChildSim v v' (R 5 4) (R' 5 4) := by
    intro p st nb p' st' nb' rest rest' hpr' hb' hp' hr hr'
    rw [hR, round_four] at hr
    rw [hR', round_four, ← hkey p p' hpr'] at hr'
    exact evenLevel_vsim (g := fun its => ckk2 v nm c its fuel) (g' := fun its => ckk2 v' nm' c' its fuel')
      (fun b its => by rw [hR, round_two]) (fun b its => by rw [hR', round_two])
      (fun _ _ _ _ hp'' h1 h1' => ckk2_vsim hp'' h1 h1') hb' hp' hr hr'
  obtain rfl | rfl | rfl | rfl : k = 2 ∨ k = 3 ∨ k = 4 ∨ k = 5 := by omega
  · exact two 2 2 _ _ _ _ _ _ _ _ rfl hbs hp h₁ h₂
  · rw [hR, round_odd _ _ _ _ _ _ rfl] at h₁
    rw [hR', round_odd _ _ _ _ _ _ rfl] at h₂
    exact oddLevel_vsim (two 2 2) rfl hbs hp h₁ h₂
  · exact four _ _ _ _ _ _ _ _ rfl hbs hp h₁ h₂
  · rw [hR, round_odd _ _ _ _ _ _ rfl] at h₁
    rw [hR', round_odd _ _ _ _ _ _ rfl] at h₂
    exact oddLevel_vsim four rfl hbs hp h₁ h₂

/-- **recursive number partitioning (`1 ≤ numbins ≤ 5`): the vector of sums is a function of the multiset of the
    values** -/
theorem rnpF_sums_congr {c₁ c₂ : Bool} {k : Nat} {items : List α} {items' : List β}
    {f₁ f₂ : Nat} {b₁ : Bins α} {b₂ : Bins β} (hp : (items.map v).Perm (items'.map v')) (hk5 : k ≤ 5) (hk : 0 < k)
    (h₁ : rnpF v nm k c₁ items f₁ = .ok b₁) (h₂ : rnpF v' nm' k c₂ items' f₂ = .ok b₂) : b₁.sums = b₂.sums := by
  obtain ⟨best, hb, c1⟩ := SNPProofs.rnpF_ok h₁
  obtain ⟨best', hb', c2⟩ := SNPProofs.rnpF_ok h₂
  have hbs := kk_sums_vperm hp hb hb'
  rcases c1 with ⟨z, rfl⟩ | ⟨nz, _, r1⟩ <;> rcases c2 with ⟨z', rfl⟩ | ⟨nz', _, r2⟩
  · exact hbs
  · exact absurd (hbs ▸ z) nz'
  · exact absurd (hbs ▸ z') nz
  · have hk2 : 2 ≤ k := by
      rcases Nat.lt_or_ge k 2 with h1 | h1
      · obtain rfl : k = 1 := by omega
        exact absurd (CKKValid.kk_one_spread hb) nz
      · exact h1
    exact rounds_vsim (fun _ _ hpr => by simp only [hpr]) (rnpRecF_succ v nm c₁ f₁) (rnpRecF_succ v' nm' c₂ f₂)
      hk2 hk5 hbs hp r1 r2

end Rounds

/-- **C07 for recursive number partitioning (`numbins ≤ 5`), the whole vector of sums.**  For arbitrary items
    (names in any order, repeated values, even repeated items), either manager on either side and any fuels: the run
    on the named items and the run on the list of their values return the same sums, in the same order.  (For
    `numbins ≥ 6` the model answers `notImplemented` unless `kk` is already perfect.) -/
theorem rnpF_list_dict_sums {v nm : α → Nat} [BEq α] [LawfulBEq α] {c₁ c₂ : Bool} {k : Nat}
    {items : List α} {fuel₁ fuel₂ : Nat} {b₁ : Bins α} {b₂ : Bins Nat} (hk5 : k ≤ 5) (hk : 0 < k)
    (h₁ : rnpF v nm k c₁ items fuel₁ = .ok b₁) (h₂ : rnpF id id k c₂ (items.map v) fuel₂ = .ok b₂) :
    b₂.sums = b₁.sums :=
  (rnpF_sums_congr (by rw [List.map_id]) hk5 hk h₁ h₂).symm

/-- the dict of the counterexample of PrtpyProofs/CKKDedupe.lean: eight items, values `5, 4, 2, 2, 2, 2, 2, 1` -/
def exItems : List (Nat × Nat) := [(0, 5), (1, 4), (2, 2), (3, 2), (4, 2), (5, 2), (6, 2), (7, 1)]

/-- eight items for five bins -/
def exItems5 : List (Nat × Nat) := [(7, 11), (6, 9), (5, 9), (4, 6), (3, 6), (2, 4), (1, 4), (0, 4)]

theorem rnpF_exItems : rnpF Prod.snd Prod.fst 4 true exItems 1000
    = .ok ⟨[4, 5, 5, 6], [[(1, 4)], [(0, 5)], [(7, 1), (3, 2), (4, 2)], [(6, 2), (2, 2), (5, 2)]]⟩ := by
  decide +kernel

set_option maxRecDepth 100000 in
/-- non-vacuity, four bins: `kk` is not perfect and the even case runs.  (The statement compares two literal sums; the
    content is that both hypotheses are runs to completion, on the named items and on their values.) -/
example : (⟨[4, 5, 5, 6], [[4], [5], [1, 2, 2], [2, 2, 2]]⟩ : Bins Nat).sums
    = (⟨[4, 5, 5, 6], [[(1, 4)], [(0, 5)], [(7, 1), (3, 2), (4, 2)], [(6, 2), (2, 2), (5, 2)]]⟩ :
        Bins (Nat × Nat)).sums :=
  rnpF_list_dict_sums (c₂ := true) (fuel₂ := 1000) (by decide) (by decide) rnpF_exItems (by decide +kernel)

set_option maxRecDepth 100000 in
/-- the two runs differ on the way: the generator yields 11 splits of the named items but only 7 of their values -/
example : (ckkGen Prod.snd Prod.fst 2 true exItems (some 2) 1000).toOption.map (·.length) = some 11 ∧
    (ckkGen id id 2 true (exItems.map Prod.snd) (some 2) 1000).toOption.map (·.length) = some 7 := by
  decide +kernel

set_option maxRecDepth 100000 in
/-- five bins: the odd case over the even case -/
example : (⟨[9, 9, 12, 11, 12], [[9], [9], [6, 6], [11], [4, 4, 4]]⟩ : Bins Nat).sums
    = (⟨[9, 9, 12, 11, 12], [[(6, 9)], [(5, 9)], [(3, 6), (4, 6)], [(7, 11)], [(0, 4), (1, 4), (2, 4)]]⟩ :
        Bins (Nat × Nat)).sums :=
  rnpF_list_dict_sums (v := Prod.snd) (nm := Prod.fst) (c₁ := true) (items := exItems5) (fuel₁ := 1000)
    (by decide) (by decide) (by decide +kernel) Runs.rnpF_five

end Prtpy.RNPDict

namespace Prtpy.CKKDedupe
variable {α : Type}

/-! ## Recursive number partitioning with two or three bins -/

/-- C07 for recursive number partitioning with two or three bins, the whole vector of sums: the cases of
    `RNPDict.rnpF_list_dict_sums` that do not run the 2-way generator. -/
theorem rnpF_list_dict_sums_partial_k_le_three {v nm : α → Nat} [BEq α] [LawfulBEq α] {c₁ c₂ : Bool} {k : Nat}
    {items : List α} {fuel₁ fuel₂ : Nat} {b₁ : Bins α} {b₂ : Bins Nat} (hk : k = 2 ∨ k = 3)
    (h₁ : rnpF v nm k c₁ items fuel₁ = .ok b₁) (h₂ : rnpF id id k c₂ (items.map v) fuel₂ = .ok b₂) :
    b₂.sums = b₁.sums :=
  RNPDict.rnpF_list_dict_sums (by omega) (by omega) h₁ h₂

/-- non-vacuity: three bins, the run goes through the odd case and the 2-way search -/
example : (⟨[6, 7, 7], [[4, 2], [5, 2], [1, 2, 2, 2]]⟩ : Bins Nat).sums
    = (⟨[6, 7, 7], [[(1, 4), (6, 2)], [(0, 5), (5, 2)], [(7, 1), (2, 2), (3, 2), (4, 2)]]⟩ :
        Bins (Nat × Nat)).sums :=
  rnpF_list_dict_sums_partial_k_le_three (v := Prod.snd) (nm := Prod.fst) (c₁ := true) (c₂ := true) (k := 3)
    (items := RNPDict.exItems) (fuel₁ := 1000) (fuel₂ := 1000) (Or.inr rfl) (by decide +kernel) (by decide +kernel)

end Prtpy.CKKDedupe
