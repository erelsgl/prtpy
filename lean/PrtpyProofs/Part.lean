/-
  PrtpyProofs.Part — validity (C01) and gap bounds (C08) of the partitioning heuristics
  greedy, roundrobin, kk and multifit.

  The loop invariant of the heuristics that add one item at a time (greedy, roundrobin, complete greedy) is
  `IsPartition` itself, of the items placed so far (`valid_new`, `valid_add`).
  The file also holds the theory of the heap of Karmarkar–Karp (`Heap α` is the model's priority queue, a list of
  entries — not the memory model `Prtpy.Heap.*` of HeapRefine): `hpop`/`hbest` (with the lemmas `hpop_keys*` by which
  two heaps are compared: the complete search in CKKValid.lean and RNPDict.lean, a heap and its image in Sim.lean), the
  induction along a run (`kk_induction`, `KKStepKeeps`), `kkCombine`, and — in the namespace `Prtpy.CKKValid`, because
  `kk` and the complete search share it — the heap invariant `CKKValid.EOK`/`HInv`.  KK43.lean builds on these.
  `Fit` is imported for the section on multifit only: multifit runs first fit.
-/
import PrtpyProofs.Fit
open Prtpy

namespace Prtpy.Part

variable {α : Type}

/-! ## C01 for greedy

The rules by which a partition is built (`valid_new`, `valid_add`, `valid_isPartition`, `isPartition_sortAsc`) are in
Basic.lean, section `IsPartition`. -/

section Greedy
variable (v : α → Nat)

theorem greedy_fold_valid {k : Nat} (hk : 0 < k) (xs : List α) (b : Bins α) (done : List α)
    (h : IsPartition v done k b) : IsPartition v (done ++ xs) k (xs.foldl (greedyStep v) b) := by
  induction xs generalizing b done with
  | nil => simpa using h
  | cons x xs ih =>
    simp only [List.foldl_cons]
    have hlen : b.sums.length = k := by rw [consistent_length v h.2.2, h.2.1]
    have hne : b.sums ≠ [] := by intro h0; rw [h0] at hlen; simp at hlen; omega
    have := ih (greedyStep v b x) (done ++ [x])
      (valid_add v h x (argmin b.sums) (by have := argmin_lt hne; omega))
    simpa using this

theorem greedy_isPartition {v : α → Nat} {k : Nat} {items : List α} (hk : 0 < k) :
    IsPartition v items k (greedy v k items) := by
  have := greedy_fold_valid v hk (sortDesc v items) (Bins.new k) [] (valid_new v k)
  exact valid_isPartition v this (by simpa using sortDesc_perm v items)

example : IsPartition id [4, 5, 6, 7, 8] 2 (greedy id 2 [4, 5, 6, 7, 8]) :=
  greedy_isPartition (v := id) (k := 2) (items := [4, 5, 6, 7, 8]) (by decide)

end Greedy

/-! ## C01 for roundrobin -/

section RoundRobin
variable (v : α → Nat)

theorem rrLoop_valid {k : Nat} (xs : List α) (b : Bins α) (i : Nat) (done : List α)
    (hi : i < k) (h : IsPartition v done k b) : IsPartition v (done ++ xs) k (rrLoop v k b i xs) := by
  induction xs generalizing b i done with
  | nil => simpa [rrLoop] using h
  | cons x xs ih =>
    simp only [rrLoop]
    have := ih (b.add v x i) ((i + 1) % k) (done ++ [x]) (Nat.mod_lt _ (by omega))
      (valid_add v h x i hi)
    simpa using this

theorem roundrobin_isPartition {v : α → Nat} {k : Nat} {items : List α} (hk : 0 < k) :
    IsPartition v items k (roundrobin v k items) := by
  have := rrLoop_valid v (sortDesc v items) (Bins.new k) 0 [] hk (valid_new v k)
  exact valid_isPartition v this (by simpa using sortDesc_perm v items)

example : IsPartition id [4, 5, 6, 7, 8] 3 (roundrobin id 3 [4, 5, 6, 7, 8]) :=
  roundrobin_isPartition (v := id) (k := 3) (items := [4, 5, 6, 7, 8]) (by decide)

end RoundRobin

/-! ## The heap of Karmarkar–Karp -/

section Heap

theorem before_diff_le {e₁ e₂ : HEntry α} (h : e₁.before e₂ = true) : e₂.diff ≤ e₁.diff := by
  simp only [HEntry.before, Bool.or_eq_true, Bool.and_eq_true, decide_eq_true_eq] at h
  omega

theorem not_before_diff_le {e₁ e₂ : HEntry α} (h : ¬ e₁.before e₂ = true) : e₁.diff ≤ e₂.diff := by
  simp only [HEntry.before, Bool.or_eq_true, Bool.and_eq_true, decide_eq_true_eq] at h
  omega

theorem hbestAux_spec (es pre : List (HEntry α)) (bi : Nat) (be : HEntry α)
    (hbi : pre[bi]? = some be) :
    ∃ e, (pre ++ es)[hbestAux es pre.length bi be]? = some e ∧ be.diff ≤ e.diff ∧
      ∀ x ∈ es, x.diff ≤ e.diff := by
  induction es generalizing pre bi be with
  | nil =>
    refine ⟨be, ?_, Nat.le_refl _, by simp⟩
    simpa [hbestAux] using hbi
  | cons e es ih =>
    simp only [hbestAux]
    split
    · rename_i hb
      obtain ⟨e', h1, h2, h3⟩ := ih (pre ++ [e]) pre.length e List.getElem?_concat_length
      rw [List.append_assoc, List.singleton_append, List.length_append, List.length_singleton] at h1
      refine ⟨e', h1, Nat.le_trans (before_diff_le hb) h2, ?_⟩
      intro x hx
      rcases List.mem_cons.1 hx with rfl | hx
      · exact h2
      · exact h3 x hx
    · rename_i hb
      obtain ⟨e', h1, h2, h3⟩ := ih (pre ++ [e]) bi be (by
        rw [List.getElem?_append_left (List.getElem?_eq_some_iff.1 hbi).1]; exact hbi)
      rw [List.append_assoc, List.singleton_append, List.length_append, List.length_singleton] at h1
      refine ⟨e', h1, h2, ?_⟩
      intro x hx
      rcases List.mem_cons.1 hx with rfl | hx
      · exact Nat.le_trans (not_before_diff_le hb) h2
      · exact h3 x hx

theorem hbest_some (h : Heap α) (hne : h ≠ []) :
    ∃ i, ∃ hi : i < h.length, hbest h = some (i, h[i]) := by
  cases h with
  | nil => exact absurd rfl hne
  | cons e es =>
    obtain ⟨e', h1, -, -⟩ := hbestAux_spec es [e] 0 e rfl
    have hi : hbestAux es 1 0 e < (e :: es).length := (List.getElem?_eq_some_iff.1 h1).1
    refine ⟨hbestAux es 1 0 e, hi, ?_⟩
    simp only [hbest]
    rw [List.getElem?_eq_getElem hi]
    rfl

theorem hpop_some (h : Heap α) (hne : h ≠ []) :
    ∃ e h', hpop h = some (e, h') ∧ h.Perm (e :: h') := by
  obtain ⟨i, hi, hb⟩ := hbest_some h hne
  exact ⟨h[i], removeAt h i, by simp [hpop, hb], removeAt_perm h i hi⟩

theorem hpop_perm {h h' : Heap α} {e : HEntry α} (hp : hpop h = some (e, h')) : h.Perm (e :: h') := by
  have hne : h ≠ [] := by rintro rfl; simp [hpop, hbest] at hp
  obtain ⟨e0, h0, h1, h2⟩ := hpop_some h hne
  rw [h1] at hp
  cases hp
  exact h2

theorem hpop2_perm {h h1 h2 : Heap α} {e1 e2 : HEntry α} (hp1 : hpop h = some (e1, h1))
    (hp2 : hpop h1 = some (e2, h2)) : h.Perm (e1 :: e2 :: h2) :=
  (hpop_perm hp1).trans ((hpop_perm hp2).cons e1)

theorem hpop_length {h h' : Heap α} {e : HEntry α} (hp : hpop h = some (e, h')) : h.length = h'.length + 1 := by
  simpa using (hpop_perm hp).length_eq

theorem hpush_length (h : Heap α) (c : Nat) (b : Bins α) : (hpush h c b).1.length = h.length + 1 := by
  simp [hpush]

theorem hpop_mem {h h' : Heap α} {e : HEntry α} (hp : hpop h = some (e, h')) : e ∈ h :=
  (hpop_perm hp).mem_iff.2 List.mem_cons_self

theorem hpop_sublist {h h' : Heap α} {e : HEntry α} (hp : hpop h = some (e, h')) : h'.Sublist h := by
  simp only [hpop, Option.map_eq_some_iff] at hp
  obtain ⟨⟨i, x⟩, _, hx⟩ := hp
  simp only [Prod.mk.injEq] at hx
  rw [← hx.2]
  exact removeAt_sublist h i

theorem hpop_none {h : Heap α} (hp : hpop h = none) : h = [] := by
  by_cases hne : h = []
  · exact hne
  · obtain ⟨e0, h0, h1, _⟩ := hpop_some h hne
    rw [h1] at hp; cases hp

theorem htop_singleton (e : HEntry α) : htop [e] = some e := rfl

/-! ### `hpop` on two heaps that look alike

  The simulations of the complete Karmarkar–Karp search (`CKKValid.lean`: two bins managers; `RNPDict.lean`: named items
  and bare values) and the image of a heap under a map of its entries (`Sim.hpop_map`) need: heaps that agree, position
  by position, on a key of their entries and on `before` pop alike. -/

section Congr
variable {β κ : Type}

theorem hbestAux_congr : ∀ (es : List (HEntry α)) (es' : List (HEntry β)) (i bi : Nat) (be : HEntry α) (be' : HEntry β),
    es.length = es'.length → (∀ p ∈ es.zip es', p.1.before be = p.2.before be') →
    (es.zip es').Pairwise (fun p q => q.1.before p.1 = q.2.before p.2) →
    hbestAux es i bi be = hbestAux es' i bi be'
  | [], [], _, _, _, _, _, _, _ => rfl
  | [], _ :: _, _, _, _, _, h, _, _ => nomatch h
  | _ :: _, [], _, _, _, _, h, _, _ => nomatch h
  | e :: es, e' :: es', i, bi, be, be', hl, hbe, hpw => by
    rw [List.zip_cons_cons, List.pairwise_cons] at hpw
    have hb : e.before be = e'.before be' := hbe (e, e') (by simp)
    have hl' : es.length = es'.length := by simpa using hl
    simp only [hbestAux, hb]
    split
    · exact hbestAux_congr es es' (i + 1) i e e' hl' hpw.1 hpw.2
    · exact hbestAux_congr es es' (i + 1) bi be be' hl'
        (fun p hp => hbe p (by rw [List.zip_cons_cons]; exact List.mem_cons_of_mem _ hp)) hpw.2

/-- `hpop` looks at a heap only through `before` between a later and an earlier entry (`hbestAux_congr`).  If the
    entries of `h` and `g` have the same keys, position by position, and a later entry comes `before` an earlier one
    in `h` exactly if it does in `g`, then `hpop` answers alike on both: nothing, or entries with the same key (those
    at the same position) and rests with the same keys. -/
theorem hpop_keys (kα : HEntry α → κ) (kβ : HEntry β → κ) {h : Heap α} {g : Heap β} (hk : h.map kα = g.map kβ)
    (hpw : (h.zip g).Pairwise (fun p q => q.1.before p.1 = q.2.before p.2)) :
    (hpop h).map (fun p => (kα p.1, p.2.map kα)) = (hpop g).map (fun p => (kβ p.1, p.2.map kβ)) := by
  have hlen : h.length = g.length := by simpa using congrArg List.length hk
  match h, g, hlen with
  | [], [], _ => rfl
  | e0 :: es, e0' :: es', hlen =>
    rw [List.zip_cons_cons, List.pairwise_cons] at hpw
    have hi := hbestAux_congr es es' 1 0 e0 e0' (by simpa using hlen) hpw.1 hpw.2
    simp only [hpop, hbest, Option.map_map]
    rw [← hi]
    generalize hbestAux es 1 0 e0 = i
    have key : ∀ {γ : Type} (k : γ → κ) (l : List γ),
        (l[i]?).map ((fun p : γ × List γ => (k p.1, p.2.map k)) ∘ (fun p : Nat × γ => (p.2, removeAt l p.1)) ∘
          fun x => (i, x)) = ((l.map k)[i]?).map (fun y => (y, removeAt (l.map k) i)) := by
      intro γ k l
      rw [List.getElem?_map, Option.map_map, ← removeAt_map]
      rfl
    rw [key kα, key kβ, hk]

theorem mem_zip_of_map_eq {γ δ : Type} {f : γ → κ} {f' : δ → κ} : ∀ {l : List γ} {l' : List δ},
    l.map f = l'.map f' → ∀ p ∈ l.zip l', f p.1 = f' p.2
  | [], _, _, p, hp => by simp at hp
  | _ :: _, [], _, p, hp => by simp at hp
  | a :: l, b :: l', h, p, hp => by
    simp only [List.map_cons, List.cons.injEq] at h
    rcases List.mem_cons.1 (List.zip_cons_cons .. ▸ hp) with rfl | hp
    · exact h.1
    · exact mem_zip_of_map_eq h.2 p hp

theorem pairwise_zip {γ δ : Type} {P : γ → γ → Prop} {Q : δ → δ → Prop} : ∀ {l : List γ} {l' : List δ},
    l.Pairwise P → l'.Pairwise Q → (l.zip l').Pairwise (fun p q => P p.1 q.1 ∧ Q p.2 q.2)
  | [], _, _, _ => by simp
  | _ :: _, [], _, _ => by simp
  | a :: l, b :: l', h, h' => by
    rw [List.pairwise_cons] at h h'
    rw [List.zip_cons_cons, List.pairwise_cons]
    exact ⟨fun q hq => ⟨h.1 _ (List.of_mem_zip hq).1, h'.1 _ (List.of_mem_zip hq).2⟩, pairwise_zip h.2 h'.2⟩

/-- `hpop_keys` read as a simulation: what `h` pops, `g` pops, with the same key, and the rests have the same keys -/
theorem hpop_keys_some {kα : HEntry α → κ} {kβ : HEntry β → κ} {h h' : Heap α} {g : Heap β} {e : HEntry α}
    (hk : h.map kα = g.map kβ) (hpw : (h.zip g).Pairwise (fun p q => q.1.before p.1 = q.2.before p.2))
    (hp : hpop h = some (e, h')) : ∃ e' g', hpop g = some (e', g') ∧ kα e = kβ e' ∧ h'.map kα = g'.map kβ := by
  have := hpop_keys kα kβ hk hpw
  rw [hp] at this
  cases hg : hpop g with
  | none => rw [hg] at this; cases this
  | some r =>
    rw [hg] at this
    simp only [Option.map_some, Option.some.injEq, Prod.mk.injEq] at this
    exact ⟨r.1, r.2, rfl, this.1, this.2⟩

theorem htop_eq_hpop (h : Heap α) : htop h = (hpop h).map (·.1) := by
  simp only [htop, hpop, Option.map_map]
  rfl

/-- What else the search reads off a heap depends on the keys only, for any notion of key from which the difference
    (`d`) resp. the sums (`s`) can be read: the top difference … -/
theorem topDiffOf_keys {kα : HEntry α → κ} {kβ : HEntry β → κ} (d : κ → Nat)
    (hα : ∀ e, d (kα e) = e.diff) (hβ : ∀ e, d (kβ e) = e.diff) {h : Heap α} {g : Heap β}
    (hk : h.map kα = g.map kβ) (hpw : (h.zip g).Pairwise (fun p q => q.1.before p.1 = q.2.before p.2)) :
    topDiffOf h = topDiffOf g := by
  have e : ∀ {γ : Type} (k : HEntry γ → κ) (_ : ∀ e, d (k e) = e.diff) (l : Heap γ),
      topDiffOf l = (((hpop l).map (fun p => (k p.1, p.2.map k))).map (fun q => d q.1)).getD 0 := by
    intro γ k hd l
    rw [topDiffOf, htop_eq_hpop]
    cases hpop l <;> simp [hd]
  rw [e kα hα, e kβ hβ, hpop_keys kα kβ hk hpw]

/-- … and all the sums it holds, hence `ckkBound` and the prune test -/
theorem flatMap_sums_keys {kα : HEntry α → κ} {kβ : HEntry β → κ} (s : κ → List Nat)
    (hα : ∀ e, s (kα e) = e.bins.sums) (hβ : ∀ e, s (kβ e) = e.bins.sums) {h : Heap α} {g : Heap β}
    (hk : h.map kα = g.map kβ) : h.flatMap (·.bins.sums) = g.flatMap (·.bins.sums) := by
  have e1 : h.flatMap (·.bins.sums) = (h.map kα).flatMap s := by
    rw [List.flatMap_map]; exact congrArg (fun f => h.flatMap f) (funext fun e => (hα e).symm)
  have e2 : g.flatMap (·.bins.sums) = (g.map kβ).flatMap s := by
    rw [List.flatMap_map]; exact congrArg (fun f => g.flatMap f) (funext fun e => (hβ e).symm)
  rw [e1, e2, hk]

/-- With counters that increase along both heaps the tie-break on `cnt` never fires: a later entry comes `before` an
    earlier one by the differences alone, so equal differences position by position give the hypothesis of
    `hpop_keys`, whatever the counters are. -/
theorem before_of_cnt_lt {h : Heap α} {g : Heap β} (hc : h.Pairwise (fun a b => a.cnt < b.cnt))
    (hc' : g.Pairwise (fun a b => a.cnt < b.cnt)) (hd : ∀ p ∈ h.zip g, p.1.diff = p.2.diff) :
    (h.zip g).Pairwise (fun p q => q.1.before p.1 = q.2.before p.2) := by
  refine (pairwise_zip hc hc').imp_of_mem ?_
  rintro p q hp hq ⟨h1, h2⟩
  have n1 : ¬ q.1.cnt < p.1.cnt := by omega
  have n2 : ¬ q.2.cnt < p.2.cnt := by omega
  simp [HEntry.before, hd p hp, hd q hq, n1, n2]

end Congr

end Heap

/-! ## The heap pops an entry of largest difference -/

theorem hpop_max {h h' : Heap α} {e : HEntry α} (hp : hpop h = some (e, h')) :
    ∀ x ∈ h, x.diff ≤ e.diff := by
  cases h with
  | nil => simp [hpop, hbest] at hp
  | cons e0 es =>
    obtain ⟨e', h1, h2, h3⟩ := hbestAux_spec es [e0] 0 e0 rfl
    simp only [hpop, hbest] at hp
    simp only [List.singleton_append, List.length_cons, List.length_nil, Nat.zero_add] at h1
    rw [h1] at hp
    simp only [Option.map_some, Option.some.injEq, Prod.mk.injEq] at hp
    obtain ⟨rfl, _⟩ := hp
    intro x hx
    rcases List.mem_cons.1 hx with rfl | hx
    · exact h2
    · exact h3 x hx

/-! ## Induction along a run of `kk` -/

section Run
variable {v : α → Nat} {k : Nat} {Φ : List α → Heap α → Prop} {Ψ : Heap α → Prop}

theorem pushAll_induction (xs : List α)
    (hΦ : ∀ done x H c, x ∈ xs → Φ done H → Φ (done ++ [x]) (hpush H c (single v k x)).1) :
    ∀ (done : List α) (H : Heap α) (c : Nat), Φ done H →
      Φ (done ++ xs) (pushAll v k xs H c).1 ∧ (pushAll v k xs H c).1.length = H.length + xs.length := by
  induction xs with
  | nil => intro done H c h; exact ⟨by simpa [pushAll] using h, rfl⟩
  | cons x xs ih =>
    intro done H c h
    obtain ⟨i1, i2⟩ := ih (fun d y H c hy => hΦ d y H c (List.mem_cons_of_mem _ hy)) (done ++ [x]) _
      (hpush H c (single v k x)).2 (hΦ done x H c List.mem_cons_self h)
    rw [List.append_assoc] at i1
    refine ⟨i1, ?_⟩
    rw [pushAll, i2, hpush, List.length_append, List.length_cons, List.length_cons, List.length_nil]
    omega

/-- `Ψ` is kept by one iteration (a property of `Ψ`, not a step relation), on a heap whose first two entries are the
    popped ones: they have the largest differences -/
def KKStepKeeps (Ψ : Heap α → Prop) : Prop :=
  ∀ e1 e2 H2 c, Ψ (e1 :: e2 :: H2) → (∀ x ∈ e2 :: H2, x.diff ≤ e1.diff) → (∀ x ∈ H2, x.diff ≤ e2.diff) →
    Ψ (hpush H2 c (kkCombine e1.bins e2.bins)).1

theorem kkLoop_induction (hperm : ∀ H H', H.Perm H' → Ψ H → Ψ H') (hstep : KKStepKeeps Ψ) (n : Nat) :
    ∀ (h : Heap α) (c : Nat), h.length = n + 1 → Ψ h → Ψ (kkLoop n h c) ∧ (kkLoop n h c).length = 1 := by
  induction n with
  | zero => intro h c hlen hΨ; exact ⟨hΨ, hlen⟩
  | succ n ih =>
    intro h c hlen hΨ
    have hne : h ≠ [] := by rintro rfl; simp at hlen
    obtain ⟨e1, h1, hp1, hperm1⟩ := hpop_some h hne
    have hlen1 : h1.length = n + 1 := by have := hperm1.length_eq; simp at this; omega
    have hne1 : h1 ≠ [] := by rintro rfl; simp at hlen1
    obtain ⟨e2, h2, hp2, hperm2⟩ := hpop_some h1 hne1
    have hlen2 : h2.length = n := by have := hperm2.length_eq; simp at this; omega
    simp only [kkLoop, hp1, hp2]
    refine ih _ _ (by simp [hpush, hlen2]) (hstep e1 e2 h2 c
      (hperm _ _ (hperm1.trans (List.Perm.cons e1 hperm2)) hΨ)
      (fun x hx => hpop_max hp1 x (hperm1.mem_iff.2 (List.mem_cons_of_mem _ (hperm2.mem_iff.2 hx))))
      (fun x hx => hpop_max hp2 x (hperm2.mem_iff.2 (List.mem_cons_of_mem _ hx))))

/-- Induction along a run of `kk`.  `Φ done H`: the heap `H` after the items `done` have been pushed;
    `Ψ H`: the heap during the differencing loop, in any order.  The result is the tuple of the last entry. -/
theorem kk_induction {items : List α} (hne : items ≠ []) (h0 : Φ [] [])
    (hΦ : ∀ done x H c, x ∈ items → Φ done H → Φ (done ++ [x]) (hpush H c (single v k x)).1)
    (hΦΨ : ∀ H, Φ (sortDesc v items) H → Ψ H) (hperm : ∀ H H', H.Perm H' → Ψ H → Ψ H') (hstep : KKStepKeeps Ψ) :
    ∃ e, kk v k items = .ok e.bins ∧ Ψ [e] := by
  have hsp := sortDesc_perm v items
  obtain ⟨p1, p2⟩ := pushAll_induction (v := v) (k := k) (sortDesc v items)
    (fun d x H c hx => hΦ d x H c (hsp.mem_iff.1 hx)) [] [] 0 h0
  have hlen : (pushAll v k (sortDesc v items) [] 0).1.length = ((sortDesc v items).length - 1) + 1 := by
    have : items.length ≠ 0 := by simpa using hne
    rw [p2, sortDesc_length, List.length_nil]; omega
  obtain ⟨q1, q2⟩ := kkLoop_induction hperm hstep _ _ (pushAll v k (sortDesc v items) [] 0).2 hlen (hΦΨ _ p1)
  obtain ⟨e, he⟩ := List.length_eq_one_iff.1 q2
  rw [he] at q1
  exact ⟨e, by rw [kk, he, htop_singleton], q1⟩

end Run

/-! ## `kkCombine` -/

section Combine

theorem zipWith_append_flatten_perm (l₁ l₂ : List (List α)) (h : l₁.length = l₂.length) :
    (List.zipWith (· ++ ·) l₁ l₂).flatten.Perm (l₁.flatten ++ l₂.flatten) := by
  induction l₁ generalizing l₂ with
  | nil =>
    cases l₂ with
    | nil => simp
    | cons b bs => simp at h
  | cons a as ih =>
    cases l₂ with
    | nil => simp at h
    | cons b bs =>
      simp only [List.zipWith_cons_cons, List.flatten_cons, List.append_assoc]
      have := ih bs (by simpa using h)
      refine List.Perm.append_left a ?_
      exact (List.Perm.append_left b this).trans (List.perm_append_comm_assoc _ _ _)

theorem zipWith_map_binSum (v : α → Nat) (l₁ l₂ : List (List α)) :
    List.zipWith (· + ·) (l₁.map (binSum v)) (l₂.map (binSum v)) =
      (List.zipWith (· ++ ·) l₁ l₂).map (binSum v) := by
  induction l₁ generalizing l₂ with
  | nil => simp
  | cons a as ih =>
    cases l₂ with
    | nil => simp
    | cons b bs => simp [ih, binSum_append]

theorem kkCombine_lists_length (b₁ b₂ : Bins α) (k : Nat) (h₁ : b₁.lists.length = k)
    (h₂ : b₂.lists.length = k) : (kkCombine b₁ b₂).lists.length = k := by
  simp [kkCombine, h₁, h₂]

theorem kkCombine_consistent (v : α → Nat) (b₁ b₂ : Bins α) (h₁ : b₁.Consistent v)
    (h₂ : b₂.Consistent v) : (kkCombine b₁ b₂).Consistent v := by
  unfold Bins.Consistent at *
  simp only [kkCombine]
  rw [h₁, h₂, ← List.map_reverse, zipWith_map_binSum]

theorem kkCombine_flat_perm (b₁ b₂ : Bins α) (h : b₁.lists.length = b₂.lists.length) :
    (kkCombine b₁ b₂).lists.flatten.Perm (b₁.lists.flatten ++ b₂.lists.flatten) := by
  simp only [kkCombine]
  refine (zipWith_append_flatten_perm _ _ (by simpa using h)).trans ?_
  exact List.Perm.append_left _ (List.reverse_perm _).flatten

/-- adding a non-decreasing tuple to a non-increasing tuple, position by position, does not increase the
    spread beyond the larger of the two spreads -/
theorem zipWith_add_gap (M : Nat) (a d : List Nat) (ha : a.Pairwise (· ≤ ·)) (hd : d.Pairwise (· ≥ ·))
    (ga : ∀ x ∈ a, ∀ y ∈ a, x ≤ y + M) (gd : ∀ x ∈ d, ∀ y ∈ d, x ≤ y + M) :
    (∀ p ∈ List.zipWith (· + ·) a d, ∃ x ∈ a, ∃ y ∈ d, p = x + y) ∧
    ∀ p ∈ List.zipWith (· + ·) a d, ∀ q ∈ List.zipWith (· + ·) a d, p ≤ q + M := by
  induction a generalizing d with
  | nil => simp
  | cons x as ih =>
    cases d with
    | nil => simp
    | cons y ds =>
      rw [List.pairwise_cons] at ha hd
      obtain ⟨ih1, ih2⟩ := ih ds ha.2 hd.2
        (fun p hp q hq => ga p (List.mem_cons_of_mem _ hp) q (List.mem_cons_of_mem _ hq))
        (fun p hp q hq => gd p (List.mem_cons_of_mem _ hp) q (List.mem_cons_of_mem _ hq))
      simp only [List.zipWith_cons_cons]
      constructor
      · intro p hp
        rcases List.mem_cons.1 hp with rfl | hp
        · exact ⟨x, List.mem_cons_self .., y, List.mem_cons_self .., rfl⟩
        · obtain ⟨x', hx', y', hy', rfl⟩ := ih1 p hp
          exact ⟨x', List.mem_cons_of_mem _ hx', y', List.mem_cons_of_mem _ hy', rfl⟩
      · intro p hp q hq
        rcases List.mem_cons.1 hp with rfl | hp <;> rcases List.mem_cons.1 hq with rfl | hq
        · omega
        · obtain ⟨x', hx', y', hy', rfl⟩ := ih1 q hq
          have := ha.1 x' hx'
          have := gd y (List.mem_cons_self ..) y' (List.mem_cons_of_mem _ hy')
          omega
        · obtain ⟨x', hx', y', hy', rfl⟩ := ih1 p hp
          have := hd.1 y' hy'
          have := ga x' (List.mem_cons_of_mem _ hx') x (List.mem_cons_self ..)
          omega
        · exact ih2 p hp q hq

end Combine

/-! ## C01 and C08 for kk -/

/-- the tuple `pushAll` makes of one item -/
theorem single_spec (v : α → Nat) {k : Nat} (hk : 0 < k) (x : α) :
    (single v k x).lists.length = k ∧ (single v k x).Consistent v ∧ (single v k x).lists.flatten.Perm [x] ∧
      ∀ a ∈ (single v k x).sums, a = 0 ∨ a = v x := by
  unfold single
  refine ⟨by simp, add_consistent v _ x _ (new_consistent v k), ?_, ?_⟩
  · have := add_flat_perm v (Bins.new k : Bins α) x (k - 1) (by simp; omega)
    rwa [new_flat] at this
  · intro a ha
    rcases mem_modify ha with h | ⟨hi, h⟩
    · exact Or.inl (List.mem_replicate.1 h).2
    · right; rw [h]; simp [Bins.new]

end Prtpy.Part

/-! The heap invariant of Karmarkar–Karp; `kk` below and the complete search (PrtpyProofs.CKKValid) share it. -/

namespace Prtpy.CKKValid
variable {α : Type}

/-- a heap entry is well formed: `k` bins, sums describe the bins, sums ascending, key = last − first -/
def EOK (v : α → Nat) (k : Nat) (e : HEntry α) : Prop :=
  e.bins.lists.length = k ∧ e.bins.Consistent v ∧ e.bins.sums.Pairwise (· ≤ ·) ∧
    e.diff = lastD e.bins.sums 0 - e.bins.sums.headD 0

/-- the Karmarkar–Karp heap invariant: the entries together hold exactly the items -/
def HInv (v : α → Nat) (k : Nat) (items : List α) (h : Heap α) : Prop :=
  (h.flatMap (fun e => e.bins.lists.flatten)).Perm items ∧ ∀ e ∈ h, EOK v k e

/-- the entry `hpush` makes of a tuple of `k` consistent bins -/
theorem eok_sortAsc {v : α → Nat} {k : Nat} (c : Nat) {b : Bins α} (hl : b.lists.length = k)
    (hc : b.Consistent v) : EOK v k ⟨lastD b.sortAsc.sums 0 - b.sortAsc.sums.headD 0, c, b.sortAsc⟩ :=
  ⟨by rw [Part.sortAsc_lists_length b (Part.consistent_length v hc), hl], Part.sortAsc_consistent v b hc,
    Part.sortAsc_sums_sorted b, rfl⟩

theorem hpush_inv {v : α → Nat} {k : Nat} {done : List α} {h : Heap α} (c : Nat) {b : Bins α}
    (hh : HInv v k done h) (hl : b.lists.length = k) (hc : b.Consistent v) :
    HInv v k (done ++ b.lists.flatten) (hpush h c b).1 := by
  refine ⟨?_, ?_⟩
  · simp only [hpush, List.flatMap_append, List.flatMap_cons, List.flatMap_nil, List.append_nil]
    exact hh.1.append (Part.sortAsc_flat_perm b (Part.consistent_length v hc))
  · intro e he
    simp only [hpush, List.mem_append, List.mem_singleton] at he
    rcases he with he | rfl
    · exact hh.2 e he
    · exact eok_sortAsc c hl hc

theorem HInv.perm {v : α → Nat} {k : Nat} {items : List α} {h h' : Heap α} (hp : h.Perm h')
    (hh : HInv v k items h) : HInv v k items h' :=
  ⟨(hp.flatMap_right _).symm.trans hh.1, fun e he => hh.2 e (hp.mem_iff.2 he)⟩

/-- the step of `kk` and of the complete search: two entries are replaced by a tuple that holds the items of both -/
theorem hinv_push2 {v : α → Nat} {k : Nat} {items : List α} {e1 e2 : HEntry α} {H2 : Heap α}
    (hh : HInv v k items (e1 :: e2 :: H2)) (c : Nat) {nb : Bins α} (hl : nb.lists.length = k)
    (hc : nb.Consistent v)
    (hf : nb.lists.flatten.Perm (e1.bins.lists.flatten ++ e2.bins.lists.flatten)) :
    HInv v k items (hpush H2 c nb).1 := by
  have q := hpush_inv c (done := H2.flatMap fun e => e.bins.lists.flatten)
    ⟨List.Perm.refl _, fun e he => hh.2 e (by simp [he])⟩ hl hc
  refine ⟨q.1.trans ?_, q.2⟩
  have hfl := hh.1
  simp only [List.flatMap_cons] at hfl
  refine List.Perm.trans ?_ hfl
  refine (List.Perm.append_left _ hf).trans ?_
  exact List.perm_append_comm.trans (by rw [List.append_assoc])

theorem hpush_single {v : α → Nat} {k : Nat} (hk : 0 < k) {done : List α} {h : Heap α} (c : Nat) (x : α)
    (hh : HInv v k done h) : HInv v k (done ++ [x]) (hpush h c (single v k x)).1 := by
  obtain ⟨s1, s2, s3, _⟩ := Part.single_spec v hk x
  have hp := hpush_inv c hh s1 s2
  exact ⟨hp.1.trans (List.Perm.append_left done s3), hp.2⟩

theorem init_inv {v : α → Nat} {k : Nat} (hk : 0 < k) (items : List α) :
    HInv v k items (pushAll v k (sortDesc v items) [] 0).1 := by
  have := (Part.pushAll_induction (Φ := fun done H => HInv v k done H) (sortDesc v items)
    (fun _ x _ c _ hh => hpush_single hk c x hh) [] [] 0 ⟨by simp, by simp⟩).1
  simp only [List.nil_append] at this
  exact ⟨this.1.trans (Part.sortDesc_perm v items), this.2⟩

end Prtpy.CKKValid

namespace Prtpy.Part
variable {α : Type}

section KK
open CKKValid
variable {v : α → Nat} {k : Nat}

/-- every tuple of the heap has spread at most `M` -/
def Gap (M : Nat) (h : Heap α) : Prop := ∀ e ∈ h, ∀ a ∈ e.bins.sums, ∀ c ∈ e.bins.sums, a ≤ c + M

theorem gap_hpush {M : Nat} {h : Heap α} (c : Nat) {b : Bins α} (hl : b.sums.length = b.lists.length)
    (hb : ∀ a ∈ b.sums, ∀ c ∈ b.sums, a ≤ c + M) (hh : Gap M h) : Gap M (hpush h c b).1 := by
  intro e he
  simp only [hpush, List.mem_append, List.mem_singleton] at he
  rcases he with he | rfl
  · exact hh e he
  · have hp := sortAsc_sums_perm b hl
    exact fun a ha c hc => hb a (hp.mem_iff.1 ha) c (hp.mem_iff.1 hc)

variable (v)

/-- C01 + C08 for `kk`, in one statement: for every bound `M` on the item values -/
theorem kk_spec {k M : Nat} (items : List α) (hk : 0 < k) (hne : items ≠ [])
    (hM : ∀ x ∈ items, v x ≤ M) :
    ∃ b, kk v k items = .ok b ∧ IsPartition v items k b ∧ b.sums.Pairwise (· ≤ ·) ∧
      maxL b.sums - minL b.sums ≤ M := by
  obtain ⟨e, he, q1, q2⟩ : ∃ e, kk v k items = .ok e.bins ∧ HInv v k (sortDesc v items) [e] ∧ Gap M [e] := by
    refine kk_induction (v := v) (k := k) hne (Φ := fun done H => HInv v k done H ∧ Gap M H)
      (Ψ := fun H => HInv v k (sortDesc v items) H ∧ Gap M H) ⟨⟨by simp, by simp⟩, fun _ he => nomatch he⟩ ?_ (fun _ h => h)
      (fun H H' hp h => ⟨h.1.perm hp, fun e he => h.2 e (hp.mem_iff.2 he)⟩) ?_
    · intro done x H c hx h
      obtain ⟨_, s2, _, s4⟩ := single_spec v hk x
      refine ⟨hpush_single hk c x h.1, gap_hpush c (consistent_length v s2) ?_ h.2⟩
      have := hM x hx
      intro a ha c hc
      rcases s4 a ha with rfl | rfl <;> rcases s4 c hc with rfl | rfl <;> omega
    · intro e1 e2 H2 c h _ _
      obtain ⟨l1, c1, s1, _⟩ := h.1.2 e1 List.mem_cons_self
      obtain ⟨l2, c2, s2, _⟩ := h.1.2 e2 (List.mem_cons_of_mem _ List.mem_cons_self)
      have hc := kkCombine_consistent v e1.bins e2.bins c1 c2
      refine ⟨hinv_push2 h.1 c (kkCombine_lists_length _ _ k l1 l2) hc
          (kkCombine_flat_perm e1.bins e2.bins (by rw [l1, l2])),
        gap_hpush c (consistent_length v hc) ?_
          (fun e he => h.2 e (List.mem_cons_of_mem _ (List.mem_cons_of_mem _ he)))⟩
      refine (zipWith_add_gap M e1.bins.sums e2.bins.sums.reverse s1 (List.pairwise_reverse.2 s2)
        (h.2 e1 List.mem_cons_self) ?_).2
      intro x hx y hy
      exact h.2 e2 (List.mem_cons_of_mem _ List.mem_cons_self) x (List.mem_reverse.1 hx) y (List.mem_reverse.1 hy)
  obtain ⟨l, c, s, _⟩ := q1.2 e List.mem_cons_self
  refine ⟨e.bins, he, ⟨?_, l, c⟩, s, (gap_le_iff _ _).2 (q2 e List.mem_cons_self)⟩
  have := q1.1
  simp only [List.flatMap_cons, List.flatMap_nil, List.append_nil] at this
  exact this.trans (sortDesc_perm v items)

theorem kk_isPartition {v : α → Nat} {k : Nat} {items : List α} (hk : 0 < k) (hne : items ≠ []) :
    ∃ b, kk v k items = .ok b ∧ IsPartition v items k b := by
  obtain ⟨b, h1, h2, _⟩ := kk_spec v (M := maxL (items.map v)) items hk hne
    (fun x hx => le_maxL (List.mem_map_of_mem hx))
  exact ⟨b, h1, h2⟩

example : ∃ b, kk id 3 [4, 5, 6, 7, 8] = .ok b ∧ IsPartition id [4, 5, 6, 7, 8] 3 b :=
  kk_isPartition (v := id) (k := 3) (items := [4, 5, 6, 7, 8]) (by decide) (by decide)

/-- `kk_spec` for a given result, with the largest value as the bound -/
theorem kk_ok_spec {v : α → Nat} {k : Nat} {items : List α} (hk : 0 < k) (hne : items ≠ []) {b : Bins α}
    (h : kk v k items = .ok b) :
    IsPartition v items k b ∧ b.sums.Pairwise (· ≤ ·) ∧ maxL b.sums - minL b.sums ≤ maxL (items.map v) := by
  obtain ⟨b', h1, h2⟩ := kk_spec v (M := maxL (items.map v)) items hk hne
    (fun x hx => le_maxL (List.mem_map_of_mem hx))
  rw [h1] at h
  cases h
  exact h2

end KK

/-! ### C08 for kk: the gap bound and the sorted sums, the conjuncts of `kk_ok_spec` -/

section KKGap

theorem kk_gap {v : α → Nat} {k : Nat} {items : List α} (hk : 0 < k) (hne : items ≠ []) {b : Bins α}
    (h : kk v k items = .ok b) : maxL b.sums - minL b.sums ≤ maxL (items.map v) :=
  (kk_ok_spec hk hne h).2.2

theorem kk_sorted {v : α → Nat} {k : Nat} {items : List α} (hk : 0 < k) (hne : items ≠ []) {b : Bins α}
    (h : kk v k items = .ok b) : b.sums.Pairwise (· ≤ ·) :=
  (kk_ok_spec hk hne h).2.1

example : ∃ b, kk id 3 [4, 5, 6, 7, 8] = .ok b ∧ maxL b.sums - minL b.sums ≤ 8 :=
  ⟨_, rfl, kk_gap (v := id) (k := 3) (items := [4, 5, 6, 7, 8]) (by decide) (by decide) rfl⟩

end KKGap

/-! ## C08: gap bounds -/

section GreedyGap
variable (v : α → Nat)

/-- one-step invariant of greedy: adding `x ≤ M` to a bin of minimum sum keeps `max − min ≤ M` -/
theorem greedyStep_gap {M : Nat} (s : List Nat) (x : Nat) (hne : s ≠ []) (hx : x ≤ M)
    (g : ∀ a ∈ s, ∀ c ∈ s, a ≤ c + M) :
    ∀ a ∈ s.modify (argmin s) (· + x), ∀ c ∈ s.modify (argmin s) (· + x), a ≤ c + M := by
  have hmin := minL_mem hne
  intro a ha c hc
  rcases mem_modify ha with ha | ⟨hi, rfl⟩ <;> rcases mem_modify hc with hc | ⟨hi', rfl⟩
  · exact g a ha c hc
  · have := g a ha _ hmin
    rw [getElem_argmin hi']; omega
  · have := minL_le hc
    rw [getElem_argmin hi]; omega
  · omega

theorem greedy_fold_gap {M : Nat} (xs : List α) (b : Bins α) (hne : b.sums ≠ [])
    (hM : ∀ x ∈ xs, v x ≤ M) (g : ∀ a ∈ b.sums, ∀ c ∈ b.sums, a ≤ c + M) :
    ∀ a ∈ (xs.foldl (greedyStep v) b).sums, ∀ c ∈ (xs.foldl (greedyStep v) b).sums, a ≤ c + M := by
  induction xs generalizing b with
  | nil => simpa using g
  | cons x xs ih =>
    simp only [List.foldl_cons]
    apply ih
    · intro h0
      have := congrArg List.length h0
      simp only [greedyStep, add_sums, List.length_modify, List.length_nil] at this
      exact hne (List.length_eq_zero_iff.1 this)
    · exact fun y hy => hM y (List.mem_cons_of_mem _ hy)
    · exact greedyStep_gap b.sums (v x) hne (hM x (List.mem_cons_self ..)) g

theorem greedy_gap {v : α → Nat} {k : Nat} {items : List α} (hk : 0 < k) :
    maxL (greedy v k items).sums - minL (greedy v k items).sums ≤ maxL (items.map v) := by
  rw [gap_le_iff]
  apply greedy_fold_gap
  · simp [Bins.new]; omega
  · exact sortDesc_le_maxL v items
  · intro a ha c hc
    simp only [Bins.new, List.mem_replicate] at ha hc
    omega

example : maxL (greedy id 2 [4, 5, 6, 7, 8]).sums - minL (greedy id 2 [4, 5, 6, 7, 8]).sums ≤ 8 :=
  greedy_gap (v := id) (k := 2) (items := [4, 5, 6, 7, 8]) (by decide)

end GreedyGap

section RRGap
variable (v : α → Nat)

/-- What the invariant of the round-robin deal says of the sums `a`, `b` of two bins `j < j'` (`i` = next bin to be
    served, `y` = last item dealt, `M` = largest item), see `RRInv`:
    the earlier bin is ahead, by at most `M`;
    if both bins have been served equally often (both before `i`, or both from `i` on), the earlier bin got the larger
    item in every lap, and the last item of the later bin is at least `y`, so the lead is at most `M - y`;
    if `j` has been served in the current lap and `j'` not yet, `j` is ahead by at least its last item, which is `≥ y`. -/
def RRPair (M i y j j' a b : Nat) : Prop :=
  b ≤ a ∧ a ≤ b + M ∧ ((j' < i ∨ i ≤ j) → a + y ≤ b + M) ∧ ((j < i ∧ i ≤ j') → b + y ≤ a)

/-- Invariant of the round-robin deal.  `i` is the bin that receives the next item, `y` bounds the items that are
    still to be dealt (it is the last item dealt), `M` bounds every item.  Bins before `i` have received one item
    more than the others. -/
def RRInv (M : Nat) (s : List Nat) (i y : Nat) : Prop :=
  y ≤ M ∧ ∀ (j j' : Nat) (hj : j < j') (hj' : j' < s.length),
    RRPair M i y j j' (s[j]'(Nat.lt_trans hj hj')) s[j']

/-- the bin served gains `x ≤ y`: served `j` moves a pair from "equal service" to "`j` ahead by its last item", served
    `j'` moves it back to "equal service" with the lead reduced by `x` -/
theorem rrPair_step {M i y j j' a b x : Nat} (hj : j < j') (hx : x ≤ y)
    (h : RRPair M i y j j' a b) :
    RRPair M (i + 1) x j j' (if i = j then a + x else a) (if i = j' then b + x else b) := by
  unfold RRPair at *
  split <;> split <;> omega

theorem rrInv_step {M : Nat} {s : List Nat} {i y : Nat} (x : Nat) (h : RRInv M s i y) (hx : x ≤ y) :
    RRInv M (s.modify i (· + x)) (i + 1) x := by
  obtain ⟨hy, h⟩ := h
  refine ⟨by omega, fun j j' hj hj' => ?_⟩
  simp only [List.getElem_modify]
  exact rrPair_step hj hx (h j j' hj (by simpa using hj'))

/-- the lap: at `i = length` every pair is "both before `i`", at `i = 0` every pair is "both from `i` on" — the same
    clause of `RRPair` (equal service); the last clause is vacuous on both sides -/
theorem rrInv_wrap {M : Nat} {s : List Nat} {y : Nat} (h : RRInv M s s.length y) : RRInv M s 0 y := by
  refine ⟨h.1, fun j j' hj hj' => ?_⟩
  have := h.2 j j' hj hj'
  unfold RRPair at *
  omega

theorem rrLoop_sums_length (k : Nat) (xs : List α) (b : Bins α) (i : Nat) :
    (rrLoop v k b i xs).sums.length = b.sums.length := by
  induction xs generalizing b i with
  | nil => rfl
  | cons x xs ih => simp only [rrLoop, ih, add_sums, List.length_modify]

theorem rrLoop_rrInv {k M : Nat} (xs : List α) (b : Bins α) (i y : Nat) (hlen : b.sums.length = k)
    (hi : i < k) (hs : xs.Pairwise (fun a c => v c ≤ v a)) (hy : ∀ x ∈ xs, v x ≤ y)
    (h : RRInv M b.sums i y) : ∃ i' y', RRInv M (rrLoop v k b i xs).sums i' y' := by
  induction xs generalizing b i y with
  | nil => exact ⟨i, y, h⟩
  | cons x xs ih =>
    simp only [rrLoop]
    rw [List.pairwise_cons] at hs
    have hstep := rrInv_step (v x) h (hy x (List.mem_cons_self ..))
    have hlen' : (b.add v x i).sums.length = k := by simp [hlen]
    apply ih (b.add v x i) ((i + 1) % k) (v x) hlen' (Nat.mod_lt _ (by omega)) hs.2 hs.1
    by_cases hw : i + 1 < k
    · rw [Nat.mod_eq_of_lt hw]; exact hstep
    · have hik : i + 1 = k := by omega
      rw [hik, Nat.mod_self]
      apply rrInv_wrap
      rw [hlen', ← hik]
      exact hstep

theorem roundrobin_rrInv (k : Nat) (items : List α) (hk : 0 < k) :
    ∃ i y, RRInv (maxL (items.map v)) (roundrobin v k items).sums i y := by
  apply rrLoop_rrInv v (sortDesc v items) (Bins.new k) 0 (maxL (items.map v)) (by simp) hk
    (sortDesc_sorted v items)
    (sortDesc_le_maxL v items)
  refine ⟨Nat.le_refl _, fun j j' hj hj' => ?_⟩
  simp only [Bins.new, List.getElem_replicate, RRPair]
  omega

theorem roundrobin_monotone {v : α → Nat} {k : Nat} {items : List α} (hk : 0 < k) :
    List.Pairwise (· ≥ ·) (roundrobin v k items).sums := by
  obtain ⟨i, y, _, h⟩ := roundrobin_rrInv v k items hk
  rw [List.pairwise_iff_getElem]
  intro j j' _ hj' hjj'
  exact (h j j' hjj' hj').1

theorem roundrobin_gap {v : α → Nat} {k : Nat} {items : List α} (hk : 0 < k) :
    maxL (roundrobin v k items).sums - minL (roundrobin v k items).sums ≤ maxL (items.map v) := by
  obtain ⟨i, y, _, h⟩ := roundrobin_rrInv v k items hk
  rw [gap_le_iff]
  intro a ha c hc
  obtain ⟨j, hj, rfl⟩ := List.mem_iff_getElem.1 ha
  obtain ⟨j', hj', rfl⟩ := List.mem_iff_getElem.1 hc
  rcases Nat.lt_trichotomy j j' with hlt | heq | hgt
  · exact (h j j' hlt hj').2.1
  · subst heq; omega
  · have := (h j' j hgt hj).1; omega

example : List.Pairwise (· ≥ ·) (roundrobin id 3 [4, 5, 6, 7, 8]).sums :=
  roundrobin_monotone (v := id) (k := 3) (items := [4, 5, 6, 7, 8]) (by decide)

example : maxL (roundrobin id 3 [4, 5, 6, 7, 8]).sums - minL (roundrobin id 3 [4, 5, 6, 7, 8]).sums ≤ 8 :=
  roundrobin_gap (v := id) (k := 3) (items := [4, 5, 6, 7, 8]) (by decide)

/-- cardinality invariant: bins before `i` hold `c + 1` items, the others `c` -/
def RRCard (ls : List (List α)) (i c : Nat) : Prop :=
  ∀ (j : Nat) (hj : j < ls.length), ls[j].length = if j < i then c + 1 else c

theorem rrLoop_card {k : Nat} (xs : List α) (b : Bins α) (i c : Nat) (hlen : b.lists.length = k)
    (hi : i < k) (h : RRCard b.lists i c) : ∃ i' c', RRCard (rrLoop v k b i xs).lists i' c' := by
  induction xs generalizing b i c with
  | nil => exact ⟨i, c, h⟩
  | cons x xs ih =>
    simp only [rrLoop]
    have hlen' : (b.add v x i).lists.length = k := by simp [hlen]
    have hstep : RRCard (b.add v x i).lists (i + 1) c := by
      intro j hj
      have := h j (by simpa using hj)
      simp only [add_lists, List.getElem_modify]
      by_cases e : i = j
      · subst e
        rw [if_pos rfl, List.length_append, this, if_neg (Nat.lt_irrefl i), if_pos (Nat.lt_succ_self i)]
        rfl
      · rw [if_neg e, this]
        by_cases hji : j < i
        · rw [if_pos hji, if_pos (by omega)]
        · rw [if_neg hji, if_neg (by omega)]
    by_cases hw : i + 1 < k
    · rw [Nat.mod_eq_of_lt hw]
      exact ih _ _ c hlen' hw hstep
    · have hik : i + 1 = k := by omega
      rw [hik, Nat.mod_self]
      refine ih _ 0 (c + 1) hlen' (by omega) ?_
      intro j hj
      have := hstep j hj
      rw [this, if_pos (by omega), if_neg (by omega)]

theorem roundrobin_cards {v : α → Nat} {k : Nat} {items : List α} (hk : 0 < k) :
    ∀ l₁ ∈ (roundrobin v k items).lists, ∀ l₂ ∈ (roundrobin v k items).lists,
      l₁.length ≤ l₂.length + 1 := by
  obtain ⟨i, c, h⟩ := rrLoop_card v (sortDesc v items) (Bins.new k) 0 0 (by simp) hk
    (by intro j hj; simp [Bins.new])
  intro l₁ h₁ l₂ h₂
  obtain ⟨j, hj, rfl⟩ := List.mem_iff_getElem.1 h₁
  obtain ⟨j', hj', rfl⟩ := List.mem_iff_getElem.1 h₂
  have e1 := h j hj
  have e2 := h j' hj'
  unfold roundrobin at *
  rw [e1, e2]
  split <;> split <;> omega

example : ∀ l₁ ∈ (roundrobin id 3 [4, 5, 6, 7, 8]).lists, ∀ l₂ ∈ (roundrobin id 3 [4, 5, 6, 7, 8]).lists,
    l₁.length ≤ l₂.length + 1 :=
  roundrobin_cards (v := id) (k := 3) (items := [4, 5, 6, 7, 8]) (by decide)

end RRGap

/-! ## Graham-type consequences of a gap bound -/

section Graham

/-- the largest sum is at most the average plus `(k-1)/k` times the largest item -/
theorem gap_to_graham {v : α → Nat} {items : List α} {k : Nat} {b : Bins α} (hk : 0 < k)
    (h : IsPartition v items k b) (hg : maxL b.sums - minL b.sums ≤ maxL (items.map v)) :
    k * maxL b.sums ≤ binSum v items + (k - 1) * maxL (items.map v) := by
  obtain ⟨hs, hl⟩ := isPartition_sumL h
  have hne : b.sums ≠ [] := by intro h0; rw [h0] at hl; simp at hl; omega
  rw [gap_le_iff] at hg
  have := length_mul_le_sumL' b.sums (maxL b.sums) (maxL (items.map v))
    (fun a ha => hg _ (maxL_mem hne) a ha) (maxL_mem hne)
  rw [hs, hl] at this
  obtain ⟨k', rfl⟩ : ∃ k', k = k' + 1 := ⟨k - 1, by omega⟩
  simp only [Nat.add_sub_cancel, Nat.add_mul, Nat.one_mul] at this ⊢
  omega

/-- the smallest sum is at least the average minus `(k-1)/k` times the largest item -/
theorem gap_to_minbound {v : α → Nat} {items : List α} {k : Nat} {b : Bins α} (hk : 0 < k)
    (h : IsPartition v items k b) (hg : maxL b.sums - minL b.sums ≤ maxL (items.map v)) :
    binSum v items ≤ k * minL b.sums + (k - 1) * maxL (items.map v) := by
  obtain ⟨hs, hl⟩ := isPartition_sumL h
  have hne : b.sums ≠ [] := by intro h0; rw [h0] at hl; simp at hl; omega
  rw [gap_le_iff] at hg
  have := sumL_le_length_mul' b.sums (minL b.sums) (maxL (items.map v))
    (fun a ha => hg a ha _ (minL_mem hne)) (minL_mem hne)
  rw [hs, hl] at this
  obtain ⟨k', rfl⟩ : ∃ k', k = k' + 1 := ⟨k - 1, by omega⟩
  simp only [Nat.add_sub_cancel, Nat.add_mul, Nat.one_mul] at this ⊢
  omega

example : 2 * maxL (greedy id 2 [4, 5, 6, 7, 8]).sums ≤ binSum id [4, 5, 6, 7, 8] + (2 - 1) * 8 :=
  gap_to_graham (by decide) (greedy_isPartition (v := id) (k := 2) (items := [4, 5, 6, 7, 8]) (by decide)) (greedy_gap (v := id) (k := 2) (items := [4, 5, 6, 7, 8]) (by decide))

example : binSum id [4, 5, 6, 7, 8] ≤ 2 * minL (greedy id 2 [4, 5, 6, 7, 8]).sums + (2 - 1) * 8 :=
  gap_to_minbound (by decide) (greedy_isPartition (v := id) (k := 2) (items := [4, 5, 6, 7, 8]) (by decide)) (greedy_gap (v := id) (k := 2) (items := [4, 5, 6, 7, 8]) (by decide))

end Graham

/-! ## Multifit -/

section Multifit
variable (v : α → Nat)

/-! ### the rational arithmetic of the capacity search -/

theorem ratMax_left (a b : Rat) : a ≤ ratMax a b := by
  unfold ratMax; split
  · assumption
  · exact Rat.le_refl

theorem ratMax_right (a b : Rat) : b ≤ ratMax a b := by
  unfold ratMax; split
  · exact Rat.le_refl
  · rename_i h; exact Rat.le_of_lt (Rat.not_le.1 h)

theorem mid_ge (m lo hi : Rat) (h1 : m ≤ lo) (h2 : m ≤ hi) : m ≤ (lo + hi) / 2 := by
  grind

theorem mid_le (lo hi : Rat) (h : lo ≤ hi) : (lo + hi) / 2 ≤ hi := by
  grind

/-- the initial bounds of the binary search are in order: `ratMax · m` is monotone and `S/k ≤ 2S/k` -/
theorem ratMax_div_le (S m k : Nat) (hk : 0 < k) :
    ratMax ((S : Rat) / k) (m : Rat) ≤ ratMax (2 * (S : Rat) / k) (m : Rat) := by
  have hS : (0 : Rat) ≤ (S : Rat) := Rat.natCast_nonneg
  have h0 : ¬ ((S : Rat) / k < 0) := by
    rw [Rat.div_lt_iff (Rat.natCast_pos.2 hk)]; grind
  have h : (S : Rat) / k ≤ 2 * (S : Rat) / k := by grind
  rw [show ratMax ((S : Rat) / k) (m : Rat) = if (S : Rat) / k ≤ m then (m : Rat) else (S : Rat) / k from rfl]
  split
  · exact ratMax_right _ _
  · exact Rat.le_trans h (ratMax_left _ _)

theorem le_floorNat (n : Nat) (q : Rat) (h : (n : Rat) ≤ q) : n ≤ floorNat q := by
  unfold floorNat
  have : (n : Int) ≤ q.floor := Rat.le_floor_iff.2 (by rw [Rat.intCast_natCast]; exact h)
  omega

theorem lt_floorNat_succ (n k : Nat) (q : Rat) (hk : 0 < k) (h : (n : Rat) / k ≤ q) :
    n < k * (floorNat q + 1) := by
  have hk' : (0 : Rat) < k := Rat.natCast_pos.2 hk
  have h1 : (n : Rat) / k < ((q.floor + 1 : Int) : Rat) := by
    have := Rat.lt_floor_add_one q; grind
  rw [Rat.div_lt_iff hk'] at h1
  have h2 : (n : Int) < (q.floor + 1) * (k : Int) := by
    apply Rat.intCast_lt_intCast.1
    simpa [Rat.intCast_natCast] using h1
  unfold floorNat
  have h3 : (q.floor + 1) * (k : Int) ≤ ((q.floor.toNat : Int) + 1) * (k : Int) :=
    Int.mul_le_mul_of_nonneg_right (by omega) (by omega)
  have h4 : (n : Int) < ((k * (q.floor.toNat + 1) : Nat) : Int) := by
    rw [Int.natCast_mul k, Int.natCast_add, Int.mul_comm]
    exact Int.lt_of_lt_of_le h2 h3
  exact Int.ofNat_lt.1 h4

theorem floorNat_le (q : Rat) (h : 0 ≤ q) : ((floorNat q : Nat) : Rat) ≤ q := by
  unfold floorNat
  have h0 : (0 : Int) ≤ q.floor := Rat.le_floor_iff.2 (by simpa using h)
  rw [← Rat.intCast_natCast, Int.toNat_of_nonneg h0]
  exact Rat.floor_le q

theorem nat_le_of_le_ratMax (x S m k : Nat) (hk : 0 < k)
    (h : (x : Rat) ≤ ratMax (2 * (S : Rat) / k) (m : Rat)) : k * x ≤ max (2 * S) (k * m) := by
  have hk' : (0 : Rat) < k := Rat.natCast_pos.2 hk
  unfold ratMax at h
  split at h
  · have := Nat.mul_le_mul_left k (Rat.natCast_le_natCast.1 h)
    omega
  · have h1 : ¬ (2 * (S : Rat) / k < x) := Rat.not_lt.2 h
    rw [Rat.div_lt_iff hk'] at h1
    have h2 : ((x * k : Nat) : Rat) ≤ ((2 * S : Nat) : Rat) := by
      rw [Rat.natCast_mul, Rat.natCast_mul]
      exact Rat.not_lt.1 h1
    have := Rat.natCast_le_natCast.1 h2
    rw [Nat.mul_comm] at this
    omega

/-! ### the search and what it returns -/

/-- first-fit succeeds whenever the (rational) capacity is at least the largest item -/
theorem ffOnline_of_cap {M : Nat} (xs : List α) (hM : ∀ x ∈ xs, v x ≤ M) (cap : Rat)
    (hc : (M : Rat) ≤ cap) :
    ∃ b', ffOnline v (floorNat cap) xs = .ok b' ∧ IsPacking v (floorNat cap) xs b' ∧ AnyFit v (floorNat cap) b' := by
  obtain ⟨b', e, hp⟩ := Fit.ffOnline_isPacking (v := v) (B := floorNat cap) (items := xs)
    (fun x hx => Nat.le_trans (hM x hx) (le_floorNat M cap hc))
  exact ⟨b', e, hp, Fit.ffOnline_anyfit e⟩

/-- the binary search: it never fails, its result is at least the largest item and (for `lo ≤ hi`) at most the
    initial upper bound, and any property that holds of the initial upper bound and of every tested capacity
    that needed at most `k` bins holds of the result -/
theorem multifitSearch_spec {M : Nat} (k : Nat) (xs : List α) (hM : ∀ x ∈ xs, v x ≤ M) (P : Rat → Prop)
    (hP : ∀ mid n, (M : Rat) ≤ mid → ffCount v mid xs = .ok n → n ≤ k → P mid) :
    ∀ (it : Nat) (lo hi : Rat), (M : Rat) ≤ lo → (M : Rat) ≤ hi → P hi →
      ∃ cap, multifitSearch v k xs it lo hi = .ok cap ∧ (M : Rat) ≤ cap ∧ P cap ∧ (lo ≤ hi → cap ≤ hi) := by
  intro it
  induction it with
  | zero => intro lo hi _ h2 h3; exact ⟨hi, rfl, h2, h3, fun _ => Rat.le_refl⟩
  | succ it ih =>
    intro lo hi h1 h2 h3
    have hmid := mid_ge _ _ _ h1 h2
    obtain ⟨b', e, _⟩ := ffOnline_of_cap v xs hM _ hmid
    have hc : ffCount v ((lo + hi) / 2) xs = .ok b'.sums.length := by
      simp only [ffCount, e]; rfl
    simp only [multifitSearch, hc]
    split
    · rename_i hn
      obtain ⟨cap, e1, e2, e3, e4⟩ := ih lo _ h1 hmid (hP _ _ hmid hc hn)
      exact ⟨cap, e1, e2, e3, fun hle =>
        Rat.le_trans (e4 (mid_ge lo lo hi Rat.le_refl hle)) (mid_le lo hi hle)⟩
    · obtain ⟨cap, e1, e2, e3, e4⟩ := ih _ hi hmid h2 h3
      exact ⟨cap, e1, e2, e3, fun hle => e4 (mid_le lo hi hle)⟩

/-- `multifit` is first-fit on the sorted items at a capacity `cap` found by the search: `cap` is at least the
    largest item, at most the initial upper bound (for `0 < k`), and has every property that holds of the
    initial upper bound and of every capacity at which first-fit needs at most `k` bins -/
theorem multifit_spec (k : Nat) (items : List α) (it : Nat) (P : Rat → Prop)
    (hP : ∀ mid n, ((maxL (items.map v) : Nat) : Rat) ≤ mid → ffCount v mid (sortDesc v items) = .ok n →
      n ≤ k → P mid)
    (hhi : P (ratMax (2 * ((sumL (items.map v) : Nat) : Rat) / k) ((maxL (items.map v) : Nat) : Rat))) :
    ∃ cap b, ((maxL (items.map v) : Nat) : Rat) ≤ cap ∧ P cap ∧
      (0 < k → cap ≤ ratMax (2 * ((sumL (items.map v) : Nat) : Rat) / k) ((maxL (items.map v) : Nat) : Rat)) ∧
      multifit v k items it = .ok b ∧ ffOnline v (floorNat cap) (sortDesc v items) = .ok b := by
  obtain ⟨cap, e, hcap, hPc, hle⟩ := multifitSearch_spec v k (sortDesc v items) (sortDesc_le_maxL v items) P hP it
    (ratMax (((sumL (items.map v) : Nat) : Rat) / k) ((maxL (items.map v) : Nat) : Rat))
    (ratMax (2 * ((sumL (items.map v) : Nat) : Rat) / k) ((maxL (items.map v) : Nat) : Rat))
    (ratMax_right _ _) (ratMax_right _ _) hhi
  obtain ⟨b, e', _⟩ := ffOnline_of_cap v _ (sortDesc_le_maxL v items) cap hcap
  exact ⟨cap, b, hcap, hPc, fun hk => hle (ratMax_div_le _ _ k hk), by simp only [multifit, e, e'], e'⟩

/-- C01 for multifit: it never fails and returns all items, once each, with consistent sums (the number of bins:
    `multifit_bins_le`); in the shape of the other C01 results, neither hypothesis is used -/
theorem multifit_perm {v : α → Nat} {k : Nat} {items : List α} {it : Nat} (_hk : 0 < k)
    (_hne : items ≠ []) :
    ∃ b, multifit v k items it = .ok b ∧ b.lists.flatten.Perm items ∧
      b.sums = b.lists.map (binSum v) := by
  obtain ⟨cap, b, -, -, -, e, e'⟩ := multifit_spec v k items it (fun _ => True) (fun _ _ _ _ _ => trivial) trivial
  have hp := Fit.ffOnline_ok_isPacking e'
  exact ⟨b, e, hp.1.trans (sortDesc_perm v items), hp.2.1⟩

/-- multifit never returns more than `k` bins (also for an empty item list: one empty bin; `_hne` is not used) -/
theorem multifit_bins_le {v : α → Nat} {k : Nat} {items : List α} {it : Nat} {b : Bins α} (hk : 0 < k)
    (_hne : items ≠ []) (h : multifit v k items it = .ok b) : b.lists.length ≤ k := by
  -- the initial upper bound needs at most `k` bins
  have hinit : ∃ n, ffCount v (ratMax (2 * ((sumL (items.map v) : Nat) : Rat) / k)
      ((maxL (items.map v) : Nat) : Rat)) (sortDesc v items) = .ok n ∧ n ≤ k := by
    obtain ⟨b', e', hp, ha⟩ := ffOnline_of_cap v _ (sortDesc_le_maxL v items) _ (ratMax_right
      (2 * ((sumL (items.map v) : Nat) : Rat) / k) ((maxL (items.map v) : Nat) : Rat))
    refine ⟨b'.sums.length, by simp only [ffCount, e']; rfl, ?_⟩
    rw [Fit.ffOnline_lengths e']
    -- two bins together exceed the capacity `B`, and `2·total < k·(B + 1)`
    have hS : 2 * sumL (items.map v) < k * (floorNat (ratMax (2 * ((sumL (items.map v) : Nat) : Rat) / k)
        ((maxL (items.map v) : Nat) : Rat)) + 1) :=
      lt_floorNat_succ _ k _ hk (by rw [Rat.natCast_mul]; exact ratMax_left _ _)
    by_cases h2 : 2 ≤ b'.lists.length
    · have := Fit.anyfit_two_total hp ha h2
      rw [binSum_perm v (sortDesc_perm v items)] at this
      exact Nat.le_of_lt (Nat.lt_of_mul_lt_mul_right (Nat.lt_of_le_of_lt this hS))
    · omega
  obtain ⟨cap, b', -, ⟨n, hn, hnk⟩, -, e, e'⟩ := multifit_spec v k items it
    (fun cap => ∃ n, ffCount v cap (sortDesc v items) = .ok n ∧ n ≤ k) (fun mid n _ hc hn => ⟨n, hc, hn⟩) hinit
  rw [e] at h
  cases h
  simp only [ffCount, e'] at hn
  cases hn
  rw [← (Fit.ffOnline_lengths e')]
  exact hnk

example : ∃ b, multifit id 3 [4, 5, 6, 7, 8] 10 = .ok b ∧ b.lists.flatten.Perm [4, 5, 6, 7, 8] ∧
    b.sums = b.lists.map (binSum id) :=
  multifit_perm (by decide) (by decide)

example : ∃ b, multifit id 3 [4, 5, 6, 7, 8] 10 = .ok b ∧ b.lists.length ≤ 3 := by
  obtain ⟨b, h, _⟩ := multifit_perm (v := id) (k := 3) (items := [4, 5, 6, 7, 8]) (it := 10)
    (by decide) (by decide)
  exact ⟨b, h, multifit_bins_le (by decide) (by decide) h⟩

/-! ### C08 (partial) for multifit: the largest sum is at most `max (2·total/k) (largest item)` -/

theorem ffOnline_le {B : Nat} (xs : List α) (b' : Bins α) (h : ffOnline v B xs = .ok b') :
    ∀ s ∈ b'.sums, s ≤ B :=
  (Fit.ffOnline_ok_isPacking h).2.2.1

/-- the largest sum of multifit is at most `max (2·total/k) (largest item)`, the initial upper bound of the search
    (it is `≤ 2·OPT` by the two trivial lower bounds on `OPT`; that step is not formalised here; the sharper ratios
    are in `MultiFit.lean`, `MultiFit122*.lean`) -/
theorem multifit_max_le {v : α → Nat} {k : Nat} {items : List α} {it : Nat} {b : Bins α} (hk : 0 < k)
    (h : multifit v k items it = .ok b) :
    k * maxL b.sums ≤ max (2 * binSum v items) (k * maxL (items.map v)) := by
  obtain ⟨cap, b', hcap, -, hle, e, e'⟩ := multifit_spec v k items it (fun _ => True) (fun _ _ _ _ _ => trivial) trivial
  rw [e] at h
  cases h
  have hcap0 : (0 : Rat) ≤ cap := Rat.le_trans Rat.natCast_nonneg hcap
  have hmax : maxL b.sums ≤ floorNat cap := maxL_le (ffOnline_le v _ b e')
  refine nat_le_of_le_ratMax _ _ _ k hk ?_
  exact Rat.le_trans (Rat.natCast_le_natCast.2 hmax) (Rat.le_trans (floorNat_le cap hcap0) (hle hk))

example : ∃ b, multifit id 3 [4, 5, 6, 7, 8] 10 = .ok b ∧ 3 * maxL b.sums ≤ max (2 * 30) (3 * 8) := by
  obtain ⟨b, h, _⟩ := multifit_perm (v := id) (k := 3) (items := [4, 5, 6, 7, 8]) (it := 10)
    (by decide) (by decide)
  exact ⟨b, h, multifit_max_le (by decide) h⟩

end Multifit

/-! ## Corollaries: the Graham-type bounds for the three heuristics -/

section Corollaries
variable {v : α → Nat} {k : Nat} {items : List α}

theorem greedy_graham (hk : 0 < k) :
    k * maxL (greedy v k items).sums ≤ binSum v items + (k - 1) * maxL (items.map v) :=
  gap_to_graham hk (greedy_isPartition hk) (greedy_gap hk)

theorem greedy_minbound (hk : 0 < k) :
    binSum v items ≤ k * minL (greedy v k items).sums + (k - 1) * maxL (items.map v) :=
  gap_to_minbound hk (greedy_isPartition hk) (greedy_gap hk)

theorem roundrobin_graham (hk : 0 < k) :
    k * maxL (roundrobin v k items).sums ≤ binSum v items + (k - 1) * maxL (items.map v) :=
  gap_to_graham hk (roundrobin_isPartition hk) (roundrobin_gap hk)

theorem roundrobin_minbound (hk : 0 < k) :
    binSum v items ≤ k * minL (roundrobin v k items).sums + (k - 1) * maxL (items.map v) :=
  gap_to_minbound hk (roundrobin_isPartition hk) (roundrobin_gap hk)

theorem kk_graham (hk : 0 < k) (hne : items ≠ []) {b : Bins α} (h : kk v k items = .ok b) :
    k * maxL b.sums ≤ binSum v items + (k - 1) * maxL (items.map v) := by
  exact gap_to_graham hk (kk_ok_spec hk hne h).1 (kk_gap hk hne h)

theorem kk_minbound (hk : 0 < k) (hne : items ≠ []) {b : Bins α} (h : kk v k items = .ok b) :
    binSum v items ≤ k * minL b.sums + (k - 1) * maxL (items.map v) := by
  exact gap_to_minbound hk (kk_ok_spec hk hne h).1 (kk_gap hk hne h)

end Corollaries

end Prtpy.Part
