/-
  PrtpyProofs.MultiFit122C — property C08: multifit's ratio `1.22` (Coffman, Garey, Johnson 1978) for few bins:

  * `multifit_ratio_122_k11`: `61/50 + 2^−it` for `k ≤ 11` (hence `11/9 + 2^−it`, `multifit_ratio_11_9_k11`);
  * `multifit_ratio_16_13_k16`: `16/13 + 2^−it` for `k ≤ 16`;
  * `multifit_ratio_6_5_k6`: `6/5 + 2^−it` for `k ≤ 6`;

  all from `irred_count_false_11`, `_16`, `_6` (instances of `irred_count_windows`): no irreducible counter-example
  with that many bins for a capacity `B > ρ·T − 1`.  The theorems of the namespaces `Prtpy.MultiFit122B` and
  `Prtpy.MultiFit122` for fewer bins (`multifit_ratio_122_k8`, `irred_window_false`, …) are special cases and are
  proved in the last section.

  The argument (`irred_count_of`) counts *tiny* values (`x + B + 2a < 2T`) against *big* values
  (`B + a < x + T`), with no case distinction on the shape of the packing.  Of the numbers it uses a few
  inequalities only, among them bounds `W`, `W'` for the level of one bin and of two bins together: the *windows*
  `ce_level_window`, `ce_level_window2` (from `MultiFit122.ce_window_mono`).  These grow with the number of bins, so
  the largest `k` stands for the smaller ones, and this is where `k` is limited (see `irred_count_false_11`).

  The bins of the packing hold 2, 3 or 4 items, the bins of a `T`-schedule 3 or 4, so
  `#(bins of two) + #(T-bins of four) = #(bins of four) + 1`.  A bin of two holds two big items; a `T`-bin holds
  two tiny values for each big one, a `T`-bin of four holds four (`opt_bin_tiny`): there are at least
  `4·#(bins of four) + 4` tiny values, one of which may be the failing item.  In the packing tiny items sit in bins
  of four and in bins of three, and the bins of three hold at most two of them (`packed_tiny_le`).  For, the
  largest item of a bin of three is not tiny (three tiny items fill a bin too low).  By the full rule an item behind
  a bin of three `(h, s, w)` is at most `w` or went past `h` and `s` (`three_later`).  So of two bins of three
  `(h, s, w)`, `(x, y, t)` with `w` and `t` tiny the first is *heavy*: `h + s + x > B`, `x ≤ s`.  Two heavy bins do
  not fit into the window for two bins; so behind the second bin everything is at most `t`, and there is no third
  such bin; and neither `s` nor `y` is tiny (`three_pair`).
-/
import Mathlib.Tactic.SplitIfs
import PrtpyProofs.Feasible
import PrtpyProofs.MultiFit
import PrtpyProofs.MultiFit122
import PrtpyProofs.MultiFit122B
open Prtpy

namespace Prtpy.MultiFit122C
open Prtpy.LPT43 Prtpy.MaxMin Prtpy.MaxMin2 Prtpy.MultiFit122 Prtpy.MultiFit122B

variable {α : Type}

/-! `bigV`, `tinyV` are the Boolean forms, for counting with `countP`; the lemmas below state the inequalities
themselves, which is what `omega` reads. -/

/-- a *big* value: `> B − T + a` -/
def bigV (T B a : Nat) (x : Nat) : Bool := decide (B + a < x + T)

/-- a *tiny* value: it can share a bin of a `T`-schedule with a big value and a further item -/
def tinyV (T B a : Nat) (x : Nat) : Bool := decide (x + B + 2 * a < 2 * T)

/-! ## Sums over the bins -/

/-- per-bin bounds `c` on the bins of `n` items and `0` on the others, summed -/
theorem countP_flatten_le {β : Type} (P : β → Bool) {c n : Nat} (L : List (List β))
    (h : ∀ l ∈ L, l.countP P ≤ c * (if l.length = n then 1 else 0)) :
    L.flatten.countP P ≤ c * L.countP (fun l => decide (l.length = n)) := by
  have := Part.binSum_le_binSum h
  simpa only [Part.binSum_mul_left, ← Part.countP_flatten_eq, Part.binSum_ite, Nat.one_mul] using this

/-- the same with one bin `l0` left out of the hypothesis -/
theorem countP_flatten_le_except {β : Type} (P : β → Bool) {c n : Nat} {L : List (List β)} {j : Nat} {l0 : List β}
    (hj : L[j]? = some l0)
    (h : ∀ (i : Nat) (l : List β), L[i]? = some l → i ≠ j → l.countP P ≤ c * (if l.length = n then 1 else 0)) :
    L.flatten.countP P ≤ c * L.countP (fun l => decide (l.length = n)) + l0.countP P := by
  obtain ⟨hlt, rfl⟩ := List.getElem?_eq_some_iff.1 hj
  have c1 := countP_flatten_le P (L.eraseIdx j) (fun l hl => by
    obtain ⟨i, hij, hli⟩ := List.mem_eraseIdx_iff_getElem?.1 hl
    exact h i l hli hij)
  have c2 := Nat.mul_le_mul_left c ((List.eraseIdx_sublist L j).countP_le (p := fun l => decide (l.length = n)))
  rw [(Part.flatten_perm_getElem_eraseIdx L j hlt).countP_eq, List.countP_append]
  omega

/-- the same with two bins left out -/
theorem countP_flatten_le_except_two {β : Type} (P : β → Bool) {c n : Nat} {L : List (List β)} {j j' : Nat}
    {l0 l1 : List β} (hjj' : j < j') (hj : L[j]? = some l0) (hj' : L[j']? = some l1)
    (h : ∀ (i : Nat) (l : List β), L[i]? = some l → i ≠ j → i ≠ j' →
      l.countP P ≤ c * (if l.length = n then 1 else 0)) :
    L.flatten.countP P ≤ c * L.countP (fun l => decide (l.length = n)) + l0.countP P + l1.countP P := by
  obtain ⟨hlt, rfl⟩ := List.getElem?_eq_some_iff.1 hj'
  have hj0 : (L.eraseIdx j')[j]? = some l0 := by rw [List.getElem?_eraseIdx, if_pos hjj']; exact hj
  have c1 := countP_flatten_le_except P hj0 (fun i l hli hij => by
    rw [List.getElem?_eraseIdx] at hli
    split_ifs at hli with hi
    · exact h i l hli hij (by omega)
    · exact h (i + 1) l hli (by omega) (by omega))
  have c2 := Nat.mul_le_mul_left c ((List.eraseIdx_sublist L j').countP_le (p := fun l => decide (l.length = n)))
  rw [(Part.flatten_perm_getElem_eraseIdx L j' hlt).countP_eq, List.countP_append]
  omega

theorem countP_three_le_one {β : Type} {P : β → Bool} {x y z : β} (hx : P x = false) (hy : P y = false) :
    [x, y, z].countP P ≤ 1 := by
  rw [List.countP_cons_of_neg (by simp [hx]), List.countP_cons_of_neg (by simp [hy])]
  exact List.countP_le_length

/-! ## The windows of the levels

Every bin of a counter-example is filled above `B − a`; as everything fits into `k` bins of capacity `T`, no bin
can be filled much higher: `level + (k − 1)·(B + 1 − a) + a ≤ k·T`; likewise for two bins together. -/

theorem ce_level_window {v : α → Nat} {T B k K : Nat} {LL : List (List α)} {a : α} (h : CE v T B k LL a)
    (hkK : k ≤ K) {l : List α} (hl : l ∈ LL) :
    binSum v l + (K - 1) * (B + 1) + v a ≤ K * T + (K - 1) * v a := by
  obtain ⟨s, t, rfl⟩ := List.append_of_mem hl
  simpa only [List.flatten_cons, List.flatten_nil, List.append_nil, List.length_cons, List.length_nil, Nat.zero_add]
    using ce_window_mono h (S := [l]) (R := s ++ t) List.perm_middle hkK

theorem ce_level_window2 {v : α → Nat} {T B k K : Nat} {LL : List (List α)} {a : α} (h : CE v T B k LL a)
    (hkK : k ≤ K) {i j : Nat} (hij : i < j) {l l' : List α} (hl : LL[i]? = some l) (hl' : LL[j]? = some l') :
    binSum v l + binSum v l' + (K - 2) * (B + 1) + v a ≤ K * T + (K - 2) * v a := by
  obtain ⟨hj, rfl⟩ := List.getElem?_eq_some_iff.1 hl'
  have hi' : i < (LL.eraseIdx j).length := by rw [List.length_eraseIdx, if_pos hj]; omega
  have hLi : (LL.eraseIdx j)[i] = l := by
    have : (LL.eraseIdx j)[i]? = some l := by rw [List.getElem?_eraseIdx, if_pos hij]; exact hl
    exact (List.getElem?_eq_some_iff.1 this).2
  have hp : LL.Perm ([l, LL[j]] ++ (LL.eraseIdx j).eraseIdx i) :=
    (Part.perm_getElem_cons_eraseIdx _ _ hj).trans
      ((List.Perm.cons _ (hLi ▸ Part.perm_getElem_cons_eraseIdx _ _ hi')).trans (List.Perm.swap _ _ _))
  have := ce_window_mono h hp hkK
  rw [List.flatten_cons, List.flatten_cons, List.flatten_nil, List.append_nil, Part.binSum_append] at this
  exact this

/-! ## The schedule: tiny values against big values -/

/-- in a bin `b, p, q` of a `T`-schedule with `q ≥ a`, a big `b` makes `p` tiny and not big -/
theorem big_beside {T B a b p q : Nat} (hb2 : 3 * T < 2 * (B + 1) + 3 * a) (hq : a ≤ q)
    (hs : b + p + q ≤ T) (hb : bigV T B a b = true) : tinyV T B a p = true ∧ bigV T B a p = false := by
  simp only [bigV, tinyV, decide_eq_true_eq, decide_eq_false_iff_not] at hb ⊢
  omega

/-- a bin of three values `≥ a` of a `T`-schedule holds two tiny values for each big one; the values of a bin of
    four are all tiny and not big -/
theorem opt_bin_tiny {T B a : Nat} (hD : B < a + T) (hb2 : 3 * T < 2 * (B + 1) + 3 * a)
    {O : List Nat} (hge : ∀ u ∈ O, a ≤ u) (hs : sumL O ≤ T) (h34 : O.length = 3 ∨ O.length = 4) :
    2 * O.countP (bigV T B a) + 4 * (if O.length = 4 then 1 else 0) ≤ O.countP (tinyV T B a) := by
  rcases h34 with h3 | h4
  · rw [if_neg (by omega)]
    match O, h3, hs, hge with
    | [x, y, z], _, hs, hg =>
      have hx := hg x (by simp)
      have hy := hg y (by simp)
      have hz := hg z (by simp)
      simp only [sumL] at hs
      by_cases bx : bigV T B a x = true
      · obtain ⟨ty, by'⟩ := big_beside hb2 hz (show x + y + z ≤ T by omega) bx
        obtain ⟨tz, bz⟩ := big_beside hb2 hy (show x + z + y ≤ T by omega) bx
        simp [List.countP_cons, bx, ty, by', tz, bz]
      · by_cases by' : bigV T B a y = true
        · obtain ⟨tx, _⟩ := big_beside hb2 hz (show y + x + z ≤ T by omega) by'
          obtain ⟨tz, bz⟩ := big_beside hb2 hx (show y + z + x ≤ T by omega) by'
          simp [List.countP_cons, bx, tx, by', tz, bz]
        · by_cases bz : bigV T B a z = true
          · obtain ⟨tx, _⟩ := big_beside hb2 hy (show z + x + y ≤ T by omega) bz
            obtain ⟨ty, _⟩ := big_beside hb2 hx (show z + y + x ≤ T by omega) bz
            simp [List.countP_cons, bx, tx, by', ty, bz]
          · simp [List.countP_cons, bx, by', bz]
  · have hu : ∀ u ∈ O, u + 3 * a ≤ T := by
      match O, h4, hs, hge with
      | [x, y, z, w], _, hs, hg =>
        have := hg x (by simp)
        have := hg y (by simp)
        have := hg z (by simp)
        have := hg w (by simp)
        simp only [sumL] at hs
        intro u hu
        simp only [List.mem_cons, List.not_mem_nil, or_false] at hu
        rcases hu with rfl | rfl | rfl | rfl <;> omega
    have e1 : O.countP (tinyV T B a) = O.length := List.countP_eq_length.2 (fun u hu' => by
      have := hu u hu'; simp only [tinyV, decide_eq_true_eq]; omega)
    have e2 : O.countP (bigV T B a) = 0 := List.countP_eq_zero.2 (fun u hu' => by
      have := hu u hu'; simp only [bigV, decide_eq_true_eq]; omega)
    rw [e1, e2, if_pos h4, h4]

/-- the values of a schedule are those of the packed items and of `a` -/
theorem countP_schedule {v : α → Nat} {Q : List (List Nat)} {L : List α} {a : α} (p : Nat → Bool)
    (hQp : Q.flatten.Perm ((L ++ [a]).map v)) :
    L.countP (fun x => p (v x)) ≤ Q.flatten.countP p ∧ Q.flatten.countP p ≤ L.countP (fun x => p (v x)) + 1 := by
  rw [hQp.countP_eq, List.map_append, List.countP_append, List.countP_map]
  have h1 : ([a].map v).countP p ≤ 1 := List.countP_le_length
  exact ⟨Nat.le_add_right _ _, Nat.add_le_add_left h1 _⟩

section Counting
variable {v : α → Nat} {T B k : Nat} {LL : List (List α)} {a : α}

/-- with `f` bins of four in a `T`-schedule there are `3k + f` values, and `2·#big + 4f` of them are tiny -/
theorem irred_tiny_ge (hTB : T ≤ B) (h : Irred v T B k LL a) (h5 : T < 5 * v a)
    (hb2 : 3 * T < 2 * (B + 1) + 3 * v a) :
    ∃ f, LL.flatten.length + 1 = 3 * k + f ∧
      2 * LL.flatten.countP (fun x => bigV T B (v a) (v x)) + 4 * f ≤
        LL.flatten.countP (fun x => tinyV T B (v a) (v x)) + 1 := by
  have hce := h.1.toCE
  obtain ⟨Q, hQk, hQp, hQ⟩ := packable_partition hce.pack
  have hge := hce.sched_ge hQp
  have hQ34 : ∀ O ∈ Q, O.length = 3 ∨ O.length = 4 := by
    intro O hO
    have h1 := irred_opt_bins hTB h Q hQk hQp hQ O hO
    have h2 := items_per_bin (c := 4) (hge O hO) (by omega) (hQ O hO)
    omega
  have hlenQ := hQp.length_eq
  simp only [List.length_map, List.length_append, List.length_cons, List.length_nil] at hlenQ
  -- summed over the bins of the schedule: a bin holds `3 + [4 values]` values, and `opt_bin_tiny`
  have hcQ := Part.binSum_congr (l := Q) (f := List.length) (g := fun l => 3 + if l.length = 4 then 1 else 0)
    fun l hl => by rcases hQ34 l hl with e | e <;> simp [e]
  have hopt := Part.binSum_le_binSum (l := Q) fun O hO =>
    opt_bin_tiny (ce_large hce) hb2 (hge O hO) (hQ O hO) (hQ34 O hO)
  simp only [Part.binSum_add, Part.binSum_mul_left, Part.binSum_const, ← Part.countP_flatten_eq,
    ← Part.length_flatten_eq, Part.binSum_ite, Nat.one_mul] at hcQ hopt
  have hb := (countP_schedule (bigV T B (v a)) hQp).1
  have ht := (countP_schedule (tinyV T B (v a)) hQp).2
  exact ⟨Q.countP (fun l => decide (l.length = 4)), by omega, by omega⟩

/-! ## The packing -/

/-- the bins of two items hold big items only -/
theorem pair_bins_big (ht : Tight v T B k LL a) :
    2 * LL.countP (fun l => decide (l.length = 2)) ≤ LL.flatten.countP (fun x => bigV T B (v a) (v x)) := by
  have := Part.binSum_le_binSum (l := LL) (f := fun l => 2 * if l.length = 2 then 1 else 0)
    (g := List.countP fun x => bigV T B (v a) (v x)) fun l hl => by
      by_cases hc : l.length = 2
      · rw [if_pos hc, List.countP_eq_length.2 fun p hp => by
          simpa only [bigV, decide_eq_true_eq] using tight_two_big ht hl hc hp]
        omega
      · rw [if_neg hc]; omega
  simpa only [Part.binSum_mul_left, ← Part.countP_flatten_eq, Part.binSum_ite, Nat.one_mul] using this

theorem three_sorted (ht : STight v T B k LL a) {x y z : α} (hl : [x, y, z] ∈ LL) : v y ≤ v x ∧ v z ≤ v y := by
  have hs := ht.strong.sorted _ hl
  exact ⟨(List.pairwise_cons.1 hs).1 y (by simp), (List.pairwise_cons.1 (List.pairwise_cons.1 hs).2).1 z (by simp)⟩

/-- a bin of three tiny items would be filled too low: the largest item of a bin of three is not tiny -/
theorem three_head_not_tiny (ht : STight v T B k LL a) (h1 : 6 * T < 4 * (B + 1) + 5 * v a) {x y z : α}
    (hl : [x, y, z] ∈ LL) : ¬ (v x + B + 2 * v a < 2 * T) := by
  intro hx
  obtain ⟨hyx, hzy⟩ := three_sorted ht hl
  have hnf := ht.nofit _ hl
  simp only [binSum, List.map_cons, List.map_nil, sumL] at hnf
  omega

/-- a bin of the packing holds no tiny item unless it holds four items, or three items the smallest of which is
    tiny -/
theorem bin_tiny_le (ht : STight v T B k LL a) (hb2 : 3 * T < 2 * (B + 1) + 3 * v a)
    (h24 : ∀ l ∈ LL, 2 ≤ l.length ∧ l.length ≤ 4) {l : List α} (hl : l ∈ LL) :
    l.countP (fun x => tinyV T B (v a) (v x)) ≤ 4 * (if l.length = 4 then 1 else 0) ∨
      ∃ hh s w, l = [hh, s, w] ∧ v w + B + 2 * v a < 2 * T := by
  have hlen := h24 l hl
  have hc : l.length = 2 ∨ l.length = 3 ∨ l.length = 4 := by omega
  rcases hc with h2 | h3 | h4
  · left
    have : l.countP (fun x => tinyV T B (v a) (v x)) = 0 := by
      rw [List.countP_eq_zero]
      intro p hp
      have := tight_two_big ht.toTight hl h2 hp
      simp only [tinyV, decide_eq_true_eq]
      omega
    omega
  · match l, h3, hl with
    | [hh, s, w], _, hl =>
      by_cases hw : v w + B + 2 * v a < 2 * T
      · exact Or.inr ⟨hh, s, w, rfl, hw⟩
      · left
        obtain ⟨h1, h2⟩ := three_sorted ht hl
        have : [hh, s, w].countP (fun x => tinyV T B (v a) (v x)) = 0 := by
          rw [List.countP_eq_zero]
          intro p hp
          simp only [List.mem_cons, List.not_mem_nil, or_false] at hp
          simp only [tinyV, decide_eq_true_eq]
          rcases hp with rfl | rfl | rfl <;> omega
        omega
  · left
    have := List.countP_le_length (p := fun x => tinyV T B (v a) (v x)) (l := l)
    rw [if_pos h4]
    omega

/-- an item `q` behind a bin `(h, s, w)` is at most `w`, or it went past `h` and `s` -/
theorem three_later (ht : STight v T B k LL a) (h2T : 2 * T ≤ B + 4 * v a) {j i : Nat} {hh s w q : α}
    {l : List α} (hji : j < i) (hj : LL[j]? = some [hh, s, w]) (hi : LL[i]? = some l) (hq : q ∈ l) :
    v q ≤ v w ∨ (v q ≤ v s ∧ B < v hh + v s + v q) := by
  have h1 := ht.top hh (List.mem_flatten.2 ⟨_, List.mem_of_getElem? hj, by simp⟩)
  have h2 := ht.top q (List.mem_flatten.2 ⟨l, List.mem_of_getElem? hi, hq⟩)
  rcases Nat.lt_or_ge (v w) (v q) with hwq | hqw
  · right
    rcases Nat.lt_or_ge (v s) (v q) with hsq | hqs
    · -- past `h` alone: but `h + q ≤ 2T − 4a ≤ B`
      have hr := ht.strong.rule_prefix hji (pre := [hh]) (suf := [s, w]) hj hi hq (by
        intro z hz
        simp only [List.mem_cons, List.not_mem_nil, or_false] at hz
        rcases hz with rfl | rfl <;> assumption)
      simp only [binSum, List.map_cons, List.map_nil, sumL] at hr
      omega
    · have hr := ht.strong.rule_prefix hji (pre := [hh, s]) (suf := [w]) hj hi hq (by
        intro z hz
        rw [List.mem_singleton.1 hz]
        exact hwq)
      simp only [binSum, List.map_cons, List.map_nil, sumL] at hr
      exact ⟨hqs, by omega⟩
  · exact Or.inl hqw

/-! ## Bins of three with a tiny item

`W` bounds the level of every bin, `W'` the levels of every two bins together.  `h1`: a bin is not filled by three
tiny items.  `h3`: the item `s` of a heavy bin `(h, s, w)` is not tiny.  `hheavy`: either no bin of three is heavy,
or no two are and, behind a heavy bin, no bin `(x, y, t)` has `y` and `t` tiny. -/

section Windows
variable {W W' : Nat} (hW : ∀ l ∈ LL, binSum v l ≤ W)
  (hW' : ∀ (i j : Nat) (l l' : List α), i < j → LL[i]? = some l → LL[j]? = some l' →
    binSum v l + binSum v l' ≤ W')
  (h1 : 6 * T < 4 * (B + 1) + 5 * v a) (h3 : 5 * T < 3 * (B + 1) + 6 * v a)
  (hheavy : 3 * W < 2 * (B + 1) + 3 * v a ∨
    (3 * W' < 4 * (B + 1) + 6 * v a ∧ W' + 8 * T < 7 * (B + 1) + 6 * v a))
include hW hW' h1 h3 hheavy

/-- Two bins of three `(h, s, w)` and, later, `(x, y, t)` with `w` and `t` tiny.  As `x` is not tiny, it went past
    `h` and `s`: the first bin is *heavy* (`h + s ≥ 2/3·(B + 1)`).  By the window for two bins the second is not,
    so all items behind it are at most `t`; and `s`, `y` are not tiny. -/
theorem three_pair (ht : STight v T B k LL a) {j j' : Nat} {hh s w x y t : α} (hjj' : j < j')
    (hj : LL[j]? = some [hh, s, w]) (hj' : LL[j']? = some [x, y, t]) (hw : v w + B + 2 * v a < 2 * T)
    (htt : v t + B + 2 * v a < 2 * T) :
    (∀ (i : Nat) (l : List α) (q : α), j' < i → LL[i]? = some l → q ∈ l → v q ≤ v t) ∧
      ¬ (v s + B + 2 * v a < 2 * T) ∧ ¬ (v y + B + 2 * v a < 2 * T) := by
  have hD := ce_large ht.toSCE.toCE
  have hmj := List.mem_of_getElem? hj
  have hmj' := List.mem_of_getElem? hj'
  obtain ⟨hs1, hs2⟩ := three_sorted ht hmj
  obtain ⟨hx1, hx2⟩ := three_sorted ht hmj'
  have hwa := ht.amin w (List.mem_flatten.2 ⟨_, hmj, by simp⟩)
  have hta := ht.amin t (List.mem_flatten.2 ⟨_, hmj', by simp⟩)
  have hhT := ht.top hh (List.mem_flatten.2 ⟨_, hmj, by simp⟩)
  have hxt := three_head_not_tiny ht h1 hmj'
  have h2T : 2 * T ≤ B + 4 * v a := by omega
  obtain ⟨hxs, hpast⟩ : v x ≤ v s ∧ B < v hh + v s + v x := by
    rcases three_later ht h2T hjj' hj hj' List.mem_cons_self with h | h
    · omega
    · exact h
  have hlev := hW' j j' _ _ hjj' hj hj'
  have hlevj := hW _ hmj
  have hnf := ht.nofit _ hmj'
  simp only [binSum, List.map_cons, List.map_nil, sumL] at hlev hlevj hnf
  -- `3·(h + s) ≥ 2·(h + s + x) ≥ 2·(B + 1)` and `w ≥ a` against `h + s + w ≤ W`
  obtain ⟨h4, h5⟩ := hheavy.resolve_left (by omega)
  refine ⟨fun i l q hi hli hq => ?_, ?_, ?_⟩
  · rcases three_later ht h2T hi hj' hli hq with h | h
    · exact h
    · -- the second bin would be heavy too: `3·(x + y) ≥ 2·(B + 1)`, `t ≥ a`, against `W'` by `h4`
      omega
  · -- `B < h + 2s`, `h ≤ T − 2a`, and `h3`
    omega
  · -- `h + s ≥ 2x`, `w ≥ a`, `x + y + t > B − a` with `y`, `t` tiny, against `W'` by `h5`
    omega

/-- At most `4·#(bins of four) + 2` tiny items are packed. -/
theorem packed_tiny_le (ht : STight v T B k LL a) (h24 : ∀ l ∈ LL, 2 ≤ l.length ∧ l.length ≤ 4) :
    LL.flatten.countP (fun x => tinyV T B (v a) (v x)) ≤
      4 * LL.countP (fun l => decide (l.length = 4)) + 2 := by
  have hD := ce_large ht.toSCE.toCE
  have hbin := fun (i : Nat) (l : List α) (hli : LL[i]? = some l) =>
    bin_tiny_le ht (by omega) h24 (List.mem_of_getElem? hli)
  have hhead : ∀ {i : Nat} {x y z : α}, LL[i]? = some [x, y, z] → tinyV T B (v a) (v x) = false := by
    intro i x y z hli
    simpa [tinyV] using three_head_not_tiny ht h1 (List.mem_of_getElem? hli)
  -- no three bins of three whose smallest item is tiny: the largest item of the third would be tiny
  have hno3 : ∀ {m1 m2 m3 : Nat} {p1 p2 p3 q1 q2 q3 r1 r2 r3 : α}, m1 < m2 → m2 < m3 →
      LL[m1]? = some [p1, p2, p3] → LL[m2]? = some [q1, q2, q3] → LL[m3]? = some [r1, r2, r3] →
      v p3 + B + 2 * v a < 2 * T → v q3 + B + 2 * v a < 2 * T → False := by
    intro m1 m2 m3 p1 p2 p3 q1 q2 q3 r1 r2 r3 h12 h23 e1 e2 e3 t1 t2
    have hle := (three_pair hW hW' h1 h3 hheavy ht h12 e1 e2 t1 t2).1 m3 _ r1 h23 e3 List.mem_cons_self
    exact three_head_not_tiny ht h1 (List.mem_of_getElem? e3) (by omega)
  by_cases h2 : ∃ (j j' : Nat) (hh s w x y t : α), j < j' ∧ LL[j]? = some [hh, s, w] ∧
      LL[j']? = some [x, y, t] ∧ v w + B + 2 * v a < 2 * T ∧ v t + B + 2 * v a < 2 * T
  · -- two such bins: each holds one tiny item
    obtain ⟨j, j', hh, s, w, x, y, t, hjj', hj, hj', hw, htt⟩ := h2
    obtain ⟨_, hs, hy⟩ := three_pair hW hW' h1 h3 hheavy ht hjj' hj hj' hw htt
    have c1 := countP_three_le_one (P := fun x => tinyV T B (v a) (v x)) (z := w) (hhead hj)
      (by simpa [tinyV] using hs)
    have c2 := countP_three_le_one (P := fun x => tinyV T B (v a) (v x)) (z := t) (hhead hj')
      (by simpa [tinyV] using hy)
    have := countP_flatten_le_except_two (fun x => tinyV T B (v a) (v x)) hjj' hj hj'
      (fun i l hli hij hij' => by
        rcases hbin i l hli with hb | ⟨p1, p2, p3, rfl, hp3⟩
        · exact hb
        · exfalso
          rcases Nat.lt_or_gt_of_ne hij with hlt | hgt
          · exact hno3 hlt hjj' hli hj hj' hp3 hw
          · rcases Nat.lt_or_gt_of_ne hij' with hlt' | hgt'
            · exact hno3 hgt hlt' hj hli hj' hw hp3
            · exact hno3 hjj' hgt' hj hj' hli hw htt)
    omega
  · by_cases h1' : ∃ (j : Nat) (hh s w : α), LL[j]? = some [hh, s, w] ∧ v w + B + 2 * v a < 2 * T
    · -- one such bin: it holds at most two tiny items
      obtain ⟨j, hh, s, w, hj, hw⟩ := h1'
      have c1 : [hh, s, w].countP (fun x => tinyV T B (v a) (v x)) ≤ 2 := by
        rw [List.countP_cons_of_neg (by simp [hhead hj])]
        exact List.countP_le_length
      have := countP_flatten_le_except (fun x => tinyV T B (v a) (v x)) hj (fun i l hli hij => by
        rcases hbin i l hli with hb | ⟨p1, p2, p3, rfl, hp3⟩
        · exact hb
        · exfalso
          rcases Nat.lt_or_gt_of_ne hij with hlt | hgt
          · exact h2 ⟨i, j, _, _, _, _, _, _, hlt, hli, hj, hp3, hw⟩
          · exact h2 ⟨j, i, _, _, _, _, _, _, hgt, hj, hli, hw, hp3⟩)
      omega
    · have := countP_flatten_le (fun x => tinyV T B (v a) (v x)) LL (fun l hl => by
        obtain ⟨i, hi, rfl⟩ := List.mem_iff_getElem.1 hl
        rcases hbin i _ (List.getElem?_eq_getElem hi) with hb | ⟨p1, p2, p3, e, hp3⟩
        · exact hb
        · exact absurd ⟨i, p1, p2, p3, by rw [List.getElem?_eq_getElem hi, e], hp3⟩ h1')
      omega

/-- The counting argument.  Besides the three hypotheses written here it takes the five of this section (`variable …
    include`, above): the windows `hW`, `hW'` and the numeric conditions `h1`, `h3`, `hheavy`, in this order before
    `hTB`.  No irreducible counter-example when moreover `W < 5a`, so that a bin holds at most four items. -/
theorem irred_count_of (hTB : T ≤ B) (h : Irred v T B k LL a) (h5 : W < 5 * v a) : False := by
  have ht := irred_tight hTB h
  have hce := h.1.toCE
  have hD := ce_large hce
  have h24 : ∀ l ∈ LL, 2 ≤ l.length ∧ l.length ≤ 4 := fun l hl =>
    ⟨tight_two hTB ht.toTight l hl,
      by simpa using items_per_bin (c := 4) (l := l.map v) (fun y hy => by
        obtain ⟨p, hp, rfl⟩ := List.mem_map.1 hy
        exact hce.amin p (List.mem_flatten.2 ⟨l, hl, hp⟩)) (by omega) (hW l hl)⟩
  -- summed over the bins of the packing: a bin of `n` items contributes `n + [n = 2] = 3 + [n = 4]`
  have hcLL := Part.binSum_congr (l := LL) (f := fun l => l.length + if l.length = 2 then 1 else 0)
    (g := fun l => 3 + if l.length = 4 then 1 else 0) fun l hl => by
      obtain e | e | e : l.length = 2 ∨ l.length = 3 ∨ l.length = 4 := by have := h24 l hl; omega
      all_goals rw [e]; rfl
  simp only [Part.binSum_add, Part.binSum_const, ← Part.length_flatten_eq, Part.binSum_ite, Nat.one_mul, hce.len] at hcLL
  obtain ⟨f, hf1, hf2⟩ := irred_tiny_ge hTB h (by omega) (by omega)
  have hbig := pair_bins_big ht.toTight
  have hpacked := packed_tiny_le hW hW' h1 h3 hheavy ht h24
  -- `#(bins of two) + f = #(bins of four) + 1`, `4·#(bins of two) + 4f ≤ 2·#big + 4f ≤ #tiny + 1`
  omega

end Windows

end Counting

/-! ## The constants -/

/-- The counting argument for at most `K` bins: the windows `W`, `W'` of `irred_count_of` come from the volume
    (`ce_level_window`, `ce_level_window2`); what is left are its four numeric conditions, to be shown from the volume
    bound `a ≥ K/(K−1)·(B + 1 − T)` (`ce_volume_mono`) and the band `B − T < a < (2T − B)/3` (`ce_large`, `ce_band`). -/
theorem irred_count_windows {v : α → Nat} {T B k K : Nat} (hTB : T ≤ B) (hkK : k ≤ K) {LL : List (List α)} {a : α}
    (h : Irred v T B k LL a) {W W' : Nat} (eW : W = K * T + (K - 1) * v a - ((K - 1) * (B + 1) + v a))
    (eW' : W' = K * T + (K - 2) * v a - ((K - 2) * (B + 1) + v a))
    (hnum : B < v a + T → B + 3 * v a < 2 * T → K * (B + 1) + v a ≤ K * T + K * v a →
      6 * T < 4 * (B + 1) + 5 * v a ∧ 5 * T < 3 * (B + 1) + 6 * v a ∧
      (3 * W < 2 * (B + 1) + 3 * v a ∨ (3 * W' < 4 * (B + 1) + 6 * v a ∧ W' + 8 * T < 7 * (B + 1) + 6 * v a)) ∧
      W < 5 * v a) : False := by
  have hce := h.1.toCE
  have hD := ce_large hce
  obtain ⟨h1, h3, hheavy, h5⟩ := hnum hD (by have := (ce_band hTB hce).2; omega) (ce_volume_mono hce hkK)
  have hW : ∀ l ∈ LL, binSum v l ≤ W := fun l hl => by
    have := ce_level_window hce hkK hl
    omega
  have hW' : ∀ (i j : Nat) (l l' : List α), i < j → LL[i]? = some l → LL[j]? = some l' →
      binSum v l + binSum v l' ≤ W' := fun i j l l' hij hl hl' => by
    have := ce_level_window2 hce hkK hij hl hl'
    omega
  exact irred_count_of hW hW' (h1 := h1) (h3 := h3) (hheavy := hheavy) hTB h (h5 := h5)

/-- **No irreducible counter-example** with at most 11 bins for a capacity `B > 61/50 · T − 1`.  (Readings for
    `B + 1 = ρ·T`:) `0.242·T ≤ a < 0.26·T`, `W' = 0.02·T + 8a`: a bin of three may be heavy; `W' + 8T < 7(B + 1) + 6a` reads
    `a < 0.26·T`, the upper end of the band (with 12 bins, `W' = 9a − 0.2·T`, it would need `a < 0.2467·T`). -/
theorem irred_count_false_11 {v : α → Nat} {T B k : Nat} (hTB : T ≤ B) (hk : k ≤ 11)
    (hB : 61 * T < 50 * (B + 1)) {LL : List (List α)} {a : α} (h : Irred v T B k LL a) : False :=
  irred_count_windows hTB hk h rfl rfl fun hD hband hvol =>
    ⟨by omega, by omega, Or.inr ⟨by omega, by omega⟩, by omega⟩

/-- the same with at most 16 bins for `B > 16/13 · T − 1`: `0.2462·T ≤ a < 0.2564·T`, `W' = 13a − 1.231·T`;
    `W' + 8T < 7(B + 1) + 6a` reads `a < 0.2637·T`, beyond the band -/
theorem irred_count_false_16 {v : α → Nat} {T B k : Nat} (hTB : T ≤ B) (hk : k ≤ 16)
    (hB : 16 * T < 13 * (B + 1)) {LL : List (List α)} {a : α} (h : Irred v T B k LL a) : False :=
  irred_count_windows hTB hk h rfl rfl fun hD hband hvol =>
    ⟨by omega, by omega, Or.inr ⟨by omega, by omega⟩, by omega⟩

/-- the same with at most 6 bins for `B > 6/5 · T − 1`: `0.24·T ≤ a < 0.2667·T`, `W = 4a`; no bin of three is heavy, as
    `3W < 2(B + 1) + 3a` reads `a < 0.2667·T`, the upper end of the band; `6T < 4(B + 1) + 5a` reads `a > 0.24·T`, its
    lower end -/
theorem irred_count_false_6 {v : α → Nat} {T B k : Nat} (hTB : T ≤ B) (hk : k ≤ 6)
    (hB : 6 * T < 5 * (B + 1)) {LL : List (List α)} {a : α} (h : Irred v T B k LL a) : False :=
  irred_count_windows hTB hk h rfl rfl fun hD hband hvol =>
    ⟨by omega, by omega, Or.inl (by omega), by omega⟩

/-- C08: no irreducible counter-example with eleven bins for a capacity `B > 61/50 · T − 1`.  The hypothesis `hcap`
    (the bins are within the capacity) is not used: the capacity may reach `5a` here, and it is the window `W < 5a`
    that limits a bin to four items. -/
theorem irred_eleven_false {v : α → Nat} {T B : Nat} (hTB : T ≤ B) (hB : 61 * T < 50 * (B + 1))
    {LL : List (List α)} {a : α} (h : Irred v T B 11 LL a) (hcap : ∀ l ∈ LL, binSum v l ≤ B) : False :=
  irred_count_false_11 hTB (Nat.le_refl 11) hB h

section Ratios
variable (v : α → Nat)

theorem ffdFits_122_k11 {k : Nat} (hk : 0 < k) (hk11 : k ≤ 11) {items : List α} {opt : Int}
    (hopt : IsOptimalValue .minLargest k (items.map v) opt) {ρ : Rat} (hρ : 61 / 50 ≤ ρ) :
    FfdFits v k (sortDesc v items) ρ opt :=
  ffdFits_of_fold_fits v hopt (p := 61) (q := 50) (by decide) (by decide) (by norm_num; exact hρ)
    fun _ _ _ hp hTB hB hall =>
      ffd_fold_fits_of_no_irred v hk _ (Part.sortDesc_sorted v items) hp hall fun _ _ _ hk' _ hi =>
        irred_count_false_11 hTB (Nat.le_trans hk' hk11) hB hi

/-- **C08: multifit, `61/50 + 2^−it` times the optimal largest sum, for at most eleven bins**, the bound claimed by
    the documentation.  For `k ≥ 12` see `MultiFit122B.multifit_ratio_122_partial_k`. -/
theorem multifit_ratio_122_k11 {k : Nat} {items : List α} {it : Nat} {b : Bins α} (hk : 0 < k)
    (hk11 : k ≤ 11) {opt : Int} (hopt : IsOptimalValue .minLargest k (items.map v) opt)
    (h : multifit v k items it = .ok b) :
    ((maxL b.sums : Nat) : Rat) ≤ (61 / 50 + 1 / 2 ^ it) * opt :=
  multifit_ratio_of_ffdFits v hk hopt (by norm_num) (ffdFits_122_k11 v hk hk11 hopt (le_refl _)) h

theorem multifit_ratio_122_k9 {k : Nat} {items : List α} {it : Nat} {b : Bins α} (hk : 0 < k)
    (hk9 : k ≤ 9) {opt : Int} (hopt : IsOptimalValue .minLargest k (items.map v) opt)
    (h : multifit v k items it = .ok b) :
    ((maxL b.sums : Nat) : Rat) ≤ (61 / 50 + 1 / 2 ^ it) * opt :=
  multifit_ratio_122_k11 v hk (by omega) hopt h

theorem multifit_ratio_122_k10 {k : Nat} {items : List α} {it : Nat} {b : Bins α} (hk : 0 < k)
    (hk10 : k ≤ 10) {opt : Int} (hopt : IsOptimalValue .minLargest k (items.map v) opt)
    (h : multifit v k items it = .ok b) :
    ((maxL b.sums : Nat) : Rat) ≤ (61 / 50 + 1 / 2 ^ it) * opt :=
  multifit_ratio_122_k11 v hk (by omega) hopt h

/-- C08: multifit, `11/9 + 2^−it`, for at most eleven bins (weaker than `multifit_ratio_122_k11`). -/
theorem multifit_ratio_11_9_k11 {k : Nat} {items : List α} {it : Nat} {b : Bins α} (hk : 0 < k)
    (hk11 : k ≤ 11) {opt : Int} (hopt : IsOptimalValue .minLargest k (items.map v) opt)
    (h : multifit v k items it = .ok b) :
    ((maxL b.sums : Nat) : Rat) ≤ (11 / 9 + 1 / 2 ^ it) * opt :=
  multifit_ratio_of_ffdFits v hk hopt (by norm_num) (ffdFits_122_k11 v hk hk11 hopt (by norm_num)) h

theorem multifit_ratio_11_9_k10 {k : Nat} {items : List α} {it : Nat} {b : Bins α} (hk : 0 < k)
    (hk10 : k ≤ 10) {opt : Int} (hopt : IsOptimalValue .minLargest k (items.map v) opt)
    (h : multifit v k items it = .ok b) :
    ((maxL b.sums : Nat) : Rat) ≤ (11 / 9 + 1 / 2 ^ it) * opt :=
  multifit_ratio_11_9_k11 v hk (by omega) hopt h

/-- C08: multifit, `16/13 + 2^−it`, for at most sixteen bins. -/
theorem multifit_ratio_16_13_k16 {k : Nat} {items : List α} {it : Nat} {b : Bins α} (hk : 0 < k)
    (hk16 : k ≤ 16) {opt : Int} (hopt : IsOptimalValue .minLargest k (items.map v) opt)
    (h : multifit v k items it = .ok b) :
    ((maxL b.sums : Nat) : Rat) ≤ (16 / 13 + 1 / 2 ^ it) * opt :=
  multifit_ratio_of_fold_fits v hk hopt (p := 16) (q := 13) (by decide) (by decide) (by norm_num)
    (fun _ _ _ hp hTB hB hall => ffd_fold_fits_of_no_irred v hk _ (Part.sortDesc_sorted v items) hp hall
      fun _ _ _ hk' _ hi => irred_count_false_16 hTB (Nat.le_trans hk' hk16) hB hi) h

theorem multifit_ratio_16_13_k14 {k : Nat} {items : List α} {it : Nat} {b : Bins α} (hk : 0 < k)
    (hk14 : k ≤ 14) {opt : Int} (hopt : IsOptimalValue .minLargest k (items.map v) opt)
    (h : multifit v k items it = .ok b) :
    ((maxL b.sums : Nat) : Rat) ≤ (16 / 13 + 1 / 2 ^ it) * opt :=
  multifit_ratio_16_13_k16 v hk (by omega) hopt h

/-- C08: multifit, `6/5 + 2^−it`, for at most six bins. -/
theorem multifit_ratio_6_5_k6 {k : Nat} {items : List α} {it : Nat} {b : Bins α} (hk : 0 < k)
    (hk6 : k ≤ 6) {opt : Int} (hopt : IsOptimalValue .minLargest k (items.map v) opt)
    (h : multifit v k items it = .ok b) :
    ((maxL b.sums : Nat) : Rat) ≤ (6 / 5 + 1 / 2 ^ it) * opt :=
  multifit_ratio_of_fold_fits v hk hopt (p := 6) (q := 5) (by decide) (by decide) (by norm_num)
    (fun _ _ _ hp hTB hB hall => ffd_fold_fits_of_no_irred v hk _ (Part.sortDesc_sorted v items) hp hall
      fun _ _ _ hk' _ hi => irred_count_false_6 hTB (Nat.le_trans hk' hk6) hB hi) h

end Ratios

/-! ## Non-vacuity -/

/-- the window in the tight example `[3, 3], [2, 2, 2]` / `2` (`T = B = 7`): `6 + 1·8 + 2 ≤ 2·7 + 1·2` -/
example : binSum id [3, 3] + (2 - 1) * (7 + 1) + id 2 ≤ 2 * 7 + (2 - 1) * id 2 :=
  ce_level_window stight_example.toSCE.toCE (Nat.le_refl _) (l := [3, 3]) (by simp)

/-- eight bins, `T = 200`, capacity `244` (`61·200 < 50·245`): the items `51` lie in the band for `k = 8`
    (`0.2514·200 < 51 < 0.26·200`), the items `98` are big (`> 244 − 200 + 51`); first-fit-decreasing packs
    four bins `[98, 98]` (a `51` does not fit: `247`) and four bins of four `51` -/
example : ([98, 98, 98, 98, 98, 98, 98, 98, 51, 51, 51, 51, 51, 51, 51, 51, 51, 51, 51, 51, 51, 51, 51, 51].foldl
    (ffStep id 244) (Bins.new 1)).lists.length ≤ 8 :=
  ffd_fold_fits_of_no_irred id (by decide) _ (by decide)
    (partition_packable [[98, 51, 51], [98, 51, 51], [98, 51, 51], [98, 51, 51], [98, 51, 51], [98, 51, 51],
      [98, 51, 51], [98, 51, 51]] rfl (by decide) (by decide)) (by decide)
    fun _ _ _ hk' _ hi => irred_count_false_11 (T := 200) (by decide) (by omega) (by decide) hi

/-- capacity `61` for `T = 50`, two bins -/
example : ([20, 20, 15, 15, 15, 15].foldl (ffStep id 61) (Bins.new 1)).lists.length ≤ 2 :=
  ffd_fold_fits_of_no_irred id (by decide) _ (by decide)
    (partition_packable [[20, 15, 15], [20, 15, 15]] rfl (by decide) (by decide)) (by decide)
    fun _ _ _ hk' _ hi => irred_count_false_11 (T := 50) (by decide) (by omega) (by decide) hi

/-- `61 · 50 < 50 · 62`: capacity `61` for `T = 50`, three bins -/
example : ([30, 25, 25, 20, 20, 15, 15].foldl (ffStep id 61) (Bins.new 1)).lists.length ≤ 3 :=
  ffd_fold_fits_of_no_irred id (by decide) _ (by decide)
    (partition_packable [[30, 20], [25, 25], [20, 15, 15]] rfl (by decide) (by decide)) (by decide)
    fun _ _ _ hk' _ hi => irred_count_false_11 (T := 50) (by decide) (by omega) (by decide) hi

/-- `[3, 3, 2, 2, 2]` on two bins, optimal largest sum `6` (`LPT43.opt_33222`) -/
example : FfdFits id 2 (sortDesc id [3, 3, 2, 2, 2]) (61 / 50) ((6 : Int) : Rat) :=
  ffdFits_122_k11 id (by decide) (by decide) opt_33222 (le_refl _)

example : ∃ b, multifit id 2 [3, 3, 2, 2, 2] 10 = .ok b ∧
    ((maxL b.sums : Nat) : Rat) ≤ (61 / 50 + 1 / 2 ^ 10) * ((6 : Int) : Rat) := by
  obtain ⟨b, h, _⟩ := Part.multifit_perm (v := id) (k := 2) (items := [3, 3, 2, 2, 2]) (it := 10)
    (by decide) (by decide)
  exact ⟨b, h, multifit_ratio_122_k11 id (by decide) (by decide) opt_33222 h⟩

example : ∃ b, multifit id 2 [3, 3, 2, 2, 2] 10 = .ok b ∧
    ((maxL b.sums : Nat) : Rat) ≤ (11 / 9 + 1 / 2 ^ 10) * ((6 : Int) : Rat) ∧
    ((maxL b.sums : Nat) : Rat) ≤ (16 / 13 + 1 / 2 ^ 10) * ((6 : Int) : Rat) ∧
    ((maxL b.sums : Nat) : Rat) ≤ (6 / 5 + 1 / 2 ^ 10) * ((6 : Int) : Rat) := by
  obtain ⟨b, h, _⟩ := Part.multifit_perm (v := id) (k := 2) (items := [3, 3, 2, 2, 2]) (it := 10)
    (by decide) (by decide)
  exact ⟨b, h, multifit_ratio_11_9_k10 id (by decide) (by decide) opt_33222 h,
    multifit_ratio_16_13_k14 id (by decide) (by decide) opt_33222 h,
    multifit_ratio_6_5_k6 id (by decide) (by decide) opt_33222 h⟩

end Prtpy.MultiFit122C

/-! ## Special cases

Theorems of the namespaces `Prtpy.MultiFit122B` and `Prtpy.MultiFit122` for fewer bins; they stand here, behind the
theorems they follow from. -/

namespace Prtpy.MultiFit122B
open Prtpy.LPT43 Prtpy.MaxMin Prtpy.MaxMin2 Prtpy.MultiFit122 Prtpy.MultiFit122C

variable {α : Type}

/-- C08: no irreducible counter-example with seven or eight bins for a capacity `B > 61/50 · T − 1`; likewise with
    8 or 9 bins for `B > 11/9 · T − 1`, with 11 or 12 bins for `B > 16/13 · T − 1`, and with 5 bins for
    `B > 6/5 · T − 1`.  Cases of `irred_count_false_11`, `_16`, `_6`; the hypothesis `hcap` is not used. -/
theorem irred_window_false {v : α → Nat} {T B k : Nat} (hTB : T ≤ B)
    (hcase : (61 * T < 50 * (B + 1) ∧ (k = 7 ∨ k = 8)) ∨ (11 * T < 9 * (B + 1) ∧ (k = 8 ∨ k = 9)) ∨
      (16 * T < 13 * (B + 1) ∧ (k = 11 ∨ k = 12)) ∨ (6 * T < 5 * (B + 1) ∧ k = 5))
    {LL : List (List α)} {a : α} (h : Irred v T B k LL a)
    (hcap : ∀ l ∈ LL, binSum v l ≤ B) : False := by
  rcases hcase with ⟨hB, hk⟩ | ⟨hB, hk⟩ | ⟨hB, hk⟩ | ⟨hB, hk⟩
  · exact irred_count_false_11 hTB (by omega) hB h
  · exact irred_count_false_11 hTB (by omega) (by omega) h
  · exact irred_count_false_16 hTB (by omega) hB h
  · exact irred_count_false_6 hTB (by omega) hB h

section Ratios
variable (v : α → Nat)

/-- C08: multifit, `61/50 + 2^−it`, for at most eight bins. -/
theorem multifit_ratio_122_k8 {k : Nat} {items : List α} {it : Nat} {b : Bins α} (hk : 0 < k)
    (hk8 : k ≤ 8) {opt : Int} (hopt : IsOptimalValue .minLargest k (items.map v) opt)
    (h : multifit v k items it = .ok b) :
    ((maxL b.sums : Nat) : Rat) ≤ (61 / 50 + 1 / 2 ^ it) * opt :=
  multifit_ratio_122_k11 v hk (by omega) hopt h

/-- C08: multifit, `11/9 + 2^−it`, for at most nine bins. -/
theorem multifit_ratio_11_9_k9 {k : Nat} {items : List α} {it : Nat} {b : Bins α} (hk : 0 < k)
    (hk9 : k ≤ 9) {opt : Int} (hopt : IsOptimalValue .minLargest k (items.map v) opt)
    (h : multifit v k items it = .ok b) :
    ((maxL b.sums : Nat) : Rat) ≤ (11 / 9 + 1 / 2 ^ it) * opt :=
  multifit_ratio_11_9_k11 v hk (by omega) hopt h

/-- C08: multifit, `16/13 + 2^−it`, for at most twelve bins. -/
theorem multifit_ratio_16_13_k12 {k : Nat} {items : List α} {it : Nat} {b : Bins α} (hk : 0 < k)
    (hk12 : k ≤ 12) {opt : Int} (hopt : IsOptimalValue .minLargest k (items.map v) opt)
    (h : multifit v k items it = .ok b) :
    ((maxL b.sums : Nat) : Rat) ≤ (16 / 13 + 1 / 2 ^ it) * opt :=
  multifit_ratio_16_13_k16 v hk (by omega) hopt h

/-- C08: multifit, `6/5 + 2^−it`, for at most five bins. -/
theorem multifit_ratio_6_5_k5 {k : Nat} {items : List α} {it : Nat} {b : Bins α} (hk : 0 < k)
    (hk5 : k ≤ 5) {opt : Int} (hopt : IsOptimalValue .minLargest k (items.map v) opt)
    (h : multifit v k items it = .ok b) :
    ((maxL b.sums : Nat) : Rat) ≤ (6 / 5 + 1 / 2 ^ it) * opt :=
  multifit_ratio_6_5_k6 v hk (by omega) hopt h

end Ratios

example : ∃ b, multifit id 2 [3, 3, 2, 2, 2] 10 = .ok b ∧
    ((maxL b.sums : Nat) : Rat) ≤ (61 / 50 + 1 / 2 ^ 10) * ((6 : Int) : Rat) := by
  obtain ⟨b, h, _⟩ := Part.multifit_perm (v := id) (k := 2) (items := [3, 3, 2, 2, 2]) (it := 10)
    (by decide) (by decide)
  exact ⟨b, h, multifit_ratio_122_k8 id (by decide) (by decide) opt_33222 h⟩

example : ∃ b, multifit id 2 [3, 3, 2, 2, 2] 10 = .ok b ∧
    ((maxL b.sums : Nat) : Rat) ≤ (11 / 9 + 1 / 2 ^ 10) * ((6 : Int) : Rat) ∧
    ((maxL b.sums : Nat) : Rat) ≤ (16 / 13 + 1 / 2 ^ 10) * ((6 : Int) : Rat) ∧
    ((maxL b.sums : Nat) : Rat) ≤ (6 / 5 + 1 / 2 ^ 10) * ((6 : Int) : Rat) := by
  obtain ⟨b, h, _⟩ := Part.multifit_perm (v := id) (k := 2) (items := [3, 3, 2, 2, 2]) (it := 10)
    (by decide) (by decide)
  exact ⟨b, h, multifit_ratio_11_9_k9 id (by decide) (by decide) opt_33222 h,
    multifit_ratio_16_13_k12 id (by decide) (by decide) opt_33222 h,
    multifit_ratio_6_5_k5 id (by decide) (by decide) opt_33222 h⟩

end Prtpy.MultiFit122B

namespace Prtpy.MultiFit122
open Prtpy.LPT43 Prtpy.MaxMin Prtpy.MaxMin2 Prtpy.MultiFit122B Prtpy.MultiFit122C

variable {α : Type}

section Multifit
variable (v : α → Nat)

/-- C08: multifit, `61/50 + 2^−it`, for at most six bins. -/
theorem multifit_ratio_122_small_k {k : Nat} {items : List α} {it : Nat} {b : Bins α} (hk : 0 < k)
    (hk6 : k ≤ 6) {opt : Int} (hopt : IsOptimalValue .minLargest k (items.map v) opt)
    (h : multifit v k items it = .ok b) :
    ((maxL b.sums : Nat) : Rat) ≤ (61 / 50 + 1 / 2 ^ it) * opt :=
  multifit_ratio_122_k11 v hk (by omega) hopt h

/-- C08: multifit, `11/9 + 2^−it`, for at most seven bins. -/
theorem multifit_ratio_11_9_small_k {k : Nat} {items : List α} {it : Nat} {b : Bins α} (hk : 0 < k)
    (hk7 : k ≤ 7) {opt : Int} (hopt : IsOptimalValue .minLargest k (items.map v) opt)
    (h : multifit v k items it = .ok b) :
    ((maxL b.sums : Nat) : Rat) ≤ (11 / 9 + 1 / 2 ^ it) * opt :=
  multifit_ratio_11_9_k11 v hk (by omega) hopt h

end Multifit

example : ∃ b, multifit id 2 [3, 3, 2, 2, 2] 10 = .ok b ∧
    ((maxL b.sums : Nat) : Rat) ≤ (61 / 50 + 1 / 2 ^ 10) * ((6 : Int) : Rat) := by
  obtain ⟨b, h, _⟩ := Part.multifit_perm (v := id) (k := 2) (items := [3, 3, 2, 2, 2]) (it := 10)
    (by decide) (by decide)
  exact ⟨b, h, multifit_ratio_122_small_k id (by decide) (by decide) opt_33222 h⟩

example : ∃ b, multifit id 2 [3, 3, 2, 2, 2] 10 = .ok b ∧
    ((maxL b.sums : Nat) : Rat) ≤ (11 / 9 + 1 / 2 ^ 10) * ((6 : Int) : Rat) := by
  obtain ⟨b, h, _⟩ := Part.multifit_perm (v := id) (k := 2) (items := [3, 3, 2, 2, 2]) (it := 10)
    (by decide) (by decide)
  exact ⟨b, h, multifit_ratio_11_9_small_k id (by decide) (by decide) opt_33222 h⟩

end Prtpy.MultiFit122
