/-
  PrtpyProofs.CKKOpt — property C02 for complete Karmarkar–Karp as modelled by `Prtpy.ckk` (the code before fix F11,
  which pushes every combination of `all_combinations`) and `Prtpy.ckkGen`: a run to completion returns a partition
  whose difference between the largest and the smallest sum is the optimum over all partitions of the items into
  `k` bins.  Both bins managers are covered.

  `Reach k Ts u`: the sum-vector `u` is the bin-wise sum of one arrangement of every tuple of `Ts` — the final
  partitions that a heap with tuples `Ts` represents.  Neither the order of the tuples nor that of the bins inside a
  tuple matters; two tuples can be replaced by their `k!` pairings (`reach_merge_iff`); the heap of singletons
  represents exactly the assignments (`reach_init_iff`).  `all_combinations` drops a pairing only when an earlier one
  has the same sums up to order (`CombComplete`), and `ckkBound` prunes nothing better than the incumbent
  (`ckkBound_admissible`).  Hence the invariant `CInv`: every assignment is no better than the incumbent or
  represented by a heap on the stack — `CKKValid.Lossless`, kept by every iteration by `CKKValid.step_lossless`.
-/
import Mathlib.Data.List.Perm.Basic
import PrtpyProofs.Obj
import PrtpyProofs.Oracle
import PrtpyProofs.Runs
import PrtpyProofs.Part
import PrtpyProofs.SNP
import PrtpyProofs.CKK
import PrtpyProofs.AllComb
import PrtpyProofs.CKKValid
open Prtpy

namespace Prtpy.CKKOpt

variable {α : Type}

/-! ## The relation `Reach` -/

/-- `Reach k Ts u`: the sum-vector `u` is obtained by choosing, for every tuple `T` of `Ts`, an arrangement `P`
    of its bins (`P.Perm T`) and adding all the arrangements up bin by bin.  This is the set of final partitions
    that a Karmarkar–Karp heap with tuples `Ts` *represents*. -/
inductive Reach (k : Nat) : List (List Nat) → List Nat → Prop
  | nil : Reach k [] (List.replicate k 0)
  | cons {T P u : List Nat} {Ts : List (List Nat)} :
      P.Perm T → Reach k Ts u → Reach k (T :: Ts) (List.zipWith (· + ·) P u)

theorem zipWith_add_comm (a b : List Nat) :
    List.zipWith (· + ·) a b = List.zipWith (· + ·) b a :=
  List.zipWith_comm_of_comm Nat.add_comm

theorem zipWith_add_assoc : ∀ a b c : List Nat,
    List.zipWith (· + ·) a (List.zipWith (· + ·) b c) = List.zipWith (· + ·) (List.zipWith (· + ·) a b) c
  | [], _, _ => by simp
  | _ :: _, [], _ => by simp
  | _ :: _, _ :: _, [] => by simp
  | x :: a, y :: b, z :: c => by
    simp only [List.zipWith_cons_cons, zipWith_add_assoc a b c, Nat.add_assoc]

theorem zipWith_add_left_comm (a b c : List Nat) :
    List.zipWith (· + ·) a (List.zipWith (· + ·) b c) = List.zipWith (· + ·) b (List.zipWith (· + ·) a c) := by
  rw [zipWith_add_assoc, zipWith_add_comm a b, ← zipWith_add_assoc]

theorem reach_length {k : Nat} {Ts : List (List Nat)} {u : List Nat} (hl : ∀ T ∈ Ts, T.length = k)
    (h : Reach k Ts u) : u.length = k := by
  induction h with
  | nil => simp
  | @cons T P u Ts hp _ ih =>
    have h1 : P.length = k := by rw [hp.length_eq]; exact hl T List.mem_cons_self
    have h2 := ih (fun T' hT' => hl T' (List.mem_cons_of_mem _ hT'))
    simp [h1, h2]

theorem reach_perm {k : Nat} {Ts Ts' : List (List Nat)} (hp : Ts.Perm Ts') :
    ∀ {u : List Nat}, Reach k Ts u → Reach k Ts' u := by
  induction hp with
  | nil => intro u h; exact h
  | cons T _ ih =>
    intro u h
    cases h with
    | cons hP hr => exact Reach.cons hP (ih hr)
  | swap a b l =>
    intro u h
    cases h with
    | cons hP hr =>
      cases hr with
      | cons hP' hr' =>
        rw [zipWith_add_left_comm]
        exact Reach.cons hP' (Reach.cons hP hr')
  | trans _ _ ih₁ ih₂ => intro u h; exact ih₂ (ih₁ h)

theorem reach_head_perm {k : Nat} {T T' : List Nat} {Ts : List (List Nat)} {u : List Nat} (hp : T.Perm T')
    (h : Reach k (T :: Ts) u) : Reach k (T' :: Ts) u := by
  cases h with
  | cons hP hr => exact Reach.cons (hP.trans hp) hr

theorem reach_map_congr {β : Type} {k : Nat} {f g : β → List Nat} (xs : List β)
    (hfg : ∀ x ∈ xs, (f x).Perm (g x)) {u : List Nat} (h : Reach k (xs.map f) u) : Reach k (xs.map g) u := by
  induction xs generalizing u with
  | nil => exact h
  | cons x xs ih =>
    simp only [List.map_cons] at h ⊢
    cases h with
    | cons hP hr =>
      exact Reach.cons (hP.trans (hfg x List.mem_cons_self))
        (ih (fun y hy => hfg y (List.mem_cons_of_mem _ hy)) hr)

theorem reach_single {k : Nat} {T u : List Nat} (hT : T.length = k) (h : Reach k [T] u) : u.Perm T := by
  cases h with
  | cons hP hr =>
    cases hr
    have : k = _ := (hP.length_eq.trans hT).symm
    subst this
    rw [Part.zipWith_add_replicate_zero]
    exact hP

/-! ### pairing two tuples -/

theorem pairBy_sums (b1 b2 : Bins α) (perm : List Nat) : (pairBy b1 b2 perm).sums = pairS b1.sums b2.sums perm := rfl

/-- a rearrangement of `T` is `T` read through a permutation of the indices -/
theorem perm_eq_map_getD {T : List Nat} : ∀ {P : List Nat}, P.Perm T →
    ∃ perm : List Nat, perm.Perm (List.range T.length) ∧ P = perm.map (fun p => T.getD p 0) := by
  induction T with
  | nil =>
    intro P hp
    have := hp.eq_nil
    subst this
    exact ⟨[], by simp, rfl⟩
  | cons y T ih =>
    intro P hp
    have hy : y ∈ P := hp.symm.subset List.mem_cons_self
    obtain ⟨A, B, rfl⟩ := List.append_of_mem hy
    have hAB : (A ++ B).Perm T := (List.perm_middle.symm.trans hp).cons_inv
    obtain ⟨perm, hperm, hmap⟩ := ih hAB
    refine ⟨(perm.take A.length).map (· + 1) ++ 0 :: (perm.drop A.length).map (· + 1), ?_, ?_⟩
    · refine List.perm_middle.trans ?_
      rw [List.length_cons, List.range_succ_eq_map]
      refine List.Perm.cons 0 ?_
      rw [← List.map_append, List.take_append_drop]
      exact hperm.map _
    · have h1 : A = (perm.take A.length).map (fun p => T.getD p 0) := by
        have := congrArg (List.take A.length) hmap
        rwa [List.take_left', ← List.map_take] at this
        rfl
      have h2 : B = (perm.drop A.length).map (fun p => T.getD p 0) := by
        have := congrArg (List.drop A.length) hmap
        rwa [List.drop_left', ← List.map_drop] at this
        rfl
      simp only [List.map_append, List.map_cons, List.map_map]
      conv => lhs; rw [h1, h2]
      rfl

/-- the arrangement of the second tuple can be undone on both tuples at once -/
theorem zipWith_perm_right {P2 T2 : List Nat} (hp : P2.Perm T2) :
    ∀ P1 : List Nat, P1.length = P2.length →
      ∃ P1' : List Nat, P1'.Perm P1 ∧ (List.zipWith (· + ·) P1 P2).Perm (List.zipWith (· + ·) P1' T2) := by
  induction hp with
  | nil => intro P1 _; exact ⟨P1, List.Perm.refl _, by simp⟩
  | cons x _ ih =>
    intro P1 hl
    cases P1 with
    | nil => simp at hl
    | cons a P1 =>
      obtain ⟨P1', h1, h2⟩ := ih P1 (by simpa using hl)
      exact ⟨a :: P1', h1.cons a, by simp only [List.zipWith_cons_cons]; exact h2.cons _⟩
  | swap x y l =>
    intro P1 hl
    match P1, hl with
    | a :: b :: P1, _ =>
      exact ⟨b :: a :: P1, List.Perm.swap _ _ _, by simp only [List.zipWith_cons_cons]; exact List.Perm.swap _ _ _⟩
  | trans _ _ ih₁ ih₂ =>
    intro P1 hl
    obtain ⟨Q, h1, h2⟩ := ih₁ P1 hl
    obtain ⟨R, h3, h4⟩ := ih₂ Q (by rw [h1.length_eq, hl]; rename_i hp1 _; exact hp1.length_eq)
    exact ⟨R, h3.trans h1, h2.trans h4⟩

/-- what a heap represents is represented by one of the heaps obtained by replacing two tuples by one of their
    `k!` pairings -/
theorem reach_merge {k : Nat} {T1 T2 : List Nat} {Ts : List (List Nat)} {u : List Nat}
    (h1 : T1.length = k) (h2 : T2.length = k) (h : Reach k (T1 :: T2 :: Ts) u) :
    ∃ perm : List Nat, perm.Perm (List.range k) ∧ Reach k (pairS T1 T2 perm :: Ts) u := by
  cases h with
  | @cons _ P1 _ _ hP1 hr =>
    cases hr with
    | @cons _ P2 u' _ hP2 hr' =>
      obtain ⟨P1', hq1, hq2⟩ := zipWith_perm_right hP2 P1 (by rw [hP1.length_eq, hP2.length_eq, h1, h2])
      obtain ⟨perm, hperm, hmap⟩ := perm_eq_map_getD (hq1.trans hP1)
      rw [h1] at hperm
      refine ⟨perm, hperm, ?_⟩
      rw [zipWith_add_assoc]
      refine Reach.cons ?_ hr'
      have : pairS T1 T2 perm = List.zipWith (· + ·) P1' T2 := by
        rw [hmap, List.zipWith_map_left]; rfl
      rw [this]
      exact hq2

/-- a rearrangement of a bin-wise sum is the bin-wise sum of two rearrangements -/
theorem perm_zipWith_decompose {M Q : List Nat} (hp : M.Perm Q) :
    ∀ A B : List Nat, List.zipWith (· + ·) A B = M →
      ∃ A' B' : List Nat, A'.Perm A ∧ B'.Perm B ∧ Q = List.zipWith (· + ·) A' B' := by
  induction hp with
  | nil => intro A B hM; exact ⟨A, B, List.Perm.refl _, List.Perm.refl _, hM.symm⟩
  | cons x _ ih =>
    intro A B hM
    match A, B, hM with
    | a :: A, b :: B, hM =>
      simp only [List.zipWith_cons_cons, List.cons.injEq] at hM
      obtain ⟨A', B', h1, h2, h3⟩ := ih A B hM.2
      exact ⟨a :: A', b :: B', h1.cons a, h2.cons b, by simp only [List.zipWith_cons_cons, h3, hM.1]⟩
  | swap x y l =>
    intro A B hM
    rcases A with _ | ⟨a1, _ | ⟨a2, A⟩⟩ <;> rcases B with _ | ⟨b1, _ | ⟨b2, B⟩⟩ <;>
      simp only [List.zipWith_nil_left, List.zipWith_nil_right, List.zipWith_cons_cons, List.cons.injEq,
        reduceCtorEq, and_false] at hM
    obtain ⟨e1, e2, e3⟩ := hM
    subst e1 e2 e3
    exact ⟨a2 :: a1 :: A, b2 :: b1 :: B, List.Perm.swap _ _ _, List.Perm.swap _ _ _, rfl⟩
  | trans _ _ ih₁ ih₂ =>
    intro A B hM
    obtain ⟨A1, B1, h1, h2, h3⟩ := ih₁ A B hM
    obtain ⟨A2, B2, h4, h5, h6⟩ := ih₂ A1 B1 h3.symm
    exact ⟨A2, B2, h4.trans h1, h5.trans h2, h6⟩

/-- conversely, a pairing only represents what the two tuples represent -/
theorem reach_unmerge {k : Nat} {T1 T2 : List Nat} {Ts : List (List Nat)} {u : List Nat} {perm : List Nat}
    (h1 : T1.length = k) (hperm : perm.Perm (List.range k))
    (h : Reach k (pairS T1 T2 perm :: Ts) u) : Reach k (T1 :: T2 :: Ts) u := by
  cases h with
  | @cons _ Q u' _ hQ hr =>
    have hP1 : (perm.map (fun p => T1.getD p 0)).Perm T1 := AllComb.map_getD_perm T1 0 (h1 ▸ hperm)
    have hpair : List.zipWith (· + ·) (perm.map (fun p => T1.getD p 0)) T2 = pairS T1 T2 perm := by
      rw [List.zipWith_map_left]; rfl
    obtain ⟨Q1, Q2, hq1, hq2, rfl⟩ := perm_zipWith_decompose hQ.symm _ _ hpair
    rw [← zipWith_add_assoc]
    exact Reach.cons (hq1.trans hP1) (Reach.cons hq2 hr)

theorem reach_merge_iff {k : Nat} {T1 T2 : List Nat} {Ts : List (List Nat)} {u : List Nat}
    (h1 : T1.length = k) (h2 : T2.length = k) :
    Reach k (T1 :: T2 :: Ts) u ↔
      ∃ perm : List Nat, perm.Perm (List.range k) ∧ Reach k (pairS T1 T2 perm :: Ts) u :=
  ⟨reach_merge h1 h2, fun ⟨_, hperm, h⟩ => reach_unmerge h1 hperm h⟩

/-- `[3, 4] + [2, 1]` is represented by the heap `{[1, 2], [3, 4]}` and by its pairing `[5, 5]` under the swap
    `[1, 0]` -/
example : Reach 2 [[1, 2], [3, 4]] [5, 5] ∧ Reach 2 [pairS [1, 2] [3, 4] [1, 0]] [5, 5] :=
  ⟨Reach.cons (P := [2, 1]) (by decide) (Reach.cons (P := [3, 4]) (by decide) Reach.nil),
   Reach.cons (P := [5, 5]) (by decide) Reach.nil⟩

/-! ## The bound `ckkBound` is admissible -/

theorem reach_sumL {k : Nat} {Ts : List (List Nat)} {u : List Nat} (hl : ∀ T ∈ Ts, T.length = k)
    (h : Reach k Ts u) : sumL u = sumL Ts.flatten := by
  induction h with
  | nil => simp [Part.sumL_replicate]
  | @cons T P u Ts hp hr ih =>
    have hlT : ∀ T' ∈ Ts, T'.length = k := fun T' hT' => hl T' (List.mem_cons_of_mem _ hT')
    have hu := reach_length hlT hr
    have hP : P.length = k := by rw [hp.length_eq]; exact hl T List.mem_cons_self
    rw [Obj.sumL_zipWith_add (by omega), List.flatten_cons, Part.sumL_append, ih hlT, Part.sumL_perm hp]

theorem reach_le_maxL {k : Nat} {Ts : List (List Nat)} {u : List Nat} (hl : ∀ T ∈ Ts, T.length = k)
    (h : Reach k Ts u) : ∀ x ∈ Ts.flatten, x ≤ maxL u := by
  induction h with
  | nil => intro x hx; simp at hx
  | @cons T P u Ts hp hr ih =>
    have hlT : ∀ T' ∈ Ts, T'.length = k := fun T' hT' => hl T' (List.mem_cons_of_mem _ hT')
    have hu := reach_length hlT hr
    have hP : P.length = k := by rw [hp.length_eq]; exact hl T List.mem_cons_self
    intro x hx
    rw [List.flatten_cons, List.mem_append] at hx
    rcases hx with hx | hx
    · have h1 := Part.le_maxL (hp.symm.subset hx)
      have h2 := Obj.maxL_le_maxL_zipWith (a := P) (b := u) (by omega)
      omega
    · have h1 := ih hlT x hx
      have h2 := Obj.maxL_le_maxL_zipWith (a := u) (b := P) (by omega)
      rw [zipWith_add_comm]
      omega

/-- in a vector of `k ≥ 2` sums, the `k - 1` sums other than a largest one are at least the smallest -/
theorem minL_mul_add_maxL_le {u : List Nat} {k : Nat} (hu : u.length = k) (hk : 2 ≤ k) :
    (k - 1) * minL u + maxL u ≤ sumL u := by
  have hne : u ≠ [] := by intro h; rw [h] at hu; simp at hu; omega
  have hm := Part.maxL_mem hne
  have hp := List.perm_cons_erase hm
  have h1 := Part.sumL_perm hp
  have h2 : (u.erase (maxL u)).length = k - 1 := by rw [List.length_erase_of_mem hm, hu]
  have h3 := Part.length_mul_le_sumL (u.erase (maxL u)) (minL u) 0
    (fun x hx => Part.minL_le (List.mem_of_mem_erase hx))
  rw [h2, Nat.mul_zero, Nat.add_zero] at h3
  simp only [Obj.sumL_cons] at h1
  omega

/-- the arithmetic behind the bound: a sum-vector of length `k` with total `t` whose largest sum is at least `m`
    has difference at least `m - ⌊(t - m) / (k - 1)⌋` -/
theorem spread_ge_bound {u : List Nat} {k m : Nat} (hu : u.length = k) (hk : 2 ≤ k) (hm : m ≤ maxL u) :
    (m : Int) - (((sumL u - m) / (k - 1) : Nat) : Int) ≤ (spread u : Int) := by
  have h1 := minL_mul_add_maxL_le hu hk
  have h2 : minL u ≤ (sumL u - m) / (k - 1) := by
    rw [Nat.le_div_iff_mul_le (by omega)]
    have : minL u * (k - 1) = (k - 1) * minL u := Nat.mul_comm _ _
    omega
  have h3 := Obj.minL_le_maxL u
  unfold spread
  omega

/-- C13 (used for C02): `ckkBound` (Python: `_possible_partition_difference_lower_bound`) is admissible — every
    final partition represented by the heap has a negated difference that is at most the bound, so pruning when
    `bound ≤ best` loses nothing better than the incumbent -/
theorem ckkBound_admissible {k : Nat} {h : Heap α} {u : List Nat} {lb : Int}
    (hl : ∀ e ∈ h, e.bins.sums.length = k) (hr : Reach k (h.map (·.bins.sums)) u)
    (hb : ckkBound h k = some lb) : -(spread u : Int) ≤ lb := by
  unfold ckkBound at hb
  split at hb
  · cases hb
  · rename_i hk
    simp only [Option.some.injEq] at hb
    have hl' : ∀ T ∈ h.map (·.bins.sums), T.length = k := by
      intro T hT
      obtain ⟨e, he, rfl⟩ := List.mem_map.1 hT
      exact hl e he
    have hflat : h.flatMap (·.bins.sums) = (h.map (·.bins.sums)).flatten := by
      rw [List.flatMap_def]
    have h1 := reach_sumL hl' hr
    have h2 := Part.maxL_le (reach_le_maxL hl' hr)
    have h3 := reach_length hl' hr
    rw [← hflat] at h1 h2
    have := spread_ge_bound (m := maxL (h.flatMap (·.bins.sums))) h3 (by omega) h2
    rw [h1] at this
    omega

/-- the heap `{[0, 6], [0, 5], [0, 4]}` has bound `-(6 - 9) = 3`; it represents `[4, 11]` -/
example : -(spread [4, 11] : Int) ≤ 3 :=
  ckkBound_admissible (α := Nat) (k := 2) (h := [⟨6, 0, ⟨[0, 6], [[], [6]]⟩⟩, ⟨5, 1, ⟨[0, 5], [[], [5]]⟩⟩,
      ⟨4, 2, ⟨[0, 4], [[], [4]]⟩⟩]) (by decide)
    (Reach.cons (P := [0, 6]) (by decide) (Reach.cons (P := [0, 5]) (by decide)
      (Reach.cons (P := [4, 0]) (by decide) Reach.nil))) rfl

/-! ## The initial heap represents exactly the assignments -/

/-- the tuple of a single item of value `w`: `[0, …, 0, w]` -/
def unitT (k w : Nat) : List Nat := (List.replicate k 0).modify (k - 1) (· + w)

theorem modify_eq_zipWith {k : Nat} (u : List Nat) (i w : Nat) (hu : u.length = k) :
    u.modify i (· + w) = List.zipWith (· + ·) ((List.replicate k 0).modify i (· + w)) u := by
  apply List.ext_getElem
  · simp [hu]
  · intro n h1 h2
    simp only [List.getElem_modify, List.getElem_zipWith, List.getElem_replicate]
    split <;> omega

/-- placing one more item: the sum-vector of the rest plus the item's tuple, arranged -/
theorem sumsOf_cons_eq {k : Nat} (w i : Nat) (ws asg : List Nat) :
    sumsOf k (w :: ws) (i :: asg) =
      List.zipWith (· + ·) ((List.replicate k 0).modify i (· + w)) (sumsOf k ws asg) := by
  rw [Oracle.sumsOf_eq, Oracle.sumsFrom_cons, Oracle.sumsFrom_modify, ← Oracle.sumsOf_eq,
    modify_eq_zipWith (k := k) _ i w (Part.sumsOf_length k ws asg)]

theorem reach_sumsOf {k : Nat} (ws : List Nat) : ∀ asg : List Nat, IsAssignment k ws.length asg →
    Reach k (ws.map (unitT k)) (sumsOf k ws asg) := by
  induction ws with
  | nil =>
    intro asg h
    rw [Oracle.sumsOf_eq, Oracle.sumsFrom_nil_left]
    exact Reach.nil
  | cons w ws ih =>
    intro asg h
    cases asg with
    | nil => have := h.1; simp at this
    | cons i asg =>
      have hi : i < k := h.2 i List.mem_cons_self
      have h' : IsAssignment k ws.length asg :=
        ⟨by simpa using h.1, fun a ha => h.2 a (List.mem_cons_of_mem _ ha)⟩
      rw [sumsOf_cons_eq, List.map_cons]
      refine Reach.cons ?_ (ih asg h')
      exact Part.modify_perm_modify (List.Perm.refl _) (by simpa using hi) (by simp; omega) (by simp) _

/-- the arrangements of the tuple of a single item: the item sits in one of the `k` bins -/
theorem perm_unitT {k w : Nat} (hk : 0 < k) {P : List Nat} (hp : P.Perm (unitT k w)) :
    ∃ i, i < k ∧ P = (List.replicate k 0).modify i (· + w) := by
  obtain ⟨perm, hperm, rfl⟩ := perm_eq_map_getD hp
  have hlen : (unitT k w).length = k := by simp [unitT]
  rw [hlen] at hperm
  have hpl : perm.length = k := by simpa using hperm.length_eq
  have hnd : perm.Nodup := hperm.symm.nodup List.nodup_range
  have hmem : k - 1 ∈ perm := hperm.mem_iff.2 (List.mem_range.2 (by omega))
  obtain ⟨i, hi, hpi⟩ := List.mem_iff_getElem.1 hmem
  refine ⟨i, by omega, ?_⟩
  apply List.ext_getElem
  · simp [hpl]
  · intro j h1 h2
    have hj : j < perm.length := by simpa using h1
    have hjk : perm[j] < k := List.mem_range.1 (hperm.mem_iff.1 (List.getElem_mem hj))
    simp only [List.getElem_map, unitT, List.getD_eq_getElem?_getD, List.getElem_modify,
      List.getElem_replicate]
    rw [List.getElem?_eq_getElem (by simpa using hjk)]
    simp only [List.getElem_modify, List.getElem_replicate, Option.getD_some]
    by_cases hij : i = j
    · subst hij
      rw [if_pos rfl, if_pos hpi.symm]
    · rw [if_neg hij, if_neg]
      intro hc
      exact hij ((List.Nodup.getElem_inj_iff hnd).1 (hpi.trans hc))

/-- C02: the heap of singletons represents exactly the sum-vectors of the assignments of the items to `k` bins -/
theorem reach_init_iff_assignment {k : Nat} (hk : 0 < k) (ws : List Nat) : ∀ u : List Nat,
    Reach k (ws.map (unitT k)) u ↔ ∃ asg, IsAssignment k ws.length asg ∧ u = sumsOf k ws asg := by
  induction ws with
  | nil =>
    intro u
    constructor
    · intro h
      cases h
      exact ⟨[], Oracle.isAssignment_nil k, by rw [Oracle.sumsOf_eq, Oracle.sumsFrom_nil_left]⟩
    · rintro ⟨asg, hasg, rfl⟩
      exact reach_sumsOf [] asg hasg
  | cons w ws ih =>
    intro u
    constructor
    · intro h
      rw [List.map_cons] at h
      cases h with
      | @cons _ P u' _ hP hr =>
        obtain ⟨asg, hasg, rfl⟩ := (ih u').1 hr
        obtain ⟨i, hi, rfl⟩ := perm_unitT hk hP
        exact ⟨i :: asg, Oracle.isAssignment_cons hasg hi, (sumsOf_cons_eq w i ws asg).symm⟩
    · rintro ⟨asg, hasg, rfl⟩
      exact reach_sumsOf _ asg hasg

example : Reach 2 ([3, 5].map (unitT 2)) [5, 3] :=
  (reach_init_iff_assignment (by decide) [3, 5] [5, 3]).2 ⟨[1, 0], ⟨rfl, by decide⟩, by decide⟩

/-- the sums of the tuples of a heap -/
def sumsH (h : Heap α) : List (List Nat) := h.map (·.bins.sums)

theorem sumsH_hpush (h : Heap α) (c : Nat) (b : Bins α) :
    sumsH (hpush h c b).1 = sumsH h ++ [b.sortAsc.sums] := by
  simp [sumsH, hpush]

theorem sumsH_pushAll (v : α → Nat) (k : Nat) (xs : List α) (h : Heap α) (c : Nat) :
    sumsH (pushAll v k xs h c).1 = sumsH h ++ xs.map (fun x => (single v k x).sortAsc.sums) := by
  induction xs generalizing h c with
  | nil => simp [pushAll]
  | cons x xs ih => simp only [pushAll, ih, sumsH_hpush, List.map_cons, List.append_assoc, List.singleton_append]

theorem single_sums (v : α → Nat) (k : Nat) (x : α) : (single v k x).sums = unitT k (v x) := rfl

theorem single_sortAsc_sums_perm (v : α → Nat) (k : Nat) (x : α) :
    (unitT k (v x)).Perm (single v k x).sortAsc.sums := by
  rw [← single_sums]
  exact (Part.sortAsc_sums_perm _ (by simp [single, Bins.add, Bins.new])).symm

/-- every assignment is represented by the heap `ckk` starts from (items sorted descending, every tuple passed
    through `Bins.sortAsc` by `hpush`) -/
theorem reach_init {v : α → Nat} {k : Nat} {items : List α} {asg : List Nat}
    (h : IsAssignment k items.length asg) :
    Reach k (sumsH (pushAll v k (sortDesc v items) [] 0).1) (sumsOf k (items.map v) asg) := by
  have h1 := reach_sumsOf (k := k) (items.map v) asg (by simpa using h)
  rw [List.map_map] at h1
  have h2 := reach_perm ((Part.sortDesc_perm v items).symm.map (unitT k ∘ v)) h1
  have h3 := reach_map_congr (g := fun x => (single v k x).sortAsc.sums) _
    (fun x _ => single_sortAsc_sums_perm v k x) h2
  rw [sumsH_pushAll]
  exact h3

theorem reach_init_iff {v : α → Nat} {k : Nat} (hk : 0 < k) {items : List α} {u : List Nat} :
    Reach k (sumsH (pushAll v k (sortDesc v items) [] 0).1) u ↔
      ∃ asg, IsAssignment k items.length asg ∧ u = sumsOf k (items.map v) asg := by
  constructor
  · intro h
    rw [sumsH_pushAll] at h
    have h1 := reach_map_congr (g := unitT k ∘ v) _ (fun x _ => (single_sortAsc_sums_perm v k x).symm) h
    have h2 := reach_perm ((Part.sortDesc_perm v items).map (unitT k ∘ v)) h1
    rw [← List.map_map] at h2
    obtain ⟨asg, hasg, hu⟩ := (reach_init_iff_assignment hk _ u).1 h2
    exact ⟨asg, by simpa using hasg, hu⟩
  · rintro ⟨asg, hasg, rfl⟩
    exact reach_init hasg

/-! ## `all_combinations` is complete (both managers) -/

theorem bins_ext {a b : Bins α} (h1 : a.sums = b.sums) (h2 : a.lists = b.lists) : a = b := by
  cases a; cases b; simp_all

theorem consistent_ext {v : α → Nat} {a b : Bins α} (ha : a.Consistent v) (hb : b.Consistent v)
    (h : a.lists = b.lists) : a = b :=
  bins_ext (ha.trans ((congrArg (List.map (binSum v)) h).trans hb.symm)) h

/-- C13, contents manager: although combinations are de-duplicated on their *contents*, every pairing of two
    consistent tuples is (in canonical form) among the combinations -/
theorem allCombContents_complete (v nm : α → Nat) [BEq α] [LawfulBEq α] {k : Nat} {b1 b2 : Bins α}
    (l1 : b1.lists.length = k) (c1 : b1.Consistent v) (l2 : b2.lists.length = k) (c2 : b2.Consistent v)
    {perm : List Nat} (hperm : perm.Perm (List.range k)) :
    CKKValid.canonC nm b1 b2 perm ∈ allCombContents nm b1 b2 := by
  have hk1 : b1.sums.length = k := (Part.consistent_length v c1).trans l1
  have hk2 : b2.sums.length = k := (Part.consistent_length v c2).trans l2
  obtain ⟨nb, hnb, hl⟩ := AllComb.allCombContents_complete nm hk1 hperm
  -- the yield with the contents of the pairing is the pairing: both are consistent
  have hc : nb.Consistent v := (AllComb.allCombContents_consistent v nm c1 c2 hk1 hk2 hnb).1
  have hcan : (AllComb.canonC nm b1 b2 perm).Consistent v := (AllComb.canonC_spec v nm c1 c2 l1 l2 hperm).1
  have : nb = AllComb.canonC nm b1 b2 perm := consistent_ext hc hcan hl
  exact (this ▸ hnb : AllComb.canonC nm b1 b2 perm ∈ _)

/-- what the search needs of `all_combinations`: every pairing is there, up to the order of the bins -/
def CombComplete (nm : α → Nat) [BEq α] (contents : Bool) (k : Nat) (b1 b2 : Bins α) : Prop :=
  ∀ perm : List Nat, perm.Perm (List.range k) →
    ∃ nb ∈ allComb nm contents b1 b2, nb.sums.length = nb.lists.length ∧
      nb.sums.Perm (pairS b1.sums b2.sums perm)

theorem combComplete_contents (v nm : α → Nat) [BEq α] [LawfulBEq α] {k : Nat} {b1 b2 : Bins α}
    (l1 : b1.lists.length = k) (c1 : b1.Consistent v) (l2 : b2.lists.length = k) (c2 : b2.Consistent v) :
    CombComplete nm true k b1 b2 := by
  intro perm hperm
  refine ⟨AllComb.canonC nm b1 b2 perm, ?_, ?_, ?_⟩
  · simp only [allComb, if_true]
    exact allCombContents_complete v nm l1 c1 l2 c2 hperm
  · exact Part.consistent_length v (AllComb.canonC_spec v nm c1 c2 l1 l2 hperm).1
  · exact AllComb.canonC_sums_perm v nm c1 c2 perm

theorem combComplete_sums (nm : α → Nat) [BEq α] {k : Nat} {b1 b2 : Bins α} (l1 : b1.sums.length = k) :
    CombComplete nm false k b1 b2 := by
  intro perm hperm
  refine ⟨⟨sortAsc id (pairS b1.sums b2.sums perm),
    List.replicate (sortAsc id (pairS b1.sums b2.sums perm)).length []⟩, ?_, by simp, ?_⟩
  · simp only [allComb, Bool.false_eq_true, if_false, List.mem_map]
    exact ⟨_, CKKProofs.allCombSums_complete l1 hperm, rfl⟩
  · exact Part.sortAsc_perm id _

/-! ## The invariant of the search -/

/-- the sum-vector `t` is no better than the incumbent (`best` is minus the incumbent difference, or `-inf`) -/
def NoBetter (best : EInt) (t : List Nat) : Prop := EInt.le (.fin (-(spread t : Int))) best = true

/-- `t` is *covered*: no better than the incumbent, or represented by a heap on the stack -/
abbrev LeafKept (k : Nat) (s : CkkState α) (t : List Nat) : Prop :=
  CKKValid.Lossless (fun h => Reach k (sumsH h) t) (fun best _ => NoBetter best t) s

/-- what the optimality argument needs of a heap on the stack -/
structure HGood (nm : α → Nat) [BEq α] (contents : Bool) (k : Nat) (h : Heap α) : Prop where
  ne : h ≠ []
  len : ∀ e ∈ h, e.bins.sums.length = k
  key : ∀ e, h = [e] → e.diff = spread e.bins.sums
  comb : ∀ e1 ∈ h, ∀ e2 ∈ h, CombComplete nm contents k e1.bins e2.bins

/-- The search loses nothing.  `kept`: every leaf (= sum-vector of an assignment) is covered;
    `dn`: once the machine has stopped, no leaf beats the incumbent (a field of its own, not a consequence of `kept` and
    an empty stack: `done` is also set by a leaf of difference 0 while the stack is not empty); `inc`: `best` is minus
    the difference of the incumbent partition; `yl`: the incumbent is the most recent yield. -/
structure CInv (k : Nat) (leaf : List Nat → Prop) (s : CkkState α) : Prop where
  kept : ∀ t, leaf t → LeafKept k s t
  dn : s.done = true → ∀ t, leaf t → NoBetter s.best t
  inc : (s.best = .negInf ∧ s.bestP = none) ∨ ∃ b, s.bestP = some b ∧ s.best = .fin (-(spread b.sums : Int))
  yl : s.yields.head? = s.bestP

/-- the converse of `CombComplete`: every combination is a pairing, up to the order of the bins -/
def CombSound (nm : α → Nat) [BEq α] (contents : Bool) (k : Nat) (b1 b2 : Bins α) : Prop :=
  ∀ nb ∈ allComb nm contents b1 b2, nb.sums.length = nb.lists.length ∧
    ∃ perm : List Nat, perm.Perm (List.range k) ∧ nb.sums.Perm (pairS b1.sums b2.sums perm)

theorem combSound_contents (v nm : α → Nat) [BEq α] {k : Nat} {b1 b2 : Bins α}
    (l1 : b1.lists.length = k) (c1 : b1.Consistent v) (l2 : b2.lists.length = k) (c2 : b2.Consistent v) :
    CombSound nm true k b1 b2 := by
  intro nb hnb
  simp only [allComb, if_true] at hnb
  obtain ⟨perm, hperm, rfl⟩ := AllComb.allCombContents_sound nm rfl hnb
  rw [Part.consistent_length v c1, l1] at hperm
  refine ⟨Part.consistent_length v (AllComb.canonC_spec v nm c1 c2 l1 l2 hperm).1, perm, hperm, ?_⟩
  exact AllComb.canonC_sums_perm v nm c1 c2 perm

theorem combSound_sums (nm : α → Nat) [BEq α] {k : Nat} {b1 b2 : Bins α} (l1 : b1.sums.length = k) :
    CombSound nm false k b1 b2 := by
  intro nb hnb
  simp only [allComb, Bool.false_eq_true, if_false, List.mem_map] at hnb
  obtain ⟨ss, hss, rfl⟩ := hnb
  obtain ⟨perm, hperm, rfl⟩ := CKKProofs.allCombSums_sound l1 hss
  exact ⟨by simp, perm, hperm, Part.sortAsc_perm id _⟩

/-- expansion loses nothing: what a heap represents is represented by one of the heaps that the search
    pushes when it expands it (two tuples `e1`, `e2` replaced by one of their combinations) -/
theorem reach_expand {nm : α → Nat} [BEq α] {contents : Bool} {k : Nat} {h h2 : Heap α} {e1 e2 : HEntry α}
    (hlen : ∀ e ∈ h, e.bins.sums.length = k) (hcomb : CombComplete nm contents k e1.bins e2.bins)
    (hperm : h.Perm (e1 :: e2 :: h2)) {t : List Nat} (ht : Reach k (sumsH h) t) :
    ∃ nb ∈ allComb nm contents e1.bins e2.bins, ∀ c, Reach k (sumsH (hpush h2 c nb).1) t := by
  have hm1 : e1 ∈ h := hperm.mem_iff.2 (by simp)
  have hm2 : e2 ∈ h := hperm.mem_iff.2 (by simp)
  have r1 : Reach k (e1.bins.sums :: e2.bins.sums :: sumsH h2) t :=
    reach_perm (hperm.map (·.bins.sums)) ht
  obtain ⟨perm, hpm, r2⟩ := reach_merge (hlen e1 hm1) (hlen e2 hm2) r1
  obtain ⟨nb, hnb, hbal, hsums⟩ := hcomb perm hpm
  refine ⟨nb, hnb, fun c => ?_⟩
  rw [sumsH_hpush]
  refine reach_perm (List.perm_append_singleton _ _).symm ?_
  exact reach_head_perm (hsums.symm.trans (Part.sortAsc_sums_perm nb hbal).symm) r2

/-- conversely, every pushed heap only represents what the expanded heap represents -/
theorem reach_contract {nm : α → Nat} [BEq α] {contents : Bool} {k : Nat} {h h2 : Heap α} {e1 e2 : HEntry α}
    (hlen : ∀ e ∈ h, e.bins.sums.length = k) (hcomb : CombSound nm contents k e1.bins e2.bins)
    (hperm : h.Perm (e1 :: e2 :: h2)) {nb : Bins α} (hnb : nb ∈ allComb nm contents e1.bins e2.bins) {c : Nat}
    {t : List Nat} (ht : Reach k (sumsH (hpush h2 c nb).1) t) : Reach k (sumsH h) t := by
  have hm1 : e1 ∈ h := hperm.mem_iff.2 (by simp)
  obtain ⟨hbal, perm, hpm, hsums⟩ := hcomb nb hnb
  rw [sumsH_hpush] at ht
  have r1 := reach_perm (List.perm_append_singleton _ _) ht
  have r2 := reach_head_perm ((Part.sortAsc_sums_perm nb hbal).trans hsums) r1
  have r3 := reach_unmerge (hlen e1 hm1) hpm r2
  exact reach_perm (hperm.map (·.bins.sums)).symm r3

/-- contents manager: a heap of consistent tuples represents exactly what its children represent -/
theorem reach_expand_iff {v nm : α → Nat} [BEq α] [LawfulBEq α] {k : Nat} {items : List α} {h h1 h2 : Heap α}
    {e1 e2 : HEntry α} (hh : CKKValid.HInv v k items h) (hp1 : hpop h = some (e1, h1))
    (hp2 : hpop h1 = some (e2, h2)) (c : Nat) (t : List Nat) :
    Reach k (sumsH h) t ↔
      ∃ nb ∈ allComb nm true e1.bins e2.bins, Reach k (sumsH (hpush h2 c nb).1) t := by
  have hperm := Part.hpop2_perm hp1 hp2
  obtain ⟨⟨l1, c1, _, _⟩, ⟨l2, c2, _, _⟩⟩ := CKKValid.hinv_pop2 hh hp1 hp2
  have hlen := CKKValid.hinv_sums_length hh
  constructor
  · intro ht
    obtain ⟨nb, hnb, hr⟩ := reach_expand hlen (combComplete_contents v nm l1 c1 l2 c2) hperm ht
    exact ⟨nb, hnb, hr c⟩
  · rintro ⟨nb, hnb, hr⟩
    exact reach_contract hlen (combSound_contents v nm l1 c1 l2 c2) hperm hnb hr

/-- One iteration of the loop preserves the invariant, for both managers, in the modes in which the incumbent
    difference is updated (`optimal`, and the generator in improve-only mode). -/
theorem step_cinv {nm : α → Nat} [BEq α] {contents gen isBest : Bool} {k : Nat} {leaf : List Nat → Prop}
    (hmode : (isBest || !gen) = true) {s s' : CkkState α}
    (hstep : CKKValid.Step (allComb nm contents) k gen isBest s s')
    (hgood : ∀ h ∈ s.stack, HGood nm contents k h) (hc : CInv k leaf s) : CInv k leaf s' := by
  -- a complete partition represents only sum-vectors of its own difference
  have hkey : ∀ e, [e] ∈ s.stack → e.diff = spread e.bins.sums := fun e he => (hgood _ he).key e rfl
  have hreach : ∀ e, [e] ∈ s.stack → ∀ t, Reach k (sumsH [e]) t → spread t = e.diff := fun e he t ht => by
    rw [hkey e he]
    exact SNPProofs.spread_perm (reach_single ((hgood _ he).len e List.mem_cons_self) ht)
  have hkept : ∀ t, leaf t → LeafKept k s' t := fun t ht =>
    CKKValid.step_lossless hstep (fun h0 => (hgood _ h0).ne rfl)
      (fun h hh hpr hr => by
        -- the bound is admissible
        unfold CKKValid.prunedB at hpr
        split at hpr
        · cases hpr
        · rename_i lb hlb
          exact CGOpt.ele_trans (CGOpt.ele_fin.2 (ckkBound_admissible (hgood h hh).len hr hlb)) hpr)
      (fun e he hlt hr => by
        unfold NoBetter
        rw [hreach e he t hr]
        exact CGOpt.ele_of_not_lt (by simpa using hlt))
      (fun e he hlt hr => by
        rw [if_pos hmode]
        rcases hr with hr | hn
        · unfold NoBetter; rw [hreach e he t hr]; exact CGOpt.ele_refl _
        · exact CGOpt.ele_trans hn (CGOpt.ele_of_lt hlt))
      (fun h e1 e2 h2 hh hperm hr =>
        -- every combination is pushed, so what `h` represents stays represented
        reach_expand (hgood h hh).len
          ((hgood h hh).comb e1 (hperm.mem_iff.2 (by simp)) e2 (hperm.mem_iff.2 (by simp))) hperm hr)
      (hc.kept t ht)
  have keep : ∀ {s' : CkkState α}, s'.best = s.best → s'.bestP = s.bestP → s'.yields = s.yields →
      s'.done = s.done → (∀ t, leaf t → LeafKept k s' t) → CInv k leaf s' := fun hb hp hy hd hkept =>
    ⟨hkept, fun h => hb ▸ hc.dn (hd ▸ h), hb ▸ hp ▸ hc.inc, hy ▸ hp ▸ hc.yl⟩
  cases hstep with
  | stop hst =>
    refine ⟨hkept, fun _ t ht => ?_, hc.inc, hc.yl⟩
    rcases hc.kept t ht with hn | ⟨g, hg, _⟩
    · exact hn
    · rw [hst] at hg; cases hg
  | prune _ _ | noHeap _ | leafNo _ _ _ | expand _ _ _ _ _ => exact keep rfl rfl rfl rfl hkept
  | @leafYes e st hst _ hlt =>
    have he : [e] ∈ s.stack := hst ▸ List.mem_cons_self
    refine ⟨hkept, fun hd t ht => ?_, Or.inr ⟨e.bins, rfl, by simp only [hmode, if_true, hkey e he]⟩, rfl⟩
    simp only [hmode, if_true, Bool.and_true, Bool.or_eq_true, decide_eq_true_eq] at hd ⊢
    rcases hd with hz | hd
    · -- difference zero: nothing can be better
      show EInt.le _ _ = true
      rw [hz]
      exact CGOpt.ele_fin.2 (by omega)
    · exact CGOpt.ele_trans (hc.dn hd t ht) (CGOpt.ele_of_lt hlt)

theorem ckkStep_cinv {nm : α → Nat} [BEq α] {contents gen isBest : Bool} {k : Nat} {leaf : List Nat → Prop}
    (hmode : (isBest || !gen) = true) {s : CkkState α} (hgood : ∀ h ∈ s.stack, HGood nm contents k h)
    (hc : CInv k leaf s) : CInv k leaf (ckkStep nm k contents gen isBest s) :=
  step_cinv hmode (CKKValid.ckkStep_step nm k contents gen isBest s) hgood hc

/-! ## The run -/

/-- the leaves of the search: the sum-vectors of all assignments of the items to `k` bins -/
def Leaf (v : α → Nat) (k : Nat) (items : List α) (t : List Nat) : Prop :=
  ∃ asg, IsAssignment k items.length asg ∧ t = sumsOf k (items.map v) asg

theorem cinv_init (v : α → Nat) (k : Nat) (items : List α) :
    CInv k (Leaf v k items) (ckkInit v k items .negInf) := by
  refine ⟨?_, ?_, Or.inl ⟨rfl, rfl⟩, rfl⟩
  · rintro t ⟨asg, hasg, rfl⟩
    exact Or.inr ⟨_, List.mem_singleton.2 rfl, reach_init hasg⟩
  · intro hd; cases hd

theorem hgood_of_hinv {v : α → Nat} (nm : α → Nat) [BEq α] [LawfulBEq α] {k : Nat} {items : List α}
    (hne : items ≠ []) {h : Heap α} (hh : CKKValid.HInv v k items h) : HGood nm true k h := by
  refine ⟨?_, ?_, ?_, ?_⟩
  · exact CKKValid.hinv_ne_nil hne hh
  · exact CKKValid.hinv_sums_length hh
  · rintro e rfl
    exact (CKKValid.hinv_singleton hh).2
  · intro e1 he1 e2 he2
    obtain ⟨l1, c1, _, _⟩ := hh.2 e1 he1
    obtain ⟨l2, c2, _, _⟩ := hh.2 e2 he2
    exact combComplete_contents v nm l1 c1 l2 c2

theorem hgood_of_sim {v : α → Nat} (nm : α → Nat) [BEq α] {k : Nat} {items : List α}
    (hne : items ≠ []) {h g : Heap α} (hg : CKKValid.HInv v k items g) (hs : CKKValid.Sim h g) :
    HGood nm false k h := by
  have hlen := CKKValid.sim_sums_length hg hs
  refine ⟨?_, hlen, ?_, ?_⟩
  · rintro rfl
    exact CKKValid.hinv_ne_nil hne hg (by simpa [CKKValid.Sim] using hs.symm)
  · rintro e rfl
    exact (CKKValid.sim_singleton hg hs).2
  · intro e1 he1 e2 _
    exact combComplete_sums nm (hlen e1 he1)

/-- when the machine has stopped, the incumbent exists and no leaf beats it -/
theorem stopped_incumbent_le {v : α → Nat} {k : Nat} (hk : 0 < k) {items : List α} {s : CkkState α}
    (hc : CInv k (Leaf v k items) s) (hd : s.done = true) :
    ∃ b, s.bestP = some b ∧ s.yields.head? = some b ∧
      ∀ asg, IsAssignment k items.length asg → spread b.sums ≤ spread (sumsOf k (items.map v) asg) := by
  rcases hc.inc with ⟨hb, _⟩ | ⟨b, hbp, hb⟩
  · exfalso
    have := hc.dn hd _ ⟨_, Oracle.isAssignment_replicate hk _, rfl⟩
    unfold NoBetter at this
    rw [hb] at this
    simp [EInt.le] at this
  · refine ⟨b, hbp, hc.yl.trans hbp, ?_⟩
    intro asg hasg
    have := hc.dn hd _ ⟨asg, hasg, rfl⟩
    unfold NoBetter at this
    rw [hb] at this
    have := CGOpt.ele_fin.1 this
    omega

theorem ckkRun_cinv {v nm : α → Nat} [BEq α] [LawfulBEq α] {k : Nat} {items : List α} (hk : 0 < k)
    (hne : items ≠ []) {gen isBest : Bool} (hmode : (isBest || !gen) = true) (fuel : Nat) :
    CKKValid.SInv v k items (ckkRun nm k true gen isBest fuel (ckkInit v k items .negInf)) ∧
    CInv k (Leaf v k items) (ckkRun nm k true gen isBest fuel (ckkInit v k items .negInf)) :=
  (CKKValid.ckkRun_inv nm k true gen isBest (fun s => CKKValid.SInv v k items s ∧ CInv k (Leaf v k items) s)
    (fun _ hs => ⟨CKKValid.ckkStep_sinv gen isBest hs.1,
      ckkStep_cinv hmode (fun h hh => hgood_of_hinv nm hne (hs.1.stack h hh)) hs.2⟩) fuel _
    ⟨CKKValid.ckkInit_inv hk items .negInf, cinv_init v k items⟩)

theorem ckkRun_cinvS {v nm : α → Nat} [BEq α] {k : Nat} {items : List α} (hk : 0 < k)
    (hne : items ≠ []) {gen isBest : Bool} (hmode : (isBest || !gen) = true) (fuel : Nat) :
    CKKValid.SInvS v k items (ckkRun nm k false gen isBest fuel (ckkInit v k items .negInf)) ∧
    CInv k (Leaf v k items) (ckkRun nm k false gen isBest fuel (ckkInit v k items .negInf)) :=
  (CKKValid.ckkRun_inv nm k false gen isBest (fun s => CKKValid.SInvS v k items s ∧ CInv k (Leaf v k items) s)
    (fun _ hs => ⟨CKKValid.ckkStep_invS gen isBest hs.1,
      ckkStep_cinv hmode (fun h hh => by
        obtain ⟨⟨g, hg, hsim⟩, _⟩ := hs.1.stack h hh
        exact hgood_of_sim nm hne hg hsim) hs.2⟩) fuel _
    ⟨CKKValid.ckkInit_invS hk items .negInf, cinv_init v k items⟩)

/-- the incumbent `b0` of a stopped run has the optimal difference; `sums` is `b0.sums` up to order, written so that
    the caller can say which assignment attains it -/
theorem stopped_isOptimal {v : α → Nat} {k : Nat} (hk : 0 < k) {items : List α} {s : CkkState α}
    (hc : CInv k (Leaf v k items) s) (hd : s.done = true) {b0 : Bins α} (hb0 : s.bestP = some b0)
    {sums : List Nat} (hsp : spread sums = spread b0.sums)
    (hasg : ∃ asg, IsAssignment k items.length asg ∧ sumsOf k (items.map v) asg = sums) :
    IsOptimalValue .minDiff k (items.map v) (Objective.minDiff.value sums false) := by
  obtain ⟨b', hb', _, hopt⟩ := stopped_incumbent_le hk hc hd
  obtain rfl : b' = b0 := Option.some.inj (hb'.symm.trans hb0)
  refine Oracle.isOptimalValue_of_sums hasg fun asg hasg => ?_
  rw [SNPProofs.value_minDiff, SNPProofs.value_minDiff, hsp]
  exact Int.ofNat_le.2 (hopt asg hasg)

/-! ## Optimality of `ckk` and of the generator -/

/-- **C02 for complete Karmarkar–Karp** (`optimal`, contents manager; `ckk` is the code before fix F11, for the code
    after it see `CKKF.ckkF_optimal`): a run to completion returns a partition whose difference between the largest and
    the smallest sum is the optimum over all partitions. -/
theorem ckk_optimal {v nm : α → Nat} [BEq α] [LawfulBEq α] {k : Nat} {items : List α} {fuel : Nat} {b : Bins α}
    (hk : 0 < k) (hne : items ≠ []) (h : ckk v nm k true items fuel = .ok b) :
    IsOptimalValue .minDiff k (items.map v) (Objective.minDiff.value b.sums false) := by
  have hasg := Oracle.partition_sums_assignment v items b (CKKValid.ckk_isPartition hk h)
  obtain ⟨hd, b0, hb0, rfl⟩ := CKKValid.ckk_ok h
  obtain ⟨hsi, hc⟩ := ckkRun_cinv (v := v) (nm := nm) hk hne (gen := false) (isBest := true) rfl fuel
  have hbal : b0.sums.length = b0.lists.length := Part.consistent_length v (hsi.bestP b0 hb0).1.2.2
  exact stopped_isOptimal hk hc hd hb0 (SNPProofs.spread_perm (Part.sortAsc_sums_perm b0 hbal)) hasg

/-- `ckk_optimal` on the completed run `Runs.ckk3_contents` (five items, three bins, sums `[8, 11, 11]`: difference 3) -/
example : IsOptimalValue .minDiff 3 [4, 5, 6, 7, 8] 3 :=
  ckk_optimal (by decide) (by decide) Runs.ckk3_contents

/-- on an empty input the search never finds an incumbent, and the model answers `Err.indexError` (Python raises
    `ValueError` at `max([])` in the lower bound) -/
theorem ckkRun_empty {v nm : α → Nat} [BEq α] {k : Nat} {contents gen isBest : Bool} (best : EInt) (fuel : Nat) :
    (ckkRun nm k contents gen isBest fuel (ckkInit v k [] best)).bestP = none :=
  (CKKValid.ckkRun_inv nm k contents gen isBest _
    (fun s hs => CKKValid.stepRel_empty (CKKValid.ckkStep_cases nm k contents gen isBest s) hs) fuel _
    (CKKValid.ckkInit_nil v k best)).2

/-- `ckk_optimal` without the hypothesis `items ≠ []`: on an empty input the model returns an error, so the
    hypothesis `… = .ok b` already excludes it -/
theorem ckk_optimal_of_ok {v nm : α → Nat} [BEq α] [LawfulBEq α] {k : Nat} {items : List α} {fuel : Nat}
    {b : Bins α} (hk : 0 < k) (h : ckk v nm k true items fuel = .ok b) :
    IsOptimalValue .minDiff k (items.map v) (Objective.minDiff.value b.sums false) := by
  by_cases hne : items = []
  · exfalso
    subst hne
    obtain ⟨_, b0, hb0, _⟩ := CKKValid.ckk_ok h
    rw [ckkRun_empty] at hb0
    cases hb0
  · exact ckk_optimal hk hne h

/-- **C02 / C11 for the generator of complete Karmarkar–Karp** in improve-only mode (`bound = none`; the generator is
    the same before and after F11): a run to completion yields at least one partition, and the last one has the optimal
    difference. -/
theorem ckkGen_last_optimal {v nm : α → Nat} [BEq α] [LawfulBEq α] {k : Nat} {items : List α} {fuel : Nat}
    {ys : List (Bins α)} (hk : 0 < k) (hne : items ≠ [])
    (h : ckkGen v nm k true items none fuel = .ok ys) :
    ys ≠ [] ∧ ∃ b, ys.getLast? = some b ∧ IsPartition v items k b ∧
      IsOptimalValue .minDiff k (items.map v) (Objective.minDiff.value b.sums false) := by
  have hys := CKKValid.ckkGen_yields hk h
  obtain ⟨best, hbest, hd, rfl⟩ := CKKValid.ckkGen_ok h
  obtain rfl := hbest.1 rfl
  obtain ⟨_, hc⟩ := ckkRun_cinv (v := v) (nm := nm) hk hne (gen := true) (isBest := true) rfl fuel
  obtain ⟨b, hb, hyl, _⟩ := stopped_incumbent_le hk hc hd
  have hlast := (List.getLast?_reverse).trans hyl
  have hmem := List.mem_of_getLast? hlast
  have hpart := (hys b hmem).1
  exact ⟨List.ne_nil_of_mem hmem, b, hlast, hpart,
    stopped_isOptimal hk hc hd hb rfl (Oracle.partition_sums_assignment v items b hpart)⟩

/-- the generator on five items and two bins yields two partitions, the last one is optimal -/
example : IsOptimalValue .minDiff 2 [4, 5, 6, 7, 8] 0 := by
  obtain ⟨_, b, hb, _, hopt⟩ := ckkGen_last_optimal (by decide) (by decide) Runs.ckkGen2_all
  cases hb
  exact hopt

/-! ### the sums-only manager (`contents = false`) -/

/-- C02 for complete Karmarkar–Karp with the sums-only manager (`ckk`, the code before F11, which with this manager is
    also the code after it: `CKKF.ckkF_false_eq`): the sums returned are the sums of an optimal partition. -/
theorem ckk_sums_optimal {v nm : α → Nat} [BEq α] {k : Nat} {items : List α} {fuel : Nat} {b : Bins α}
    (hk : 0 < k) (hne : items ≠ []) (h : ckk v nm k false items fuel = .ok b) :
    IsOptimalValue .minDiff k (items.map v) (Objective.minDiff.value b.sums false) := by
  have hasg := CKKValid.ckk_sums_valid hk h
  obtain ⟨hd, b0, hb0, rfl⟩ := CKKValid.ckk_ok h
  obtain ⟨hsi, hc⟩ := ckkRun_cinvS (v := v) (nm := nm) hk hne (gen := false) (isBest := true) rfl fuel
  exact stopped_isOptimal hk hc hd hb0 (SNPProofs.spread_perm (Part.sortAsc_sums_perm b0 (hsi.bestP b0 hb0).2)) hasg

example : IsOptimalValue .minDiff 3 [4, 5, 6, 7, 8] 3 :=
  ckk_sums_optimal (by decide) (by decide) Runs.ckk3_sums

/-- C11, sums-only manager: the last sum-vector the generator yields is that of an optimal partition -/
theorem ckkGen_sums_last_optimal {v nm : α → Nat} [BEq α] {k : Nat} {items : List α} {fuel : Nat}
    {ys : List (Bins α)} (hk : 0 < k) (hne : items ≠ [])
    (h : ckkGen v nm k false items none fuel = .ok ys) :
    ys ≠ [] ∧ ∃ b, ys.getLast? = some b ∧
      IsOptimalValue .minDiff k (items.map v) (Objective.minDiff.value b.sums false) := by
  have hys := CKKValid.ckkGen_sums_valid hk h
  obtain ⟨best, hbest, hd, rfl⟩ := CKKValid.ckkGen_ok h
  obtain rfl := hbest.1 rfl
  obtain ⟨_, hc⟩ := ckkRun_cinvS (v := v) (nm := nm) hk hne (gen := true) (isBest := true) rfl fuel
  obtain ⟨b, hb, hyl, _⟩ := stopped_incumbent_le hk hc hd
  have hlast := (List.getLast?_reverse).trans hyl
  have hmem := List.mem_of_getLast? hlast
  exact ⟨List.ne_nil_of_mem hmem, b, hlast, stopped_isOptimal hk hc hd hb rfl (hys b hmem).1⟩

example : IsOptimalValue .minDiff 2 [4, 5, 6, 7, 8] 0 := by
  obtain ⟨_, b, hb, hopt⟩ := ckkGen_sums_last_optimal (by decide) (by decide) Runs.ckkGen2_all_sums
  cases hb
  exact hopt

end Prtpy.CKKOpt
