/-
  PrtpyProofs.FFD119Gap — property C09, the size range `2B/11 < a ≤ B/4` of Johnson's theorem `FFD ≤ 11/9 · OPT + c`
  (`a` = the value of the item that opened the last bin; `k` = number of bins of the run, `k'` = `k − 1` = number of
  bins of the normal form `NF B a Ls` of `PrtpyProofs.FFD119`, `m` = a number of bins that suffices).

  What stays open.  C09 claims `9·k ≤ 11·m + 6` for first fit decreasing and `9·k ≤ 11·m + 36` for best fit
  decreasing, for every input.  What is not proved is the proposition `∀ m, GapCount B m c` (for any constant `c`):
  every normal form with `2B/11 < a ≤ B/4` whose items, with `a`, fit into `m` bins has `9·(k' + 1) ≤ 11·m + c`
  (Johnson 1973, Baker 1985, Yue 1991, Dósa 2007: weights that depend on `a`-dependent thresholds and on the position
  of an item in the run, long case analyses).  `gen_/ffd_/bfd_eleven_ninths_partial_of_gap_count` show that this
  is all that is missing: `(∀ m' ≤ m, GapCount B m' c) → 9·k ≤ 11·m + max c 8`.  It is proved for `m ≤ 100`, `c = 36`
  (`gapCount_of_le_100`, from the ratio `5/4`).  `PrtpyProofs.FFD119GapB` and `PrtpyProofs.FFD119GapC` split it into
  two sub-ranges and reduce it to the existence of a weighting; they and the other sections here collect facts about
  the normal forms of the gap that a proof would use (`2B < 11a`: at most five items per bin; size classes
  `(B/(t+1), B/t]` with `t ≤ 5`, at most one irregular bin per class; what the any-fit invariant says about two bins).
-/
import PrtpyProofs.FFD119
open Prtpy

namespace Prtpy.FFD119Gap

open Prtpy.FFD119

variable {α : Type}

/-! ## Structure of the gap case on the normal form -/

theorem nf_bin_length_le_five {B a : Nat} {Ls : List (List Nat)} (hnf : NF B a Ls) (hgap : 2 * B < 11 * a)
    {L : List Nat} (hL : L ∈ Ls) : L.length ≤ 5 :=
  LPT43.items_per_bin (hnf.ge L hL) (by omega) (hnf.le L hL)

theorem nf_all_ge {B a : Nat} {Ls : List (List Nat)} (hnf : NF B a Ls) : ∀ y ∈ Ls.flatten ++ [a], a ≤ y := by
  intro y hy
  rcases List.mem_append.1 hy with hy | hy
  · obtain ⟨L, hL, hyL⟩ := List.mem_flatten.1 hy
    exact hnf.ge L hL y hyL
  · simp only [List.mem_singleton] at hy
    omega

theorem nf_item_count {B a m : Nat} {Ls : List (List Nat)} (hnf : NF B a Ls) (hgap : 2 * B < 11 * a)
    (haB : a ≤ B) (hm : Packable B m (Ls.flatten ++ [a])) :
    Ls.length + 1 ≤ (Ls.flatten ++ [a]).length ∧ (Ls.flatten ++ [a]).length ≤ 5 * m := by
  refine ⟨?_, Nat.mul_comm m 5 ▸ LPT43.item_count_le (by omega) (nf_all_ge hnf) hm⟩
  have := LPT43.length_le_flatten_length Ls (fun L hL => nf_bin_ne_nil hnf haB hL)
  simp only [List.length_append, List.length_cons, List.length_nil]
  omega

/-- volume on the normal form: every bin is filled above `B − a` -/
theorem nf_volume {B a m : Nat} {Ls : List (List Nat)} (hnf : NF B a Ls) (haB : a ≤ B)
    (hm : Packable B m (Ls.flatten ++ [a])) : Ls.length * (B - a + 1) + a ≤ m * B := by
  have h1 := Part.length_mul_le_binSum_flatten (w := id) (c := B - a + 1) (Q := Ls) fun L hL => by
    have := hnf.full L hL
    rw [Part.binSum_id]
    omega
  have h2 := Fit.packing_lower_bound hm
  rw [Part.sumL_append, ← Part.binSum_id Ls.flatten] at h2
  simp only [sumL] at h2
  omega

/-- for `a ≤ B/5` (the lower part of the gap included) a bin of the run may miss the level `9B/11`, which a volume
    argument for `11/9` would need, only by less than `B/55`:  `11·level > 9·B − B/5` -/
theorem nf_deficiency {B a : Nat} {Ls : List (List Nat)} (hnf : NF B a Ls) (h5 : 5 * a ≤ B)
    {L : List Nat} (hL : L ∈ Ls) : 44 * B < 55 * sumL L := by
  have := hnf.full L hL
  omega

/-- a bin with five items is filled above `10B/11` in the gap: it has the surplus `1/9` under the weight
    `11/9 · size` -/
theorem nf_five_items_level {B a : Nat} {Ls : List (List Nat)} (hnf : NF B a Ls) (hgap : 2 * B < 11 * a)
    {L : List Nat} (hL : L ∈ Ls) (h5 : 5 ≤ L.length) : 10 * B < 11 * sumL L := by
  have h1 := Part.length_mul_le a L (hnf.ge L hL)
  have h2 : 5 * a ≤ L.length * a := Nat.mul_le_mul_right a h5
  omega

/-- the ratio `5/4` on every normal form of the gap: weights (`count_fifth_quarter`) above `B/5`, volume below -/
theorem nf_five_fourths_gap {B a m : Nat} {Ls : List (List Nat)} (hnf : NF B a Ls) (h4 : 4 * a ≤ B)
    (hm : Packable B m (Ls.flatten ++ [a])) : 72 * Ls.length ≤ 90 * m + 12 := by
  by_cases h5 : B < 5 * a
  · exact count_fifth_quarter hnf h5 h4 hm
  · have := five_fourths_arith (nf_volume hnf (by omega) hm) (by omega)
    omega

/-! ## The reduction of `9·k ≤ 11·m + c` to a counting statement on normal forms -/

/-- the counting statement that is missing for `9·k ≤ 11·m + c`: every normal form in the gap
    (`2B/11 < a ≤ B/4`) whose items, with `a`, fit into `m` bins satisfies `9·(k' + 1) ≤ 11·m + c` -/
def GapCount (B m c : Nat) : Prop :=
  ∀ (a : Nat) (Ls : List (List Nat)), 2 * B < 11 * a → 4 * a ≤ B → NF B a Ls →
    Packable B m (Ls.flatten ++ [a]) → 9 * (Ls.length + 1) ≤ 11 * m + c

theorem GapCount.mono {B m c c' : Nat} (h : GapCount B m c) (hc : c ≤ c') : GapCount B m c' := by
  intro a Ls h1 h2 h3 h4
  have := h a Ls h1 h2 h3 h4
  omega

/-- from the ratio `5/4`: the counting statement with `c = 36` for `m ≤ 100` -/
theorem gapCount_of_le_100 (B : Nat) {m : Nat} (hm : m ≤ 100) : GapCount B m 36 := by
  intro a Ls _ h4 hnf hpk
  have := nf_five_fourths_gap hnf h4 hpk
  omega

section generic
variable {v : α → Nat} {B m c : Nat} {step : Bins α → α → Bins α} {xs : List α} {b : Bins α}

/-- reduction, every any-fit rule on a sorted input: the counting statement on the normal forms of the gap
    gives `#bins ≤ 11/9 · m + max c 8 / 9` for every input -/
theorem gen_eleven_ninths_partial_of_gap_count (hstep : ∀ b x, Fit.Step v B b x (step b x))
    (hsorted : xs.Pairwise (fun a c => v c ≤ v a)) (hne : xs ≠ [])
    (hok : Fit.genLoop v B step (Bins.new 1) xs = .ok b) (hm : Packable B m (xs.map v))
    (hgap : ∀ m', m' ≤ m → GapCount B m' c) : 9 * b.lists.length ≤ 11 * m + max c 8 := by
  obtain ⟨x, L, hlast⟩ := gen_last_exists hstep hne hok
  by_cases hx : 11 * v x ≤ 2 * B ∨ B < 4 * v x
  · have := gen_eleven_ninths_partial_outside_gap hstep hsorted hne hok hm hlast hx
    omega
  · have h := gen_last_bin_induction hstep (fun a => 2 * B < 11 * a ∧ 4 * a ≤ B)
      (fun k m' => m' ≤ m → 9 * k ≤ 11 * m' + c)
      (fun m' h1 _ => by omega)
      (fun a m' Ls hC hnf hpk hle => hgap m' hle a Ls hC.1 hC.2 hnf hpk)
      hsorted hne hok hm hlast ⟨by omega, by omega⟩ (Nat.le_refl m)
    omega

end generic

section main
variable {v : α → Nat} {B m c : Nat} {items : List α} {b : Bins α}

/-- **C09, reduction for first fit decreasing**: `9·k ≤ 11·m + max c 8` for every input follows from
    `GapCount B m' c` for `m' ≤ m` -/
theorem ffd_eleven_ninths_partial_of_gap_count (hne : items ≠ []) (hok : ffDecreasing v B items = .ok b)
    (hm : Packable B m (items.map v)) (hgap : ∀ m', m' ≤ m → GapCount B m' c) :
    9 * b.lists.length ≤ 11 * m + max c 8 :=
  FFD.ffd_of_gen hne hok hm fun g1 g2 g3 g4 g5 => gen_eleven_ninths_partial_of_gap_count g1 g2 g3 g4 g5 hgap

theorem bfd_eleven_ninths_partial_of_gap_count (hne : items ≠ []) (hok : bfDecreasing v B items = .ok b)
    (hm : Packable B m (items.map v)) (hgap : ∀ m', m' ≤ m → GapCount B m' c) :
    9 * b.lists.length ≤ 11 * m + max c 8 :=
  FFD.bfd_of_gen hne hok hm fun g1 g2 g3 g4 g5 => gen_eleven_ninths_partial_of_gap_count g1 g2 g3 g4 g5 hgap

/-- the reduction above at work: `FFD ≤ 11/9 · m + 4` whenever `m ≤ 100` bins suffice.  An instance of the
    reduction, not the best bound: `FFD119.ffd_eleven_ninths_of_opt_le_108` has `m ≤ 108` and no `items ≠ []`. -/
theorem ffd_eleven_ninths_partial_opt_le_100 (hne : items ≠ []) (hok : ffDecreasing v B items = .ok b)
    (hm : Packable B m (items.map v)) (hsmall : m ≤ 100) : 9 * b.lists.length ≤ 11 * m + 36 :=
  ffd_eleven_ninths_partial_of_gap_count (c := 36) hne hok hm
    (fun _ hle => gapCount_of_le_100 B (Nat.le_trans hle hsmall))

theorem bfd_eleven_ninths_partial_opt_le_100 (hne : items ≠ []) (hok : bfDecreasing v B items = .ok b)
    (hm : Packable B m (items.map v)) (hsmall : m ≤ 100) : 9 * b.lists.length ≤ 11 * m + 36 :=
  bfd_eleven_ninths_partial_of_gap_count (c := 36) hne hok hm
    (fun _ hle => gapCount_of_le_100 B (Nat.le_trans hle hsmall))

end main

/-- `FFD119.count_quarter_third` under a second name (use that one; no "skeleton" is defined anywhere) -/
theorem count_quarter_third_via_skeleton {B a m : Nat} {Ls : List (List Nat)} (hnf : NF B a Ls) (h4 : B < 4 * a)
    (h3 : 3 * a ≤ B) (hm : Packable B m (Ls.flatten ++ [a])) : 6 * Ls.length ≤ 7 * m :=
  count_quarter_third hnf h4 h3 hm

/-! ## Regular and irregular bins (all size classes at once)

The classical proofs sort the bins of the run by the size class `(B/(t+1), B/t]` of their first item; a bin of class
`t` is *regular* if it holds `t` items above `B/(t+1)` (`FFD119.e1`, `FFD119.e2` are irregular bins of the classes `2`
and `3`; all of this rests on `FFD119.vrel_take_ge`).  For every `t` at most
one bin of a normal form is irregular (`nf_irr_count`), and a regular bin weighs at least `1` under harmonic
weights (`regular_weight`).  In the gap only `t ≤ 5` occurs (`nf_class_le_five`). -/

/-- the items of size class `t`: `B/(t+1) < u` -/
def big (B t : Nat) (u : Nat) : Bool := decide (B < (t + 1) * u)

/-- a bin is *irregular of class `t`* if its first item lies in `(B/(t+1), B/t]` and it holds fewer than `t` items
    above `B/(t+1)` -/
def irr (B t : Nat) : List Nat → Bool
  | [] => false
  | x :: r => decide (B < (t + 1) * x) && decide (t * x ≤ B) && decide ((x :: r).countP (big B t) < t)

/-- regular bins: if a later bin was opened by an item `z ∈ (B/(t+1), B/t]`, an earlier bin whose first item is
    at most `B/t` holds at least `t` items above `B/(t+1)` -/
theorem regular_of_later {B t x z : Nat} {r r' : List Nat} (hr : VRel B (x :: r) (z :: r'))
    (hs : (x :: r).Pairwise (fun p q => q ≤ p)) (hx : t * x ≤ B) (hz : B < (t + 1) * z) (hz' : t * z ≤ B) :
    t ≤ (x :: r).countP (big B t) := by
  obtain ⟨hlen, hge⟩ := vrel_take_ge hr hs hx hz'
  have h1 : ((x :: r).take t).countP (big B t) = t := by
    rw [List.countP_eq_length.2, List.length_take, Nat.min_eq_left hlen]
    intro u hu
    have h6 : (t + 1) * z ≤ (t + 1) * u := Nat.mul_le_mul_left _ (hge u hu)
    simp only [big, decide_eq_true_eq]
    omega
  calc t = ((x :: r).take t).countP (big B t) := h1.symm
    _ ≤ (x :: r).countP (big B t) := (List.take_sublist t _).countP_le

theorem irr_unique {B t : Nat} {L L' : List Nat} (hr : VRel B L L')
    (hs : L.Pairwise (fun p q => q ≤ p)) (h : irr B t L = true) (h' : irr B t L' = true) : False := by
  match L, L', h, h' with
  | x :: r, z :: r', h, h' =>
    simp only [irr, Bool.and_eq_true, decide_eq_true_eq] at h h'
    have := regular_of_later hr hs h.1.2 h'.1.1 h'.1.2
    omega

theorem nf_irr_count {B a t : Nat} {Ls : List (List Nat)} (hnf : NF B a Ls) :
    Ls.countP (irr B t) ≤ 1 :=
  Part.countP_le_one (R := VRel B) _ Ls hnf.rel (fun L hL _ _ hr h h' => irr_unique hr (hnf.sorted L hL) h h')

theorem countP_mul_le_sumL_map {B t w : Nat} (f : Nat → Nat) (hf : ∀ u, B < (t + 1) * u → w ≤ f u)
    (L : List Nat) : L.countP (big B t) * w ≤ sumL (L.map f) := by
  have := Part.binSum_le_binSum (f := fun u => if big B t u = true then w else 0) (g := f) (l := L) fun u _ => by
    split
    · exact hf u (by simpa [big] using ‹big B t u = true›)
    · exact Nat.zero_le _
  rwa [Part.binSum_ite, Nat.mul_comm, show (fun u => decide (big B t u = true)) = big B t from
    funext fun u => Bool.decide_eq_true] at this

theorem regular_of_not_irr {B t x : Nat} {r : List Nat} (h1 : B < (t + 1) * x) (h2 : t * x ≤ B)
    (hreg : irr B t (x :: r) = false) : t ≤ (x :: r).countP (big B t) := by
  apply Nat.le_of_not_lt
  intro hlt
  have : irr B t (x :: r) = true := by
    simp only [irr, Bool.and_eq_true, decide_eq_true_eq]
    exact ⟨⟨h1, h2⟩, hlt⟩
  rw [this] at hreg
  cases hreg

/-- regular bins are heavy: a bin whose first item lies in `(B/(t+1), B/t]` and that is not irregular weighs
    at least `t · w` under every weight `f` that gives at least `w` to the items above `B/(t+1)`
    (harmonic weights: `w = 1/t`, so the bin weighs at least `1`) -/
theorem regular_weight {B t w x : Nat} {r : List Nat} (f : Nat → Nat) (hf : ∀ u, B < (t + 1) * u → w ≤ f u)
    (h1 : B < (t + 1) * x) (h2 : t * x ≤ B) (hreg : irr B t (x :: r) = false) :
    t * w ≤ sumL ((x :: r).map f) :=
  Nat.le_trans (Nat.mul_le_mul_right w (regular_of_not_irr h1 h2 hreg)) (countP_mul_le_sumL_map f hf (x :: r))

/-- in the gap every item lies in a size class `t ≤ 5`: it exceeds `B/6` -/
theorem nf_class_le_five {B a : Nat} {Ls : List (List Nat)} (hnf : NF B a Ls) (hgap : 2 * B < 11 * a)
    {L : List Nat} (hL : L ∈ Ls) {y : Nat} (hy : y ∈ L) : B < 6 * y := by
  have := hnf.ge L hL y hy
  omega

/-! ## What the relation between an earlier and a later bin says, in the form the classical proofs use it

`VRel B L L'` (the field `NF.rel`, from `FFD119.run_srel`) only speaks about the item `z` that opened the later bin
`L'`. -/

/-- the next item is the largest that fits (for the items that opened a later bin): if `z` opened a later bin
    and fits on top of the first items `p` of an earlier bin `L = p ++ q`, then `q` starts with an item `≥ z` -/
theorem vrel_next_ge {B z : Nat} {L r' p q : List Nat} (hr : VRel B L (z :: r')) (he : L = p ++ q)
    (hfit : sumL p + z ≤ B) : ∃ y q', q = y :: q' ∧ z ≤ y := by
  obtain ⟨pre, post, hL, hlt, hpre, _⟩ := hr z (by simp)
  rw [he] at hL
  rcases List.append_eq_append_iff.1 hL with ⟨c', h1, h2⟩ | ⟨a', h1, _⟩
  · match c', h1, h2 with
    | [], h1, _ =>
      rw [List.append_nil] at h1
      rw [h1] at hlt
      omega
    | y :: c'', h1, h2 =>
      exact ⟨y, c'' ++ post, h2, hpre y (by rw [h1]; simp)⟩
  · -- `pre` is a prefix of `p`
    rw [h1, Part.sumL_append] at hfit
    omega

theorem vrel_head_ge {B x z : Nat} {r r' : List Nat} (hr : VRel B (x :: r) (z :: r')) (hz : z ≤ B) : z ≤ x := by
  obtain ⟨y, q', h1, h2⟩ := vrel_next_ge (p := []) hr rfl (by simpa [sumL] using hz)
  simp only [List.cons.injEq] at h1
  omega

/-- if `z` opened a later bin and fits together with the first item `x` of an earlier bin, that bin has a second
    item, which is at least `z` -/
theorem vrel_second_ge {B x z : Nat} {r r' : List Nat} (hr : VRel B (x :: r) (z :: r')) (hfit : x + z ≤ B) :
    ∃ y r₂, r = y :: r₂ ∧ z ≤ y := by
  obtain ⟨y, q', h1, h2⟩ := vrel_next_ge (p := [x]) hr rfl (by simpa [sumL] using hfit)
  exact ⟨y, q', h1, h2⟩

/-- on a normal form the first items of the bins are non-increasing -/
theorem nf_heads_sorted {B a : Nat} {Ls : List (List Nat)} (hnf : NF B a Ls) :
    Ls.Pairwise (fun L L' => ∀ x ∈ L.head?, ∀ z ∈ L'.head?, z ≤ x) := by
  refine hnf.rel.imp_of_mem ?_
  intro L L' _ hL' hr x hx z hz
  match L, L', hx, hz, hr with
  | x0 :: r, z0 :: r', hx, hz, hr =>
    simp only [List.head?_cons, Option.mem_def, Option.some.injEq] at hx hz
    subst hx; subst hz
    have h1 := hnf.le _ hL'
    simp only [sumL] at h1
    exact vrel_head_ge hr (by omega)

/-! ## Examples -/

/-- the normal form of `FFD119.ex2_ffd` (`B = 100`, last bin opened by `a = 23 ∈ (2B/11, B/4]`) at the moment the
    third bin is opened -/
theorem ex_nf : NF 100 23 [[51, 27], [26, 23, 23, 23]] := by
  refine ⟨by decide, by decide, by decide, by decide, ?_⟩
  simp only [List.pairwise_cons, List.mem_singleton, forall_eq, List.not_mem_nil, false_imp_iff,
    implies_true, List.Pairwise.nil, and_true]
  exact vrel_of_full (by decide) (by decide)

theorem ex_nf_packable : Packable 100 3 ([[51, 27], [26, 23, 23, 23]].flatten ++ [23]) :=
  ⟨[0, 1, 0, 0, 1, 1, 1], ⟨rfl, by decide⟩, by decide⟩

example : ([26, 23, 23, 23] : List Nat).length ≤ 5 :=
  nf_bin_length_le_five ex_nf (by decide) (by simp)

example : 2 + 1 ≤ ([[51, 27], [26, 23, 23, 23]].flatten ++ [23]).length ∧
    ([[51, 27], [26, 23, 23, 23]].flatten ++ [23]).length ≤ 5 * 3 :=
  nf_item_count ex_nf (by decide) (by decide) ex_nf_packable

example : 2 * (100 - 23 + 1) + 23 ≤ 3 * 100 := nf_volume ex_nf (by decide) ex_nf_packable

example : 72 * 2 ≤ 90 * 3 + 12 := nf_five_fourths_gap ex_nf (by decide) ex_nf_packable

/-- the counting statement on this normal form (`m = 3 ≤ 100`) -/
example : 9 * (2 + 1) ≤ 11 * 3 + 36 :=
  gapCount_of_le_100 100 (by decide) 23 _ (by decide) (by decide) ex_nf ex_nf_packable

/-- the reduction, on a run whose last bin was opened in the gap (`23 ∈ (18.2, 25]`) -/
example : 9 * 3 ≤ 11 * 3 + max 36 8 :=
  ffd_eleven_ninths_partial_of_gap_count (by decide) ex2_ffd ex2_packable
    (fun _ hle => gapCount_of_le_100 100 (Nat.le_trans hle (by decide)))

example : 9 * 3 ≤ 11 * 3 + max 36 8 :=
  bfd_eleven_ninths_partial_of_gap_count (by decide) ex2_bfd ex2_packable
    (fun _ hle => gapCount_of_le_100 100 (Nat.le_trans hle (by decide)))

example : 9 * 3 ≤ 11 * 3 + 36 := ffd_eleven_ninths_partial_opt_le_100 (by decide) ex2_ffd ex2_packable (by decide)
example : 9 * 3 ≤ 11 * 3 + 36 := bfd_eleven_ninths_partial_opt_le_100 (by decide) ex2_bfd ex2_packable (by decide)

/-- Johnson's family (`OPT = 9`, `FFD = 11`, last bin opened by `23`, in the gap): `9·11 ≤ 11·9 + 36` -/
example : 9 * 11 ≤ 11 * 9 + 36 := by
  obtain ⟨b, hb, hl⟩ := FFD.johnson_ffd
  have := ffd_eleven_ninths_partial_opt_le_100 (by decide) hb FFD.johnson_packable (by decide)
  omega

/-- irregular bins: in `[[51, 27], [26, 23, 23, 23]]` the second bin starts in class `3` (`(25, 33]`) and holds only one
    item above `25`; at most one bin of a normal form is like that -/
example : irr 100 3 [26, 23, 23, 23] = true := by decide
example : [[51, 27], [26, 23, 23, 23]].countP (irr 100 3) ≤ 1 := nf_irr_count ex_nf

/-- a regular bin of class `4` weighs at least `4 · 15 = 60/60` under the harmonic weights `60/t` -/
example : 4 * 15 ≤ sumL (([24, 23, 23, 23] : List Nat).map fun u => if 100 < 5 * u then 15 else 12) :=
  regular_weight (B := 100) (t := 4) _ (fun u hu => by split <;> omega) (by decide) (by decide)
    (by decide)

/-- `23` opened the third bin and fits on top of `[51]`; so the first bin has a second item, at least `23` -/
example : ∃ y r₂, [27] = y :: r₂ ∧ 23 ≤ y := by
  have hr : VRel 100 [51, 27] [23, 23] := vrel_of_full (by decide) (by decide)
  exact vrel_second_ge hr (by decide)

example : [[51, 27], [26, 23, 23, 23]].Pairwise (fun L L' => ∀ x ∈ L.head?, ∀ z ∈ L'.head?, z ≤ x) :=
  nf_heads_sorted ex_nf

/-- the decorated items of the normal form above under the rule `wts2` of `FFD119` -/
example : decoNF (wts2 100 23) 23 18 [[51, 27], [26, 23, 23, 23]] =
    [⟨51, 48, 0, 0⟩, ⟨27, 24, 0, 1⟩, ⟨26, 24, 1, 0⟩, ⟨23, 18, 1, 1⟩, ⟨23, 18, 1, 2⟩, ⟨23, 18, 1, 3⟩,
      ⟨23, 18, 2, 0⟩] := by decide

end Prtpy.FFD119Gap
