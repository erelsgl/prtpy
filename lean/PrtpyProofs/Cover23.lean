/-
  PrtpyProofs.Cover23 — property C10 for the two-thirds bin-covering algorithm
  (`cflz_covering.twothirds`, the "Simple Heuristic" of Csirik, Frenk, Labbé, Zhang 1999):

      if `m` bins can be covered at all, then   2 * m ≤ 3 * ALG + 1,   hence   2 * (m - 1) ≤ 3 * ALG,
      i.e.  ALG ≥ 2/3 · (OPT − 1).

  Proof (a single weighting argument, no case distinction on huge / big / small items is needed on the
  optimum's side).  For parameters `c ≤ τ`, `c + τ = 2B` let

      φ(z) = min z c + (min z 2B ∸ τ)        (slope 1 on [0,c], flat on [c,τ], slope 1 on [τ,2B], then flat)

  and give the item `y` the weight `φ (2·v y)`.  `φ` is the staircase `Cover.stairs c τ 2` (`phi_eq_stairs`):
  it is sub-additive and `φ z = 2c` for `z ≥ 2B`, so every collection of items whose values total `≥ B`
  weighs `≥ 2c`: a cover with `m` bins weighs `≥ 2c·m` (`coverableL_weight`, by `Cover.stairs_coverableL_weight`).

  On the algorithm's side (bidirectional filling `biFill` of the descending list; `twoThirds_eq_spec`) the
  parameters are read off the run: if no covered bin ends with an item `≥ B/2` take `τ = c = B`
  (then `φ (2z) = 2·min z B`); otherwise let `x` be the first item of the first bin whose last item is
  `≥ B/2` and take `τ = 2·v x`, `c = 2B − 2·v x`.  Every bin before that one weighs `≤ 3c` (`bin_weight_small`:
  its first item is `≥ x`, everything but the last item fits below `B`, the last item is `< B/2`), that bin
  itself weighs `< 3c`, and all later bins are pairs of items of weight `≤ c` each, at most one such item being
  left over (`pairs_weight`); if no bin ends with an item `≥ B/2`, what is left over weighs `< 2c`
  (`small_weight`).  That is where the strict inequality comes from: in all cases
  `weight(items) < 3c·ALG + 2c`, so `2m < 3·ALG + 2`.

  `wt`, `phi`, `coverableL_weight` are this namespace's (two-step profile); `Cover34` has its own.

  Neither positivity of the values nor any treatment of items `≥ B` is needed; the theorem as C10 states it
  (`hpos` included) is `twoThirds_two_thirds`, its sharper form is `twoThirds_two_thirds_strong`.
-/
import PrtpyProofs.Textbook
import Mathlib.Tactic.Ring
open Prtpy

namespace Prtpy.Cover23

variable {α : Type}

/-! ## The weight profile -/

/-- the weight profile (argument: twice the value) -/
def phi (τ c B z : Nat) : Nat := min z c + (min z (2 * B) - τ)

def wt (v : α → Nat) (τ c B : Nat) (y : α) : Nat := phi τ c B (2 * v y)

section Phi
variable {τ c B : Nat}

theorem phi_zero : phi τ c B 0 = 0 := by simp [phi]

/-- with `c + τ = 2B` the profile is the staircase with two steps of length `c`, at `0` and at `τ` -/
theorem phi_eq_stairs (h2 : c + τ = 2 * B) (z : Nat) : phi τ c B z = Cover.stairs c τ 2 z := by
  simp only [phi, Cover.stairs]; omega

theorem phi_le_self (h1 : c ≤ τ) (z : Nat) : phi τ c B z ≤ z := by
  unfold phi; omega

theorem phi_le_two (h2 : c + τ = 2 * B) (z : Nat) : phi τ c B z ≤ 2 * c := by
  rw [phi_eq_stairs h2]; exact Cover.stairs_le 2 z

/-- one full step at most, and what exceeds the start `τ` of the second -/
theorem phi_le_last (h2 : c + τ = 2 * B) (z : Nat) : phi τ c B z ≤ c + (z - τ) := by
  have : Cover.stairs c τ 2 z ≤ 1 * c + (z - 1 * τ) := Cover.stairs_le_last 1 z
  rw [phi_eq_stairs h2]
  omega

end Phi

section Weights
variable {v : α → Nat} {τ c B : Nat}

/-- the optimum's side: a cover with `m` bins weighs at least `2c·m` -/
theorem coverableL_weight (h1 : c ≤ τ) (h2 : c + τ = 2 * B) {items : List α} {m : Nat}
    (h : Cover.CoverableL B m (items.map v)) : m * (2 * c) ≤ binSum (wt v τ c B) items := by
  have := Cover.stairs_coverableL_weight (v := v) (n := 1) (S := 2) h1 (by omega) h
  rwa [show (fun y => Cover.stairs c τ 2 (2 * v y)) = wt v τ c B from funext fun y => (phi_eq_stairs h2 _).symm]
    at this

theorem binSum_wt_le (h1 : c ≤ τ) (l : List α) : binSum (wt v τ c B) l ≤ 2 * binSum v l :=
  Part.binSum_le_mul l (fun y _ => phi_le_self h1 (2 * v y))

end Weights

/-! ## The last phase: only items of at least half a bin remain -/

/-- when every item is at least `B/2`, the bins are pairs (or single items `≥ B`) and at most one item is wasted:
    `Good.length_le` with `k = 2` (a tight bin holds at most two items `≥ B/2`, the leftover at most one) -/
theorem biFill_allBig (v : α → Nat) {B : Nat} (hB : 0 < B) (l : List α) (h : ∀ y ∈ l, B ≤ 2 * v y) :
    l.length ≤ 2 * (Textbook.biFill v B l).length + 1 := by
  have := (Textbook.biFill_good hB l).length_le (k := 2) (r := []) (by omega) h
  omega

/-! ## The algorithm's side: total weight `< 3c·ALG + 2c` for parameters read off the run -/

section Bins
variable {v : α → Nat} {B : Nat}

/-- when everything together stays below `B`, the parameters `τ = c = B` do -/
theorem small_weight (hB : 0 < B) {l : List α} (h : binSum v l < B) (K : Nat) :
    ∃ τ c, 0 < c ∧ c ≤ τ ∧ c + τ = 2 * B ∧ ((τ = B ∧ c = B) ∨ ∃ y ∈ l, τ ≤ 2 * v y) ∧
      binSum (wt v τ c B) l + 1 ≤ 3 * (c * K) + 2 * c := by
  have := binSum_wt_le (v := v) (B := B) (Nat.le_refl B) l
  exact ⟨B, B, hB, Nat.le_refl _, by omega, Or.inl ⟨rfl, rfl⟩, by omega⟩

/-- a bin that was below `B` before its last, small, item weighs at most `3c` when the threshold `τ` is `B`
    or at most twice an item not above the first one -/
theorem bin_weight_small {τ c : Nat} (h1 : c ≤ τ) (h2 : c + τ = 2 * B) {x last : α} {t : List α}
    (hτ : τ = B ∨ ∃ y, v y ≤ v x ∧ τ ≤ 2 * v y) (hlt : v x + binSum v t < B) (hsmall : 2 * v last < B) :
    binSum (wt v τ c B) (x :: (t ++ [last])) ≤ 3 * c := by
  have hxs := phi_le_self (B := B) h1 (2 * v x)
  have hxl := phi_le_last h2 (2 * v x)
  have ht := binSum_wt_le (v := v) (B := B) h1 t
  have hl := phi_le_last h2 (2 * v last)
  simp only [Part.binSum_cons, Part.binSum_append, Part.binSum_nil, wt]
  rcases hτ with hτ | ⟨y, hyx, hτ⟩ <;> omega

/-- from the first bin that ends with an item of at least `B/2` on, the threshold is twice the first item of
    that bin: this bin weighs less than `3c`, the bins after it are pairs of items weighing at most `c` each -/
theorem pairs_weight {x last : α} {t rest : List α} (hlt : v x + binSum v t < B) (hbig : B ≤ 2 * v last)
    (hlast : v last ≤ v x) (hrest : ∀ z ∈ rest, B ≤ 2 * v z ∧ v z ≤ v x) :
    ∃ c, 0 < c ∧ c ≤ 2 * v x ∧ c + 2 * v x = 2 * B ∧
      binSum (wt v (2 * v x) c B) (x :: (t ++ [last])) + binSum (wt v (2 * v x) c B) rest + 1 ≤
        3 * (c * ((Textbook.biFill v B rest).length + 1)) + 2 * c := by
  obtain ⟨c, hc⟩ : ∃ c, c + 2 * v x = 2 * B := ⟨2 * B - 2 * v x, by omega⟩
  have hcτ : c ≤ 2 * v x := by omega
  refine ⟨c, by omega, hcτ, hc, ?_⟩
  have hle : ∀ z, v z ≤ v x → wt v (2 * v x) c B z ≤ c := by
    intro z hz
    have := phi_le_last hc (2 * v z)
    rw [wt]
    omega
  have hx := hle x (Nat.le_refl _)
  have hl := hle last hlast
  have ht := binSum_wt_le (v := v) (B := B) hcτ t
  have hr := Part.binSum_le_length_mul (w := wt v (2 * v x) c B) (l := rest) fun z hz => hle z (hrest z hz).2
  have hmul := Nat.mul_le_mul_left c (biFill_allBig v (by omega) rest (fun z hz => (hrest z hz).1))
  rw [Nat.mul_add, Nat.mul_one, Nat.mul_left_comm] at hmul
  rw [Nat.mul_succ]
  simp only [Part.binSum_cons, Part.binSum_append, Part.binSum_nil]
  generalize c * (Textbook.biFill v B rest).length = K at *
  generalize c * rest.length = L at *
  omega

end Bins

/-- The algorithm's side.  The disjunction is what the induction carries: the threshold `τ` is `B`, or at most
    twice an item of the list — so not above twice the first item of any earlier bin, as `bin_weight_small` asks. -/
theorem biFill_weight (v : α → Nat) {B : Nat} (hB : 0 < B) (l : List α) :
    l.Pairwise (fun a b => v b ≤ v a) →
    ∃ τ c, 0 < c ∧ c ≤ τ ∧ c + τ = 2 * B ∧ ((τ = B ∧ c = B) ∨ ∃ y ∈ l, τ ≤ 2 * v y) ∧
      binSum (wt v τ c B) l + 1 ≤ 3 * (c * (Textbook.biFill v B l).length) + 2 * c := by
  induction l using Textbook.biFill_induction v B with
  | nil => intro _; exact small_weight (l := []) hB hB _
  | cons x rest taken left hrev hcase hshape ih =>
    intro hsorted
    rw [List.pairwise_cons] at hsorted
    obtain ⟨hx, hrest⟩ := hsorted
    -- the ascending view of the remaining items
    have hasc : (taken ++ left).Pairwise (fun a b => v a ≤ v b) := by
      rw [← hrev, List.pairwise_reverse]; exact hrest
    rw [List.pairwise_append] at hasc
    obtain ⟨_, hleftasc, hcross⟩ := hasc
    have hleftsorted : left.reverse.Pairwise (fun a b => v b ≤ v a) := by
      rw [List.pairwise_reverse]; exact hleftasc
    have hmemrest : ∀ y, y ∈ taken ++ left → y ∈ rest := by
      intro y hy; rw [← hrev] at hy; exact List.mem_reverse.1 hy
    have hin : ∀ y ∈ left.reverse, y ∈ rest := fun y hy =>
      hmemrest y (List.mem_append_right _ (List.mem_reverse.1 hy))
    -- weight of the whole list = first bin + the rest
    have hW : ∀ w : α → Nat, binSum w (x :: rest) = binSum w ([x] ++ taken) + binSum w left.reverse :=
      fun w => (Part.binSum_perm w (Textbook.perm_of_reverse_eq hrev x)).trans (Part.binSum_append w _ _)
    rcases hcase with ⟨hcov, heq⟩ | ⟨hlt, rfl, heq⟩
    · -- the first bin is covered
      rw [heq, List.length_cons]
      -- the parameters of the remaining run, used whenever the bin does not end with a big item
      have useIH : (∀ τ c, c ≤ τ → c + τ = 2 * B → (τ = B ∨ ∃ y, v y ≤ v x ∧ τ ≤ 2 * v y) →
          binSum (wt v τ c B) ([x] ++ taken) ≤ 3 * c) →
          ∃ τ c, 0 < c ∧ c ≤ τ ∧ c + τ = 2 * B ∧ ((τ = B ∧ c = B) ∨ ∃ y ∈ x :: rest, τ ≤ 2 * v y) ∧
            binSum (wt v τ c B) (x :: rest) + 1 ≤
              3 * (c * ((Textbook.biFill v B left.reverse).length + 1)) + 2 * c := by
        intro hbin
        obtain ⟨τ, c, hc0, hcτ, hsum, hinv, hw⟩ := ih hleftsorted
        have := hbin τ c hcτ hsum (hinv.imp (·.1) fun ⟨y, hy, hτ⟩ => ⟨y, hx y (hin y hy), hτ⟩)
        refine ⟨τ, c, hc0, hcτ, hsum, hinv.imp_right fun ⟨y, hy, hτ⟩ =>
          ⟨y, List.mem_cons_of_mem _ (hin y hy), hτ⟩, ?_⟩
        rw [hW, Nat.mul_succ]
        omega
      rcases hshape with rfl | ⟨t, last, rfl, hlt⟩
      · -- a single item `≥ B`
        refine useIH fun τ c _ hsum _ => ?_
        have := phi_le_two hsum (2 * v x)
        simp only [List.append_nil, Part.binSum_cons, Part.binSum_nil, wt]
        omega
      · simp only [List.cons_append, List.nil_append, Part.binSum_cons] at hlt
        by_cases hsmall : 2 * v last < B
        · exact useIH fun τ c hcτ hsum hτ => bin_weight_small hcτ hsum hτ hlt hsmall
        · obtain ⟨c, hc0, hcτ, hc, hw⟩ := pairs_weight (rest := left.reverse) hlt (Nat.le_of_not_lt hsmall)
            (hx last (hmemrest last (by simp))) (fun z hz => by
              have h1 := hcross last (by simp) z (List.mem_reverse.1 hz)
              have h2 := hx z (hin z hz)
              omega)
          refine ⟨2 * v x, c, hc0, hcτ, hc, Or.inr ⟨x, List.mem_cons_self, Nat.le_refl _⟩, ?_⟩
          rw [hW]
          exact hw
    · -- the first bin is not covered: everything together is below `B`
      rw [heq]
      refine small_weight hB ?_ _
      rw [hW v, List.reverse_nil, Part.binSum_nil]
      exact hlt

/-! ## The theorem -/

variable {v : α → Nat} {B m : Nat} {items : List α}

/-- sharp form, against the list formulation of coverability; no positivity needed -/
theorem twoThirds_two_thirds_coverableL (hB : 0 < B) (hm : Cover.CoverableL B m (items.map v)) :
    2 * m ≤ 3 * (twoThirds v B items).lists.length + 1 := by
  rw [Textbook.twoThirds_eq_spec, Textbook.twoThirdsSpec]
  obtain ⟨τ, c, hc0, hcτ, hsum, _, hw⟩ :=
    biFill_weight v hB (sortDesc v items) (Part.sortDesc_sorted v items)
  have hopt := coverableL_weight (v := v) hcτ hsum hm
  rw [← Part.binSum_perm _ (Part.sortDesc_perm v items)] at hopt
  generalize (Textbook.biFill v B (sortDesc v items)).length = A at *
  have h1 : c * (2 * m) < c * (3 * A + 2) := by
    have e1 : c * (2 * m) = m * (2 * c) := by ring
    have e2 : c * (3 * A + 2) = 3 * (c * A) + 2 * c := by ring
    omega
  have := Nat.lt_of_mul_lt_mul_left h1
  omega

/-- C10 in its sharper form: `m` coverable → `2m ≤ 3·ALG + 1` (no positivity needed) -/
theorem twoThirds_two_thirds_strong (hB : 0 < B) (hm : Coverable B m (items.map v)) :
    2 * m ≤ 3 * (twoThirds v B items).lists.length + 1 :=
  twoThirds_two_thirds_coverableL hB (Cover.coverable_coverableL hm)

/-- **C10 for the two-thirds algorithm**: `ALG ≥ 2/3·(OPT − 1)`, where `OPT` is any coverable number of bins. -/
theorem twoThirds_two_thirds (hB : 0 < B) (_hpos : ∀ x ∈ items, 0 < v x)
    (hm : Coverable B m (items.map v)) : 2 * (m - 1) ≤ 3 * (twoThirds v B items).lists.length := by
  have := twoThirds_two_thirds_strong hB hm
  omega

/-- the same against the oracle: `ALG ≥ 2/3·(OPT − 1)` with `OPT = optCover B values` -/
theorem twoThirds_two_thirds_opt (hB : 0 < B) :
    2 * (optCover B (items.map v) - 1) ≤ 3 * (twoThirds v B items).lists.length := by
  have := twoThirds_two_thirds_strong (v := v) (items := items) hB (Checkers.optCover_spec hB).1
  omega

/-! ## Non-vacuity -/

/-- four bins of size 12 can be covered with these 14 items … -/
theorem example_coverable : Coverable 12 4 (([6, 6, 6, 6, 5, 5, 5, 5, 1, 1, 1, 1, 1, 1] : List Nat).map id) :=
  Cover.coverableL_coverable
    ⟨[[6, 6], [6, 6], [5, 5, 1, 1], [5, 5, 1, 1]], rfl, by decide, [1, 1], by decide⟩

/-- … the algorithm covers three, and `2·(4−1) ≤ 3·3` -/
example : (twoThirds id 12 [6, 6, 6, 6, 5, 5, 5, 5, 1, 1, 1, 1, 1, 1]).lists =
    [[6, 1, 1, 1, 1, 1, 1], [6, 5, 5], [6, 5, 5]] := by decide

example : 2 * (4 - 1) ≤ 3 * (twoThirds id 12 [6, 6, 6, 6, 5, 5, 5, 5, 1, 1, 1, 1, 1, 1]).lists.length :=
  twoThirds_two_thirds (by decide) (by decide) example_coverable

example : 2 * 4 ≤ 3 * (twoThirds id 12 [6, 6, 6, 6, 5, 5, 5, 5, 1, 1, 1, 1, 1, 1]).lists.length + 1 :=
  twoThirds_two_thirds_strong (by decide) example_coverable

end Prtpy.Cover23
