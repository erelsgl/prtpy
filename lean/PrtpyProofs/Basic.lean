/-
  PrtpyProofs.Basic — what the other proof files take for granted about the list utilities of `Prtpy/Basic.lean`,
  `List.modify`, the bins operations, and `sumsOf` / `IsAssignment` of `Prtpy/Spec.lean`; that every objective
  depends on the multiset of the sums only (`value_eq_of_perm`); the summation layer (`binSum_le_binSum`, `binSum_add`,
  `binSum_mul_left`, `binSum_const`, `binSum_ite`, `binSum_flatten`: a fact about every bin is summed over the bins), on which
  the weighting arguments of LPT, KK, the packers and the covering algorithms rest; `SplitInto`, a split of the items into `k` lists each
  with a property, of which `Packable`, `Covers` and `Packs` are cases; and `mem_foldl_layer`, the lemma behind the four
  layered searches over sum vectors (the partition oracle, `dpFinal`, `packableB`, `coverableB`).
  The lemmas are in the namespace `Prtpy.Part`, continued in Part.lean: that is the name under which the whole
  development refers to them (`decEqBins`, `decEqExcept` are in `Prtpy`; the `*_map_mul` facts of the scaling theorems, at
  the end of the file, in `Prtpy.Scale`; the base facts of `sumL`, `maxL`, `minL` that are cited as `Obj.sumL_cons`,
  `Obj.maxL_cons`, `Obj.minL_le_maxL`, `Obj.headD_eq_minL`, … are declared under those names, with their `@[simp]`
  attributes: Obj.lean, which imports this file, continues that namespace).
-/
import Prtpy
open Prtpy

namespace Prtpy

/-- decidable equality of bins-arrays and of results; made local instances where a concrete run is compared with its
    expected result by evaluation -/
@[instance_reducible] def decEqBins {α : Type} [DecidableEq α] : DecidableEq (Bins α) := fun a b =>
  decidable_of_iff (a.sums = b.sums ∧ a.lists = b.lists) (by cases a; cases b; simp)

@[instance_reducible] def decEqExcept {ε σ : Type} [DecidableEq ε] [DecidableEq σ] : DecidableEq (Except ε σ)
  | .ok a, .ok b => if h : a = b then isTrue (h ▸ rfl) else isFalse (fun e => h (Except.ok.inj e))
  | .error a, .error b => if h : a = b then isTrue (h ▸ rfl) else isFalse (fun e => h (Except.error.inj e))
  | .ok _, .error _ => isFalse (fun e => nomatch e)
  | .error _, .ok _ => isFalse (fun e => nomatch e)

end Prtpy

namespace Prtpy.Part

variable {α : Type}

/-! ## Lists -/

theorem snoc_induction {β : Type} {P : List β → Prop} (nil : P [])
    (snoc : ∀ l a, P l → P (l ++ [a])) : ∀ l, P l := by
  intro l
  rw [← List.reverse_reverse l]
  induction l.reverse with
  | nil => exact nil
  | cons x xs ih => rw [List.reverse_cons]; exact snoc _ _ ih

/-- at most one member of a list has a property that no two related members share -/
theorem countP_le_one {β : Type} {R : β → β → Prop} (p : β → Bool) : ∀ l : List β, l.Pairwise R →
    (∀ x ∈ l, ∀ y ∈ l, R x y → p x = true → p y = true → False) → l.countP p ≤ 1
  | [], _, _ => by simp
  | x :: l, hp, h => by
    rw [List.pairwise_cons] at hp
    have ih := countP_le_one p l hp.2 (fun a ha c hc => h a (List.mem_cons_of_mem _ ha) c (List.mem_cons_of_mem _ hc))
    by_cases hx : p x = true
    · have h0 : l.countP p = 0 := by
        rw [List.countP_eq_zero]
        intro y hy hpy
        exact h x List.mem_cons_self y (List.mem_cons_of_mem _ hy) (hp.1 y hy) hx hpy
      rw [List.countP_cons_of_pos hx, h0]
      exact Nat.le_refl 1
    · rw [List.countP_cons_of_neg hx]
      exact ih

theorem countP_or_le {β : Type} (p q : β → Bool) : ∀ l : List β,
    l.countP (fun x => p x || q x) ≤ l.countP p + l.countP q
  | [] => by simp
  | x :: l => by
    have ih := countP_or_le p q l
    simp only [List.countP_cons]
    cases hp : p x <;> cases hq : q x <;> simp <;> omega

theorem pairwise_true {β : Type} (l : List β) : l.Pairwise (fun _ _ => True) := List.pairwise_of_forall (fun _ _ => trivial)

theorem exists_max {β : Type} (v : β → Nat) (P : β → Prop) : ∀ l : List β,
    ∃ t, (∀ x ∈ l, P x → v x ≤ t) ∧ (t = 0 ∨ ∃ x ∈ l, P x ∧ t = v x)
  | [] => ⟨0, fun _ h => absurd h List.not_mem_nil, Or.inl rfl⟩
  | a :: l => by
    obtain ⟨t, hge, hmem⟩ := exists_max v P l
    by_cases ha : P a ∧ t ≤ v a
    · refine ⟨v a, fun x hx hP => ?_, Or.inr ⟨a, List.mem_cons_self, ha.1, rfl⟩⟩
      rcases List.mem_cons.1 hx with rfl | hx
      · exact Nat.le_refl _
      · exact Nat.le_trans (hge x hx hP) ha.2
    · refine ⟨t, fun x hx hP => ?_, hmem.imp_right fun ⟨x, hx, h⟩ => ⟨x, List.mem_cons_of_mem _ hx, h⟩⟩
      rcases List.mem_cons.1 hx with rfl | hx
      · exact Nat.le_of_lt (Nat.lt_of_not_le fun h => ha ⟨hP, h⟩)
      · exact hge x hx hP

theorem getD_eq_getElem {β : Type} {l : List β} {i : Nat} {d : β} (h : i < l.length) : l.getD i d = l[i] := by
  rw [List.getD_eq_getElem?_getD, List.getElem?_eq_getElem h, Option.getD_some]

theorem map_getD_range {β : Type} (l : List β) (d : β) : (List.range l.length).map (l.getD · d) = l := by
  apply List.ext_getElem
  · simp
  · intro i h1 h2
    simp only [List.getElem_map, List.getElem_range]
    exact getD_eq_getElem h2

/-! ## List functions of the model: `removeAt`, `dedupAdj` -/

theorem removeAt_eq_eraseIdx {γ : Type} (l : List γ) (i : Nat) : removeAt l i = l.eraseIdx i :=
  (List.eraseIdx_eq_take_drop_succ l i).symm

theorem removeAt_sublist {γ : Type} (h : List γ) (i : Nat) : (removeAt h i).Sublist h := by
  rw [removeAt_eq_eraseIdx]; exact List.eraseIdx_sublist h i

theorem removeAt_map {γ δ : Type} (g : γ → δ) (l : List γ) (i : Nat) :
    (removeAt l i).map g = removeAt (l.map g) i := by
  simp only [removeAt, List.map_append, List.map_take, List.map_drop]

theorem mem_dedupAdj {x : List Nat} {l : List (List Nat)} : x ∈ dedupAdj l ↔ x ∈ l := by
  fun_induction dedupAdj l with
  | case1 => simp
  | case2 => simp
  | case3 a b rest hab ih =>
    have : a = b := by simpa using hab
    subst this
    rw [ih]; simp
  | case4 a b rest hab ih =>
    rw [List.mem_cons, ih]; simp

/-! ## Sorting -/

theorem insertDesc_perm (key : α → Nat) (x : α) (l : List α) : (insertDesc key x l).Perm (x :: l) := by
  induction l with
  | nil => exact List.Perm.refl _
  | cons y ys ih =>
    simp only [insertDesc]
    split
    · exact List.Perm.refl _
    · exact (List.Perm.cons y ih).trans (List.Perm.swap x y ys)

theorem sortDesc_perm (key : α → Nat) (l : List α) : (sortDesc key l).Perm l := by
  induction l with
  | nil => exact List.Perm.refl _
  | cons x xs ih =>
    simp only [sortDesc]
    exact (insertDesc_perm key x _).trans (List.Perm.cons x ih)

theorem insertDesc_sorted (key : α → Nat) (x : α) (l : List α)
    (h : l.Pairwise (fun a b => key b ≤ key a)) :
    (insertDesc key x l).Pairwise (fun a b => key b ≤ key a) := by
  induction l with
  | nil => simp [insertDesc]
  | cons y ys ih =>
    simp only [insertDesc]
    rw [List.pairwise_cons] at h
    split
    · rename_i hyx
      refine List.pairwise_cons.2 ⟨?_, List.pairwise_cons.2 h⟩
      intro a ha
      rcases List.mem_cons.1 ha with rfl | ha
      · exact hyx
      · exact Nat.le_trans (h.1 a ha) hyx
    · rename_i hyx
      refine List.pairwise_cons.2 ⟨?_, ih h.2⟩
      intro a ha
      rcases List.mem_cons.1 ((insertDesc_perm key x ys).mem_iff.1 ha) with rfl | ha
      · omega
      · exact h.1 a ha

theorem sortDesc_sorted (key : α → Nat) (l : List α) :
    (sortDesc key l).Pairwise (fun a b => key b ≤ key a) := by
  induction l with
  | nil => simp [sortDesc]
  | cons x xs ih => exact insertDesc_sorted key x _ ih

theorem sortDesc_length (key : α → Nat) (l : List α) : (sortDesc key l).length = l.length :=
  (sortDesc_perm key l).length_eq

theorem sortDesc_ne_nil (v : α → Nat) {items : List α} (h : items ≠ []) : sortDesc v items ≠ [] :=
  fun h0 => h (List.length_eq_zero_iff.1 (by rw [← sortDesc_length v items, h0]; rfl))

theorem insertAsc_perm (key : α → Nat) (x : α) (l : List α) : (insertAsc key x l).Perm (x :: l) := by
  induction l with
  | nil => exact List.Perm.refl _
  | cons y ys ih =>
    simp only [insertAsc]
    split
    · exact List.Perm.refl _
    · exact (List.Perm.cons y ih).trans (List.Perm.swap x y ys)

theorem sortAsc_perm (key : α → Nat) (l : List α) : (sortAsc key l).Perm l := by
  induction l with
  | nil => exact List.Perm.refl _
  | cons x xs ih =>
    simp only [sortAsc]
    exact (insertAsc_perm key x _).trans (List.Perm.cons x ih)

theorem insertAsc_sorted (key : α → Nat) (x : α) (l : List α)
    (h : l.Pairwise (fun a b => key a ≤ key b)) :
    (insertAsc key x l).Pairwise (fun a b => key a ≤ key b) := by
  induction l with
  | nil => simp [insertAsc]
  | cons y ys ih =>
    simp only [insertAsc]
    rw [List.pairwise_cons] at h
    split
    · rename_i hxy
      refine List.pairwise_cons.2 ⟨?_, List.pairwise_cons.2 h⟩
      intro a ha
      rcases List.mem_cons.1 ha with rfl | ha
      · exact hxy
      · exact Nat.le_trans hxy (h.1 a ha)
    · rename_i hxy
      refine List.pairwise_cons.2 ⟨?_, ih h.2⟩
      intro a ha
      rcases List.mem_cons.1 ((insertAsc_perm key x ys).mem_iff.1 ha) with rfl | ha
      · omega
      · exact h.1 a ha

theorem sortAsc_sorted (key : α → Nat) (l : List α) :
    (sortAsc key l).Pairwise (fun a b => key a ≤ key b) := by
  induction l with
  | nil => simp [sortAsc]
  | cons x xs ih => exact insertAsc_sorted key x _ ih

theorem sortAsc_length (key : α → Nat) (l : List α) : (sortAsc key l).length = l.length :=
  (sortAsc_perm key l).length_eq

theorem eq_of_sorted_of_perm {a b : List Nat} (ha : a.Pairwise (· ≤ ·)) (hb : b.Pairwise (· ≤ ·))
    (hp : a.Perm b) : a = b :=
  List.Perm.eq_of_pairwise (le := (· ≤ ·)) (fun _ _ _ _ h₁ h₂ => Nat.le_antisymm h₁ h₂) ha hb hp

theorem getElem_le_of_sorted {l : List Nat} (hs : l.Pairwise (· ≤ ·)) {a b : Nat} (hb : b < l.length)
    (hab : a ≤ b) : l[a]'(Nat.lt_of_le_of_lt hab hb) ≤ l[b] := by
  rcases Nat.eq_or_lt_of_le hab with rfl | hab
  · exact Nat.le_refl _
  · exact (List.pairwise_iff_getElem.1 hs) a b (by omega) hb hab

theorem insertAsc_of_le (key : α → Nat) (x : α) (l : List α) (h : ∀ y ∈ l, key x ≤ key y) :
    insertAsc key x l = x :: l := by
  cases l with
  | nil => rfl
  | cons y ys => rw [insertAsc, if_pos (h y List.mem_cons_self)]

theorem sortAsc_of_pairwise (key : α → Nat) (l : List α) (h : l.Pairwise (fun a b => key a ≤ key b)) :
    sortAsc key l = l := by
  induction l with
  | nil => rfl
  | cons x xs ih =>
    rw [List.pairwise_cons] at h
    rw [sortAsc, ih h.2, insertAsc_of_le key x xs h.1]

theorem sortAsc_eq_self {l : List Nat} (h : l.Pairwise (· ≤ ·)) : sortAsc id l = l :=
  sortAsc_of_pairwise id l h

theorem sortAsc_idem (l : List Nat) : sortAsc id (sortAsc id l) = sortAsc id l :=
  sortAsc_eq_self (sortAsc_sorted id l)

theorem sortAsc_replicate (m c : Nat) : sortAsc id (List.replicate m c) = List.replicate m c :=
  sortAsc_eq_self (by simp [List.pairwise_replicate])

theorem sortAsc_congr {a b : List Nat} (hp : a.Perm b) : sortAsc id a = sortAsc id b :=
  eq_of_sorted_of_perm (sortAsc_sorted id a) (sortAsc_sorted id b)
    ((sortAsc_perm id a).trans (hp.trans (sortAsc_perm id b).symm))

theorem insertDesc_of_le (v : α → Nat) (x : α) (l : List α) (h : ∀ y ∈ l, v y ≤ v x) :
    insertDesc v x l = x :: l := by
  cases l with
  | nil => rfl
  | cons y ys => simp [insertDesc, h y List.mem_cons_self]

theorem sortDesc_of_sorted (v : α → Nat) (l : List α) (h : l.Pairwise (fun a c => v c ≤ v a)) :
    sortDesc v l = l := by
  induction l with
  | nil => rfl
  | cons x xs ih =>
    rw [List.pairwise_cons] at h
    rw [sortDesc, ih h.2, insertDesc_of_le v x xs h.1]

/-! ## `sumL`, `binSum` -/

/-! the `simp` facts of `sumL` (and of `maxL`, `minL` further on) are named `Obj.*`, not `Part.*`: see the head of the file -/

@[simp] theorem _root_.Prtpy.Obj.sumL_nil : sumL [] = 0 := rfl
@[simp] theorem _root_.Prtpy.Obj.sumL_cons (x : Nat) (l : List Nat) : sumL (x :: l) = x + sumL l := rfl

theorem sumL_append (l₁ l₂ : List Nat) : sumL (l₁ ++ l₂) = sumL l₁ + sumL l₂ := by
  induction l₁ with
  | nil => simp
  | cons x xs ih => simp only [List.cons_append, Obj.sumL_cons, ih]; omega

theorem sumL_perm {l₁ l₂ : List Nat} (h : l₁.Perm l₂) : sumL l₁ = sumL l₂ := by
  induction h with
  | nil => rfl
  | cons x _ ih => simp only [Obj.sumL_cons, ih]
  | swap x y l => simp only [Obj.sumL_cons]; omega
  | trans _ _ ih₁ ih₂ => exact ih₁.trans ih₂

theorem binSum_nil (v : α → Nat) : binSum v [] = 0 := rfl

theorem binSum_id (l : List Nat) : binSum id l = sumL l := by rw [binSum, List.map_id]

theorem binSum_cons (v : α → Nat) (x : α) (l : List α) : binSum v (x :: l) = v x + binSum v l := rfl

theorem binSum_singleton (v : α → Nat) (x : α) : binSum v [x] = v x := Nat.add_zero _

theorem binSum_append (v : α → Nat) (l₁ l₂ : List α) :
    binSum v (l₁ ++ l₂) = binSum v l₁ + binSum v l₂ := by
  simp only [binSum, List.map_append, sumL_append]

theorem binSum_concat (v : α → Nat) (l : List α) (x : α) : binSum v (l ++ [x]) = binSum v l + v x := by
  rw [binSum_append, binSum_cons, binSum_nil, Nat.add_zero]

theorem binSum_perm (v : α → Nat) {l₁ l₂ : List α} (h : l₁.Perm l₂) : binSum v l₁ = binSum v l₂ :=
  sumL_perm (h.map v)

theorem sumL_map_binSum (v : α → Nat) (ls : List (List α)) :
    sumL (ls.map (binSum v)) = binSum v ls.flatten := by
  induction ls with
  | nil => rfl
  | cons l ls ih => simp only [List.map_cons, sumL, List.flatten_cons, binSum_append, ih]

theorem sumL_flatten (L : List (List Nat)) : sumL L.flatten = sumL (L.map sumL) := by
  rw [← binSum_id, ← sumL_map_binSum]
  exact congrArg sumL (List.map_congr_left fun l _ => binSum_id l)

theorem le_sumL_of_mem {l : List Nat} {a : Nat} (h : a ∈ l) : a ≤ sumL l := by
  induction l with
  | nil => cases h
  | cons x xs ih =>
    rw [Obj.sumL_cons]
    rcases List.mem_cons.1 h with rfl | h
    · omega
    · have := ih h; omega

theorem sumL_erase {l : List Nat} {v : Nat} (h : v ∈ l) : sumL (l.erase v) + v = sumL l := by
  have := sumL_perm (List.perm_cons_erase h)
  rw [Obj.sumL_cons] at this
  omega

theorem sumL_eq_zero_of_pos : ∀ {l : List Nat}, (∀ v ∈ l, 0 < v) → sumL l = 0 → l = []
  | [], _, _ => rfl
  | a :: l, hpos, h => by
    have := hpos a List.mem_cons_self
    rw [Obj.sumL_cons] at h; omega

theorem sumL_filter_ne_zero : ∀ l : List Nat, sumL (l.filter (· != 0)) = sumL l
  | [] => rfl
  | x :: xs => by
    by_cases hx : x = 0
    · subst hx; simp [sumL, sumL_filter_ne_zero xs]
    · have : (x != 0) = true := by simpa using hx
      simp [this, sumL, sumL_filter_ne_zero xs]

theorem le_binSum_of_mem (v : α → Nat) {l : List α} {a : α} (h : a ∈ l) : v a ≤ binSum v l :=
  le_sumL_of_mem (List.mem_map_of_mem h)

theorem binSum_sublist (v : α → Nat) {s l : List α} (h : s.Sublist l) : binSum v s ≤ binSum v l := by
  induction h with
  | slnil => exact Nat.le_refl _
  | cons a _ ih => simp only [binSum_cons]; omega
  | cons_cons a _ ih => simp only [binSum_cons]; omega

theorem ne_nil_of_sumL_pos {l : List Nat} (h : 0 < sumL l) : l ≠ [] := by
  rintro rfl; exact Nat.lt_irrefl 0 h

theorem ne_nil_of_binSum_pos {v : α → Nat} {l : List α} (h : 0 < binSum v l) : l ≠ [] := by
  rintro rfl; exact Nat.lt_irrefl 0 h

theorem sumL_take_le (l : List Nat) (m : Nat) : sumL (l.take m) ≤ sumL l := by
  have := sumL_append (l.take m) (l.drop m)
  rw [List.take_append_drop] at this
  omega

theorem sumL_replicate (m c : Nat) : sumL (List.replicate m c) = m * c := by
  induction m with
  | zero => rw [Nat.zero_mul]; rfl
  | succ m ih => rw [List.replicate_succ, sumL, ih, Nat.succ_mul, Nat.add_comm]

theorem sumL_pos_of_mem {l : List Nat} {x : Nat} (h : x ∈ l) (hx : 0 < x) : 0 < sumL l :=
  Nat.lt_of_lt_of_le hx (le_sumL_of_mem h)

theorem sumL_pos_of_ne_nil {l : List Nat} (hne : l ≠ []) (hpos : ∀ x ∈ l, 0 < x) : 0 < sumL l := by
  obtain ⟨x, hx⟩ := List.exists_mem_of_ne_nil l hne
  exact sumL_pos_of_mem hx (hpos x hx)

theorem sumL_le_flatten {L : List (List Nat)} {l : List Nat} (h : l ∈ L) : sumL l ≤ sumL L.flatten := by
  rw [sumL_flatten]
  exact le_sumL_of_mem (List.mem_map_of_mem h)

theorem zipWith_add_replicate_zero (s : List Nat) :
    List.zipWith (· + ·) s (List.replicate s.length 0) = s := by
  induction s with
  | nil => rfl
  | cons a s ih => simp only [List.length_cons, List.replicate_succ, List.zipWith_cons_cons, ih, Nat.add_zero]

/-! ### summing a fact about every bin over a list of bins

A list of bins `Q : List (List β)` is itself a list of "items" (the bins), and `binSum F Q` sums a quantity `F` of
the bins.  A fact about every bin is carried to the whole by monotonicity (`binSum_le_binSum`); that `binSum` is linear
in the weight, and that weight, cardinality and counts of the flattening are such sums, brings both sides into the
wanted form.  This is the summation step of the weighting arguments (`Part.SplitInto.le_weight` for LPT and KK, the weight
functions of FF17, FFD119, MultiFit122 and Cover34). -/

section BinSums
variable {β : Type}

theorem binSum_le_binSum {f g : β → Nat} {l : List β} (h : ∀ x ∈ l, f x ≤ g x) : binSum f l ≤ binSum g l := by
  induction l with
  | nil => exact Nat.le_refl _
  | cons x l ih =>
    have h1 := h x List.mem_cons_self
    have h2 := ih (fun y hy => h y (List.mem_cons_of_mem _ hy))
    simp only [binSum_cons]
    omega

theorem binSum_congr {f g : β → Nat} {l : List β} (h : ∀ x ∈ l, f x = g x) : binSum f l = binSum g l :=
  Nat.le_antisymm (binSum_le_binSum fun x hx => Nat.le_of_eq (h x hx))
    (binSum_le_binSum fun x hx => Nat.le_of_eq (h x hx).symm)

theorem binSum_add (f g : β → Nat) (l : List β) : binSum (fun x => f x + g x) l = binSum f l + binSum g l := by
  induction l with
  | nil => rfl
  | cons x l ih => simp only [binSum_cons, ih]; omega

theorem binSum_mul_left (c : Nat) (f : β → Nat) (l : List β) : binSum (fun x => c * f x) l = c * binSum f l := by
  induction l with
  | nil => rfl
  | cons x l ih => simp only [binSum_cons, ih, Nat.mul_add]

theorem binSum_const (c : Nat) (l : List β) : binSum (fun _ => c) l = l.length * c := by
  induction l with
  | nil => simp [binSum_nil]
  | cons x l ih => simp only [binSum_cons, ih, List.length_cons, Nat.succ_mul]; omega

theorem binSum_le_mul {w v : β → Nat} {k : Nat} (l : List β) (h : ∀ y ∈ l, w y ≤ k * v y) :
    binSum w l ≤ k * binSum v l :=
  binSum_mul_left k v l ▸ binSum_le_binSum h

theorem binSum_le_length_mul {w : β → Nat} {K : Nat} {l : List β} (h : ∀ y ∈ l, w y ≤ K) :
    binSum w l ≤ K * l.length :=
  Nat.le_trans (binSum_le_binSum h) (Nat.le_of_eq ((binSum_const K l).trans (Nat.mul_comm _ _)))

theorem binSum_eq_length {w : β → Nat} {l : List β} (h : ∀ y ∈ l, w y = 1) : binSum w l = l.length :=
  (binSum_congr h).trans ((binSum_const 1 l).trans (Nat.mul_one _))

theorem binSum_ite (p : β → Prop) [DecidablePred p] (d : Nat) (l : List β) :
    binSum (fun x => if p x then d else 0) l = d * l.countP (fun x => decide (p x)) := by
  induction l with
  | nil => rfl
  | cons x l ih =>
    rw [binSum_cons, ih, List.countP_cons, Nat.mul_add]
    by_cases h : p x
    · simp only [h, if_true, decide_true, Nat.mul_one]; omega
    · simp only [h, if_false, decide_false, Bool.false_eq_true, Nat.mul_zero]; omega

theorem binSum_ite_le (p : β → Bool) (d : Nat) {n : Nat} {l : List β} (h : l.countP p ≤ n) :
    binSum (fun x => if p x then d else 0) l ≤ n * d := by
  rw [binSum_ite (fun x => p x = true) d l, Nat.mul_comm]
  refine Nat.mul_le_mul_right d ?_
  simpa only [Bool.decide_eq_true] using h

theorem binSum_map {γ : Type} (w : γ → Nat) (f : β → γ) (l : List β) :
    binSum w (l.map f) = binSum (fun x => w (f x)) l := by
  simp only [binSum, List.map_map]; rfl

theorem binSum_flatten (w : β → Nat) (Q : List (List β)) : binSum w Q.flatten = binSum (binSum w) Q :=
  (sumL_map_binSum w Q).symm

theorem length_mul_le_binSum {f : β → Nat} {c : Nat} {l : List β} (h : ∀ x ∈ l, c ≤ f x) :
    l.length * c ≤ binSum f l := by
  have := binSum_le_binSum (f := fun _ => c) h
  rwa [binSum_const] at this

theorem length_mul_le_binSum_flatten {w : β → Nat} {c : Nat} {Q : List (List β)} (h : ∀ l ∈ Q, c ≤ binSum w l) :
    Q.length * c ≤ binSum w Q.flatten := by
  rw [binSum_flatten]; exact length_mul_le_binSum h

theorem length_flatten_eq (Q : List (List β)) : Q.flatten.length = binSum List.length Q := by
  induction Q with
  | nil => rfl
  | cons l Q ih => simp only [List.flatten_cons, List.length_append, binSum_cons, ih]

theorem countP_flatten_eq (p : β → Bool) (Q : List (List β)) : Q.flatten.countP p = binSum (List.countP p) Q := by
  induction Q with
  | nil => rfl
  | cons l Q ih => simp only [List.flatten_cons, List.countP_append, binSum_cons, ih]

theorem length_flatten_le {c : Nat} {Q : List (List β)} (h : ∀ l ∈ Q, l.length ≤ c) :
    Q.flatten.length ≤ Q.length * c := by
  have := binSum_le_binSum h
  rwa [← length_flatten_eq, binSum_const] at this

theorem le_length_flatten {c : Nat} {Q : List (List β)} (h : ∀ l ∈ Q, c ≤ l.length) :
    Q.length * c ≤ Q.flatten.length := by
  have := binSum_le_binSum h
  rwa [← length_flatten_eq, binSum_const] at this

theorem all_length_one_of_le (Ls : List (List β)) (h : ∀ l ∈ Ls, l.length ≤ 1)
    (hf : Ls.flatten.length = Ls.length) : ∀ l ∈ Ls, l.length = 1 := by
  induction Ls with
  | nil => simp
  | cons l Ls ih =>
    have h1 := h l List.mem_cons_self
    have h2 := length_flatten_le (c := 1) (Q := Ls) (fun l' hl' => h l' (List.mem_cons_of_mem _ hl'))
    simp only [List.flatten_cons, List.length_append, List.length_cons] at hf
    intro l' hl'
    rcases List.mem_cons.1 hl' with rfl | hl'
    · omega
    · exact ih (fun l'' hl'' => h l'' (List.mem_cons_of_mem _ hl'')) (by omega) l' hl'

end BinSums

/-! ### sums against the number of entries -/

theorem length_mul_le_sumL (l : List Nat) (mx M : Nat) (h : ∀ a ∈ l, mx ≤ a + M) :
    l.length * mx ≤ sumL l + l.length * M := by
  have := binSum_le_binSum h
  rwa [binSum_const, binSum_add, binSum_const, show binSum (fun a => a) l = sumL l from binSum_id l] at this

theorem length_mul_le (c : Nat) (l : List Nat) (h : ∀ s ∈ l, c ≤ s) : l.length * c ≤ sumL l :=
  length_mul_le_sumL l c 0 h

/-- one entry *is* `mx` (`hm`), so it needs no `M`: this is the `M` that turns a gap bound `M` into Graham's
    `(k - 1) · M` (`Part.gap_to_graham`) -/
theorem length_mul_le_sumL' (l : List Nat) (mx M : Nat) (h : ∀ a ∈ l, mx ≤ a + M) (hm : mx ∈ l) :
    l.length * mx + M ≤ sumL l + l.length * M := by
  induction l with
  | nil => cases hm
  | cons a t ih =>
    have h1 := h a (List.mem_cons_self ..)
    have ht : ∀ c ∈ t, mx ≤ c + M := fun c hc => h c (List.mem_cons_of_mem _ hc)
    simp only [List.length_cons, sumL, Nat.add_mul, Nat.one_mul]
    rcases List.mem_cons.1 hm with rfl | hm
    · have := length_mul_le_sumL t mx M ht; omega
    · have := ih ht hm; omega

theorem sumL_le_length_mul (l : List Nat) (mn M : Nat) (h : ∀ a ∈ l, a ≤ mn + M) :
    sumL l ≤ l.length * mn + l.length * M := by
  have := binSum_le_binSum h
  rwa [binSum_add, binSum_const, binSum_const, show binSum (fun a => a) l = sumL l from binSum_id l] at this

/-- the mirror image: one entry is `mn` itself -/
theorem sumL_le_length_mul' (l : List Nat) (mn M : Nat) (h : ∀ a ∈ l, a ≤ mn + M) (hm : mn ∈ l) :
    sumL l + M ≤ l.length * mn + l.length * M := by
  induction l with
  | nil => cases hm
  | cons a t ih =>
    have h1 := h a (List.mem_cons_self ..)
    have ht : ∀ c ∈ t, c ≤ mn + M := fun c hc => h c (List.mem_cons_of_mem _ hc)
    simp only [List.length_cons, sumL, Nat.add_mul, Nat.one_mul]
    rcases List.mem_cons.1 hm with rfl | hm
    · have := sumL_le_length_mul t mn M ht; omega
    · have := ih ht hm; omega

/-- if any two of `n ≥ 2` numbers add up to at least `C`, their total is at least `n·C/2` -/
theorem pairwise_sum_bound (C : Nat) : ∀ (l : List Nat), l.Pairwise (fun a c => C ≤ a + c) →
    2 ≤ l.length → l.length * C ≤ 2 * sumL l
  | [], _, h => by simp at h
  | [_], _, h => by simp at h
  | [a, b], hp, _ => by
    simp only [List.pairwise_cons] at hp
    have := hp.1 b (by simp)
    simp only [List.length_cons, List.length_nil, sumL]; omega
  | [a, b, c], hp, _ => by
    simp only [List.pairwise_cons] at hp
    have h1 := hp.1 b (by simp)
    have h2 := hp.1 c (by simp)
    have h3 := hp.2.1 c (by simp)
    simp only [List.length_cons, List.length_nil, sumL]; omega
  | a :: b :: c :: d :: t, hp, _ => by
    rw [List.pairwise_cons] at hp
    have h1 := hp.1 b (by simp)
    have hp' := (List.pairwise_cons.1 hp.2).2
    have ih := pairwise_sum_bound C (c :: d :: t) hp' (by simp)
    simp only [List.length_cons, sumL, Nat.add_mul, Nat.one_mul] at ih ⊢
    omega

/-! ## `maxL`, `minL`, `argmin` -/

@[simp] theorem _root_.Prtpy.Obj.maxL_nil : maxL [] = 0 := rfl
@[simp] theorem _root_.Prtpy.Obj.maxL_cons (x : Nat) (l : List Nat) : maxL (x :: l) = max x (maxL l) := rfl
@[simp] theorem _root_.Prtpy.Obj.minL_nil : minL [] = 0 := rfl
@[simp] theorem _root_.Prtpy.Obj.minL_singleton (x : Nat) : minL [x] = x := rfl

/-- `maxL` is core's `List.max?` (0 on the empty list); its facts are those of `max?`. -/
theorem maxL_eq_max? (l : List Nat) : maxL l = l.max?.getD 0 := by
  induction l with
  | nil => rfl
  | cons x xs ih =>
    rw [maxL, ih, List.max?_cons (x := x)]
    cases xs.max? with
    | none => exact Nat.max_zero x
    | some m => rfl

theorem maxL_spec {l : List Nat} (h : l ≠ []) : maxL l ∈ l ∧ ∀ a ∈ l, a ≤ maxL l := by
  cases hm : l.max? with
  | none => exact absurd (List.max?_eq_none_iff.1 hm) h
  | some m => rw [maxL_eq_max?, hm]; exact List.max?_eq_some_iff.1 hm

theorem le_maxL {l : List Nat} {a : Nat} (h : a ∈ l) : a ≤ maxL l :=
  (maxL_spec (List.ne_nil_of_mem h)).2 a h

theorem maxL_mem {l : List Nat} (h : l ≠ []) : maxL l ∈ l := (maxL_spec h).1

theorem sortDesc_le_maxL (v : α → Nat) (items : List α) : ∀ x ∈ sortDesc v items, v x ≤ maxL (items.map v) :=
  fun _ hx => le_maxL (List.mem_map_of_mem ((sortDesc_perm v items).mem_iff.1 hx))

theorem maxL_le {l : List Nat} {m : Nat} (h : ∀ a ∈ l, a ≤ m) : maxL l ≤ m := by
  by_cases hl : l = []
  · subst hl; exact Nat.zero_le m
  · exact h _ (maxL_mem hl)

theorem minL_cons_cons (x y : Nat) (ys : List Nat) : minL (x :: y :: ys) = min x (minL (y :: ys)) := rfl

/-- `minL` is core's `List.min?` (0 on the empty list); its facts are those of `min?`. -/
theorem minL_eq_min? (l : List Nat) : minL l = l.min?.getD 0 := by
  induction l with
  | nil => rfl
  | cons x xs ih =>
    cases xs with
    | nil => rfl
    | cons y ys => rw [minL_cons_cons, ih, List.min?_cons (x := x), List.min?_cons (x := y)]; rfl

theorem minL_spec {l : List Nat} (h : l ≠ []) : minL l ∈ l ∧ ∀ a ∈ l, minL l ≤ a := by
  cases hm : l.min? with
  | none => exact absurd (List.min?_eq_none_iff.1 hm) h
  | some m => rw [minL_eq_min?, hm]; exact List.min?_eq_some_iff.1 hm

theorem minL_le {l : List Nat} {a : Nat} (h : a ∈ l) : minL l ≤ a :=
  (minL_spec (List.ne_nil_of_mem h)).2 a h

theorem minL_mem {l : List Nat} (h : l ≠ []) : minL l ∈ l := (minL_spec h).1

theorem exists_mem_minL_map {β : Type} (f : β → Nat) {l : List β} (h : l ≠ []) : ∃ x ∈ l, f x = minL (l.map f) :=
  let ⟨x, hx, e⟩ := List.mem_map.1 (minL_mem (l := l.map f) (by simpa using h)); ⟨x, hx, e⟩

theorem exists_mem_maxL_map {β : Type} (f : β → Nat) {l : List β} (h : l ≠ []) : ∃ x ∈ l, f x = maxL (l.map f) :=
  let ⟨x, hx, e⟩ := List.mem_map.1 (maxL_mem (l := l.map f) (by simpa using h)); ⟨x, hx, e⟩

theorem le_minL {l : List Nat} {m : Nat} (hne : l ≠ []) (h : ∀ a ∈ l, m ≤ a) : m ≤ minL l :=
  h _ (minL_mem hne)

theorem minL_eq_of_perm {a b : List Nat} (hp : a.Perm b) : minL a = minL b := by
  by_cases ha : a = []
  · subst ha; rw [hp.nil_eq]
  · have hb : b ≠ [] := fun hb => ha (by subst hb; exact hp.eq_nil)
    exact Nat.le_antisymm (minL_le (hp.mem_iff.2 (minL_mem hb))) (minL_le (hp.mem_iff.1 (minL_mem ha)))

theorem maxL_eq_of_perm {a b : List Nat} (hp : a.Perm b) : maxL a = maxL b := by
  by_cases ha : a = []
  · subst ha; rw [hp.nil_eq]
  · have hb : b ≠ [] := fun hb => ha (by subst hb; exact hp.eq_nil)
    exact Nat.le_antisymm (le_maxL (hp.mem_iff.1 (maxL_mem ha))) (le_maxL (hp.mem_iff.2 (maxL_mem hb)))

theorem gap_le_iff (l : List Nat) (M : Nat) :
    maxL l - minL l ≤ M ↔ ∀ a ∈ l, ∀ b ∈ l, a ≤ b + M := by
  by_cases hne : l = []
  · subst hne; simp [maxL, minL]
  · constructor
    · intro h a ha b hb
      have := le_maxL ha; have := minL_le hb; omega
    · intro h
      have := h _ (maxL_mem hne) _ (minL_mem hne); omega

theorem argmin_lt {l : List Nat} (h : l ≠ []) : argmin l < l.length :=
  List.idxOf_lt_length_of_mem (minL_mem h)

theorem getElem_argmin {l : List Nat} (h : argmin l < l.length) : l[argmin l] = minL l :=
  List.getElem_idxOf h

theorem minL_cons_of_le {m : Nat} {tl : List Nat} (hm : ∀ u ∈ tl, m ≤ u) : minL (m :: tl) = m :=
  Nat.le_antisymm (minL_le List.mem_cons_self)
    (le_minL (List.cons_ne_nil _ _) (List.forall_mem_cons.2 ⟨Nat.le_refl _, hm⟩))

/-- every objective depends on the multiset of the sums only -/
theorem value_eq_of_perm (o : Objective) {a b : List Nat} (hp : a.Perm b) :
    o.value a false = o.value b false := by
  cases o <;>
    simp only [Objective.value, Bool.false_eq_true, if_false, minL_eq_of_perm hp, maxL_eq_of_perm hp,
      sortAsc_congr hp]

theorem _root_.Prtpy.Obj.minL_le_maxL (sums : List Nat) : minL sums ≤ maxL sums := by
  cases sums with
  | nil => simp
  | cons x l =>
    exact Nat.le_trans (minL_le List.mem_cons_self) (le_maxL (l := x :: l) List.mem_cons_self)

/-! ### sorted lists of sums -/

/-- head of a sorted list is its minimum (also for `[]`: both are 0) -/
theorem _root_.Prtpy.Obj.headD_eq_minL {l : List Nat} (h : SortedAsc l) : l.headD 0 = minL l := by
  cases l with
  | nil => rfl
  | cons x xs => exact (minL_cons_of_le (List.pairwise_cons.1 h).1).symm

/-- last element of a sorted list is its maximum (also for `[]`: both are 0) -/
theorem _root_.Prtpy.Obj.lastD_eq_maxL {l : List Nat} (h : SortedAsc l) : lastD l 0 = maxL l := by
  induction l with
  | nil => rfl
  | cons x xs ih =>
    have hx := List.pairwise_cons.1 h
    cases xs with
    | nil => simp [lastD]
    | cons y ys =>
      have ih' := ih hx.2
      have e : lastD (x :: y :: ys) 0 = lastD (y :: ys) 0 := by
        simp [lastD, List.getLast?_cons_cons]
      have : x ≤ maxL (y :: ys) :=
        Nat.le_trans (hx.1 y List.mem_cons_self) (le_maxL List.mem_cons_self)
      rw [e, ih']
      simp only [Obj.maxL_cons] at this ⊢
      omega

theorem _root_.Prtpy.Obj.lastD_le_maxL (l : List Nat) : lastD l 0 ≤ maxL l := by
  unfold lastD
  cases h : l.getLast? with
  | none => simp
  | some x => exact le_maxL (List.mem_of_getLast? h)

/-! ## A split of the items into `k` lists, each with a property

`SplitInto P k vals`: the items can be split into `k` lists each of which satisfies `P`.  `Packable T k vals` is the case
`P l := sumL l ≤ T` (`LPT43.packable_iff_splitInto`), `LPT43.Covers W k vals` the case `P l := W ≤ sumL l`, bin completion's
`Packs` the former again (`BCProofs.packs_iff_bins`).  What holds for every `P` is proved here, once. -/

def SplitInto {β : Type} (P : List β → Prop) (k : Nat) (vals : List β) : Prop :=
  ∃ Q : List (List β), Q.length = k ∧ Q.flatten.Perm vals ∧ ∀ l ∈ Q, P l

namespace SplitInto
variable {β : Type} {P P' : List β → Prop} {k : Nat} {vals vals' : List β}

theorem perm (h : SplitInto P k vals) (hp : vals.Perm vals') : SplitInto P k vals' := by
  obtain ⟨Q, h1, h2, h3⟩ := h
  exact ⟨Q, h1, h2.trans hp, h3⟩

theorem mono (hP : ∀ l, P l → P' l) (h : SplitInto P k vals) : SplitInto P' k vals := by
  obtain ⟨Q, h1, h2, h3⟩ := h
  exact ⟨Q, h1, h2, fun l hl => hP l (h3 l hl)⟩

/-- taking the bin `b` out of a split `Q` -/
theorem erase_bin [DecidableEq β] {Q : List (List β)} (hk : Q.length = k) (hp : Q.flatten.Perm vals)
    (hQ : ∀ l ∈ Q, P l) {b : List β} (hb : b ∈ Q) :
    ∃ r k', k = k' + 1 ∧ vals.Perm (b ++ r) ∧ P b ∧ SplitInto P k' r := by
  have pQ := List.perm_cons_erase hb
  refine ⟨(Q.erase b).flatten, (Q.erase b).length, ?_, ?_, hQ b hb, Q.erase b, rfl, List.Perm.refl _,
    fun l hl => hQ l (List.mem_of_mem_erase hl)⟩
  · rw [← hk, pQ.length_eq]; rfl
  · exact hp.symm.trans (by simpa using pQ.flatten)

/-- the bin of `x`: its bin-mates `l`, and the rest `r` in the other bins -/
theorem bin_of [DecidableEq β] (hP : ∀ {l l' : List β}, l.Perm l' → P l → P l') {x : β}
    (h : SplitInto P k vals) (hx : x ∈ vals) :
    ∃ l r k', k = k' + 1 ∧ vals.Perm (x :: (l ++ r)) ∧ P (x :: l) ∧ SplitInto P k' r := by
  obtain ⟨Q, h1, h2, h3⟩ := h
  obtain ⟨b, hb, hxb⟩ := List.mem_flatten.1 (h2.mem_iff.2 hx)
  obtain ⟨r, k', e, p, hb', c⟩ := erase_bin h1 h2 h3 hb
  have pb := List.perm_cons_erase hxb
  exact ⟨b.erase x, r, k', e, p.trans (pb.append_right r), hP pb hb', c⟩

theorem cons {l : List β} (hl : P l) (h : SplitInto P k vals) : SplitInto P (k + 1) (l ++ vals) := by
  obtain ⟨Q, h1, h2, h3⟩ := h
  exact ⟨l :: Q, by simp [h1], by simpa using h2.append_left l, List.forall_mem_cons.2 ⟨hl, h3⟩⟩

/-- one item replaced by some items (none: the item goes; one: the item changes), if its bin allows it -/
theorem replace [DecidableEq β] (hP : ∀ {l l' : List β}, l.Perm l' → P l → P l') {x : β} {ys X : List β}
    (hxy : ∀ l, P (x :: l) → P (ys ++ l)) (h : SplitInto P k (x :: X)) : SplitInto P k (ys ++ X) := by
  obtain ⟨l, r, k', rfl, p, hl, hr⟩ := h.bin_of hP List.mem_cons_self
  refine ((hr.cons (hxy l hl)).perm ?_)
  rw [List.append_assoc]
  exact p.cons_inv.symm.append_left ys

end SplitInto

/-! ### weighing a split (outside the namespace: the property is a concrete bound on the weight of a list) -/

theorem SplitInto.le_weight {β : Type} {w : β → Nat} {c k : Nat} {vals : List β}
    (h : SplitInto (fun l => c ≤ binSum w l) k vals) : k * c ≤ binSum w vals := by
  obtain ⟨Q, rfl, hp, hQ⟩ := h
  rw [← binSum_perm w hp]
  exact length_mul_le_binSum_flatten hQ

/-- a sub-additive weight `w` of the values (capping at a level, a staircase): a bin weighs at least the weight of its
    sum -/
theorem sumL_subadd {w : Nat → Nat} (h0 : w 0 = 0) (hsub : ∀ a b, w (a + b) ≤ w a + w b) (g : List Nat) :
    w (sumL g) ≤ binSum w g := by
  induction g with
  | nil => exact Nat.le_of_eq h0
  | cons z g ih =>
    have := hsub z (sumL g)
    simp only [sumL, binSum_cons]
    omega

/-- The optimum's side of a weighting argument for covers (bin covering, max-min partitioning): under a sub-additive
    weight that gives every value `≥ W` at least `K`, `k` bins of sum `≥ W` weigh at least `k * K`. -/
theorem SplitInto.weight_ge {w : Nat → Nat} {W K k : Nat} {vals : List Nat} (h0 : w 0 = 0)
    (hsub : ∀ a b, w (a + b) ≤ w a + w b) (hfull : ∀ z, W ≤ z → K ≤ w z)
    (h : SplitInto (fun l => W ≤ sumL l) k vals) : k * K ≤ binSum w vals :=
  (h.mono fun g hg => Nat.le_trans (hfull _ hg) (sumL_subadd h0 hsub g)).le_weight

/-! ## `List.modify` -/

/-! ### one member of a list replaced or put back: `pre ++ a :: post` against `pre ++ a' :: post` and `pre ++ post` -/

theorem mem_append_cons_of_mem {β : Type} {p q : List β} {C M : β} (h : M ∈ p ++ q) : M ∈ p ++ C :: q := by
  rcases List.mem_append.1 h with h | h
  · exact List.mem_append_left _ h
  · exact List.mem_append_right _ (List.mem_cons_of_mem _ h)

theorem mem_append_of_mem_append_cons {β : Type} {p q : List β} {C M : β} (h : M ∈ p ++ C :: q) (hne : M ≠ C) :
    M ∈ p ++ q := by
  rcases List.mem_append.1 h with h | h
  · exact List.mem_append_left _ h
  · exact List.mem_append_right _ ((List.mem_cons.1 h).resolve_left hne)

theorem mem_replace {β : Type} {pre post : List β} {a a' M : β} (h : M ∈ pre ++ a' :: post) :
    M = a' ∨ M ∈ pre ++ a :: post := by
  simp only [List.mem_append, List.mem_cons] at h ⊢
  rcases h with h | h | h
  · exact Or.inr (Or.inl h)
  · exact Or.inl h
  · exact Or.inr (Or.inr (Or.inr h))

theorem pairwise_replace {β : Type} {R : β → β → Prop} {pre post : List β} {a a' : β}
    (h : (pre ++ a :: post).Pairwise R) (h1 : ∀ p ∈ pre, R p a → R p a') (h2 : ∀ q ∈ post, R a q → R a' q) :
    (pre ++ a' :: post).Pairwise R := by
  rw [List.pairwise_append, List.pairwise_cons] at h ⊢
  obtain ⟨hp, ⟨ha, hq⟩, hx⟩ := h
  refine ⟨hp, ⟨fun q hq' => h2 q hq' (ha q hq'), hq⟩, fun p hp' c hc => ?_⟩
  rcases List.mem_cons.1 hc with rfl | hc
  · exact h1 p hp' (hx p hp' a List.mem_cons_self)
  · exact hx p hp' c (List.mem_cons_of_mem _ hc)

/-- an item appended to one member of a list of lists -/
theorem flatten_snoc_at_perm (pre post : List (List α)) (L : List α) (x : α) :
    (pre ++ (L ++ [x]) :: post).flatten.Perm (x :: (pre ++ L :: post).flatten) := by
  simp only [List.flatten_append, List.flatten_cons, List.append_assoc, List.singleton_append]
  rw [← List.append_assoc]
  exact List.perm_middle.trans (List.Perm.cons x (by simp))

theorem map_modify {β γ : Type} (h : β → γ) (f : β → β) (g : γ → γ) (hfg : ∀ a, h (f a) = g (h a))
    (l : List β) (j : Nat) : (l.modify j f).map h = (l.map h).modify j g := by
  induction l generalizing j with
  | nil => simp
  | cons a t ih =>
    cases j with
    | zero => simp only [List.modify_zero_cons, List.map_cons, hfg]
    | succ j => simp only [List.modify_succ_cons, List.map_cons, ih]

theorem map_binSum_modify (v : α → Nat) (ls : List (List α)) (i : Nat) (x : α) :
    (ls.modify i (· ++ [x])).map (binSum v) = (ls.map (binSum v)).modify i (· + v x) :=
  map_modify (binSum v) (· ++ [x]) (· + v x) (fun a => binSum_concat v a x) ls i

theorem mem_modify {β : Type} {l : List β} {i : Nat} {f : β → β} {a : β} (h : a ∈ l.modify i f) :
    a ∈ l ∨ ∃ hi : i < l.length, a = f l[i] := by
  obtain ⟨j, hj, rfl⟩ := List.mem_iff_getElem.1 h
  rw [List.getElem_modify]
  have hj' : j < l.length := by simpa using hj
  split
  · rename_i hij; subst hij; exact Or.inr ⟨hj', rfl⟩
  · exact Or.inl (List.getElem_mem hj')

theorem modify_length_append_cons {β : Type} (f : β → β) (l : List β) (a : β) (r : List β) :
    (l ++ a :: r).modify l.length f = l ++ f a :: r := by
  induction l with
  | nil => rfl
  | cons x xs ih => simp only [List.cons_append, List.length_cons, List.modify_succ_cons, ih]

theorem modify_length_append {β : Type} (l : List β) (a : β) (f : β → β) :
    (l ++ [a]).modify l.length f = l ++ [f a] :=
  modify_length_append_cons f l a []

theorem modify_perm_cons_eraseIdx {β : Type} (f : β → β) : ∀ (l : List β) (i : Nat) (h : i < l.length),
    (l.modify i f).Perm (f l[i] :: l.eraseIdx i)
  | [], _, h => by simp at h
  | a :: l, 0, _ => List.Perm.refl _
  | a :: l, i + 1, h => by
    have ih := modify_perm_cons_eraseIdx f l i (by simpa using h)
    simp only [List.getElem_cons_succ, List.eraseIdx_cons_succ, List.modify_succ_cons]
    exact (ih.cons a).trans (List.Perm.swap _ _ _)

theorem perm_getElem_cons_eraseIdx {β : Type} (l : List β) (i : Nat) (h : i < l.length) :
    l.Perm (l[i] :: l.eraseIdx i) := by
  simpa only [List.modify_id, id] using modify_perm_cons_eraseIdx id l i h

theorem removeAt_perm (h : List α) (i : Nat) (hi : i < h.length) :
    h.Perm (h[i] :: removeAt h i) := by
  rw [removeAt_eq_eraseIdx]; exact perm_getElem_cons_eraseIdx h i hi

theorem flatten_perm_getElem_eraseIdx {β : Type} (Ls : List (List β)) (j : Nat) (h : j < Ls.length) :
    Ls.flatten.Perm (Ls[j] ++ (Ls.eraseIdx j).flatten) :=
  (perm_getElem_cons_eraseIdx Ls j h).flatten

theorem modify_comm_add (s : List Nat) (i j a b : Nat) :
    (s.modify i (· + a)).modify j (· + b) = (s.modify j (· + b)).modify i (· + a) := by
  apply List.ext_getElem
  · simp
  · intro n h1 h2
    simp only [List.getElem_modify]
    split <;> split <;> omega

theorem modify_add_zero (l : List Nat) (i : Nat) : l.modify i (· + 0) = l :=
  List.modify_id i l

/-- changing, in two lists with the same elements, one occurrence of the same value in the same way -/
theorem modify_perm_modify {β : Type} {s t : List β} (hp : s.Perm t) {i j : Nat} (hi : i < s.length)
    (hj : j < t.length) (e : s[i] = t[j]) (f : β → β) : (s.modify i f).Perm (t.modify j f) := by
  have h1 := perm_getElem_cons_eraseIdx s i hi
  have h2 := perm_getElem_cons_eraseIdx t j hj
  have h3 : (s.eraseIdx i).Perm (t.eraseIdx j) := by
    have := (h1.symm.trans hp).trans h2
    rw [e] at this
    exact this.cons_inv
  refine (modify_perm_cons_eraseIdx f s i hi).trans (List.Perm.trans ?_ (modify_perm_cons_eraseIdx f t j hj).symm)
  rw [e]
  exact h3.cons _

/-- a permutation carries a change of one entry to a change of one entry -/
theorem exists_modify_perm {β : Type} (f : β → β) {l l' : List β} (h : l.Perm l') :
    ∀ i, i < l.length → ∃ j, j < l'.length ∧ (l.modify i f).Perm (l'.modify j f) := by
  induction h with
  | nil => intro i hi; exact absurd hi (Nat.not_lt_zero _)
  | cons x hp ih =>
    intro i hi
    cases i with
    | zero => exact ⟨0, Nat.succ_pos _, by simp only [List.modify_zero_cons]; exact hp.cons _⟩
    | succ i =>
      obtain ⟨j, hj, hperm⟩ := ih i (Nat.lt_of_succ_lt_succ hi)
      exact ⟨j + 1, Nat.succ_lt_succ hj, by simp only [List.modify_succ_cons]; exact hperm.cons _⟩
  | swap x y l =>
    intro i hi
    match i, hi with
    | 0, _ =>
      exact ⟨1, by simp, by
        simp only [List.modify_zero_cons, List.modify_succ_cons]; exact List.Perm.swap _ _ _⟩
    | 1, _ =>
      exact ⟨0, by simp, by
        simp only [List.modify_zero_cons, List.modify_succ_cons]; exact List.Perm.swap _ _ _⟩
    | i + 2, hi =>
      exact ⟨i + 2, by simpa using hi, by
        simp only [List.modify_succ_cons]; exact List.Perm.swap _ _ _⟩
  | trans _ _ ih1 ih2 =>
    intro i hi
    obtain ⟨j, hj, h1⟩ := ih1 i hi
    obtain ⟨k, hk, h2⟩ := ih2 j hj
    exact ⟨k, hk, h1.trans h2⟩

/-- changing one entry of the sorted copy and sorting again = changing some entry and sorting -/
theorem sort_modify_sort_iff (f : Nat → Nat) (s st : List Nat) :
    (∃ i, i < s.length ∧ st = sortAsc id ((sortAsc id s).modify i f)) ↔
      ∃ j, j < s.length ∧ st = sortAsc id (s.modify j f) := by
  constructor
  · rintro ⟨i, hi, rfl⟩
    obtain ⟨j, hj, hp⟩ := exists_modify_perm f (sortAsc_perm id s) i (by rwa [sortAsc_length])
    exact ⟨j, hj, sortAsc_congr hp⟩
  · rintro ⟨j, hj, rfl⟩
    obtain ⟨i, hi, hp⟩ := exists_modify_perm f (sortAsc_perm id s).symm j hj
    exact ⟨i, by rwa [sortAsc_length] at hi, sortAsc_congr hp⟩

theorem sumL_modify (a : Nat) (s : List Nat) (i : Nat) (hi : i < s.length) :
    sumL (s.modify i (· + a)) = sumL s + a := by
  induction s generalizing i with
  | nil => simp at hi
  | cons t s ih =>
    cases i with
    | zero => simp only [List.modify_zero_cons, sumL]; omega
    | succ i =>
      simp only [List.modify_succ_cons, sumL, ih i (by simpa using hi)]; omega

theorem maxL_modify_add (s : List Nat) (i a : Nat) (hi : i < s.length) :
    maxL (s.modify i (· + a)) = max (maxL s) (s[i] + a) := by
  induction s generalizing i with
  | nil => simp at hi
  | cons x xs ih =>
    cases i with
    | zero => simp only [List.modify_zero_cons, maxL, List.getElem_cons_zero]; omega
    | succ i =>
      simp only [List.modify_succ_cons, maxL, List.getElem_cons_succ]
      rw [ih i (by simpa using hi)]; omega

/-! ## `Bins.add` -/

section BinsAdd
variable (v : α → Nat)

@[simp] theorem add_sums (b : Bins α) (x : α) (i : Nat) :
    (b.add v x i).sums = b.sums.modify i (· + v x) := rfl

@[simp] theorem add_lists (b : Bins α) (x : α) (i : Nat) :
    (b.add v x i).lists = b.lists.modify i (· ++ [x]) := rfl

theorem add_sums_length (b : Bins α) (x : α) (i : Nat) :
    (b.add v x i).sums.length = b.sums.length := by simp

theorem add_lists_length (b : Bins α) (x : α) (i : Nat) :
    (b.add v x i).lists.length = b.lists.length := by simp

theorem add_flat_perm (b : Bins α) (x : α) (i : Nat) (hi : i < b.lists.length) :
    (b.add v x i).lists.flatten.Perm (x :: b.lists.flatten) := by
  rw [add_lists, List.modify_eq_take_cons_drop hi]
  conv => rhs; rw [← List.take_append_drop i b.lists, List.drop_eq_getElem_cons hi]
  exact flatten_snoc_at_perm _ _ _ _

theorem add_consistent (b : Bins α) (x : α) (i : Nat) (h : b.Consistent v) :
    (b.add v x i).Consistent v := by
  unfold Bins.Consistent at *
  simp only [add_sums, add_lists, map_binSum_modify, h]

theorem consistent_length {b : Bins α} (h : b.Consistent v) : b.sums.length = b.lists.length := by
  unfold Bins.Consistent at h; rw [h]; simp

theorem new_consistent (k : Nat) : (Bins.new k : Bins α).Consistent v := by
  simp [Bins.Consistent, Bins.new, binSum_nil]

theorem new_flat (k : Nat) : (Bins.new k : Bins α).lists.flatten = [] := by
  simp [Bins.new]

@[simp] theorem new_lists_length (k : Nat) : (Bins.new k : Bins α).lists.length = k := by
  simp [Bins.new]

@[simp] theorem new_sums_length (k : Nat) : (Bins.new k : Bins α).sums.length = k := by
  simp [Bins.new]

end BinsAdd

/-! ## `Bins.sortAsc` -/

section BinsSort
variable (v : α → Nat)

theorem sortAsc_sums_perm (b : Bins α) (h : b.sums.length = b.lists.length) :
    b.sortAsc.sums.Perm b.sums := by
  have := (sortAsc_perm (fun p : Nat × List α => p.1) (b.sums.zip b.lists)).map Prod.fst
  rw [List.map_fst_zip (by omega)] at this
  exact this

theorem sortAsc_lists_perm (b : Bins α) (h : b.sums.length = b.lists.length) :
    b.sortAsc.lists.Perm b.lists := by
  have := (sortAsc_perm (fun p : Nat × List α => p.1) (b.sums.zip b.lists)).map Prod.snd
  rw [List.map_snd_zip (by omega)] at this
  exact this

theorem sortAsc_flat_perm (b : Bins α) (h : b.sums.length = b.lists.length) :
    b.sortAsc.lists.flatten.Perm b.lists.flatten :=
  (sortAsc_lists_perm b h).flatten

theorem sortAsc_lists_length (b : Bins α) (h : b.sums.length = b.lists.length) :
    b.sortAsc.lists.length = b.lists.length :=
  (sortAsc_lists_perm b h).length_eq

theorem sortAsc_sums_sorted (b : Bins α) : b.sortAsc.sums.Pairwise (· ≤ ·) := by
  have := sortAsc_sorted (fun p : Nat × List α => p.1) (b.sums.zip b.lists)
  simp only [Bins.sortAsc]
  exact List.pairwise_map.2 this

theorem sortAsc_consistent (b : Bins α) (h : b.Consistent v) : b.sortAsc.Consistent v := by
  unfold Bins.Consistent at *
  simp only [Bins.sortAsc, List.map_map]
  apply List.map_congr_left
  intro p hp
  have hp' := (sortAsc_perm (fun p : Nat × List α => p.1) (b.sums.zip b.lists)).mem_iff.1 hp
  rw [h, List.zip_map_left, List.mem_map] at hp'
  obtain ⟨⟨q1, q2⟩, hq, rfl⟩ := hp'
  have := List.of_mem_zip hq
  simp only [Prod.map, id, Function.comp]
  obtain ⟨j, hj, hje⟩ := List.mem_iff_getElem.1 hq
  simp only [List.getElem_zip, Prod.mk.injEq] at hje
  rw [← hje.1, ← hje.2]

end BinsSort

/-! ## `IsPartition`: how a partition is built (the empty one, an item added, the items permuted, the bins sorted); its sums -/

theorem valid_new (v : α → Nat) (k : Nat) : IsPartition v [] k (Bins.new k : Bins α) :=
  ⟨by rw [new_flat], new_lists_length k, new_consistent v k⟩

theorem valid_add (v : α → Nat) {k : Nat} {b : Bins α} {done : List α} (h : IsPartition v done k b) (x : α) (i : Nat)
    (hi : i < k) : IsPartition v (done ++ [x]) k (b.add v x i) := by
  obtain ⟨h1, h2, h3⟩ := h
  refine ⟨?_, by rw [add_lists_length, h2], add_consistent v b x i h3⟩
  refine (add_flat_perm v b x i (by omega)).trans ?_
  exact (List.Perm.cons x h1).trans (List.perm_append_singleton x done).symm

theorem valid_isPartition (v : α → Nat) {k : Nat} {b : Bins α} {done items : List α} (h : IsPartition v done k b)
    (hp : done.Perm items) : IsPartition v items k b :=
  ⟨h.1.trans hp, h.2.1, h.2.2⟩

theorem isPartition_sortAsc (v : α → Nat) {k : Nat} {b : Bins α} {items : List α} (h : IsPartition v items k b) :
    IsPartition v items k b.sortAsc := by
  obtain ⟨h1, h2, h3⟩ := h
  have hl := consistent_length v h3
  exact ⟨(sortAsc_flat_perm b hl).trans h1, by rw [sortAsc_lists_length b hl, h2], sortAsc_consistent v b h3⟩

theorem isPartition_sumL {v : α → Nat} {items : List α} {k : Nat} {b : Bins α}
    (h : IsPartition v items k b) : sumL b.sums = binSum v items ∧ b.sums.length = k := by
  obtain ⟨h1, h2, h3⟩ := h
  rw [h3, sumL_map_binSum, binSum_perm v h1]
  simp [h2]

/-! ## `sumsOf` and `IsAssignment` -/

theorem sumsOf_length (k : Nat) (vals asg : List Nat) : (sumsOf k vals asg).length = k := by
  unfold sumsOf
  generalize vals.zip asg = ps
  suffices h : ∀ s : List Nat, (ps.foldl (fun s (p : Nat × Nat) => s.modify p.2 (· + p.1)) s).length = s.length by
    rw [h, List.length_replicate]
  induction ps with
  | nil => intro s; rfl
  | cons p ps ih => intro s; rw [List.foldl_cons, ih, List.length_modify]

theorem sumsOf_nil (k : Nat) (asg : List Nat) : sumsOf k [] asg = List.replicate k 0 := by
  simp [sumsOf]

theorem sumsOf_snoc (k : Nat) {p asg : List Nat} (x j : Nat) (h : asg.length = p.length) :
    sumsOf k (p ++ [x]) (asg ++ [j]) = (sumsOf k p asg).modify j (· + x) := by
  simp only [sumsOf, List.zip_append h.symm, List.foldl_append, List.zip_cons_cons, List.zip_nil_right,
    List.foldl_cons, List.foldl_nil]

theorem isAssignment_nil_iff {k : Nat} {asg : List Nat} : IsAssignment k 0 asg ↔ asg = [] := by
  simp only [IsAssignment, List.length_eq_zero_iff]
  constructor
  · exact fun h => h.1
  · rintro rfl; simp

theorem isAssignment_snoc {k n : Nat} {asg : List Nat} :
    IsAssignment k (n + 1) asg ↔ ∃ asg' j, asg = asg' ++ [j] ∧ IsAssignment k n asg' ∧ j < k := by
  constructor
  · rintro ⟨hl, hb⟩
    rcases List.eq_nil_or_concat asg with rfl | ⟨asg', j, rfl⟩
    · simp at hl
    · simp only [List.concat_eq_append] at hl hb ⊢
      refine ⟨asg', j, rfl, ⟨by simpa using hl, fun a ha => hb a (by simp [ha])⟩, hb j (by simp)⟩
  · rintro ⟨asg', j, rfl, ⟨hl, hb⟩, hj⟩
    refine ⟨by simp [hl], ?_⟩
    intro a ha
    rcases List.mem_append.1 ha with ha | ha
    · exact hb a ha
    · simp at ha; omega

theorem sumL_sumsOf {k : Nat} {vals asg : List Nat} (h : IsAssignment k vals.length asg) :
    sumL (sumsOf k vals asg) = sumL vals := by
  induction vals using snoc_induction generalizing asg with
  | nil => rw [sumsOf_nil, sumL_replicate]; rfl
  | snoc p x ih =>
    rw [List.length_append] at h
    obtain ⟨asg', j, rfl, h', hj⟩ := isAssignment_snoc.1 h
    rw [sumsOf_snoc k x j h'.1, sumL_modify x _ j (by rwa [sumsOf_length]), ih h', sumL_append]
    rfl

/-! ## The least element of a list, as the oracles compute it -/

/-- `xs.foldl min x` is how `optValue`, `dpBestValue` and `optBalanced` take the least element of `x :: xs`; it is
    core's `List.min?` (`List.min?_cons'`), so core's characterisation applies.  (`Oracle.best_eq_some_iff` is the form
    with the `match … | [] => none | x :: xs => some (xs.foldl min x)` around it.) -/
theorem foldl_min_eq_iff {β : Type} [Min β] [LE β] [Std.IsLinearOrder β] [Std.LawfulOrderMin β] (x : β)
    (xs : List β) (m : β) : xs.foldl min x = m ↔ m ∈ x :: xs ∧ ∀ y ∈ x :: xs, m ≤ y := by
  rw [← List.min?_eq_some_iff, List.min?_cons', Option.some.injEq]

/-! ## Layered search over sum vectors -/

/-- A search keeps, item by item, a collection of states (`mem st cur`: the state `st` occurs in `cur`);
    `layer x cur` holds the successors (`next x`) of the states in `cur`.  Every state stands for a sum vector
    (`rep s`), and the successors of `rep s` are the `rep`s of the `ok` vectors that arise from `s` by putting `x`
    into one of the `k` bins.  If `ok` passes from a vector to the one before the last item, the last layer holds
    exactly the `rep`s of the `ok` sum vectors of all assignments.  (The collections are lists of states for
    `oracleFinal`, `packableB` and `coverableB`, lists of records with `mem` = "is the state of a record" for
    `dpFinal`.) -/
theorem mem_foldl_layer {σ C : Type} {k : Nat} {mem : σ → C → Prop} {layer : Nat → C → C}
    {next : Nat → σ → σ → Prop} {rep : List Nat → σ} {ok : List Nat → Prop} {init : C}
    (hlayer : ∀ x cur st, mem st (layer x cur) ↔ ∃ st0, mem st0 cur ∧ next x st0 st)
    (hnext : ∀ x s st, s.length = k →
      (next x (rep s) st ↔ ∃ j, j < k ∧ ok (s.modify j (· + x)) ∧ st = rep (s.modify j (· + x))))
    (hok : ∀ x s j, ok (s.modify j (· + x)) → ok s) (h0 : ok (List.replicate k 0))
    (hinit : ∀ st, mem st init ↔ st = rep (List.replicate k 0)) (p : List Nat) (st : σ) :
    mem st (p.foldl (fun cur x => layer x cur) init) ↔
      ∃ asg, IsAssignment k p.length asg ∧ ok (sumsOf k p asg) ∧ st = rep (sumsOf k p asg) := by
  induction p using snoc_induction generalizing st with
  | nil =>
    simp only [List.foldl_nil, hinit, List.length_nil, isAssignment_nil_iff]
    constructor
    · rintro rfl; exact ⟨[], rfl, by rwa [sumsOf_nil], by rw [sumsOf_nil]⟩
    · rintro ⟨_, rfl, _, rfl⟩; rw [sumsOf_nil]
  | snoc p x ih =>
    rw [List.foldl_append, List.foldl_cons, List.foldl_nil, hlayer, List.length_append,
      List.length_singleton]
    constructor
    · rintro ⟨st0, hst0, hn⟩
      obtain ⟨asg, hasg, _, rfl⟩ := (ih st0).1 hst0
      obtain ⟨j, hj, hokj, rfl⟩ := (hnext x _ st (sumsOf_length k p asg)).1 hn
      rw [← sumsOf_snoc k x j hasg.1] at hokj ⊢
      exact ⟨asg ++ [j], isAssignment_snoc.2 ⟨asg, j, rfl, hasg, hj⟩, hokj, rfl⟩
    · rintro ⟨asg, hasg, hokf, rfl⟩
      obtain ⟨asg', j, rfl, hasg', hj⟩ := isAssignment_snoc.1 hasg
      rw [sumsOf_snoc k x j hasg'.1] at hokf ⊢
      exact ⟨rep (sumsOf k p asg'), (ih _).2 ⟨asg', hasg', hok x _ j hokf, rfl⟩,
        (hnext x _ _ (sumsOf_length k p asg')).2 ⟨j, hj, hokf, rfl⟩⟩

end Prtpy.Part

/-! ## Multiplying every entry of a list by `c`

Namespace `Prtpy.Scale`: the base facts of the scaling theorems (Sim.lean, SpecSym.lean, Scale.lean). -/

namespace Prtpy.Scale

theorem minL_map_mul (c : Nat) (l : List Nat) : minL (l.map (c * ·)) = c * minL l := by
  induction l with
  | nil => simp [minL]
  | cons x xs ih =>
    cases xs with
    | nil => simp [minL]
    | cons y ys =>
      rw [List.map_cons, List.map_cons, Part.minL_cons_cons, ← List.map_cons, ih, Part.minL_cons_cons,
        Nat.mul_min_mul_left]

theorem maxL_map_mul (c : Nat) (l : List Nat) : maxL (l.map (c * ·)) = c * maxL l := by
  induction l with
  | nil => simp [maxL]
  | cons x xs ih => simp only [List.map_cons, maxL, ih, Nat.mul_max_mul_left]

theorem sumL_map_mul (c : Nat) (l : List Nat) : sumL (l.map (c * ·)) = c * sumL l :=
  (Part.binSum_mul_left c id l).trans (congrArg (c * ·) (Part.binSum_id l))

theorem modify_map_mul (c : Nat) (s : List Nat) (i v : Nat) :
    (s.map (c * ·)).modify i (· + c * v) = (s.modify i (· + v)).map (c * ·) :=
  (Part.map_modify (c * ·) (· + v) (· + c * v) (fun a => Nat.mul_add c a v) s i).symm

theorem idxOf_map_mul {c : Nat} (hc : 0 < c) (a : Nat) (l : List Nat) :
    (l.map (c * ·)).idxOf (c * a) = l.idxOf a := by
  induction l with
  | nil => simp
  | cons x xs ih =>
    simp only [List.map_cons, List.idxOf_cons, ih]
    have : (c * x == c * a) = (x == a) := by
      rw [Bool.eq_iff_iff]; simp only [beq_iff_eq]
      exact ⟨fun h => Nat.eq_of_mul_eq_mul_left hc h, fun h => by rw [h]⟩
    rw [this]

theorem argmin_map_mul {c : Nat} (hc : 0 < c) (l : List Nat) : argmin (l.map (c * ·)) = argmin l := by
  unfold argmin
  rw [minL_map_mul, idxOf_map_mul hc]

theorem lastD_map_mul (c : Nat) (l : List Nat) : lastD (l.map (c * ·)) 0 = c * lastD l 0 := by
  unfold lastD
  rw [List.getLast?_map]
  cases l.getLast? <;> simp

theorem headD_map_mul (c : Nat) (l : List Nat) : (l.map (c * ·)).headD 0 = c * l.headD 0 := by
  cases l <;> simp

end Prtpy.Scale
