/-
  PrtpyProofs.AllComb — property C13c for the contents manager
  (`BinnerKeepingContents.all_combinations`): the bin-combination enumerator yields every distinct way of
  pairing the bins of two partial partitions exactly once.

  Canonical form of the pairing given by `perm` (bin `perm[i]` of `b1` is merged with bin `i` of `b2`):
  every merged bin has its items sorted by name, then the bins are sorted (stably) by sum.  The yields are
  exactly these canonical forms, de-duplicated on their contents (`allCombContents_sound`, `_complete`, `_nodup`),
  and they are consistent `k`-bin arrays holding the items of `b1` and `b2` (`allCombContents_consistent`).
-/
import PrtpyProofs.Part
import PrtpyProofs.CKK
import PrtpyProofs.BinsOps
open Prtpy

namespace Prtpy.AllComb

variable {α : Type}

/-- canonical form of the pairing `perm` for the contents manager -/
def canonC (nm : α → Nat) (b1 b2 : Bins α) (perm : List Nat) : Bins α :=
  (Bins.mk (pairBy b1 b2 perm).sums ((pairBy b1 b2 perm).lists.map (sortAsc nm))).sortAsc

/-! ## The de-duplication loop -/

section Loop
variable [BEq α]

theorem aux_nil (nm : α → Nat) (b1 b2 : Bins α) (acc : List (Bins α)) :
    allCombContentsAux nm b1 b2 [] acc = acc.reverse := rfl

theorem aux_cons (nm : α → Nat) (b1 b2 : Bins α) (perm : List Nat) (rest : List (List Nat))
    (acc : List (Bins α)) :
    allCombContentsAux nm b1 b2 (perm :: rest) acc =
      if acc.any (fun o => o.lists == (canonC nm b1 b2 perm).lists) then allCombContentsAux nm b1 b2 rest acc
      else allCombContentsAux nm b1 b2 rest (canonC nm b1 b2 perm :: acc) := rfl

/-- whatever `==` is: the loop returns what it had accumulated, then some of the canonical pairings, in order -/
theorem aux_sublist (nm : α → Nat) (b1 b2 : Bins α) (perms : List (List Nat)) (acc : List (Bins α)) :
    ∃ l', l'.Sublist (perms.map (canonC nm b1 b2)) ∧ allCombContentsAux nm b1 b2 perms acc = acc.reverse ++ l' := by
  induction perms generalizing acc with
  | nil => exact ⟨[], List.Sublist.refl _, by simp [aux_nil]⟩
  | cons perm rest ih =>
    rw [aux_cons]
    split
    · obtain ⟨l', hs, he⟩ := ih acc
      exact ⟨l', hs.cons _, he⟩
    · obtain ⟨l', hs, he⟩ := ih (canonC nm b1 b2 perm :: acc)
      exact ⟨canonC nm b1 b2 perm :: l', hs.cons_cons _, by rw [he]; simp⟩

theorem _root_.Prtpy.CKKF.allCombContentsAux_eq_firsts [LawfulBEq α] (nm : α → Nat) (b1 b2 : Bins α)
    (perms : List (List Nat)) (acc : List (Bins α)) :
    allCombContentsAux nm b1 b2 perms acc =
      acc.reverse ++ CKKF.firsts (fun b : Bins α => b.lists) (perms.map (canonC nm b1 b2)) (acc.map (·.lists)) := by
  induction perms generalizing acc with
  | nil => simp [aux_nil, CKKF.firsts]
  | cons perm rest ih =>
    rw [aux_cons]
    simp only [List.map_cons, CKKF.firsts]
    have e : acc.any (fun o => o.lists == (canonC nm b1 b2 perm).lists)
        = (acc.map (·.lists)).contains (canonC nm b1 b2 perm).lists := by
      rw [Bool.eq_iff_iff, List.any_eq_true, List.contains_iff_mem, List.mem_map]
      simp only [beq_iff_eq]
    rw [e]
    split
    · exact ih acc
    · rw [ih]
      simp

omit [BEq α] in
theorem _root_.Prtpy.CKKF.allCombContents_eq_firsts (nm : α → Nat) [BEq α] [LawfulBEq α] (b1 b2 : Bins α) :
    allCombContents nm b1 b2 =
      CKKF.firsts (fun b : Bins α => b.lists) ((lexPerms (List.range b1.sums.length)).map (AllComb.canonC nm b1 b2)) [] := by
  unfold allCombContents
  rw [CKKF.allCombContentsAux_eq_firsts]
  simp

/-- C13c, soundness: every yielded bins-array is the canonical form of the pairing given by some
    permutation of the `k` bin indices. -/
theorem allCombContents_sound (nm : α → Nat) {b1 b2 : Bins α} {k : Nat} (hk : b1.sums.length = k)
    {nb : Bins α} (h : nb ∈ allCombContents nm b1 b2) :
    ∃ perm : List Nat, perm.Perm (List.range k) ∧ nb = canonC nm b1 b2 perm := by
  obtain ⟨l', hs, he⟩ := aux_sublist nm b1 b2 (lexPerms (List.range b1.sums.length)) []
  rw [allCombContents, he] at h
  obtain ⟨perm, hp, rfl⟩ := List.mem_map.1 (hs.subset (by simpa using h))
  exact ⟨perm, hk ▸ CKKProofs.lexPerms_perm hp, rfl⟩

/-- C13c, completeness: the canonical contents of every pairing are yielded (the yield itself may be the canonical
    form of an earlier pairing with the same contents). -/
theorem allCombContents_complete [LawfulBEq α] (nm : α → Nat) {b1 b2 : Bins α} {k : Nat} (hk : b1.sums.length = k)
    {perm : List Nat} (h : perm.Perm (List.range k)) :
    ∃ nb ∈ allCombContents nm b1 b2, nb.lists = (canonC nm b1 b2 perm).lists := by
  rw [CKKF.allCombContents_eq_firsts]
  exact CKKF.firsts_complete _ _ []
    (List.mem_map_of_mem (f := canonC nm b1 b2) (CKKProofs.lexPerms_complete (hk ▸ h))) List.not_mem_nil

/-- C13c, exactly once: the yields have pairwise different contents. -/
theorem allCombContents_nodup [LawfulBEq α] (nm : α → Nat) (b1 b2 : Bins α) :
    (allCombContents nm b1 b2).Pairwise (fun a b => a.lists ≠ b.lists) := by
  rw [CKKF.allCombContents_eq_firsts]
  exact (CKKF.firsts_pairwise _ _ []).1

end Loop

/-! ## Structure of a canonical pairing -/

theorem pairBy_sums_eq (b1 b2 : Bins α) (perm : List Nat) :
    (pairBy b1 b2 perm).sums = List.zipWith (· + ·) (perm.map (b1.sums.getD · 0)) b2.sums := by
  simp only [pairBy, List.zipWith_map_left]

theorem pairBy_lists_eq (b1 b2 : Bins α) (perm : List Nat) :
    (pairBy b1 b2 perm).lists = List.zipWith (· ++ ·) (perm.map (b1.lists.getD · [])) b2.lists := by
  simp only [pairBy, List.zipWith_map_left]

theorem pairBy_consistent (v : α → Nat) {b1 b2 : Bins α} (h1 : b1.Consistent v) (h2 : b2.Consistent v)
    (perm : List Nat) : (pairBy b1 b2 perm).Consistent v := by
  unfold Bins.Consistent at *
  rw [pairBy_sums_eq, pairBy_lists_eq, h1, h2, ← Part.zipWith_map_binSum, List.map_map]
  congr 1
  apply List.map_congr_left
  intro p _
  exact BinsOps.getD_map_binSum v b1.lists p

theorem map_getD_perm {β : Type} (l : List β) (d : β) {perm : List Nat}
    (h : perm.Perm (List.range l.length)) : (perm.map (l.getD · d)).Perm l := by
  have := h.map (l.getD · d)
  rwa [Part.map_getD_range] at this

theorem pairBy_lists_length {b1 b2 : Bins α} {k : Nat} (h2 : b2.lists.length = k) {perm : List Nat}
    (hp : perm.length = k) : (pairBy b1 b2 perm).lists.length = k := by
  simp only [pairBy, List.length_zipWith]; omega

theorem pairBy_flat_perm {b1 b2 : Bins α} {k : Nat} (h1 : b1.lists.length = k) (h2 : b2.lists.length = k)
    {perm : List Nat} (hp : perm.Perm (List.range k)) :
    (pairBy b1 b2 perm).lists.flatten.Perm (b1.lists.flatten ++ b2.lists.flatten) := by
  have hlen : perm.length = k := by simpa using hp.length_eq
  rw [pairBy_lists_eq]
  refine (Part.zipWith_append_flatten_perm _ _ (by simp; omega)).trans ?_
  exact List.Perm.append_right _ (map_getD_perm b1.lists [] (h1 ▸ hp)).flatten

theorem sortNames_consistent (v nm : α → Nat) {b : Bins α} (h : b.Consistent v) :
    (Bins.mk b.sums (b.lists.map (sortAsc nm))).Consistent v := by
  unfold Bins.Consistent at *
  simp only [List.map_map]
  rw [h]
  apply List.map_congr_left
  intro l _
  exact (Part.binSum_perm v (Part.sortAsc_perm nm l)).symm

/-- the canonical form of a pairing: consistent, `k` bins, ascending sums, all the items -/
theorem canonC_spec (v nm : α → Nat) {b1 b2 : Bins α} {k : Nat}
    (h1 : b1.Consistent v) (h2 : b2.Consistent v) (hl1 : b1.lists.length = k) (hl2 : b2.lists.length = k)
    {perm : List Nat} (hp : perm.Perm (List.range k)) :
    (canonC nm b1 b2 perm).Consistent v ∧ (canonC nm b1 b2 perm).sums.length = k ∧
    (canonC nm b1 b2 perm).lists.length = k ∧
    (canonC nm b1 b2 perm).sums.Pairwise (· ≤ ·) ∧
    (canonC nm b1 b2 perm).lists.flatten.Perm (b1.lists.flatten ++ b2.lists.flatten) := by
  have hlen : perm.length = k := by simpa using hp.length_eq
  have hc := sortNames_consistent v nm (pairBy_consistent v h1 h2 perm)
  have hlen' : (Bins.mk (pairBy b1 b2 perm).sums ((pairBy b1 b2 perm).lists.map (sortAsc nm))).sums.length =
      (Bins.mk (pairBy b1 b2 perm).sums ((pairBy b1 b2 perm).lists.map (sortAsc nm))).lists.length :=
    Part.consistent_length v hc
  have hcc : (canonC nm b1 b2 perm).Consistent v := Part.sortAsc_consistent v _ hc
  have hll : (canonC nm b1 b2 perm).lists.length = k := by
    unfold canonC
    rw [Part.sortAsc_lists_length _ hlen']
    simp only [List.length_map]
    exact pairBy_lists_length hl2 hlen
  refine ⟨hcc, ?_, hll, Part.sortAsc_sums_sorted _, ?_⟩
  · rw [Part.consistent_length v hcc]; exact hll
  · unfold canonC
    refine (Part.sortAsc_flat_perm _ hlen').trans ?_
    exact (List.Perm.flatten_congr (List.forall₂_map_left_iff.2 (List.forall₂_same.2 fun l _ => Part.sortAsc_perm nm l))).trans
      (pairBy_flat_perm hl1 hl2 hp)

theorem canonC_sums_perm (v nm : α → Nat) {b1 b2 : Bins α} (h1 : b1.Consistent v) (h2 : b2.Consistent v)
    (perm : List Nat) : (canonC nm b1 b2 perm).sums.Perm (pairBy b1 b2 perm).sums := by
  have hpc := pairBy_consistent v h1 h2 perm
  unfold canonC
  exact Part.sortAsc_sums_perm _ (by simpa using Part.consistent_length v hpc)

/-- C13c: if `b1`, `b2` are consistent with `k` bins each then every yield is consistent, has `k` bins,
    ascending sums, and holds exactly the items of `b1` and `b2`. -/
theorem allCombContents_consistent [BEq α] (v nm : α → Nat) {b1 b2 : Bins α} {k : Nat}
    (h1 : b1.Consistent v) (h2 : b2.Consistent v) (hk1 : b1.sums.length = k) (hk2 : b2.sums.length = k)
    {nb : Bins α} (h : nb ∈ allCombContents nm b1 b2) :
    nb.Consistent v ∧ nb.sums.length = k ∧ nb.lists.length = k ∧ nb.sums.Pairwise (· ≤ ·) ∧
    nb.lists.flatten.Perm (b1.lists.flatten ++ b2.lists.flatten) := by
  obtain ⟨perm, hp, rfl⟩ := allCombContents_sound nm hk1 h
  exact canonC_spec v nm h1 h2 ((Part.consistent_length v h1).symm.trans hk1)
    ((Part.consistent_length v h2).symm.trans hk2) hp

/-! ## Examples -/

section Examples

/-- two 2-bin arrays over `Nat` items valued by themselves -/
def exB1 : Bins Nat := ⟨[1, 4], [[1], [4]]⟩
def exB2 : Bins Nat := ⟨[2, 5], [[2], [5]]⟩

example : (allCombContents id exB1 exB2).map (·.lists) = [[[1, 2], [4, 5]], [[2, 4], [1, 5]]] := by decide

example : ∀ nb ∈ allCombContents id exB1 exB2,
    ∃ perm : List Nat, perm.Perm (List.range 2) ∧ nb = canonC id exB1 exB2 perm :=
  fun _ h => allCombContents_sound id (k := 2) rfl h

example : ∃ nb ∈ allCombContents id exB1 exB2, nb.lists = (canonC id exB1 exB2 [1, 0]).lists :=
  allCombContents_complete id (k := 2) rfl (by decide)

-- duplicate pairings: both permutations give the same contents when `b1`'s bins are equal
example : (allCombContents id (⟨[1, 1], [[1], [1]]⟩ : Bins Nat) exB2).length = 1 := by decide
example := allCombContents_nodup id (⟨[1, 1], [[1], [1]]⟩ : Bins Nat) exB2

example : ∀ nb ∈ allCombContents id exB1 exB2,
    nb.Consistent id ∧ nb.sums.length = 2 ∧ nb.lists.length = 2 ∧ nb.sums.Pairwise (· ≤ ·) ∧
    nb.lists.flatten.Perm (exB1.lists.flatten ++ exB2.lists.flatten) :=
  fun _ h => allCombContents_consistent id id (k := 2) (by decide) (by decide) rfl rfl h

end Examples

end Prtpy.AllComb
