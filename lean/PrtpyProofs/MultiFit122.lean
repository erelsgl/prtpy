/-
  PrtpyProofs.MultiFit122 — property C08: towards the `1.22` ratio of multifit (Coffman, Garey, Johnson 1978): the
  structure of a counter-example of first-fit-decreasing, and the ratios that follow from it for every number of bins.

  A counter-example (`CE`) for the capacities `T ≤ B` consists of `k` bins with the shape of a first-fit-decreasing
  packing for capacity `B` and an item `a`, not larger than any packed item, that fits into no bin, although
  everything fits into `k` bins of capacity `T`.  A failing run yields one (`ffd_overflow_sce`), even with the full
  rule of first-fit-decreasing as a static property of the bins (`FFDStrong`, `SCE`).

  Every bin is filled above `B − a`, while everything fits into `k` bins of capacity `T` (the window `ce_window`; for
  all bins together the volume bound `ce_volume`).  A bin of a `T`-schedule that is pointwise below
  some items of a bin of the packing can be dropped together with that bin, and a bin with at most two items always
  is; so a counter-example contains one in which every bin of every `T`-schedule holds at least three items
  (`Irred`), hence all items are `≤ T − 2a` (`Tight`).  Counting items there confines `a` to a band (`ce_band`),
  `0.22·T < a < 0.26·T` for `B = 1.22·T`.  The band is empty for `B > 5/4·T − 1`, and, with the volume bound, for
  `(5k − 2)·T < (4k − 1)·(B + 1)`.

  The ratios of multifit follow through `multifit_ratio_of_ffdFits` and `ffdFits_of_fold_fits` of
  PrtpyProofs.MultiFit: `(5k − 2)/(4k − 1) + 2^−it` (`multifit_ratio_k`; `8/7` for `k = 2`, the exact value), its
  limit `5/4`, and the special cases `4/3` and `2`; the last three stand at the end of the file, behind `ffd_core'`
  from which they follow, in the namespaces `Prtpy.MaxMin2` (`5/4`) and `Prtpy.MaxMin` (`4/3`, `2`) (why: head of
  MultiFit.lean).  The run enters only as a first-fit `Fit.Run` on a sorted list, through `Fit.run_closed_ff`
  (`ffdStrong_of_run`) and `LPT43.run_opened` (`ffd_overflow_sce`).  The ratio `61/50` is in PrtpyProofs.MultiFit122B
  (no item in the band) and PrtpyProofs.MultiFit122C (`k ≤ 11`).
-/
import Mathlib.Tactic.Linarith
import Mathlib.Tactic.Ring
import PrtpyProofs.Fit
import PrtpyProofs.Feasible
import PrtpyProofs.MultiFit
open Prtpy

namespace Prtpy.MultiFit122
open Prtpy.LPT43 Prtpy.MaxMin Prtpy.MaxMin2

variable {α : Type}

/-! ## Counter-examples of first-fit-decreasing with capacity `B` -/

/-- A counter-example: `k` bins `LL` with the structure of a first-fit-decreasing packing for capacity `B`, an
    item `a`, not larger than any packed item, that fits into no bin, while the packed items together with `a`
    fit into `k` bins of capacity `T`.  (`FFD119.NF` is the same moment for every any-fit rule with one capacity: on
    values, the relation only for the item that opened a later bin, the optimum given beside it.) -/
structure CE (v : α → Nat) (T B k : Nat) (LL : List (List α)) (a : α) : Prop where
  len : LL.length = k
  inv : FFDInv v B LL
  nofit : ∀ l ∈ LL, B < binSum v l + v a
  amin : ∀ p ∈ LL.flatten, v a ≤ v p
  pack : Packable T k ((LL.flatten ++ [a]).map v)

/-- a tight counter-example: moreover every packed item is at most `T − 2a` -/
structure Tight (v : α → Nat) (T B k : Nat) (LL : List (List α)) (a : α) : Prop extends CE v T B k LL a where
  top : ∀ p ∈ LL.flatten, v p + 2 * v a ≤ T

theorem CE.pos {v : α → Nat} {T B k : Nat} {LL : List (List α)} {a : α} (h : CE v T B k LL a) : 0 < k := by
  rcases Nat.eq_zero_or_pos k with rfl | hk
  · obtain ⟨Q, hQk, hQp, _⟩ := packable_partition h.pack
    have : Q = [] := List.length_eq_zero_iff.1 hQk
    subst this
    have := hQp.length_eq
    simp at this
  · exact hk

theorem CE.item_le {v : α → Nat} {T B k : Nat} {LL : List (List α)} {a : α} (h : CE v T B k LL a) : v a ≤ T :=
  packable_item_le h.pack (List.mem_map_of_mem (List.mem_append_right _ (List.mem_singleton_self a)))

theorem CE.sched_ge {v : α → Nat} {T B k : Nat} {LL : List (List α)} {a : α} (h : CE v T B k LL a)
    {Q : List (List Nat)} (hQp : Q.flatten.Perm ((LL.flatten ++ [a]).map v)) : ∀ O ∈ Q, ∀ u ∈ O, v a ≤ u := by
  intro O hO u hu
  obtain ⟨p, hp, rfl⟩ := List.mem_map.1 (hQp.mem_iff.1 (List.mem_flatten.2 ⟨O, hO, hu⟩))
  rcases List.mem_append.1 hp with hp | hp
  · exact h.amin p hp
  · rw [List.mem_singleton.1 hp]

/-- the bins `R` beside the bins `S` are filled above `B − a` each -/
theorem ce_window {v : α → Nat} {T B k : Nat} {LL : List (List α)} {a : α} (h : CE v T B k LL a)
    {S R : List (List α)} (hp : LL.Perm (S ++ R)) :
    binSum v S.flatten + R.length * (B + 1) + v a ≤ k * T + R.length * v a := by
  -- every bin of `R` with `a` on top exceeds `B`
  have h2 := Part.length_mul_le_binSum (f := fun l => binSum v l + v a) (c := B + 1) (l := R) fun l hl =>
    h.nofit l (hp.mem_iff.2 (List.mem_append_right _ hl))
  rw [Part.binSum_add, Part.binSum_const, ← Part.binSum_flatten] at h2
  -- everything, with `a`, fits into `k` bins of capacity `T`
  have h3 : binSum v (LL.flatten ++ [a]) ≤ k * T := Fit.packing_lower_bound h.pack
  rw [Part.binSum_append, Part.binSum_singleton, Part.binSum_perm v hp.flatten, List.flatten_append,
    Part.binSum_append] at h3
  omega

/-- Volume: every bin is filled above `B − a`, so `k · (B + 1 − T) ≤ (k − 1) · a` -/
theorem ce_volume {v : α → Nat} {T B k : Nat} {LL : List (List α)} {a : α} (h : CE v T B k LL a) :
    k * (B + 1) + v a ≤ k * T + k * v a := by
  have := ce_window h (S := []) (R := LL) (List.Perm.refl _)
  rw [h.len] at this
  simpa only [List.flatten_nil, binSum, List.map_nil, sumL, Nat.zero_add] using this

theorem ce_large {v : α → Nat} {T B k : Nat} {LL : List (List α)} {a : α} (h : CE v T B k LL a) :
    B < v a + T := by
  apply Nat.lt_of_not_le
  intro ha
  have hvol := ce_volume h
  have hk := h.pos
  have h1 : k * (v a + T + 1) ≤ k * (B + 1) := Nat.mul_le_mul_left k (Nat.succ_le_succ ha)
  have e : k * (v a + T + 1) = k * T + k * v a + k := by ring
  omega

/-! ## The full first-fit-decreasing rule as a static property of the bins -/

/-- The bins `Ls` satisfy the rule of first-fit-decreasing for capacity `B`:
    * every bin lists its items in non-increasing order (the order of arrival);
    * an item `p` of bin `j` did not fit into an earlier bin `i` when it arrived: the items of bin `i` that are
      at least as large as `p` (a superset of what bin `i` held at that time), together with `p`, exceed `B`.
    This is stronger than `MaxMin2.FFDInv` (`ffdInv_of_strong`). -/
structure FFDStrong (v : α → Nat) (B : Nat) (Ls : List (List α)) : Prop where
  sorted : ∀ l ∈ Ls, l.Pairwise (fun x y => v y ≤ v x)
  rule : ∀ (i j : Nat) (li lj : List α) (p : α), i < j → Ls[i]? = some li → Ls[j]? = some lj → p ∈ lj →
    B < binSum v (li.filter (fun y => decide (v p ≤ v y))) + v p

/-- `FFDStrong` with the rule said of every pair of an earlier and a later bin; in this form it passes to sublists -/
theorem ffdStrong_iff {v : α → Nat} {B : Nat} {Ls : List (List α)} : FFDStrong v B Ls ↔
    (∀ l ∈ Ls, l.Pairwise (fun x y => v y ≤ v x)) ∧
      Ls.Pairwise (fun li lj => ∀ p ∈ lj, B < binSum v (li.filter (fun y => decide (v p ≤ v y))) + v p) :=
  ⟨fun h => ⟨h.sorted, List.pairwise_iff_getElem.2 fun i j hi hj hij p hp =>
      h.rule i j _ _ p hij (List.getElem?_eq_getElem hi) (List.getElem?_eq_getElem hj) hp⟩,
    fun h => ⟨h.1, fun i j li lj p hij hli hlj hp => by
      obtain ⟨hi, rfl⟩ := List.getElem?_eq_some_iff.1 hli
      obtain ⟨hj, rfl⟩ := List.getElem?_eq_some_iff.1 hlj
      exact List.pairwise_iff_getElem.1 h.2 i j hi hj hij p hp⟩⟩

theorem ffdStrong_of_run {v : α → Nat} {B : Nat} {xs : List α} {Ls : List (List α)}
    (hr : Fit.Run v B (Fit.FirstFit v B) xs Ls) (hS : xs.Pairwise (fun a c => v c ≤ v a)) : FFDStrong v B Ls :=
  ffdStrong_iff.2 ⟨hr.sorted_bins hS, (Fit.run_closed_ff hr hS).imp fun h p hp => (h p hp).filter⟩

theorem ffdStrong_fold {v : α → Nat} {B : Nat} (xs : List α) (hS : xs.Pairwise (fun a c => v c ≤ v a))
    (hall : ∀ x ∈ xs, v x ≤ B) : FFDStrong v B (xs.foldl (ffStep v B) (Bins.new 1)).lists :=
  ffdStrong_of_run (Fit.ff_run_foldl hall) hS

theorem FFDStrong.eraseIdx {v : α → Nat} {B : Nat} {Ls : List (List α)} (h : FFDStrong v B Ls) (m : Nat) :
    FFDStrong v B (Ls.eraseIdx m) :=
  ffdStrong_iff.2 ⟨fun l hl => h.sorted l (List.mem_of_mem_eraseIdx hl),
    (ffdStrong_iff.1 h).2.sublist (List.eraseIdx_sublist Ls m)⟩

/-- the rule for a bin `pre ++ suf` whose last items `suf` are smaller than the later item `q` -/
theorem FFDStrong.rule_prefix {v : α → Nat} {B : Nat} {Ls : List (List α)}
    (h : FFDStrong v B Ls) {i j : Nat} {pre suf lj : List α} {q : α} (hij : i < j)
    (hli : Ls[i]? = some (pre ++ suf)) (hlj : Ls[j]? = some lj) (hq : q ∈ lj) (hsuf : ∀ y ∈ suf, v y < v q) :
    B < binSum v pre + v q := by
  have h1 := h.rule i j _ lj q hij hli hlj hq
  have h2 : suf.filter (fun y => decide (v q ≤ v y)) = [] := by
    rw [List.filter_eq_nil_iff]
    intro y hy
    simpa using hsuf y hy
  rw [List.filter_append, h2, List.append_nil] at h1
  have := Part.binSum_sublist v (List.filter_sublist (l := pre) (p := fun y => decide (v q ≤ v y)))
  omega

theorem ffdInv_eraseIdx {v : α → Nat} {B : Nat} {Ls : List (List α)} (h : FFDInv v B Ls) (m : Nat) :
    FFDInv v B (Ls.eraseIdx m) := by
  intro i j l p hij hl hp
  rw [List.getElem?_eraseIdx] at hl
  rw [List.getElem?_eraseIdx]
  by_cases h1 : j < m
  · rw [if_pos h1] at hl
    rw [if_pos (by omega)]
    exact h i j l p hij hl hp
  · rw [if_neg h1] at hl
    by_cases h2 : i < m
    · rw [if_pos h2]
      obtain ⟨f, tl, e, a1, a2⟩ := h i (j + 1) l p (by omega) hl hp
      exact ⟨f, tl, e, a1, fun _ => a2 (by omega)⟩
    · rw [if_neg h2]
      obtain ⟨f, tl, e, a1, a2⟩ := h (i + 1) (j + 1) l p (by omega) hl hp
      exact ⟨f, tl, e, a1, fun hlt => a2 (by omega)⟩

/-- `hB` is needed: with an item `> B` an earlier bin may be empty, and `FFDInv` asks for its head. -/
theorem ffdInv_of_strong {v : α → Nat} {B : Nat} {Ls : List (List α)} (h : FFDStrong v B Ls)
    (hB : ∀ p ∈ Ls.flatten, v p ≤ B) : FFDInv v B Ls := by
  intro i j l p hij hl hp
  have hpB : v p ≤ B := hB p (List.mem_flatten.2 ⟨l, List.mem_of_getElem? hl, hp⟩)
  rcases Nat.lt_or_ge i j with hlt | hge
  · have hjlen := (List.getElem?_eq_some_iff.1 hl).1
    have hi : i < Ls.length := by omega
    have hli : Ls[i]? = some Ls[i] := List.getElem?_eq_getElem hi
    have hr := h.rule i j Ls[i] l p hlt hli hl hp
    have hsort := h.sorted Ls[i] (List.getElem_mem hi)
    cases hLi : Ls[i] with
    | nil =>
      rw [hLi] at hr
      simp only [List.filter_nil, binSum, List.map_nil, sumL] at hr
      omega
    | cons f tl =>
      rw [hLi] at hr hsort
      have hf : v p ≤ v f := by
        obtain ⟨y, hy⟩ := List.exists_mem_of_ne_nil _ (Part.ne_nil_of_binSum_pos (v := v)
          (l := (f :: tl).filter (fun y => decide (v p ≤ v y))) (by omega))
        obtain ⟨hy1, hy2⟩ := List.mem_filter.1 hy
        have hy2' : v p ≤ v y := by simpa using hy2
        rcases List.mem_cons.1 hy1 with rfl | hy1
        · exact hy2'
        · exact Nat.le_trans hy2' ((List.pairwise_cons.1 hsort).1 y hy1)
      refine ⟨f, tl, by rw [hli, hLi], hf, fun _ hfp => ?_⟩
      rw [List.filter_cons_of_pos (by simpa using hf)] at hr
      simp only [binSum, List.map_cons, sumL] at hr
      obtain ⟨y, hy⟩ := List.exists_mem_of_ne_nil _ (Part.ne_nil_of_binSum_pos (v := v)
        (l := tl.filter (fun y => decide (v p ≤ v y))) (by simp only [binSum]; omega))
      obtain ⟨hy1, hy2⟩ := List.mem_filter.1 hy
      exact ⟨y, hy1, by simpa using hy2⟩
  · have : i = j := by omega
    subst this
    have hsort := h.sorted l (List.mem_of_getElem? hl)
    cases l with
    | nil => simp at hp
    | cons f tl =>
      refine ⟨f, tl, hl, ?_, fun hlt => absurd hlt (Nat.lt_irrefl _)⟩
      rcases List.mem_cons.1 hp with rfl | hp
      · exact Nat.le_refl _
      · exact (List.pairwise_cons.1 hsort).1 p hp

theorem ffdInv_fold {v : α → Nat} {B : Nat} (xs : List α)
    (hS : xs.Pairwise (fun a c => v c ≤ v a)) (hall : ∀ x ∈ xs, v x ≤ B) :
    FFDInv v B (xs.foldl (ffStep v B) (Bins.new 1)).lists :=
  ffdInv_of_strong (ffdStrong_fold xs hS hall) fun p hp => hall p ((Fit.ff_inv_foldl hall).perm.mem_iff.1 hp)

/-! ### Strong counter-examples

`CE` asks of the bins only the shape `FFDInv`; that is all the band (`ce_band`) and the bound `5/4` (`ffd_core'`) need.
`SCE` carries the full rule `FFDStrong`, which is what a run provides and what the analysis of the bins of three in
`PrtpyProofs.MultiFit122C` uses; irreducibility (`Irred`) is defined for `SCE`. -/

/-- a counter-example whose bins satisfy the full first-fit-decreasing rule, all items being `≤ B` -/
structure SCE (v : α → Nat) (T B k : Nat) (LL : List (List α)) (a : α) : Prop where
  len : LL.length = k
  strong : FFDStrong v B LL
  leB : ∀ p ∈ LL.flatten, v p ≤ B
  nofit : ∀ l ∈ LL, B < binSum v l + v a
  amin : ∀ p ∈ LL.flatten, v a ≤ v p
  pack : Packable T k ((LL.flatten ++ [a]).map v)

theorem SCE.toCE {v : α → Nat} {T B k : Nat} {LL : List (List α)} {a : α} (h : SCE v T B k LL a) :
    CE v T B k LL a :=
  ⟨h.len, ffdInv_of_strong h.strong h.leB, h.nofit, h.amin, h.pack⟩

/-- a strong counter-example that is moreover tight (all items `≤ T − 2a`) -/
structure STight (v : α → Nat) (T B k : Nat) (LL : List (List α)) (a : α) : Prop extends SCE v T B k LL a where
  top : ∀ p ∈ LL.flatten, v p + 2 * v a ≤ T

theorem STight.toTight {v : α → Nat} {T B k : Nat} {LL : List (List α)} {a : α} (h : STight v T B k LL a) :
    Tight v T B k LL a :=
  ⟨h.toSCE.toCE, h.top⟩

/-! ## Domination

A bin `O` of a `T`-schedule of a counter-example that is pointwise below some items of a bin of the packing can be
dropped together with that bin: the rest is a counter-example with one bin less.  A bin `O` with at most two items
is always dominated (Coffman, Garey, Johnson). -/

theorem ce_split {LL : List (List α)} {j : Nat} {l : List α} (hl : LL[j]? = some l) (a : α) (v : α → Nat) :
    ((LL.flatten ++ [a]).map v).Perm (l.map v ++ ((LL.eraseIdx j).flatten ++ [a]).map v) := by
  obtain ⟨hj, rfl⟩ := List.getElem?_eq_some_iff.1 hl
  have p1 := Part.flatten_perm_getElem_eraseIdx LL j hj
  have e : ((LL[j] ++ (LL.eraseIdx j).flatten) ++ [a]).map v =
      LL[j].map v ++ ((LL.eraseIdx j).flatten ++ [a]).map v := by simp
  rw [← e]
  exact (p1.append_right [a]).map v

theorem ce_erase {v : α → Nat} {T B k : Nat} {LL : List (List α)} {a : α} (h : CE v T B (k + 1) LL a)
    {j : Nat} (hj : j < LL.length) (hp : Packable T k (((LL.eraseIdx j).flatten ++ [a]).map v)) :
    CE v T B k (LL.eraseIdx j) a := by
  refine ⟨?_, ffdInv_eraseIdx h.inv j, fun l hl => h.nofit l (List.mem_of_mem_eraseIdx hl), ?_, hp⟩
  · rw [List.length_eraseIdx, if_pos hj, h.len]; rfl
  · intro p hp'
    obtain ⟨l, hl, hpl⟩ := List.mem_flatten.1 hp'
    exact h.amin p (List.mem_flatten.2 ⟨l, List.mem_of_mem_eraseIdx hl, hpl⟩)

theorem SCE.eraseIdx {v : α → Nat} {T B k k' : Nat} {LL : List (List α)} {a : α} (h : SCE v T B k LL a) {j : Nat}
    (hc : CE v T B k' (LL.eraseIdx j) a) : SCE v T B k' (LL.eraseIdx j) a := by
  refine ⟨hc.len, h.strong.eraseIdx j, ?_, hc.nofit, hc.amin, hc.pack⟩
  intro p hp
  obtain ⟨l, hl, hpl⟩ := List.mem_flatten.1 hp
  exact h.leB p (List.mem_flatten.2 ⟨l, List.mem_of_mem_eraseIdx hl, hpl⟩)

theorem sched_erase {T k : Nat} {vals : List Nat} (Q : List (List Nat)) (hQk : Q.length = k + 1)
    (hQp : Q.flatten.Perm vals) (hQ : ∀ l ∈ Q, sumL l ≤ T) {O : List Nat} (hO : O ∈ Q) :
    ∃ X, Packable T k X ∧ vals.Perm (O ++ X) := by
  obtain ⟨X, k', e, p, _, hX⟩ := Part.SplitInto.erase_bin hQk hQp hQ hO
  exact ⟨X, packable_iff_splitInto.2 (Nat.succ.inj e ▸ hX), p⟩

/-- the values are scheduled as `O ++ X`, and `O` is pointwise below some of the values of bin `j`: dropping bin
    `j` leaves a counter-example in the bins of `X` -/
theorem ce_drop {v : α → Nat} {T B k : Nat} {LL : List (List α)} {a : α} (h : CE v T B (k + 1) LL a)
    {O X : List Nat} (hX : Packable T k X) (hOX : ((LL.flatten ++ [a]).map v).Perm (O ++ X)) {j : Nat}
    {l : List α} (hl : LL[j]? = some l) {L' L'' : List Nat} (hL : (l.map v).Perm (L' ++ L''))
    (hdom : List.Forall₂ (fun o x => o ≤ x) O L') : CE v T B k (LL.eraseIdx j) a :=
  ce_erase h (List.getElem?_eq_some_iff.1 hl).1 (packable_of_dom (L'' := L'') hdom hX
    ((hOX.symm.trans (ce_split hl a v)).trans (hL.append_right _)))

/-- `ce_drop` for a bin `O` of a `T`-schedule `Q` -/
theorem ce_drop_of_dominated {v : α → Nat} {T B k : Nat} {LL : List (List α)} {a : α}
    (h : CE v T B (k + 1) LL a) (Q : List (List Nat)) (hQk : Q.length = k + 1)
    (hQp : Q.flatten.Perm ((LL.flatten ++ [a]).map v)) (hQ : ∀ l ∈ Q, sumL l ≤ T) {O : List Nat}
    (hO : O ∈ Q) {j : Nat} {l : List α} (hl : LL[j]? = some l) {L' L'' : List Nat}
    (hL : (l.map v).Perm (L' ++ L'')) (hdom : List.Forall₂ (fun o x => o ≤ x) O L') :
    CE v T B k (LL.eraseIdx j) a := by
  obtain ⟨X, hX, hOX⟩ := sched_erase Q hQk hQp hQ hO
  exact ce_drop h hX hOX hl hL hdom

theorem ce_head_ge {v : α → Nat} {T B k : Nat} (hTB : T ≤ B) {LL : List (List α)} {a : α}
    (h : CE v T B k LL a) {y : Nat} (hy : y ∈ (LL.flatten ++ [a]).map v) :
    ∃ (j : Nat) (f : α) (tl : List α), LL[j]? = some (f :: tl) ∧ y ≤ v f := by
  obtain ⟨P, hP, rfl⟩ := List.mem_map.1 hy
  rcases List.mem_append.1 hP with hP | hP
  · obtain ⟨l, hl, hPl⟩ := List.mem_flatten.1 hP
    obtain ⟨j, hj, rfl⟩ := List.mem_iff_getElem.1 hl
    obtain ⟨f, tl, e, h1, _⟩ := h.inv j j _ P (Nat.le_refl _) (List.getElem?_eq_getElem hj) hPl
    exact ⟨j, f, tl, e, h1⟩
  · simp only [List.mem_singleton] at hP; subst hP
    have hk := h.pos
    have h0 : 0 < LL.length := by rw [h.len]; exact hk
    have hnf := h.nofit LL[0] (List.getElem_mem h0)
    have haT := h.item_le
    cases hl : LL[0] with
    | nil => rw [hl] at hnf; simp only [binSum, List.map_nil, sumL] at hnf; omega
    | cons f tl =>
      refine ⟨0, f, tl, by rw [List.getElem?_eq_getElem h0, hl], ?_⟩
      exact h.amin f (List.mem_flatten.2 ⟨LL[0], List.getElem_mem h0, by rw [hl]; simp⟩)

/-- A dominating bin for a pair.  If two values `y ≥ z` with `y + z ≤ T` occur among the values of a
    counter-example, the first bin that holds an item of value `y` or `z` starts with an item `≥ y` and holds a
    further item `≥ z`.

    Proof: let `f :: tl` be that bin (`Nat.find`).  `y ≤ v f`, as the head of a bin bounds the items of that and of all
    later bins (`FFDInv`) and `a` is the least value.  If no item of `tl` were `≥ z`, the item of value `y` or `z` would
    be `f` with `v f = y`, and `z` would occur outside this bin: in a later bin — but `v f + z ≤ T ≤ B`, so by the
    second part of `FFDInv` `tl` holds an item `≥ z`; or as `v a` — but `a` does not fit (`nofit`) although
    `y + v a ≤ B`, so `tl ≠ []`, and its items are `≥ v a`.  If no bin holds `y` or `z`, both are `v a`, but only one
    copy of `a` stands outside the bins. -/
theorem ce_dominating_bin {v : α → Nat} {T B k : Nat} (hTB : T ≤ B) {LL : List (List α)} {a : α}
    (h : CE v T B k LL a) {y z : Nat} {X : List Nat} (hzy : z ≤ y) (hsum : y + z ≤ T)
    (hperm : ((LL.flatten ++ [a]).map v).Perm (y :: z :: X)) :
    ∃ (j : Nat) (f : α) (tl : List α), LL[j]? = some (f :: tl) ∧ y ≤ v f ∧ ∃ w ∈ tl, z ≤ v w := by
  have hval : ∀ c : Nat, c ∈ (LL.flatten ++ [a]).map v →
      c = v a ∨ ∃ (j : Nat) (l : List α) (p : α), LL[j]? = some l ∧ p ∈ l ∧ v p = c := by
    intro c hc
    obtain ⟨P, hP, rfl⟩ := List.mem_map.1 hc
    rcases List.mem_append.1 hP with hP | hP
    · obtain ⟨l, hl, hPl⟩ := List.mem_flatten.1 hP
      obtain ⟨j, hj, rfl⟩ := List.mem_iff_getElem.1 hl
      exact Or.inr ⟨j, _, P, List.getElem?_eq_getElem hj, hPl, rfl⟩
    · simp only [List.mem_singleton] at hP; subst hP; exact Or.inl rfl
  by_cases hex : ∃ (j : Nat) (l : List α) (p : α), LL[j]? = some l ∧ p ∈ l ∧ (v p = y ∨ v p = z)
  · classical
    obtain ⟨l, p, hl, hpl, hpv⟩ := Nat.find_spec hex
    have hleast := fun i (hi : i < Nat.find hex) => Nat.find_min hex hi
    generalize Nat.find hex = j at hl hleast
    obtain ⟨f, tl, e, hpf, _⟩ := h.inv j j l p (Nat.le_refl _) hl hpl
    rw [hl] at e
    cases e
    have hfy : y ≤ v f := by
      rcases hval y (hperm.mem_iff.2 (by simp)) with hya | ⟨j', l', p', hl', hp', hv'⟩
      · rw [hya]; exact h.amin f (List.mem_flatten.2 ⟨_, List.mem_of_getElem? hl, by simp⟩)
      · rcases Nat.lt_or_ge j' j with hlt | hge
        · exact absurd ⟨l', p', hl', hp', Or.inl hv'⟩ (hleast j' hlt)
        · obtain ⟨f', tl', e', h1, _⟩ := h.inv j j' l' p' hge hl' hp'
          rw [hl] at e'
          cases e'
          omega
    refine ⟨j, f, tl, hl, hfy, ?_⟩
    apply Classical.byContradiction
    intro hno
    have hno' : ∀ w ∈ tl, v w < z := fun w hw => Nat.lt_of_not_le (fun hle => hno ⟨w, hw, hle⟩)
    have hfy' : v f = y := by
      rcases List.mem_cons.1 hpl with hpe | hpt
      · rw [hpe] at hpv
        rcases hpv with h1 | h1 <;> omega
      · have := hno' p hpt
        rcases hpv with h1 | h1 <;> omega
    have p2 : ((LL.flatten ++ [a]).map v).Perm
        (v f :: (tl.map v ++ ((LL.eraseIdx j).flatten ++ [a]).map v)) := ce_split hl a v
    rw [hfy'] at p2
    have hz : z ∈ tl.map v ++ ((LL.eraseIdx j).flatten ++ [a]).map v :=
      ((p2.symm.trans hperm).cons_inv).mem_iff.2 (by simp)
    rcases List.mem_append.1 hz with hz | hz
    · obtain ⟨w, hw, hwz⟩ := List.mem_map.1 hz
      have := hno' w hw
      omega
    · obtain ⟨P', hP', hPz⟩ := List.mem_map.1 hz
      rcases List.mem_append.1 hP' with hP' | hP'
      · obtain ⟨l', hl', hPl'⟩ := List.mem_flatten.1 hP'
        obtain ⟨i, hij, hli⟩ := List.mem_eraseIdx_iff_getElem?.1 hl'
        rcases Nat.lt_or_ge i j with hlt | hge
        · exact hleast i hlt ⟨l', P', hli, hPl', Or.inr hPz⟩
        · obtain ⟨f', tl', e', h1, h2⟩ := h.inv j i l' P' hge hli hPl'
          rw [hl] at e'
          cases e'
          obtain ⟨w, hw, hle⟩ := h2 (by omega) (by omega)
          have := hno' w hw
          omega
      · simp only [List.mem_singleton] at hP'
        subst hP'
        have hnf := h.nofit (f :: tl) (List.mem_of_getElem? hl)
        simp only [binSum, List.map_cons, sumL] at hnf
        have hpos : 0 < binSum v tl := by simp only [binSum]; omega
        obtain ⟨w, hw⟩ := List.exists_mem_of_ne_nil _ (Part.ne_nil_of_binSum_pos hpos)
        have h1 := hno' w hw
        have h2 := h.amin w (List.mem_flatten.2 ⟨_, List.mem_of_getElem? hl, by simp [hw]⟩)
        omega
  · exfalso
    have hya : y = v a := by
      rcases hval y (hperm.mem_iff.2 (by simp)) with hya | ⟨j', l', p', hl', hp', hv'⟩
      · exact hya
      · exact absurd ⟨j', l', p', hl', hp', Or.inl hv'⟩ hex
    have p2 : ((LL.flatten ++ [a]).map v).Perm (v a :: LL.flatten.map v) := by
      rw [List.map_append]; exact List.perm_append_comm
    rw [← hya] at p2
    have hz : z ∈ LL.flatten.map v := ((p2.symm.trans hperm).cons_inv).mem_iff.2 (by simp)
    obtain ⟨P', hP', hv⟩ := List.mem_map.1 hz
    obtain ⟨l, hl, hPl⟩ := List.mem_flatten.1 hP'
    obtain ⟨j, hj, rfl⟩ := List.mem_iff_getElem.1 hl
    exact hex ⟨j, _, P', List.getElem?_eq_getElem hj, hPl, Or.inr hv⟩

theorem ce_drop_pair {v : α → Nat} {T B k : Nat} (hTB : T ≤ B) {LL : List (List α)} {a : α}
    (h : CE v T B (k + 1) LL a) {y z : Nat} {X : List Nat} (hzy : z ≤ y) (hsum : y + z ≤ T)
    (hX : Packable T k X) (hperm : ((LL.flatten ++ [a]).map v).Perm (y :: z :: X)) :
    ∃ j, j < LL.length ∧ CE v T B k (LL.eraseIdx j) a := by
  obtain ⟨j, f, tl, hl, hfy, w, hw, hzw⟩ := ce_dominating_bin hTB h hzy hsum hperm
  obtain ⟨s, t, rfl⟩ := List.append_of_mem hw
  refine ⟨j, (List.getElem?_eq_some_iff.1 hl).1, ce_drop h (O := [y, z]) hX hperm hl (L' := [v f, v w])
    (L'' := (s ++ t).map v) ?_ (.cons hfy (.cons hzw .nil))⟩
  simp only [List.map_cons, List.map_append, List.cons_append, List.nil_append]
  exact List.Perm.cons _ List.perm_middle

/-- a bin `O` of a `T`-schedule with at most two values is dominated by some bin of the packing (`ce_head_ge`,
    `ce_dominating_bin`), which can be dropped: the rest is a counter-example with one bin less -/
theorem ce_drop_of_small_opt_bin {v : α → Nat} {T B k : Nat} (hTB : T ≤ B) {LL : List (List α)} {a : α}
    (h : CE v T B (k + 1) LL a) (Q : List (List Nat)) (hQk : Q.length = k + 1)
    (hQp : Q.flatten.Perm ((LL.flatten ++ [a]).map v)) (hQ : ∀ l ∈ Q, sumL l ≤ T) {O : List Nat}
    (hO : O ∈ Q) (hlen : O.length ≤ 2) : ∃ j, j < LL.length ∧ CE v T B k (LL.eraseIdx j) a := by
  obtain ⟨X, hX, hOX⟩ := sched_erase Q hQk hQp hQ hO
  match O, hlen, hOX with
  | [], _, hOX =>
    have h0 : 0 < LL.length := by rw [h.len]; omega
    exact ⟨0, h0, ce_drop h hX hOX (List.getElem?_eq_getElem h0) (L' := []) (List.Perm.refl _) .nil⟩
  | [y], _, hOX =>
    obtain ⟨j, f, tl, hl, hfy⟩ := ce_head_ge hTB h (y := y) (hOX.mem_iff.2 (by simp))
    exact ⟨j, (List.getElem?_eq_some_iff.1 hl).1,
      ce_drop h hX hOX hl (L' := [v f]) (L'' := tl.map v) (List.Perm.refl _) (.cons hfy .nil)⟩
  | [y, z], _, hOX =>
    have hs : y + z ≤ T := by
      have := hQ _ hO; simp only [sumL] at this; omega
    rcases Nat.le_total z y with hzy | hyz
    · exact ce_drop_pair hTB h hzy hs hX hOX
    · exact ce_drop_pair hTB h hyz (by omega) hX (hOX.trans (List.Perm.swap z y _))
  | _ :: _ :: _ :: _, hlen, _ => simp at hlen

/-! ## Tight and irreducible counter-examples -/

theorem ce_top_of_opt_bins {v : α → Nat} {T B k : Nat} {LL : List (List α)} {a : α} (h : CE v T B k LL a)
    (Q : List (List Nat)) (hQp : Q.flatten.Perm ((LL.flatten ++ [a]).map v)) (hQ : ∀ l ∈ Q, sumL l ≤ T)
    (h3 : ∀ O ∈ Q, 3 ≤ O.length) : ∀ p ∈ LL.flatten, v p + 2 * v a ≤ T := by
  intro p hp
  have hpQ : v p ∈ Q.flatten := hQp.mem_iff.2 (List.mem_map_of_mem (List.mem_append_left _ hp))
  obtain ⟨O, hO, hpO⟩ := List.mem_flatten.1 hpQ
  have pO := List.perm_cons_erase hpO
  have h1 := hQ O hO
  rw [Part.sumL_perm pO] at h1
  have h2 := Part.length_mul_le_sumL (O.erase (v p)) (v a) 0
    (fun u hu => h.sched_ge hQp O hO u (List.mem_of_mem_erase hu))
  have h4 : 2 * v a ≤ (O.erase (v p)).length * v a := by
    apply Nat.mul_le_mul_right
    have := pO.length_eq
    have := h3 O hO
    simp only [List.length_cons] at *
    omega
  simp only [sumL] at h1
  omega

/-- dropping elements one at a time as long as `P` allows ends in a list from which none can be dropped -/
theorem exists_minimal_eraseIdx {β : Type} {P : Nat → List β → Prop} : ∀ (n k : Nat) (LL : List β),
    LL.length = n → P k LL →
    ∃ k' LL', k' ≤ k ∧ P k' LL' ∧ ∀ j, j < LL'.length → ¬ P (k' - 1) (LL'.eraseIdx j) := by
  intro n
  induction n with
  | zero => intro k LL hn h; exact ⟨k, LL, Nat.le_refl _, h, fun j hj => by omega⟩
  | succ n ih =>
    intro k LL hn h
    by_cases hred : ∃ j, j < LL.length ∧ P (k - 1) (LL.eraseIdx j)
    · obtain ⟨j, hj, hP⟩ := hred
      obtain ⟨k', L2, hk', r⟩ := ih (k - 1) (LL.eraseIdx j)
        (by rw [List.length_eraseIdx, if_pos hj]; omega) hP
      exact ⟨k', L2, by omega, r⟩
    · exact ⟨k, LL, Nat.le_refl _, h, fun j hj hs => hred ⟨j, hj, hs⟩⟩

/-- every bin of every `T`-schedule of a counter-example from which no bin can be dropped holds at least three
    items: a smaller one would be dominated (`ce_drop_of_small_opt_bin`) -/
theorem ce_minimal_opt_bins {v : α → Nat} {T B k : Nat} (hTB : T ≤ B) {LL : List (List α)} {a : α}
    (h : CE v T B k LL a) (hmin : ∀ j, j < LL.length → ¬ CE v T B (k - 1) (LL.eraseIdx j) a)
    (Q : List (List Nat)) (hQk : Q.length = k) (hQp : Q.flatten.Perm ((LL.flatten ++ [a]).map v))
    (hQ : ∀ l ∈ Q, sumL l ≤ T) : ∀ O ∈ Q, 3 ≤ O.length := by
  intro O hO
  apply Nat.le_of_not_lt
  intro hlt
  cases k with
  | zero => exact absurd h.pos (Nat.lt_irrefl _)
  | succ k =>
    obtain ⟨j, hj, hc⟩ := ce_drop_of_small_opt_bin hTB h Q hQk hQp hQ hO (by omega)
    exact hmin j hj hc

/-- dropping dominated bins one after the other, every counter-example (with `B ≥ T`) leads to a tight one with at
    most as many bins and the same failing item -/
theorem ce_reduce_to_tight {v : α → Nat} {T B : Nat} (hTB : T ≤ B) {a : α} (k : Nat) (LL : List (List α))
    (h : CE v T B k LL a) : ∃ k' LL', k' ≤ k ∧ Tight v T B k' LL' a := by
  obtain ⟨k', LL', hk', hc, hmin⟩ :=
    exists_minimal_eraseIdx (P := fun k LL => CE v T B k LL a) _ k LL rfl h
  obtain ⟨Q, hQk, hQp, hQ⟩ := packable_partition hc.pack
  exact ⟨k', LL', hk', hc, ce_top_of_opt_bins hc Q hQp hQ (ce_minimal_opt_bins hTB hc hmin Q hQk hQp hQ)⟩

/-- a strong counter-example from which no bin can be dropped -/
def Irred (v : α → Nat) (T B k : Nat) (LL : List (List α)) (a : α) : Prop :=
  SCE v T B k LL a ∧ ∀ j, j < LL.length → ¬ SCE v T B (k - 1) (LL.eraseIdx j) a

theorem exists_irred {v : α → Nat} {T B : Nat} {a : α} (k : Nat) (LL : List (List α)) (h : SCE v T B k LL a) :
    ∃ k' LL', k' ≤ k ∧ Irred v T B k' LL' a :=
  exists_minimal_eraseIdx (P := fun k LL => SCE v T B k LL a) _ k LL rfl h

/-- (C08, a step towards `1.22`.)  Every bin of every `T`-schedule of an irreducible counter-example holds at least
    three items (`ce_minimal_opt_bins`). -/
theorem irred_opt_bins {v : α → Nat} {T B k : Nat} (hTB : T ≤ B) {LL : List (List α)} {a : α}
    (h : Irred v T B k LL a) (Q : List (List Nat)) (hQk : Q.length = k)
    (hQp : Q.flatten.Perm ((LL.flatten ++ [a]).map v)) (hQ : ∀ l ∈ Q, sumL l ≤ T) :
    ∀ O ∈ Q, 3 ≤ O.length :=
  ce_minimal_opt_bins hTB h.1.toCE (fun j hj hc => h.2 j hj (h.1.eraseIdx hc)) Q hQk hQp hQ

theorem irred_tight {v : α → Nat} {T B k : Nat} (hTB : T ≤ B) {LL : List (List α)} {a : α}
    (h : Irred v T B k LL a) : STight v T B k LL a := by
  obtain ⟨Q, hQk, hQp, hQ⟩ := packable_partition h.1.pack
  exact ⟨h.1, ce_top_of_opt_bins h.1.toCE Q hQp hQ (irred_opt_bins hTB h Q hQk hQp hQ)⟩

/-- at least `3k` items, the failing item included -/
theorem irred_card {v : α → Nat} {T B k : Nat} (hTB : T ≤ B) {LL : List (List α)} {a : α}
    (h : Irred v T B k LL a) : 3 * k ≤ LL.flatten.length + 1 := by
  obtain ⟨Q, hQk, hQp, hQ⟩ := packable_partition h.1.pack
  have h3 := irred_opt_bins hTB h Q hQk hQp hQ
  have c1 := Part.le_length_flatten h3
  have c3 := hQp.length_eq
  simp only [List.length_map, List.length_append, List.length_cons, List.length_nil] at c3
  rw [hQk] at c1
  omega

/-! ## Counting in a tight counter-example: the band -/

/-- in a tight counter-example every bin holds more than `c` items as long as `c` items of size `T − 2a` and the
    item `a` fit into the capacity -/
theorem tight_bin_length {v : α → Nat} {T B k : Nat} {LL : List (List α)} {a : α} (h : Tight v T B k LL a)
    {c : Nat} (hc : c * (T - 2 * v a) + v a ≤ B) : ∀ l ∈ LL, c + 1 ≤ l.length := by
  intro l hl
  apply Nat.succ_le_of_lt
  apply Nat.lt_of_not_le
  intro hle
  have h1 := h.nofit l hl
  have h2 := Part.binSum_le_length_mul (w := v) (K := T - 2 * v a) (l := l) fun p hp => by
    have := h.top p (List.mem_flatten.2 ⟨l, hl, hp⟩); omega
  have h3 : (T - 2 * v a) * l.length ≤ (T - 2 * v a) * c := Nat.mul_le_mul_left _ hle
  rw [Nat.mul_comm _ c] at h3
  omega

theorem tight_two {v : α → Nat} {T B k : Nat} (hTB : T ≤ B) {LL : List (List α)} {a : α}
    (h : Tight v T B k LL a) : ∀ l ∈ LL, 2 ≤ l.length := by
  apply tight_bin_length h (c := 1)
  have := h.toCE.item_le
  omega

/-- `3a ≤ T` in a tight counter-example: it has a bin (`k > 0`), and the bin an item `p` with `a ≤ p ≤ T − 2a` -/
theorem tight_three_le {v : α → Nat} {T B k : Nat} (hTB : T ≤ B) {LL : List (List α)} {a : α}
    (h : Tight v T B k LL a) : 3 * v a ≤ T := by
  have hk := h.toCE.pos
  have hlen := h.len
  cases LL with
  | nil => simp only [List.length_nil] at hlen; omega
  | cons l LL' =>
    have h2 := tight_two hTB h l (by simp)
    cases l with
    | nil => simp at h2
    | cons p t =>
      have h3 := h.top p (by simp)
      have h4 := h.amin p (by simp)
      omega

/-- Counting.  No tight counter-example has `T < 4a` and `2T − 3a ≤ B`: every bin of the packing would hold
    three items, every bin of the `T`-schedule at most three, and `a` is one more. -/
theorem tight_count {v : α → Nat} {T B k : Nat} (hTB : T ≤ B) {LL : List (List α)} {a : α}
    (h : Tight v T B k LL a) (ha : T < 4 * v a) (hB : 2 * T ≤ B + 3 * v a) : False := by
  have h3 : ∀ l ∈ LL, 2 + 1 ≤ l.length := by
    apply tight_bin_length h
    have := h.toCE.item_le
    omega
  have c1 := Part.le_length_flatten h3
  -- the items, with `a`, are all `≥ a > T/4`: at most three per bin of the `T`-schedule
  have c2 := item_count_le (c := 3) (a := v a) (by omega) (fun y hy => by
    obtain ⟨p, hp, rfl⟩ := List.mem_map.1 hy
    rcases List.mem_append.1 hp with hp | hp
    · exact h.amin p hp
    · rw [List.mem_singleton.1 hp]) h.pack
  simp only [List.length_map, List.length_append, List.length_cons, List.length_nil] at c2
  rw [h.len] at c1
  omega

/-- **The band** (C08, a step towards `1.22`).  The failing item `a` of a counter-example of first-fit-decreasing
    with capacity `B ≥ T` satisfies `B − T < a`, and `4a ≤ T` or `B + 3a < 2T`.  (For `B = 1.22·T` the band is
    `0.22·T < a < 0.26·T`; for `B > 5/4·T − 1` it is empty: `ffd_core'`.) -/
theorem ce_band {v : α → Nat} {T B k : Nat} (hTB : T ≤ B) {LL : List (List α)} {a : α}
    (h : CE v T B k LL a) : B < v a + T ∧ (4 * v a ≤ T ∨ B + 3 * v a < 2 * T) := by
  refine ⟨ce_large h, ?_⟩
  obtain ⟨k', LL', _, ht⟩ := ce_reduce_to_tight hTB k LL h
  rcases Nat.lt_or_ge T (4 * v a) with h4 | h4
  · right
    apply Nat.lt_of_not_le
    intro hB
    exact tight_count hTB ht h4 hB
  · exact Or.inl h4

/-- no counter-example for a capacity `B > 5/4·T − 1`: the band is empty -/
theorem ffd_core' {v : α → Nat} {T B : Nat} (hB : 5 * T < 4 * (B + 1)) {a : α} {k : Nat} {LL : List (List α)}
    (h : CE v T B k LL a) : False := by
  obtain ⟨h1, h2⟩ := ce_band (by omega) h
  omega

/-! ### Every number of bins: `(5k − 2)·T < (4k − 1)·(B + 1)`

The sharp volume bound `a ≥ k/(k−1) · (B + 1 − T)` and the counting bound `B + 3a < 2T` are incompatible as soon
as `B + 1 > (5k − 2)/(4k − 1) · T`.  The constant is `8/7` for `k = 2` (the exact value of Coffman, Garey and
Johnson), `11/9` for `k = 7`, and tends to `5/4`. -/

/-- `ce_window` for every number `K ≥ k` of bins -/
theorem ce_window_mono {v : α → Nat} {T B k K : Nat} {LL : List (List α)} {a : α} (h : CE v T B k LL a)
    {S R : List (List α)} (hp : LL.Perm (S ++ R)) (hkK : k ≤ K) :
    binSum v S.flatten + (K - S.length) * (B + 1) + v a ≤ K * T + (K - S.length) * v a := by
  have hlen : S.length + R.length = k := by rw [← h.len, hp.length_eq, List.length_append]
  have hb := ce_window h hp
  obtain ⟨d, rfl⟩ := Nat.exists_eq_add_of_le hkK
  have hd := Nat.mul_le_mul_left d (show B + 1 ≤ T + v a by have := ce_large h; omega)
  rw [show k + d - S.length = R.length + d by omega]
  simp only [Nat.add_mul, Nat.mul_add] at *
  omega

theorem ce_volume_mono {v : α → Nat} {T B k k' : Nat} {LL : List (List α)} {a : α}
    (h : CE v T B k' LL a) (hkk : k' ≤ k) : k * (B + 1) + v a ≤ k * T + k * v a := by
  have := ce_window_mono h (S := []) (R := LL) (List.Perm.refl _) hkk
  simpa only [List.flatten_nil, binSum, List.map_nil, sumL, Nat.zero_add, List.length_nil, Nat.sub_zero] using this

/-! ## From a failing run to a counter-example -/

section Overflow
variable (v : α → Nat)

/-- If first-fit-decreasing with capacity `B` needs more than `k` bins for values that fit into `k` bins of capacity
    `T`, then for some prefix `P ++ [a]` of the list the `k` bins packed from `P` and the item `a` form a strong
    counter-example. -/
theorem ffd_overflow_sce {k : Nat} (hk : 0 < k) {T B : Nat} {xs : List α} {Ls : List (List α)}
    (hr : Fit.Run v B (Fit.FirstFit v B) xs Ls) (hS : xs.Pairwise (fun a c => v c ≤ v a))
    (hp : Packable T k (xs.map v)) (hover : k < Ls.length) :
    ∃ (P : List α) (a : α) (S : List α) (LL : List (List α)), xs = P ++ a :: S ∧
      Fit.Run v B (Fit.FirstFit v B) P LL ∧ SCE v T B k LL a := by
  -- the moment bin number `k` (the `k + 1`-st) was opened
  obtain ⟨P, a, S, LL, e, hr', hlen, hno, hS', hp', _⟩ := run_opened hr hS hp hk hover
  obtain ⟨hS1, _, hS2⟩ := List.pairwise_append.1 hS'
  refine ⟨P, a, S, LL, e, hr', hlen, ffdStrong_of_run hr' hS1, fun p hp' => ?_, hno,
    fun p hp' => hS2 p (hr'.perm.mem_iff.1 hp') a (by simp),
    packable_perm ((hr'.perm.append_right [a]).map v).symm hp'⟩
  obtain ⟨l, hl, hpl⟩ := List.mem_flatten.1 hp'
  exact Nat.le_trans (Part.le_binSum_of_mem v hpl) (hr'.le l hl)

theorem ffd_overflow_exists_irred {k : Nat} (hk : 0 < k) {T B : Nat} {xs : List α}
    (hS : xs.Pairwise (fun a c => v c ≤ v a)) (hp : Packable T k (xs.map v)) (hall : ∀ x ∈ xs, v x ≤ B)
    (hover : k < (xs.foldl (ffStep v B) (Bins.new 1)).lists.length) :
    ∃ a ∈ xs, ∃ k' LL, k' ≤ k ∧ Irred v T B k' LL a := by
  obtain ⟨P, a, S, LL0, e, _, hs⟩ := ffd_overflow_sce v hk (Fit.ff_run_foldl hall) hS hp hover
  obtain ⟨k', LL, hk', hi⟩ := exists_irred k _ hs
  exact ⟨a, by rw [e]; simp, k', LL, hk', hi⟩

/-- what is proved above about the irreducible counter-example of a failing run, in one statement -/
theorem ffd_overflow_irred {k : Nat} (hk : 0 < k) {T B : Nat} (hTB : T ≤ B) {xs : List α}
    (hS : xs.Pairwise (fun a c => v c ≤ v a)) (hp : Packable T k (xs.map v)) (hall : ∀ x ∈ xs, v x ≤ B)
    (hover : k < (xs.foldl (ffStep v B) (Bins.new 1)).lists.length) :
    ∃ a ∈ xs, ∃ k' LL, k' ≤ k ∧ Irred v T B k' LL a ∧ STight v T B k' LL a ∧
      (B < v a + T ∧ (4 * v a ≤ T ∨ B + 3 * v a < 2 * T)) ∧ 3 * v a ≤ T ∧
      (∀ l ∈ LL, 2 ≤ l.length) ∧ 3 * k' ≤ LL.flatten.length + 1 := by
  obtain ⟨a, ha, k', LL, hk', hi⟩ := ffd_overflow_exists_irred v hk hS hp hall hover
  have ht := irred_tight hTB hi
  exact ⟨a, ha, k', LL, hk', hi, ht, ce_band hTB hi.1.toCE, tight_three_le hTB ht.toTight,
    tight_two hTB ht.toTight, irred_card hTB hi⟩

/-- First-fit-decreasing with capacity `B` fits into `k` bins whenever the values fit into `k` bins of
    capacity `T`, unless there is an irreducible counter-example with at most `k` bins whose failing item is one
    of the items. -/
theorem ffd_fold_fits_of_no_irred {k : Nat} (hk : 0 < k) {T B : Nat} (xs : List α)
    (hS : xs.Pairwise (fun a c => v c ≤ v a)) (hp : Packable T k (xs.map v)) (hall : ∀ x ∈ xs, v x ≤ B)
    (hno : ∀ a ∈ xs, ∀ k' ≤ k, ∀ LL : List (List α), Irred v T B k' LL a → False) :
    (xs.foldl (ffStep v B) (Bins.new 1)).lists.length ≤ k := by
  apply Nat.le_of_not_lt
  intro hover
  obtain ⟨a, ha, k', LL, hk', hi⟩ := ffd_overflow_exists_irred v hk hS hp hall hover
  exact hno a ha k' hk' LL hi

end Overflow

/-! ## Ratios of multifit -/

section Ratios
variable (v : α → Nat)

/-- First-fit-decreasing with capacity `B ≥ T` fits into `k` bins whenever the values fit into `k` bins of
    capacity `T` and no item lies in the band for `k`: every item `x` has `k·(B + 1 − T) > (k − 1)·x` (the volume bound
    `ce_volume_mono` fails for it) or `T < 4x ∧ 2T ≤ B + 3x` (`tight_count` excludes it). -/
theorem ffd_fold_fits_of_no_band_k {k : Nat} (hk : 0 < k) {T B : Nat} (hTB : T ≤ B) (xs : List α)
    (hS : xs.Pairwise (fun a c => v c ≤ v a)) (hp : Packable T k (xs.map v)) (hall : ∀ x ∈ xs, v x ≤ B)
    (hband : ∀ x ∈ xs, k * T + k * v x < k * (B + 1) + v x ∨ (T < 4 * v x ∧ 2 * T ≤ B + 3 * v x)) :
    (xs.foldl (ffStep v B) (Bins.new 1)).lists.length ≤ k := by
  refine ffd_fold_fits_of_no_irred v hk xs hS hp hall fun a ha k' hk' LL hi => ?_
  have ht := (irred_tight hTB hi).toTight
  have hV := ce_volume_mono ht.toCE hk'
  rcases hband a ha with h1 | ⟨h1, h2⟩
  · omega
  · exact tight_count hTB ht h1 h2

/-- First-fit-decreasing with capacity above `(5k − 2)/(4k − 1) · T` fits into `k` bins whenever the values
    fit into `k` bins of capacity `T`: the band for `k` is empty.  For an item that passes the volume bound, the two
    `rw` chains multiply the band inequality by `j = k − 1` and add the volume bound, so that `omega` sees
    `(5k − 2)·T < (4k − 1)·(B + 1)` linearly. -/
theorem ffd_fold_fits_k {k : Nat} (hk : 0 < k) {T B : Nat} (hTB : T ≤ B)
    (hB : 5 * k * T + (B + 1) < 4 * k * (B + 1) + 2 * T) (xs : List α)
    (hS : xs.Pairwise (fun a c => v c ≤ v a)) (hp : Packable T k (xs.map v)) (hall : ∀ x ∈ xs, v x ≤ B) :
    (xs.foldl (ffStep v B) (Bins.new 1)).lists.length ≤ k := by
  refine ffd_fold_fits_of_no_band_k v hk hTB xs hS hp hall fun x _ => ?_
  rcases Nat.lt_or_ge (k * T + k * v x) (k * (B + 1) + v x) with hV | hV
  · exact Or.inl hV
  right
  obtain ⟨j, rfl⟩ : ∃ j, k = j + 1 := ⟨k - 1, by omega⟩
  rw [Nat.mul_assoc 5, Nat.mul_assoc 4, Nat.add_one_mul j, Nat.add_one_mul j] at hB
  rw [Nat.add_one_mul j, Nat.add_one_mul j, Nat.add_one_mul j] at hV
  constructor
  · apply Nat.lt_of_not_le
    intro hle
    have h1 := Nat.mul_le_mul_left j hle
    rw [Nat.mul_left_comm] at h1
    omega
  · apply Nat.le_of_not_lt
    intro hlt
    have h1 : j * (B + 1 + 3 * v x) ≤ j * (2 * T) := Nat.mul_le_mul_left j (by omega)
    rw [Nat.mul_add, Nat.mul_left_comm, Nat.mul_left_comm j 2] at h1
    omega

/-- **C08, multifit for every `k`: `(5k − 2)/(4k − 1) + 2^−it`** times the optimal largest sum.  The constant is
    below `5/4` for every `k` (`8/7, 13/11, 6/5, 23/19, 28/23, 11/9, …`). -/
theorem multifit_ratio_k {k : Nat} {items : List α} {it : Nat} {b : Bins α} (hk : 0 < k) {opt : Int}
    (hopt : IsOptimalValue .minLargest k (items.map v) opt) (h : multifit v k items it = .ok b) :
    ((maxL b.sums : Nat) : Rat) ≤ ((5 * (k : Rat) - 2) / (4 * (k : Rat) - 1) + 1 / 2 ^ it) * opt := by
  have hρ : ((5 * k - 2 : Nat) : Rat) / ((4 * k - 1 : Nat) : Rat) ≤ (5 * (k : Rat) - 2) / (4 * (k : Rat) - 1) := by
    rw [Nat.cast_sub (by omega), Nat.cast_sub (by omega)]
    push_cast
    exact le_refl _
  refine multifit_ratio_of_fold_fits v hk hopt (by omega) (by omega) hρ ?_ h
  intro T B _ hp hTB hB hall
  refine ffd_fold_fits_k v hk hTB ?_ _ (Part.sortDesc_sorted v items) hp hall
  have h1 : 2 * T ≤ 5 * k * T := Nat.mul_le_mul_right T (by omega)
  have h2 : 1 * (B + 1) ≤ 4 * k * (B + 1) := Nat.mul_le_mul_right (B + 1) (by omega)
  rw [Nat.sub_mul, Nat.sub_mul] at hB
  omega

end Ratios

/-! ## Non-vacuity -/

/-- a tight strong counter-example: first-fit-decreasing with capacity `7` packs `[3, 3, 2, 2, 2]` into
    `[3, 3], [2, 2, 2]`, a further item `2` fits nowhere, although `[3, 2, 2], [3, 2, 2]` is a schedule with
    `T = 7`; the failing item lies in the band (`7 − 7 < 2`, `7 + 3·2 < 2·7`) -/
theorem stight_example : STight id 7 7 2 [[3, 3], [2, 2, 2]] 2 := by
  refine ⟨⟨rfl, ?_, by decide, by decide, by decide, ?_⟩, by decide⟩
  · have := ffdStrong_fold (v := id) (B := 7) [3, 3, 2, 2, 2] (by decide) (by decide)
    exact this
  · exact partition_packable [[3, 2, 2], [3, 2, 2]] rfl (by decide) (by decide)

example : 7 < id 2 + 7 ∧ (4 * id 2 ≤ 7 ∨ 7 + 3 * id 2 < 2 * 7) :=
  ce_band (Nat.le_refl _) stight_example.toSCE.toCE

example : ∀ l ∈ [[3, 3], [2, 2, 2]], 2 ≤ l.length :=
  tight_two (Nat.le_refl _) stight_example.toTight

/-- the same run, seen from the loop: `[3, 3, 2, 2, 2, 2]` needs three bins of capacity `7` -/
example : ∃ a ∈ [3, 3, 2, 2, 2, 2], ∃ k' LL, k' ≤ 2 ∧ Irred id 7 7 k' LL a ∧ STight id 7 7 k' LL a ∧
    (7 < id a + 7 ∧ (4 * id a ≤ 7 ∨ 7 + 3 * id a < 2 * 7)) ∧ 3 * id a ≤ 7 ∧
    (∀ l ∈ LL, 2 ≤ l.length) ∧ 3 * k' ≤ LL.flatten.length + 1 :=
  ffd_overflow_irred id (by decide) (Nat.le_refl _) (by decide)
    (partition_packable [[3, 2, 2], [3, 2, 2]] rfl (by decide) (by decide)) (by decide) (by decide)

/-- dropping a dominated bin: the schedule `[6], [3, 2, 2], [3, 2, 2]` has a bin with one item -/
example : ∃ j, j < 3 ∧ CE id 7 7 2 (([[6], [3, 3], [2, 2, 2]] : List (List Nat)).eraseIdx j) 2 := by
  have hs : SCE id 7 7 3 [[6], [3, 3], [2, 2, 2]] 2 := by
    refine ⟨rfl, ?_, by decide, by decide, by decide, ?_⟩
    · have := ffdStrong_fold (v := id) (B := 7) [6, 3, 3, 2, 2, 2] (by decide) (by decide)
      exact this
    · exact partition_packable [[6], [3, 2, 2], [3, 2, 2]] rfl (by decide) (by decide)
  exact ce_drop_of_small_opt_bin (Nat.le_refl _) hs.toCE [[6], [3, 2, 2], [3, 2, 2]] rfl (by decide)
    (by decide) (O := [6]) (by decide) (by decide)

/-- `k = 2`: the ratio `8/7` -/
example : ∃ b, multifit id 2 [3, 3, 2, 2, 2] 10 = .ok b ∧
    ((maxL b.sums : Nat) : Rat) ≤ ((5 * ((2 : Nat) : Rat) - 2) / (4 * ((2 : Nat) : Rat) - 1) + 1 / 2 ^ 10) *
      ((6 : Int) : Rat) := by
  obtain ⟨b, h, _⟩ := Part.multifit_perm (v := id) (k := 2) (items := [3, 3, 2, 2, 2]) (it := 10)
    (by decide) (by decide)
  exact ⟨b, h, multifit_ratio_k id (by decide) opt_33222 h⟩

/-- `k = 2`, `T = 7`, `B = 8 = 8/7 · 7`: `5·2·7 + 9 = 79 < 4·2·9 + 14 = 86`; with `B = 7` the inequality fails
    (`78 < 78`), and so does first-fit-decreasing (`stight_example`) -/
example : ([3, 3, 2, 2, 2, 2].foldl (ffStep id 8) (Bins.new 1)).lists.length ≤ 2 :=
  ffd_fold_fits_k id (by decide) (T := 7) (by decide) (by decide) _ (by decide)
    (partition_packable [[3, 2, 2], [3, 2, 2]] rfl (by decide) (by decide)) (by decide)

end Prtpy.MultiFit122

/-! ## The ratio `5/4` for every number of bins -/

namespace Prtpy.MaxMin2
open Prtpy.LPT43 Prtpy.MaxMin Prtpy.MultiFit122

variable {α : Type}

section Multifit
variable (v : α → Nat)

/-- First-fit-decreasing with capacity above `5/4 · T` fits into `k` bins whenever the values fit into `k`
    bins of capacity `T`: no counter-example exists (`ffd_core'`). -/
theorem ffd_fold_fits_five_fourths {k : Nat} (hk : 0 < k) {T B : Nat} (hB : 5 * T < 4 * (B + 1)) (xs : List α)
    (hS : xs.Pairwise (fun a c => v c ≤ v a)) (hp : Packable T k (xs.map v)) (hall : ∀ x ∈ xs, v x ≤ B) :
    (xs.foldl (ffStep v B) (Bins.new 1)).lists.length ≤ k :=
  ffd_fold_fits_of_no_irred v hk xs hS hp hall fun _ _ _ _ _ hi => ffd_core' hB hi.1.toCE

theorem ffd_fits_five_fourths {k : Nat} (hk : 0 < k) {xs : List α}
    (hS : xs.Pairwise (fun a c => v c ≤ v a)) {T : Nat} (hp : Packable T k (xs.map v)) {B : Nat}
    (hB : 5 * T < 4 * (B + 1)) {b : Bins α} (h : ffOnline v B xs = .ok b) : b.lists.length ≤ k := by
  obtain ⟨hall, rfl⟩ := Fit.ffOnline_ok_iff.1 h
  exact ffd_fold_fits_five_fourths v hk hB xs hS hp hall

theorem ffdFits_five_fourths {k : Nat} (hk : 0 < k) {items : List α} {opt : Int}
    (hopt : IsOptimalValue .minLargest k (items.map v) opt) {ρ : Rat} (hρ : 5 / 4 ≤ ρ) :
    FfdFits v k (sortDesc v items) ρ opt :=
  ffdFits_of_fold_fits v hopt (p := 5) (q := 4) (by decide) (by decide) (by norm_num; exact hρ)
    fun _ _ _ hp _ hB hall => ffd_fold_fits_five_fourths v hk hB _ (Part.sortDesc_sorted v items) hp hall

/-- **C08, multifit, unconditional: `5/4 + 2^−it`.**  The largest sum of `multifit` with `it` iterations is at most
    `(1.25 + 2^−it)` times the optimal largest sum.  (The documentation claims `1.22 + 2^−it`.) -/
theorem multifit_ratio_five_fourths {k : Nat} {items : List α} {it : Nat} {b : Bins α} (hk : 0 < k) {opt : Int}
    (hopt : IsOptimalValue .minLargest k (items.map v) opt) (h : multifit v k items it = .ok b) :
    ((maxL b.sums : Nat) : Rat) ≤ (5 / 4 + 1 / 2 ^ it) * opt :=
  multifit_ratio_of_ffdFits v hk hopt (by norm_num) (ffdFits_five_fourths v hk hopt (le_refl _)) h

/-! non-vacuity (`[3, 3, 2, 2, 2]` on two bins, optimal largest sum `6`, see `LPT43.opt_33222`) -/

example : FfdFits id 2 (sortDesc id [3, 3, 2, 2, 2]) (5 / 4) ((6 : Int) : Rat) :=
  ffdFits_five_fourths id (by decide) opt_33222 (le_refl _)

example : ∃ b, multifit id 2 [3, 3, 2, 2, 2] 10 = .ok b ∧
    ((maxL b.sums : Nat) : Rat) ≤ (5 / 4 + 1 / 2 ^ 10) * ((6 : Int) : Rat) := by
  obtain ⟨b, h, _⟩ := Part.multifit_perm (v := id) (k := 2) (items := [3, 3, 2, 2, 2]) (it := 10)
    (by decide) (by decide)
  exact ⟨b, h, multifit_ratio_five_fourths id (by decide) opt_33222 h⟩

/-- on a concrete packing: first fit with capacity `7` puts `[4, 3, 3, 3]` into `[4, 3], [3, 3]`; a further item
    `2` fits nowhere, and indeed `[4, 3, 3, 3, 2]` does not fit into two bins of capacity `6` (`5 · 6 < 4 · 8`) -/
example : ¬ Packable 6 2 ((([[4, 3], [3, 3]] : List (List Nat)).flatten ++ [2]).map id) := by
  intro hp
  refine ffd_core' (v := id) (T := 6) (B := 7) (by decide) ⟨rfl, ?_, by decide, by decide, hp⟩
  have := MultiFit122.ffdInv_fold (v := id) (B := 7) [4, 3, 3, 3] (by decide) (by decide)
  exact this

end Multifit

end Prtpy.MaxMin2

/-! ## The ratios `4/3` and `2`

Special cases of `5/4`, in `Prtpy.MaxMin` (see the head of MultiFit.lean). -/

namespace Prtpy.MaxMin
open Prtpy.LPT43 Prtpy.MaxMin2

variable {α : Type}

section Multifit
variable (v : α → Nat)

theorem ffd_fits_four_thirds {k : Nat} (hk : 0 < k) {xs : List α}
    (hS : xs.Pairwise (fun a c => v c ≤ v a)) {T : Nat} (hp : Packable T k (xs.map v)) {B : Nat}
    (hB : 4 * T < 3 * (B + 1)) {b : Bins α} (h : ffOnline v B xs = .ok b) : b.lists.length ≤ k :=
  ffd_fits_five_fourths v hk hS hp (by omega) h

theorem ffdFits_four_thirds {k : Nat} (hk : 0 < k) {items : List α} {opt : Int}
    (hopt : IsOptimalValue .minLargest k (items.map v) opt) {ρ : Rat} (hρ : 4 / 3 ≤ ρ) :
    FfdFits v k (sortDesc v items) ρ opt :=
  ffdFits_five_fourths v hk hopt (le_trans (by norm_num) hρ)

/-- C08, multifit, unconditional: `4/3 + 2^−it` (weaker than `MaxMin2.multifit_ratio_five_fourths`). -/
theorem multifit_ratio_four_thirds {k : Nat} {items : List α} {it : Nat} {b : Bins α} (hk : 0 < k) {opt : Int}
    (hopt : IsOptimalValue .minLargest k (items.map v) opt) (h : multifit v k items it = .ok b) :
    ((maxL b.sums : Nat) : Rat) ≤ (4 / 3 + 1 / 2 ^ it) * opt :=
  multifit_ratio_of_ffdFits v hk hopt (by norm_num) (ffdFits_four_thirds v hk hopt (le_refl _)) h

/-- Multifit, as in the documentation with `2` in place of `1.22`: `(2 + 2^−it) · OPT`. -/
theorem multifit_ratio_two {k : Nat} {items : List α} {it : Nat} {b : Bins α} (hk : 0 < k) {opt : Int}
    (hopt : IsOptimalValue .minLargest k (items.map v) opt) (h : multifit v k items it = .ok b) :
    ((maxL b.sums : Nat) : Rat) ≤ (2 + 1 / 2 ^ it) * opt :=
  multifit_ratio_of_ffdFits v hk hopt (by norm_num) (ffdFits_five_fourths v hk hopt (by norm_num)) h

example : ∃ b, multifit id 2 [3, 3, 2, 2, 2] 10 = .ok b ∧
    ((maxL b.sums : Nat) : Rat) ≤ (4 / 3 + 1 / 2 ^ 10) * ((6 : Int) : Rat) := by
  obtain ⟨b, h, _⟩ := Part.multifit_perm (v := id) (k := 2) (items := [3, 3, 2, 2, 2]) (it := 10)
    (by decide) (by decide)
  exact ⟨b, h, multifit_ratio_of_ffdFits id (by decide) opt_33222 (by norm_num)
    (ffdFits_four_thirds id (by decide) opt_33222 (le_refl _)) h⟩

example : FfdFits id 2 (sortDesc id [3, 3, 2, 2, 2]) (4 / 3) ((6 : Int) : Rat) :=
  ffdFits_four_thirds id (by decide) opt_33222 (le_refl _)

end Multifit

end Prtpy.MaxMin
