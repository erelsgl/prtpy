/-
  PrtpyProofs.CKKGenComplete — completeness of the bounded 2-way generator of complete Karmarkar–Karp: started with the
  bound `d`, `ckkGen … 2 …` yields every 2-way split of the items of difference `< d`, up to the order of the two bins
  and of the items inside a bin (`ckkGenComplete`).  This is the hypothesis `SNPOpt.CkkGenComplete` of the optimality
  proofs for `rnp`/`rnpF`, whose even case walks over these splits; hence the namespace `Prtpy.RNPF`, for all of the
  file (`RC`, `TEq`, `GInv`, `Yielded` are about `ckkGen`, not about `rnpF`).
  The argument: a contents-level `Reach` for two bins (`RC`: which splits a heap of 2-tuples still represents); every
  split below the bound is yielded or still represented (`CKKValid.Lossless`), which every iteration keeps
  (`CKKValid.step_lossless` with `rc_leaf`, `rc_expand`; `step_ginv`), the bound test being handled by
  `CKKOpt.ckkBound_admissible`.
-/
import Mathlib.Data.List.Perm.Basic
import PrtpyProofs.Obj
import PrtpyProofs.Runs
import PrtpyProofs.Part
import PrtpyProofs.SNP
import PrtpyProofs.AllComb
import PrtpyProofs.CKKValid
import PrtpyProofs.CKKOpt
import PrtpyProofs.SNPOpt

namespace Prtpy.RNPF
open Prtpy
open Prtpy.SNPOpt (CkkGenComplete)

variable {α : Type}
attribute [local instance] decEqBins

open Prtpy.CKKOpt (Reach sumsH)

/-- `RC Ts X Y`: the 2-way split `(X, Y)` is obtained from the 2-tuples `Ts` (pairs of bins) by choosing an
    orientation of every tuple and pouring first components into `X` and second components into `Y`
    (everything up to the order of the items inside a bin) -/
inductive RC : List (List α × List α) → List α → List α → Prop
  | nil : RC [] [] []
  | same {A B X Y X' Y' : List α} {Ts : List (List α × List α)} :
      RC Ts X Y → X'.Perm (A ++ X) → Y'.Perm (B ++ Y) → RC ((A, B) :: Ts) X' Y'
  | flip {A B X Y X' Y' : List α} {Ts : List (List α × List α)} :
      RC Ts X Y → X'.Perm (B ++ X) → Y'.Perm (A ++ Y) → RC ((A, B) :: Ts) X' Y'

/-- two 2-tuples with the same bins up to order (of the bins, and of the items inside a bin) -/
def TEq (s t : List α × List α) : Prop :=
  (s.1.Perm t.1 ∧ s.2.Perm t.2) ∨ (s.1.Perm t.2 ∧ s.2.Perm t.1)

theorem teq_refl (t : List α × List α) : TEq t t := Or.inl ⟨List.Perm.refl _, List.Perm.refl _⟩

theorem rc_congr {Ts : List (List α × List α)} {X Y X2 Y2 : List α} (hX : X2.Perm X) (hY : Y2.Perm Y)
    (h : RC Ts X Y) : RC Ts X2 Y2 := by
  cases h with
  | nil =>
    rw [hX.eq_nil, hY.eq_nil]
    exact RC.nil
  | same h0 h1 h2 => exact RC.same h0 (hX.trans h1) (hY.trans h2)
  | flip h0 h1 h2 => exact RC.flip h0 (hX.trans h1) (hY.trans h2)

theorem rc_forall2 {Ts Ts' : List (List α × List α)} (hT : List.Forall₂ TEq Ts Ts') :
    ∀ {X Y : List α}, RC Ts X Y → RC Ts' X Y := by
  induction hT with
  | nil => intro X Y h; exact h
  | @cons s t Ts Ts' hst _ ih =>
    intro X Y h
    obtain ⟨A', B'⟩ := t
    cases h with
    | same h0 h1 h2 =>
      rcases hst with ⟨ha, hb⟩ | ⟨ha, hb⟩
      · exact RC.same (ih h0) (h1.trans (ha.append_right _)) (h2.trans (hb.append_right _))
      · exact RC.flip (ih h0) (h1.trans (ha.append_right _)) (h2.trans (hb.append_right _))
    | flip h0 h1 h2 =>
      rcases hst with ⟨ha, hb⟩ | ⟨ha, hb⟩
      · exact RC.flip (ih h0) (h1.trans (hb.append_right _)) (h2.trans (ha.append_right _))
      · exact RC.same (ih h0) (h1.trans (hb.append_right _)) (h2.trans (ha.append_right _))

theorem rc_head {s t : List α × List α} {Ts : List (List α × List α)} {X Y : List α} (hst : TEq s t)
    (h : RC (s :: Ts) X Y) : RC (t :: Ts) X Y :=
  rc_forall2 (List.Forall₂.cons hst (List.forall₂_same.2 fun t _ => teq_refl t)) h

theorem rc_perm {Ts Ts' : List (List α × List α)} (hp : Ts.Perm Ts') :
    ∀ {X Y : List α}, RC Ts X Y → RC Ts' X Y := by
  induction hp with
  | nil => intro X Y h; exact h
  | cons t _ ih =>
    intro X Y h
    cases h with
    | same h0 h1 h2 => exact RC.same (ih h0) h1 h2
    | flip h0 h1 h2 => exact RC.flip (ih h0) h1 h2
  | swap a b l =>
    intro X Y h
    have key : ∀ {P Q R S : List α}, S.Perm (P ++ R) → ∀ {R0 : List α}, R.Perm (Q ++ R0) →
        S.Perm (Q ++ (P ++ R0)) := fun h1 _ h2 =>
      (h1.trans (h2.append_left _)).trans (List.perm_append_comm_assoc _ _ _)
    cases h with
    | same h0 h1 h2 =>
      cases h0 with
      | same g0 g1 g2 =>
        exact RC.same (RC.same g0 (List.Perm.refl _) (List.Perm.refl _)) (key h1 g1) (key h2 g2)
      | flip g0 g1 g2 =>
        exact RC.flip (RC.same g0 (List.Perm.refl _) (List.Perm.refl _)) (key h1 g1) (key h2 g2)
    | flip h0 h1 h2 =>
      cases h0 with
      | same g0 g1 g2 =>
        exact RC.same (RC.flip g0 (List.Perm.refl _) (List.Perm.refl _)) (key h1 g1) (key h2 g2)
      | flip g0 g1 g2 =>
        exact RC.flip (RC.flip g0 (List.Perm.refl _) (List.Perm.refl _)) (key h1 g1) (key h2 g2)
  | trans _ _ ih₁ ih₂ => intro X Y h; exact ih₂ (ih₁ h)

/-- the merge lemma for two bins: two tuples can be replaced by one of their two pairings -/
theorem rc_merge {A1 B1 A2 B2 : List α} {Ts : List (List α × List α)} {X Y : List α}
    (h : RC ((A1, B1) :: (A2, B2) :: Ts) X Y) :
    RC ((A1 ++ A2, B1 ++ B2) :: Ts) X Y ∨ RC ((B1 ++ A2, A1 ++ B2) :: Ts) X Y := by
  have key : ∀ {P Q R S : List α}, S.Perm (P ++ R) → ∀ {R0 : List α}, R.Perm (Q ++ R0) →
      S.Perm ((P ++ Q) ++ R0) := fun h1 _ h2 => by
    rw [List.append_assoc]; exact h1.trans (h2.append_left _)
  cases h with
  | same h0 h1 h2 =>
    cases h0 with
    | same g0 g1 g2 => exact Or.inl (RC.same g0 (key h1 g1) (key h2 g2))
    | flip g0 g1 g2 => exact Or.inr (RC.flip g0 (key h1 g1) (key h2 g2))
  | flip h0 h1 h2 =>
    cases h0 with
    | same g0 g1 g2 => exact Or.inr (RC.same g0 (key h1 g1) (key h2 g2))
    | flip g0 g1 g2 => exact Or.inl (RC.flip g0 (key h1 g1) (key h2 g2))

theorem rc_single {A B X Y : List α} (h : RC [(A, B)] X Y) : TEq (X, Y) (A, B) := by
  cases h with
  | same h0 h1 h2 =>
    cases h0
    exact Or.inl ⟨by simpa using h1, by simpa using h2⟩
  | flip h0 h1 h2 =>
    cases h0
    exact Or.inr ⟨by simpa using h1, by simpa using h2⟩

/-- the singletons represent every 2-way split -/
theorem rc_init [BEq α] [LawfulBEq α] : ∀ (items X Y : List α), (X ++ Y).Perm items →
    RC (items.map (fun x => (([] : List α), [x]))) X Y := by
  intro items
  induction items with
  | nil =>
    intro X Y hp
    have := hp.eq_nil
    simp only [List.append_eq_nil_iff] at this
    rw [this.1, this.2]
    exact RC.nil
  | cons x xs ih =>
    intro X Y hp
    have hx : x ∈ X ++ Y := hp.symm.subset List.mem_cons_self
    rcases List.mem_append.1 hx with hx | hx
    · have h1 : X.Perm (x :: X.erase x) := List.perm_cons_erase hx
      have h2 : (X.erase x ++ Y).Perm xs := by
        have := (h1.append_right Y).symm.trans hp
        exact (List.perm_cons x).1 this
      exact RC.flip (ih _ _ h2) h1 (List.Perm.refl _)
    · have h1 : Y.Perm (x :: Y.erase x) := List.perm_cons_erase hx
      have h2 : (X ++ Y.erase x).Perm xs := by
        have := ((h1.append_left X).trans List.perm_middle).symm.trans hp
        exact (List.perm_cons x).1 this
      exact RC.same (ih _ _ h2) (List.Perm.refl _) h1

/-- from contents to sums: what is represented at the level of contents is represented at the level of sums -/
theorem rc_reach (v : α → Nat) {Ts : List (List α × List α)} {X Y : List α} (h : RC Ts X Y) :
    Reach 2 (Ts.map (fun t => [binSum v t.1, binSum v t.2])) [binSum v X, binSum v Y] := by
  induction h with
  | nil => exact Reach.nil
  | @same A B X Y X' Y' Ts _ h1 h2 ih =>
    have e : [binSum v X', binSum v Y'] =
        List.zipWith (· + ·) [binSum v A, binSum v B] [binSum v X, binSum v Y] := by
      simp [Part.binSum_perm v h1, Part.binSum_perm v h2, Part.binSum_append]
    rw [e]
    exact Reach.cons (List.Perm.refl _) ih
  | @flip A B X Y X' Y' Ts _ h1 h2 ih =>
    have e : [binSum v X', binSum v Y'] =
        List.zipWith (· + ·) [binSum v B, binSum v A] [binSum v X, binSum v Y] := by
      simp [Part.binSum_perm v h1, Part.binSum_perm v h2, Part.binSum_append]
    rw [e]
    exact Reach.cons (List.Perm.swap _ _ _) ih


/-! ### heaps of 2-tuples -/

def pairL (L : List (List α)) : List α × List α := (L.getD 0 [], L.getD 1 [])

def pairsH (h : Heap α) : List (List α × List α) := h.map (fun e => pairL e.bins.lists)

theorem perm_pair {β : Type} {P Q A B : β} (h : [P, Q].Perm [A, B]) : (P = A ∧ Q = B) ∨ (P = B ∧ Q = A) := by
  have hP : P ∈ [A, B] := h.subset List.mem_cons_self
  simp only [List.mem_cons, List.not_mem_nil, or_false] at hP
  rcases hP with rfl | rfl
  · left
    have := (List.perm_cons P).1 h
    exact ⟨rfl, List.singleton_perm_singleton.1 this⟩
  · right
    have := (List.perm_cons P).1 (h.trans (List.Perm.swap _ _ _))
    exact ⟨rfl, List.singleton_perm_singleton.1 this⟩

theorem teq_pairL {L : List (List α)} {A B A' B' : List α} (hL : L.Perm [A', B']) (hA : A'.Perm A)
    (hB : B'.Perm B) : TEq (A, B) (pairL L) := by
  have hlen : L.length = 2 := hL.length_eq
  match L, hlen with
  | [P, Q], _ =>
    rcases perm_pair hL with ⟨rfl, rfl⟩ | ⟨rfl, rfl⟩
    · exact Or.inl ⟨hA.symm, hB.symm⟩
    · exact Or.inr ⟨hA.symm, hB.symm⟩

theorem lists_eq_pair {L : List (List α)} (hl : L.length = 2) : L = [(pairL L).1, (pairL L).2] := by
  match L, hl with
  | [P, Q], _ => rfl

theorem sumsH_eq_pairs {v : α → Nat} {h : Heap α} (hh : ∀ e ∈ h, CKKValid.EOK v 2 e) :
    sumsH h = (pairsH h).map (fun t => [binSum v t.1, binSum v t.2]) := by
  unfold sumsH pairsH
  rw [List.map_map]
  apply List.map_congr_left
  intro e he
  obtain ⟨l, c, _, _⟩ := hh e he
  unfold Bins.Consistent at c
  rw [c]
  conv => lhs; rw [lists_eq_pair l]
  rfl

theorem pairsH_hpush (h : Heap α) (c : Nat) (b : Bins α) :
    pairsH (hpush h c b).1 = pairsH h ++ [pairL b.sortAsc.lists] := by
  simp [pairsH, hpush]

theorem pairsH_pushAll (v : α → Nat) (k : Nat) (xs : List α) (h : Heap α) (c : Nat) :
    pairsH (pushAll v k xs h c).1 = pairsH h ++ xs.map (fun x => pairL (single v k x).sortAsc.lists) := by
  induction xs generalizing h c with
  | nil => simp [pushAll]
  | cons x xs ih => simp only [pushAll, ih, pairsH_hpush, List.map_cons, List.append_assoc, List.singleton_append]

/-- the heap the search starts from represents every 2-way split of the items -/
theorem rep_init [BEq α] [LawfulBEq α] (v : α → Nat) {items X Y : List α} (hp : (X ++ Y).Perm items) :
    RC (pairsH (pushAll v 2 (sortDesc v items) [] 0).1) X Y := by
  rw [pairsH_pushAll]
  have h1 := rc_init items X Y hp
  have h2 := rc_perm ((Part.sortDesc_perm v items).symm.map (fun x => (([] : List α), [x]))) h1
  refine rc_forall2 (List.forall₂_map_left_iff.2 (List.forall₂_map_right_iff.2 (List.forall₂_same.2 fun x _ => ?_))) h2
  refine teq_pairL (A' := []) (B' := [x]) ?_ (List.Perm.refl _) (List.Perm.refl _)
  exact Part.sortAsc_lists_perm (single v 2 x) (by simp [single, Bins.add, Bins.new])

/-- pushing (the canonical form of) a pairing whose bins are `M` -/
theorem push_rep {v : α → Nat} (nm : α → Nat) {b1 b2 : Bins α} {h2 : Heap α} {perm : List Nat}
    (l1 : b1.lists.length = 2) (c1 : b1.Consistent v) (l2 : b2.lists.length = 2) (c2 : b2.Consistent v)
    (hperm : perm.Perm (List.range 2)) {M : List α × List α} (hM : (pairBy b1 b2 perm).lists = [M.1, M.2])
    {X Y : List α} (r : RC (M :: pairsH h2) X Y) (c : Nat) :
    RC (pairsH (hpush h2 c (AllComb.canonC nm b1 b2 perm)).1) X Y := by
  rw [pairsH_hpush]
  refine rc_perm (List.perm_append_singleton _ _).symm (rc_head ?_ r)
  have hcan := (AllComb.canonC_spec v nm c1 c2 l1 l2 hperm).1
  have hpc := AllComb.pairBy_consistent v c1 c2 perm
  have p1 := Part.sortAsc_lists_perm _ (Part.consistent_length v hcan)
  have p2 : (AllComb.canonC nm b1 b2 perm).lists.Perm ((pairBy b1 b2 perm).lists.map (sortAsc nm)) := by
    unfold AllComb.canonC
    exact Part.sortAsc_lists_perm _ (by simpa using Part.consistent_length v hpc)
  rw [hM] at p2
  exact teq_pairL (p1.trans p2) (Part.sortAsc_perm nm _) (Part.sortAsc_perm nm _)

/-- the split `(X, Y)` has been yielded, up to the order of the two bins and of the items inside a bin -/
def Yielded (ys : List (Bins α)) (X Y : List α) : Prop :=
  ∃ top ∈ ys, ∃ X' Y', top.lists = [X', Y'] ∧ ((X'.Perm X ∧ Y'.Perm Y) ∨ (X'.Perm Y ∧ Y'.Perm X))

/-- a complete partition represents only itself, and its key is its difference -/
theorem rc_leaf {v : α → Nat} {items : List α} {e : HEntry α} (hh : CKKValid.HInv v 2 items [e]) {X Y : List α}
    (hr : RC (pairsH [e]) X Y) :
    (∃ A B, e.bins.lists = [A, B] ∧ ((A.Perm X ∧ B.Perm Y) ∨ (A.Perm Y ∧ B.Perm X))) ∧
      e.diff = spread [binSum v X, binSum v Y] := by
  obtain ⟨l, c, _, _⟩ := hh.2 e List.mem_cons_self
  have hkey := (CKKValid.hinv_singleton hh).2
  have hl := lists_eq_pair l
  generalize (pairL e.bins.lists).1 = A at hl
  generalize (pairL e.bins.lists).2 = B at hl
  have hsums : e.bins.sums = [binSum v A, binSum v B] := by
    unfold Bins.Consistent at c
    rw [c, hl]; rfl
  have hp : pairsH [e] = [(A, B)] := by simp [pairsH, pairL, hl]
  rw [hp] at hr
  rw [hkey, hsums]
  rcases rc_single hr with ⟨h1, h2⟩ | ⟨h1, h2⟩
  · simp only at h1 h2
    exact ⟨⟨A, B, hl, Or.inl ⟨h1.symm, h2.symm⟩⟩, by rw [Part.binSum_perm v h1, Part.binSum_perm v h2]⟩
  · simp only at h1 h2
    refine ⟨⟨A, B, hl, Or.inr ⟨h2.symm, h1.symm⟩⟩, ?_⟩
    rw [Part.binSum_perm v h1, Part.binSum_perm v h2]
    exact SNPProofs.spread_perm (List.Perm.swap _ _ _)

/-- a split that a heap represents is represented by one of the two pairings of its two best tuples -/
theorem rc_expand {v nm : α → Nat} [BEq α] [LawfulBEq α] {items : List α} {h h2 : Heap α} {e1 e2 : HEntry α}
    (hh : CKKValid.HInv v 2 items h) (hperm : h.Perm (e1 :: e2 :: h2)) {X Y : List α} (hr : RC (pairsH h) X Y) :
    ∃ nb ∈ allComb nm true e1.bins e2.bins, ∀ c, RC (pairsH (hpush h2 c nb).1) X Y := by
  obtain ⟨l1, c1, _, _⟩ := hh.2 e1 (hperm.mem_iff.2 (by simp))
  obtain ⟨l2, c2, _, _⟩ := hh.2 e2 (hperm.mem_iff.2 (by simp))
  have hl2 := lists_eq_pair l2
  have r1 : RC (pairL e1.bins.lists :: pairL e2.bins.lists :: pairsH h2) X Y :=
    rc_perm (hperm.map (fun e : HEntry α => pairL e.bins.lists)) hr
  have hmem : ∀ perm : List Nat, perm.Perm (List.range 2) →
      AllComb.canonC nm e1.bins e2.bins perm ∈ allComb nm true e1.bins e2.bins := by
    intro perm hperm
    simp only [allComb, if_true]
    exact CKKOpt.allCombContents_complete v nm l1 c1 l2 c2 hperm
  rcases rc_merge r1 with r2 | r2
  · have hpm : [0, 1].Perm (List.range 2) := List.Perm.refl _
    refine ⟨_, hmem [0, 1] hpm, fun c => push_rep nm l1 c1 l2 c2 hpm ?_ r2 c⟩
    simp only [pairBy]
    conv => lhs; rw [hl2]
    rfl
  · have hpm : [1, 0].Perm (List.range 2) := List.Perm.swap _ _ _
    refine ⟨_, hmem [1, 0] hpm, fun c => push_rep nm l1 c1 l2 c2 hpm ?_ r2 c⟩
    simp only [pairBy]
    conv => lhs; rw [hl2]
    rfl

/-- the invariant of the bounded generator for one target split `(X, Y)`: `best` stays `-d` (the bound is never
    tightened), the machine only stops on an empty stack, and the target is yielded or represented by a heap on the
    stack -/
structure GInv (d : Nat) (X Y : List α) (s : CkkState α) : Prop where
  best : s.best = .fin (-(d : Int))
  dn : s.done = true → s.stack = []
  kept : CKKValid.Lossless (fun h => RC (pairsH h) X Y) (fun _ ys => Yielded ys X Y) s

/-- one iteration of the bounded 2-way generator (`gen = true`, `isBest = false`) loses no split below the bound -/
theorem step_ginv {v nm : α → Nat} [BEq α] [LawfulBEq α] {items : List α} {d : Nat} {X Y : List α}
    {s s' : CkkState α} (hstep : CKKValid.Step (allComb nm true) 2 true false s s') (hne : items ≠ [])
    (hs : CKKValid.SInv v 2 items s) (hlt : spread [binSum v X, binSum v Y] < d) (hg : GInv d X Y s) :
    GInv d X Y s' := by
  have hkept := CKKValid.step_lossless (Rep := fun h => RC (pairsH h) X Y)
    (S := fun _ ys => Yielded ys X Y) hstep (fun h0 => (CKKOpt.hgood_of_hinv nm hne (hs.stack _ h0)).ne rfl)
    (fun h hh hpr hr => by
      -- the bound is admissible and the target is below the incumbent
      exfalso
      unfold CKKValid.prunedB at hpr
      split at hpr
      · cases hpr
      · rename_i lb hlb
        have h1 := CKKOpt.ckkBound_admissible (CKKOpt.hgood_of_hinv nm hne (hs.stack h hh)).len
          (sumsH_eq_pairs (hs.stack h hh).2 ▸ rc_reach v hr) hlb
        rw [hg.best] at hpr
        have h2 := CGOpt.ele_fin.1 hpr
        omega)
    (fun e he hnlt hr => by
      exfalso
      rw [hg.best, (rc_leaf (hs.stack _ he) hr).2] at hnlt
      have : ¬ -(d : Int) < -((spread [binSum v X, binSum v Y] : Nat) : Int) := fun h => by
        rw [CGOpt.elt_fin.2 h] at hnlt; cases hnlt
      omega)
    (fun e he _ hr => by
      rcases hr with hr | ⟨top, ht, rest⟩
      · obtain ⟨A, B, hl, hAB⟩ := (rc_leaf (hs.stack _ he) hr).1
        exact ⟨e.bins, List.mem_cons_self, A, B, hl, hAB⟩
      · exact ⟨top, List.mem_cons_of_mem _ ht, rest⟩)
    (fun h e1 e2 h2 hh hperm hr => rc_expand (hs.stack h hh) hperm hr) hg.kept
  -- in generator mode with a bound no step sets `done` unless the stack is empty; every case below uses it
  have hdone : ∀ {h : Heap α} {st : List (Heap α)}, s.stack = h :: st → s.done = false := fun hst => by
    cases hd : s.done with
    | false => rfl
    | true => have := hg.dn hd; rw [hst] at this; cases this
  cases hstep with
  | stop hst => exact ⟨hg.best, fun _ => hst, hkept⟩
  | prune hst _ | noHeap hst | leafNo hst _ _ | expand hst _ _ _ _ =>
    exact ⟨hg.best, (fun hd => nomatch (hdone hst).symm.trans hd), hkept⟩
  | leafYes hst _ _ =>
    refine ⟨hg.best, fun hd => ?_, hkept⟩
    simp only [Bool.false_or, Bool.not_true, Bool.and_false, Bool.false_or] at hd
    cases (hdone hst).symm.trans hd

/-- **Completeness of the bounded 2-way generator** (C13, used for C02): started with the bound `d`, the generator
    of complete Karmarkar–Karp yields (up to the order of the two bins and of the items inside a bin) every 2-way
    split of the items whose difference is below `d`.  This is the hypothesis `CkkGenComplete` of `SNPOpt`. -/
theorem ckkGenComplete (v nm : α → Nat) [BEq α] [LawfulBEq α] : CkkGenComplete v nm := by
  intro items d fuel tops hne hg X Y hp hlt
  obtain ⟨_, hb, hd, rfl⟩ := CKKValid.ckkGen_ok hg
  obtain rfl := hb.2 _ rfl
  have hinv := CKKValid.ckkRun_inv nm 2 true true false
    (fun s => CKKValid.SInv v 2 items s ∧ GInv d X Y s)
    (fun s hs => ⟨CKKValid.ckkStep_sinv true false hs.1, step_ginv (CKKValid.ckkStep_step nm 2 true true false s) hne hs.1 hlt hs.2⟩) fuel _
    ⟨CKKValid.ckkInit_inv (by omega) items (.fin (-(d : Int))),
      ⟨rfl, fun hd => (by cases hd), Or.inr ⟨_, List.mem_singleton.2 rfl, rep_init v hp⟩⟩⟩
  rcases hinv.2.kept with ⟨top, ht, rest⟩ | ⟨g, hgm, _⟩
  · exact ⟨top, List.mem_reverse.2 ht, rest⟩
  · rw [hinv.2.dn hd] at hgm
    cases hgm

/-- with the bound 3 the generator yields the two splits of `[4, 5, 6, 7, 8]` of difference `< 3`;
    the split `([8, 6], [7, 5, 4])` (difference 2) is found as `[[6, 8], [4, 5, 7]]` -/
example : ∃ top ∈ [(⟨[14, 16], [[6, 8], [4, 5, 7]]⟩ : Bins Nat), ⟨[15, 15], [[4, 5, 6], [7, 8]]⟩],
    ∃ X' Y', top.lists = [X', Y'] ∧
      ((X'.Perm [8, 6] ∧ Y'.Perm [7, 5, 4]) ∨ (X'.Perm [7, 5, 4] ∧ Y'.Perm [8, 6])) :=
  ckkGenComplete id id [4, 5, 6, 7, 8] 3 100 _ (by decide) Runs.ckkGen2_bound3 [8, 6] [7, 5, 4] (by decide) (by decide)

end Prtpy.RNPF
