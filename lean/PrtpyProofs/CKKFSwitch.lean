/-
  PrtpyProofs.CKKFSwitch — what `snp`, `rnp` and `rnpF` inherit from the 2-way complete Karmarkar–Karp search they
  call (`Prtpy.ckk2`, which runs `Prtpy.ckkF` of Prtpy/Model/CKKF.lean; its properties: PrtpyProofs/CKKF.lean).
  The theorems about the three callers are stated in their own files relative to hypotheses on that search
  (`SNPProofs.CkkValid`, `SNPOpt.Ckk2Optimal`, `SNPOpt.CkkGenComplete`).  Here `CKKValid.ckkValid` and
  `RNPF.ckk2Optimal` discharge the first two (the third is `RNPF.ckkGenComplete` of PrtpyProofs/CKKGenComplete.lean).
  Validity (C01) of `snp`, `rnp`, `rnpF` and optimality of `rnp` for `k ≤ 4` follow from the conditional theorems
  (`SNPProofs.snp_isPartition`, `CKKValid.rnp_isPartition_of`, `RNPF.rnpF_isPartition_of`, `SNPOpt.rnp_optimal`);
  optimality (C02) of `snp` and `rnpF` is the contents-manager case of `SumsOnly.snp_optimal_any`,
  `SumsOnly.rnpF_optimal_any`, which does not pass through `Ckk2Optimal`; naturality (C07) comes from
  `CKKF.ckkF_natural`, for `rnp` and `rnpF` through one round with the recursive call as a parameter
  (`round_natural`, about `RNPRound.round`).
  Namespaces: `CKKValid` (validity of `snp`, `rnp`), `RNPF` (all optimality, also `snp_optimal'` and
  `rnp_optimal_four`; everything about `rnpF`), `Natural2` (naturality of `snp`, `rnp`).
  `rnp` is the code before F10, `rnpF` after.
-/
import Mathlib.Data.List.Perm.Basic
import PrtpyProofs.BinsOps
import PrtpyProofs.Runs
import PrtpyProofs.SNP
import PrtpyProofs.RNPRound
import PrtpyProofs.Sim
import PrtpyProofs.Natural
import PrtpyProofs.CKKValid
import PrtpyProofs.Natural2
import PrtpyProofs.RNPF
import PrtpyProofs.SNPOpt
import PrtpyProofs.CKKF
import PrtpyProofs.CKKGenComplete
import PrtpyProofs.RNPOpt
import PrtpyProofs.SumsOnly
open Prtpy

attribute [local instance] Prtpy.decEqBins

/-! ## validity (C01) -/

namespace Prtpy.CKKValid
variable {α : Type}

/-- the hypothesis `CkkValid` of `SNPProofs` holds: the 2-way search that snp/rnp call (`ckkF`) returns a partition -/
theorem ckkValid (v nm : α → Nat) [BEq α] : SNPProofs.CkkValid v nm :=
  fun _ _ _ _ h => CKKF.ckkF_isPartition (by omega) h

example : IsPartition id [4, 5, 6, 7, 8] 2 ⟨[15, 15], [[4, 5, 6], [7, 8]]⟩ :=
  ckkValid id id _ _ _ (by decide) Runs.ckkF_two

/-! ### without hypotheses: SNP and RNP -/

/-- C01 for `snp`, without hypotheses on KK / CKK -/
theorem snp_isPartition' {v nm : α → Nat} [BEq α] [LawfulBEq α] {k : Nat} {items : List α} {fuel : Nat}
    {b : Bins α} (hk : 0 < k) (hne : items ≠ []) (h : snp v nm k true items fuel = .ok b) :
    IsPartition v items k b :=
  SNPProofs.snp_isPartition (kkValid v) (ckkValid v nm) hk hne h

example : IsPartition id [4, 5, 6, 7, 8] 3 ⟨[8, 11, 11], [[8], [4, 7], [5, 6]]⟩ :=
  snp_isPartition' (nm := id) (fuel := 100) (by decide) (by decide) (by decide +kernel)

/-- C01 for `rnp` (the code before F10; numbins ≤ 5) -/
theorem rnp_isPartition {v nm : α → Nat} [BEq α] [LawfulBEq α] {k : Nat} {items : List α} {fuel : Nat}
    {b : Bins α} (hk : 0 < k) (hk5 : k ≤ 5) (hne : items ≠ [])
    (h : rnp v nm k true items fuel = .ok b) : IsPartition v items k b :=
  rnp_isPartition_of (ckkValid v nm) hk hk5 hne h

example : IsPartition id [4, 5, 6, 7, 8, 9, 3, 1] 5 ⟨[8, 8, 9, 9, 9], [[7, 1], [8], [4, 5], [9], [3, 6]]⟩ :=
  rnp_isPartition (nm := id) (fuel := 1000) (by decide) (by decide) (by decide) (by decide +kernel)

example : IsPartition id [4, 5, 6, 7, 8] 3 ⟨[8, 11, 11], [[8], [4, 7], [5, 6]]⟩ :=
  rnp_isPartition (nm := id) (fuel := 100) (by decide) (by decide) (by decide) (by decide +kernel)

end Prtpy.CKKValid

/-! ## optimality (C02) of `snp`, `rnpF` and `rnp` (k ≤ 4); validity (C01) of `rnpF` -/

namespace Prtpy.RNPF
open Prtpy.Part (binSum_nil binSum_cons)
open Prtpy.SNPOpt (Ckk2Optimal CkkGenComplete)

variable {α : Type}

/-- the hypothesis `Ckk2Optimal` of `SNPOpt` holds -/
theorem ckk2Optimal (v nm : α → Nat) [BEq α] [LawfulBEq α] : Ckk2Optimal v nm :=
  fun _ _ _ hne h => ⟨CKKF.ckkF_isPartition (by omega) h, CKKF.ckkF_optimal true (by omega) hne h⟩

example : IsOptimalValue .minDiff 2 ([4, 5, 6, 7, 8].map id)
    (Objective.minDiff.value (⟨[15, 15], [[4, 5, 6], [7, 8]]⟩ : Bins Nat).sums false) :=
  (ckk2Optimal id id _ _ _ (by decide) Runs.ckkF_two).2

/-- **C02 for SNP**, unconditionally -/
theorem snp_optimal' {v nm : α → Nat} [BEq α] [LawfulBEq α] {k : Nat} {items : List α}
    {fuel : Nat} {b : Bins α} (hk : 0 < k) (hne : items ≠ []) (h : snp v nm k true items fuel = .ok b) :
    IsOptimalValue .minDiff k (items.map v) (Objective.minDiff.value b.sums false) :=
  (SumsOnly.snp_optimal_any true hk hne h).2

/-- non-vacuity: six items, three bins; KK's first answer `[5, 5, 7]` has difference 2, the search improves it -/
example : IsOptimalValue .minDiff 3 ([5, 3, 3, 2, 2, 2].map id) 1 :=
  snp_optimal' (nm := id) (k := 3) (fuel := 100) (b := ⟨[6, 6, 5], [[2, 2, 2], [3, 3], [5]]⟩)
    (by decide) (by decide) Runs.snp_three

/-- five bins, the input on which `rnp` (before F10) is not optimal -/
example : IsOptimalValue .minDiff 5 ([11, 9, 9, 6, 6, 4, 4, 4].map id) 3 :=
  snp_optimal' (by decide) (by decide) Runs.snp_five

/-- C01 for `rnpF` (numbins ≤ 5) -/
theorem rnpF_isPartition {v nm : α → Nat} [BEq α] [LawfulBEq α] {k : Nat} {items : List α} {fuel : Nat}
    {b : Bins α} (hk : 0 < k) (hk5 : k ≤ 5) (hne : items ≠ [])
    (h : rnpF v nm k true items fuel = .ok b) : IsPartition v items k b :=
  rnpF_isPartition_of (CKKValid.ckkValid v nm) hk hk5 hne h

example : IsPartition id [11, 9, 9, 6, 6, 4, 4, 4] 5 ⟨[9, 9, 12, 11, 12], [[9], [9], [6, 6], [11], [4, 4, 4]]⟩ :=
  rnpF_isPartition (by decide) (by decide) (by decide) Runs.rnpF_five

example : IsPartition id [5, 3, 3, 3, 2, 2, 2, 2] 4 ⟨[5, 6, 5, 6], [[5], [2, 2, 2], [2, 3], [3, 3]]⟩ :=
  rnpF_isPartition (by decide) (by decide) (by decide) Runs.rnpF_four

/-- **C02 for `rnpF`, every `numbins ≤ 5`**: recursive number partitioning (after F10) returns a partition whose
    difference between the largest and the smallest sum is minimal -/
theorem rnpF_optimal {v nm : α → Nat} [BEq α] [LawfulBEq α] {k : Nat} {items : List α} {fuel : Nat} {b : Bins α}
    (hk : 0 < k) (hk5 : k ≤ 5) (hne : items ≠ []) (h : rnpF v nm k true items fuel = .ok b) :
    IsOptimalValue .minDiff k (items.map v) (Objective.minDiff.value b.sums false) :=
  (SumsOnly.rnpF_optimal_any true hk hk5 hne h).2

/-- the same conclusion holds whatever is assumed about the 2-way search -/
example (hckk : Ckk2Optimal (id : Nat → Nat) id) (hgen : CkkGenComplete (id : Nat → Nat) id) :
    IsOptimalValue .minDiff 5 ([11, 9, 9, 6, 6, 4, 4, 4].map id) 3 :=
  (fun _ _ => rnpF_optimal (b := ⟨[9, 9, 12, 11, 12], _⟩) (by decide) (by decide) (by decide) Runs.rnpF_five)
    hckk hgen

/-- the input on which the code before F10 returns difference 4 (`SNPOpt.rnp_not_optimal_five`): the code after F10
    returns the sums `[9, 9, 12, 11, 12]`, difference 3 … -/
example : (rnpF id id 5 true [11, 9, 9, 6, 6, 4, 4, 4] 1000).toOption.map (·.sums) = some [9, 9, 12, 11, 12] := by
  rw [Runs.rnpF_five]; rfl

example : (rnpF id id 5 true [11, 9, 9, 6, 6, 4, 4, 4] 1000).toOption.map
    (fun b => Objective.minDiff.value b.sums false) = some 3 := by
  rw [Runs.rnpF_five]; rfl

/-- … which is optimal (non-vacuity of `rnpF_optimal`, five bins: the odd case on top of the even case with a
    non-empty prior) -/
example : IsOptimalValue .minDiff 5 ([11, 9, 9, 6, 6, 4, 4, 4].map id) 3 :=
  rnpF_optimal (by decide) (by decide) (by decide) Runs.rnpF_five

/-- non-vacuity, four bins (the even case at top level) -/
example : IsOptimalValue .minDiff 4 ([5, 3, 3, 3, 2, 2, 2, 2].map id) 1 :=
  rnpF_optimal (by decide) (by decide) (by decide) Runs.rnpF_four

/-- non-vacuity, three bins (the odd case) -/
example : IsOptimalValue .minDiff 3 ([5, 3, 3, 2, 2, 2].map id) 1 :=
  rnpF_optimal (nm := id) (k := 3) (fuel := 1000) (b := ⟨[5, 6, 6], [[5], [2, 2, 2], [3, 3]]⟩)
    (by decide) (by decide) (by decide) Runs.rnpF_three

/-- C02 for `rnp` (the code before F10) up to four bins, without hypotheses; with five bins it fails
    (`SNPOpt.rnp_not_optimal_five`) -/
theorem rnp_optimal_four {v nm : α → Nat} [BEq α] [LawfulBEq α] {k : Nat} {items : List α} {fuel : Nat}
    {b : Bins α} (hk : 0 < k) (hk4 : k ≤ 4) (hne : items ≠ []) (h : rnp v nm k true items fuel = .ok b) :
    IsOptimalValue .minDiff k (items.map v) (Objective.minDiff.value b.sums false) :=
  SNPOpt.rnp_optimal (ckk2Optimal v nm) (ckkGenComplete v nm) hk hk4 hne h


end Prtpy.RNPF

/-! ## naturality (C07) of `snp` and `rnp` -/

namespace Prtpy.Natural2
open Prtpy.Natural

variable {α β : Type}

section SNP
variable (f : α → β) (vα : α → Nat) (vβ : β → Nat) (hf : ∀ a, vβ (f a) = vα a)
variable [BEq α] [LawfulBEq α] [BEq β] [LawfulBEq β] (hinj : ∀ a b, f a = f b → a = b)
variable (nmα : α → Nat) (nmβ : β → Nat) (hnm : ∀ a, nmβ (f a) = nmα a)
include hf hinj hnm

theorem ckk2_natural (contents : Bool) (items : List α) (fuel : Nat) :
    ckk2 vβ nmβ contents (items.map f) fuel = (ckk2 vα nmα contents items fuel).map (Bins.mapItems f) := by
  simp only [ckk2, List.isEmpty_map, CKKF.ckkF_natural f hinj nmα nmβ hnm vα vβ hf]
  split <;> rfl

/-- recursion on the number `n` of bins (the fuel only goes to `ckk2`); `hinj` is what makes `findDiff` (list
    difference by `==`) commute with `map f` (`findDiff_natural`), and `ckk2_natural` needs it as well -/
theorem snpRec_natural (contents : Bool) (fuel : Nat) (n : Nat) (prior best : Bins α) (items : List α) :
    snpRec vβ nmβ contents fuel n (prior.mapItems f) (best.mapItems f) (items.map f)
      = (snpRec vα nmα contents fuel n prior best items).map (Bins.mapItems f) := by
  induction n, prior, best, items using snpRec.induct vα nmα contents fuel with
  | case1 | case2 => rfl
  | case3 prior best items e he => simp only [snpRec, ckk2_natural f vα vβ hf hinj nmα nmβ hnm, he]; rfl
  | case4 prior best items two ht hlt =>
    simp only [snpRec, ckk2_natural f vα vβ hf hinj nmα nmβ hnm, ht, mapItems_sums, Except.map, if_pos hlt,
      ← BinsOps.mapItems_concat]
  | case5 prior best items two ht hlt =>
    simp only [snpRec, ckk2_natural f vα vβ hf hinj nmα nmβ hnm, ht, mapItems_sums, Except.map, if_neg hlt]
    exact if_neg hlt
  | case6 cur prior best items ih =>
    simp only [snpRec, BinsOps.binSum_map f vα vβ hf, sortDesc_map f vα vβ hf]
    have := treeFold_natural f vα vβ hf (Bins.mapItems f) (cur + 3) ((binSum vα items : Nat) : Int)
      (fun (b : Bins α) => ((binSum vα items : Nat) : Int) - (((cur + 3 : Nat) : Int) - 1) * (spread b.sums : Nat))
      (fun (b : Bins β) => ((binSum vα items : Nat) : Int) - (((cur + 3 : Nat) : Int) - 1) * (spread b.sums : Nat))
      (fun b sub => snpRec vα nmα contents fuel (cur + 2) ⟨prior.sums ++ [binSum vα sub], prior.lists ++ [sub]⟩ b
        (findDiff items sub))
      (fun b sub => snpRec vβ nmβ contents fuel (cur + 2)
        ⟨(prior.mapItems f).sums ++ [binSum vβ sub], (prior.mapItems f).lists ++ [sub]⟩ b
        (findDiff (items.map f) sub))
      (fun _ => rfl)
      (fun b sub => by
        have hp : (⟨(prior.mapItems f).sums ++ [binSum vβ (sub.map f)], (prior.mapItems f).lists ++ [sub.map f]⟩ : Bins β)
            = (⟨prior.sums ++ [binSum vα sub], prior.lists ++ [sub]⟩ : Bins α).mapItems f := by
          simp only [Bins.mapItems, BinsOps.binSum_map f vα vβ hf, List.map_append, List.map_cons, List.map_nil]
        simp only [hp, findDiff_natural f hinj]
        exact ih b sub)
      best [] (sortDesc vα items)
    simpa only [List.map_nil] using this

/-- C07 for `snp`: natural for injective renamings of the items that preserve values and name keys -/
theorem snp_natural (k : Nat) (contents : Bool) (items : List α) (fuel : Nat) :
    snp vβ nmβ k contents (items.map f) fuel = (snp vα nmα k contents items fuel).map (Bins.mapItems f) := by
  simp only [snp, kk_natural f vα vβ hf]
  cases kk vα k items with
  | error e => rfl
  | ok best =>
    simp only [map_ok, mapItems_sums]
    exact ite_map _ rfl (snpRec_natural f vα vβ hf hinj nmα nmβ hnm contents fuel k ⟨[], []⟩ best items)

open Prtpy.RNPRound in
/-- one round commutes with the renaming if the recursion below it does; the score of the even round sees sums
    only -/
theorem round_natural (contents : Bool) (fuel : Nat) (keyα : Bins α → List Nat → Nat)
    (keyβ : Bins β → List Nat → Nat) (hkey : ∀ prior : Bins α, keyβ (prior.mapItems f) = keyα prior)
    (belowα : Nat → Call α) (belowβ : Nat → Call β)
    (hbelow : ∀ cur (prior best : Bins α) (items : List α),
      belowβ cur (prior.mapItems f) (best.mapItems f) (items.map f)
        = (belowα cur prior best items).map (Bins.mapItems f))
    (cur : Nat) (prior best : Bins α) (items : List α) :
    round vβ nmβ contents fuel keyβ belowβ cur (prior.mapItems f) (best.mapItems f) (items.map f)
      = (round vα nmα contents fuel keyα belowα cur prior best items).map (Bins.mapItems f) := by
  unfold round
  refine ite_map _ (ckk2_natural f vα vβ hf hinj nmα nmβ hnm contents items fuel) (ite_map _ ?_ ?_)
  · simp only [oddLevel_eq_treeFold, mapItems_sums, BinsOps.binSum_map f vα vβ hf, sortDesc_map f vα vβ hf]
    refine treeFold_natural f vα vβ hf (Bins.mapItems f) _ _ _ _ _ _ (fun _ => rfl) ?_ best [] _
    intro b sub
    have hp : (⟨(prior.mapItems f).sums ++ [binSum vβ (sub.map f)], (prior.mapItems f).lists ++ [sub.map f]⟩ : Bins β)
        = (⟨prior.sums ++ [binSum vα sub], prior.lists ++ [sub]⟩ : Bins α).mapItems f := by
      simp only [Bins.mapItems, BinsOps.binSum_map f vα vβ hf, List.map_append, List.map_cons, List.map_nil]
    simp only [oddStep, hp, findDiff_natural f hinj, hbelow]
    cases belowα (cur - 1) ⟨prior.sums ++ [binSum vα sub], prior.lists ++ [sub]⟩ b (findDiff items sub) with
    | error e => rfl
    | ok nb =>
      simp only [map_ok, mapItems_sums, ← BinsOps.mapItems_concat, BinsOps.binSum_map f vα vβ hf]
      exact ite_map _ rfl rfl
  · simp only [evenLevel, List.isEmpty_map, ckkGen_natural f hinj nmα nmβ hnm vα vβ hf, mapItems_sums, hkey]
    cases hemp : items.isEmpty with
    | true => rfl
    | false =>
      simp only [Bool.false_eq_true, if_false]
      cases ckkGen vα nmα 2 true items (some (spread best.sums)) fuel with
      | error e => rfl
      | ok tops =>
        simp only [map_ok]
        have key : ∀ (e' : Except Err (Bins β × Nat)) (e : Except Err (Bins α × Nat)),
            e' = e.map (fun st => (st.1.mapItems f, st.2)) →
            e'.map (·.1) = (e.map (·.1)).map (Bins.mapItems f) := by
          intro e' e h; subst h; cases e <;> rfl
        refine key _ _ (foldE_natural (fun (st : Bins α × Nat) => (st.1.mapItems f, st.2)) (Bins.mapItems f)
          _ _ ?_ (best, spread best.sums) tops)
        intro st top
        simp only [evenStep, mapItems_lists, BinsOps.getD_map_map, hbelow]
        cases belowα (cur / 2) prior st.1 (top.lists.getD 0 []) with
        | error e => rfl
        | ok nb1 =>
          simp only [map_ok]
          cases belowα (cur / 2) prior st.1 (top.lists.getD 1 []) with
          | error e => rfl
          | ok nb2 =>
            simp only [map_ok, mapItems_sums, ← BinsOps.mapItems_concat]
            exact ite_map _ rfl rfl

theorem rnpRec_natural (contents : Bool) (fuel : Nat) :
    ∀ (rf cur : Nat) (prior best : Bins α) (items : List α),
      rnpRec vβ nmβ contents fuel rf cur (prior.mapItems f) (best.mapItems f) (items.map f)
        = (rnpRec vα nmα contents fuel rf cur prior best items).map (Bins.mapItems f)
  | 0, _, _, _, _ => rfl
  | rf + 1, cur, prior, best, items => by
    rw [RNPRound.rnpRec_succ, RNPRound.rnpRec_succ]
    exact round_natural f vα vβ hf hinj nmα nmβ hnm contents fuel _ _ (fun _ => rfl) _ _
      (rnpRec_natural contents fuel rf) cur prior best items

theorem rnpRecF_natural (contents : Bool) (fuel : Nat) :
    ∀ (rf cur : Nat) (prior best : Bins α) (items : List α),
      rnpRecF vβ nmβ contents fuel rf cur (prior.mapItems f) (best.mapItems f) (items.map f)
        = (rnpRecF vα nmα contents fuel rf cur prior best items).map (Bins.mapItems f)
  | 0, _, _, _, _ => rfl
  | rf + 1, cur, prior, best, items => by
    rw [RNPRound.rnpRecF_succ, RNPRound.rnpRecF_succ]
    exact round_natural f vα vβ hf hinj nmα nmβ hnm contents fuel _ _ (fun _ => rfl) _ _
      (rnpRecF_natural contents fuel rf) cur prior best items

/-- C07 for `rnp` (the code before F10) -/
theorem rnp_natural (k : Nat) (contents : Bool) (items : List α) (fuel : Nat) :
    rnp vβ nmβ k contents (items.map f) fuel = (rnp vα nmα k contents items fuel).map (Bins.mapItems f) := by
  simp only [rnp, kk_natural f vα vβ hf]
  cases kk vα k items with
  | error e => rfl
  | ok best =>
    simp only [map_ok, mapItems_sums]
    exact ite_map _ rfl (ite_map _ rfl
      (rnpRec_natural f vα vβ hf hinj nmα nmβ hnm contents fuel (k + 1) k ⟨[], []⟩ best items))


end SNP

example : snp Prod.fst (fun p => p.2.toNat) 3 true (exNames.map entry) 1000
    = (snp exVal Char.toNat 3 true exNames 1000).map (Bins.mapItems entry) :=
  snp_natural entry exVal Prod.fst (fun _ => rfl) (fun _ _ h => congrArg Prod.snd h) Char.toNat
    (fun p => p.2.toNat) (fun _ => rfl) 3 true exNames 1000
/-- five items: KK is not perfect here, so the search really runs -/
example : (snp exVal Char.toNat 3 true ['a', 'b', 'c', 'd', 'e'] 1000).map (·.lists)
    = .ok [['e', 'd'], ['b'], ['c', 'a']] := by decide +kernel
example : snp Prod.fst (fun p => p.2.toNat) 3 true (['a', 'b', 'c', 'd', 'e'].map entry) 1000
    = (snp exVal Char.toNat 3 true ['a', 'b', 'c', 'd', 'e'] 1000).map (Bins.mapItems entry) :=
  snp_natural entry exVal Prod.fst (fun _ => rfl) (fun _ _ h => congrArg Prod.snd h) Char.toNat
    (fun p => p.2.toNat) (fun _ => rfl) 3 true _ 1000

example : rnp Prod.fst (fun p => p.2.toNat) 4 true (exNames.map entry) 1000
    = (rnp exVal Char.toNat 4 true exNames 1000).map (Bins.mapItems entry) :=
  rnp_natural entry exVal Prod.fst (fun _ => rfl) (fun _ _ h => congrArg Prod.snd h) Char.toNat
    (fun p => p.2.toNat) (fun _ => rfl) 4 true exNames 1000
/-- the six named items, four bins, after F10; up to four bins the code before F10 computes the same
    (`RNPRound.rnp_eq_rnpF`) -/
theorem rnpF_exNames : (rnpF exVal Char.toNat 4 true exNames 1000).map (·.lists)
    = .ok [['e'], ['a', 'd'], ['b'], ['f', 'c']] := by decide +kernel
example : (rnp exVal Char.toNat 4 true exNames 1000).map (·.lists)
    = .ok [['e'], ['a', 'd'], ['b'], ['f', 'c']] := by
  rw [RNPRound.rnp_eq_rnpF _ _ (by decide) (by decide)]; exact rnpF_exNames
example : (rnp exVal Char.toNat 3 true ['a', 'b', 'c', 'd', 'e'] 1000).map (·.lists)
    = .ok [['e', 'd'], ['b'], ['c', 'a']] := by decide +kernel

end Prtpy.Natural2

/-! ## naturality (C07) of `rnpF` -/

namespace Prtpy.RNPF
variable {α : Type}

section Natural
open Prtpy.Natural Prtpy.Natural2
variable {β : Type}
variable (f : α → β) (vα : α → Nat) (vβ : β → Nat) (hf : ∀ a, vβ (f a) = vα a)
variable [BEq α] [LawfulBEq α] [BEq β] [LawfulBEq β] (hinj : ∀ a b, f a = f b → a = b)
variable (nmα : α → Nat) (nmβ : β → Nat) (hnm : ∀ a, nmβ (f a) = nmα a)
include hf hinj hnm

/-- C07 for `rnpF`: recursive number partitioning is natural for injective renamings of the items that preserve
    values and name keys -/
theorem rnpF_natural (k : Nat) (contents : Bool) (items : List α) (fuel : Nat) :
    rnpF vβ nmβ k contents (items.map f) fuel = (rnpF vα nmα k contents items fuel).map (Bins.mapItems f) := by
  simp only [rnpF, kk_natural f vα vβ hf]
  cases kk vα k items with
  | error e => rfl
  | ok best =>
    simp only [map_ok, mapItems_sums]
    exact ite_map _ rfl (ite_map _ rfl
      (rnpRecF_natural f vα vβ hf hinj nmα nmβ hnm contents fuel (k + 1) k ⟨[], []⟩ best items))

end Natural

example : rnpF Prod.fst (fun p => p.2.toNat) 4 true (Natural2.exNames.map Natural2.entry) 1000
    = (rnpF Natural2.exVal Char.toNat 4 true Natural2.exNames 1000).map (Bins.mapItems Natural2.entry) :=
  rnpF_natural Natural2.entry Natural2.exVal Prod.fst (fun _ => rfl) (fun _ _ h => congrArg Prod.snd h) Char.toNat
    (fun p => p.2.toNat) (fun _ => rfl) 4 true Natural2.exNames 1000
example : (rnpF Natural2.exVal Char.toNat 4 true Natural2.exNames 1000).map (·.lists)
    = .ok [['e'], ['a', 'd'], ['b'], ['f', 'c']] := Natural2.rnpF_exNames
/-- five bins, eight named items with the values `11, 9, 9, 6, 6, 4, 4, 4` (the input on which `rnp`, before F10,
    is not optimal) -/
def exNames8 : List Char := ['a', 'b', 'c', 'd', 'e', 'f', 'g', 'h']
def exVal8 (c : Char) : Nat :=
  if c = 'a' then 11 else if c = 'b' then 9 else if c = 'c' then 9 else if c = 'd' then 6 else if c = 'e' then 6 else 4
def entry8 (c : Char) : Nat × Char := (exVal8 c, c)

example : rnpF Prod.fst (fun p : Nat × Char => p.2.toNat) 5 true (exNames8.map entry8) 1000
    = (rnpF exVal8 Char.toNat 5 true exNames8 1000).map (Bins.mapItems entry8) :=
  rnpF_natural entry8 exVal8 Prod.fst (fun _ => rfl) (fun _ _ h => congrArg Prod.snd h) Char.toNat
    (fun p => p.2.toNat) (fun _ => rfl) 5 true exNames8 1000
example : (rnpF exVal8 Char.toNat 5 true exNames8 1000).map (·.lists)
    = .ok [['b'], ['c'], ['d', 'e'], ['a'], ['f', 'g', 'h']] := by decide +kernel


end Prtpy.RNPF
