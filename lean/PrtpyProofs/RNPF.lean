/-
  PrtpyProofs.RNPF — recursive number partitioning after F10 (`Prtpy.rnpRecF`, `Prtpy.rnpF`,
  Prtpy/Model/RNP.lean; F10 of /verif/known_findings.json: the even case compares 4-way splits together with the bins
  already fixed).

  One round of `rnpRecF` with the recursive call as a parameter, and what every property of `rnpF` is proved about,
  is in PrtpyProofs/RNPRound.lean.  Here: validity (C01) for the contents manager and every `numbins ≤ 5`, relative
  to the validity of the 2-way search (`SNPProofs.CkkValid`): `rnpF_isPartition_of`, a case of
  `RNPRound.rounds_valid`.

  The unconditional `rnpF_isPartition`, `rnpF_optimal`, `rnpF_natural` need the results about `ckkF`
  (PrtpyProofs/CKKF.lean) and are in PrtpyProofs/CKKFSwitch.lean; `ckkGenComplete`, the hypothesis
  `SNPOpt.CkkGenComplete` of the optimality proofs, is in PrtpyProofs/CKKGenComplete.lean — same namespace.
-/
import Mathlib.Data.List.Perm.Basic
import PrtpyProofs.SNP
import PrtpyProofs.RNPRound
import PrtpyProofs.CKKValid

namespace Prtpy.RNPF
open Prtpy

variable {α : Type}

/-- zero bins with recursion fuel 1 (what `rnpF` passes for `k = 0`): the even round has no fuel left for its halves
    and returns the incumbent (no split was yielded) or fails -/
theorem rnpRecF_cur_zero {v nm : α → Nat} [BEq α] {c : Bool} {fuel : Nat} {prior best r : Bins α} {items : List α}
    (h : rnpRecF v nm c fuel 1 0 prior best items = .ok r) : r = best := by
  rw [RNPRound.rnpRecF_succ] at h
  obtain ⟨tops, st, _, _, hf, rfl⟩ := RNPRound.evenLevel_ok
    (show RNPRound.evenLevel v nm fuel _ (rnpRecF v nm c fuel 0 0 prior) best items = .ok r from h)
  cases tops with
  | nil => cases hf; rfl
  | cons t ts => simp only [foldE, RNPRound.evenStep, rnpRecF] at hf; cases hf

/-- a successful `rnpF` with at most five bins: Karmarkar–Karp's partition `best` is perfect and returned, or it is
    the incumbent of a recursive search over `k ∈ {2, …, 5}` bins with no prior bins -/
theorem rnpF_cases {v nm : α → Nat} [BEq α] {k : Nat} {c : Bool} {items : List α} {fuel : Nat} {b : Bins α}
    (hk : 0 < k) (hne : items ≠ []) (h : rnpF v nm k c items fuel = .ok b) :
    ∃ best, IsPartition v items k best ∧
      ((spread best.sums = 0 ∧ b = best) ∨
        (k = 2 ∨ k = 3 ∨ k = 4 ∨ k = 5) ∧ rnpRecF v nm c fuel (k + 1) k ⟨[], []⟩ best items = .ok b) := by
  obtain ⟨best, hb, hcase⟩ := SNPProofs.rnpF_ok h
  have hbest := CKKValid.kkValid v k items best hk hne hb
  refine ⟨best, hbest, hcase.imp id fun ⟨hsp, hk6, h⟩ => ⟨?_, h⟩⟩
  have := CKKValid.two_le_of_spread_ne_zero hk hbest hsp
  omega

/-- **C01 for `rnpF`** (contents manager, numbins ≤ 5), relative to the validity of the 2-way search -/
theorem rnpF_isPartition_of {v nm : α → Nat} [BEq α] [LawfulBEq α] (hckk : SNPProofs.CkkValid v nm) {k : Nat} {items : List α} {fuel : Nat}
    {b : Bins α} (hk : 0 < k) (hk5 : k ≤ 5) (hne : items ≠ [])
    (h : rnpF v nm k true items fuel = .ok b) : IsPartition v items k b := by
  obtain ⟨best, hbest, ⟨_, rfl⟩ | ⟨hk', h⟩⟩ := rnpF_cases hk hne h
  · exact hbest
  · exact (RNPRound.rounds_valid (p := true) (fun _ _ h2 => .of_partition (SNPProofs.ckk2_valid hckk h2))
      (CKKValid.ckkGen_valid v nm) (RNPRound.rnpRecF_succ v nm true fuel) (by omega) hk5 (.of_partition hbest)
      h).partition

/-- F10 at work (the even case with a non-empty prior): items `[11, 9, 6, 6, 4, 4, 4]`, the bin `{9}`
    already split off, incumbent KK's `[9, 10, 10, 11, 13]` (difference 4).  The code after F10 returns
    `[9, 12, 11, 12]` (combined difference 3); the code before F10 returns `[10, 11, 10, 13]`, whose own spread is
    also 3 but which gives 4 again together with the prior `9`. -/
example : (rnpRecF id id true 1000 5 4 ⟨[9], [[9]]⟩ ⟨[9, 10, 10, 11, 13], [[9], [6, 4], [6, 4], [11], [4, 9]]⟩
      [11, 9, 6, 6, 4, 4, 4]).toOption.map (·.sums) = some [9, 12, 11, 12] ∧
    (rnpRec id id true 1000 5 4 ⟨[9], [[9]]⟩ ⟨[9, 10, 10, 11, 13], [[9], [6, 4], [6, 4], [11], [4, 9]]⟩
      [11, 9, 6, 6, 4, 4, 4]).toOption.map (·.sums) = some [10, 11, 10, 13] := by decide +kernel

end Prtpy.RNPF
