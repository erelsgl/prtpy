/-
  PrtpyProofs.FFD119 — property C09, the bound `9·k ≤ 11·m + c` of first/best fit decreasing (Johnson's theorem) in
  the range `2B/11 < a ≤ B/3` that `PrtpyProofs.FFD` leaves.  `k` = number of bins of the run, `m` = any number of
  bins that suffices (`Packable B m`), `a` = the value of the item that opened the last bin.  Everything is proved
  for every any-fit rule (`Fit.Step`) on a sorted input (`gen_…`) and then read off for `ffDecreasing`, `bfDecreasing`.

      B/4 < a ≤ B/3 :     6·(k − 1) ≤ 7·m, hence 9·k ≤ 11·m + 6     (`…_of_last_quarter_third`)
      B/5 < a ≤ B/4 :     4·(k − 1) ≤ 5·m                           (`…_of_last_fifth_quarter`; ratio 5/4, not 11/9)
      every input :       4·(k − 1) ≤ 5·m                           (`gen_sorted_five_fourths`, `ffd_/bfd_five_fourths`)
      a ∉ (2B/11, B/4] :  9·k ≤ 11·m + 8                            (`…_partial_outside_gap`)
      m ≤ 108 :           9·k ≤ 11·m + 36                           (`…_of_opt_le_108`, from 5/4)

  The range `2B/11 < a ≤ B/4` with the ratio `11/9` stays open; `PrtpyProofs.FFD119Gap` states what is missing.

  Method.  Going back to the moment the last bin was opened (`last_bin_induction`, by `LPT43.run_opened`) reduces a bound
  "`Φ k m` if the last bin was opened by an item with property `C`" to the state at the moment such an item `a` opens
  a new bin, the *normal form* `NF B a Ls`: all earlier items are `≥ a`, all bins are filled above `B − a`, and an
  earlier and a later bin are related by `VRel` (`run_srel`).  (This stands in for the minimal counterexample of the
  classical proofs; no item is ever removed.)  On a normal form the items are decorated with a weight and a tag that
  makes them pairwise distinct (`DItem`, `deco`), so that a weight may depend on the *position in the packing*, not
  only on the value; if every bin of the run weighs `≥ lo` up to a bounded total deficit and every duplicate-free
  collection that fits into one bin weighs `≤ hi`, then `lo·(k − 1) + wt(a) ≤ hi·m +` deficit (`count_of_weights`).
  `FFD119Gap.decoNF` is declared here, in its namespace: `count_of_weights` is about it.
-/
import PrtpyProofs.FFD
open Prtpy

namespace Prtpy.FFD119

variable {α : Type} {ρ : Fit.Rule α}

/-! ## The invariant of any-fit rules on a sorted list

For a bin `L` and a *later* bin `L'` of a run of an any-fit rule (`Fit.Step`: first fit, best fit, …) on a list
sorted by non-increasing value, and the item `z` that opened `L'`: the items of `L` split into those that arrived
before `z` (`pre`, all `≥ z`, and `z` did not fit on top of them — otherwise it would not have opened a bin) and
those that arrived later (`post`, all `≤ z`): `Fit.Closed v B L z`, written out. -/

def SRel (v : α → Nat) (B : Nat) (L L' : List α) : Prop :=
  ∀ z, L'.head? = some z → ∃ pre post, L = pre ++ post ∧ B < binSum v pre + v z ∧ (∀ u ∈ pre, v z ≤ v u) ∧
    (∀ u ∈ post, v u ≤ v z)

/-- `SRel` and sortedness on a bins-array, with positions.  The proofs below use `run_srel` and `Fit.Run.sorted_bins`
    directly; `run_sinv` says that runs have it. -/
structure SInv (v : α → Nat) (B : Nat) (b : Bins α) : Prop where
  rel : ∀ i j (hi : i < b.lists.length) (hj : j < b.lists.length), i < j → SRel v B b.lists[i] b.lists[j]
  sorted : ∀ L ∈ b.lists, L.Pairwise (fun a c => v c ≤ v a)

theorem run_srel {v : α → Nat} {B : Nat} {seen : List α} {Ls : List (List α)} (hr : Fit.Run v B ρ seen Ls) :
    seen.Pairwise (fun a c => v c ≤ v a) → Ls.Pairwise (SRel v B) :=
  Fit.Run.pairwise
    (fun P x hP h z hz => by
      simp only [List.head?_cons, Option.some.injEq] at hz
      exact hz ▸ Fit.Closed.full h hP)
    (fun P Q x _ hQ h z hz => Fit.Closed.snoc (h z hz) (hQ z (List.mem_of_head? hz)))
    (fun _ P L x _ _ hL _ _ h z hz => by
      match L, hL, hz with
      | y :: r, _, hz => exact h z (by simpa using hz)) hr

theorem run_sinv {v : α → Nat} {B : Nat} {seen : List α} {b : Bins α} (hr : Fit.Run v B ρ seen b.lists)
    (hs : seen.Pairwise (fun a c => v c ≤ v a)) : SInv v B b :=
  ⟨fun i j hi hj hij => List.pairwise_iff_getElem.1 (run_srel hr hs) i j hi hj hij, hr.sorted_bins hs⟩

/-! ## The normal form, on lists of values

`Ls` are the bins (lists of values, in order of arrival) that are open when an item of value `a` opens a new bin
in a run of an any-fit rule on a sorted list. -/

/-- the value form of `SRel` -/
def VRel (B : Nat) (L L' : List Nat) : Prop :=
  ∀ z, L'.head? = some z →
    ∃ pre post, L = pre ++ post ∧ B < sumL pre + z ∧ (∀ u ∈ pre, z ≤ u) ∧ (∀ u ∈ post, u ≤ z)

/-- the value form of `Fit.Closed.full`: the later bin was opened by `z`, which is not larger than any item of `L` and
    does not fit on top of all of `L` -/
theorem vrel_of_full {B z : Nat} {L r : List Nat} (h : B < sumL L + z) (hge : ∀ u ∈ L, z ≤ u) :
    VRel B L (z :: r) := by
  intro z' hz
  simp only [List.head?_cons, Option.some.injEq] at hz
  subst hz
  exact ⟨L, [], (List.append_nil L).symm, h, hge, fun _ hu => absurd hu List.not_mem_nil⟩

/-- (`MultiFit122.CE`, `SCE` are the same moment for first fit with two capacities: on items instead of values, with a
    relation (`FFDInv`, `FFDStrong`) for every item of a later bin, and with the optimum inside.) -/
structure NF (B a : Nat) (Ls : List (List Nat)) : Prop where
  /-- every packed item is at least `a` -/
  ge : ∀ L ∈ Ls, ∀ y ∈ L, a ≤ y
  /-- `a` fits nowhere -/
  full : ∀ L ∈ Ls, B < sumL L + a
  le : ∀ L ∈ Ls, sumL L ≤ B
  sorted : ∀ L ∈ Ls, L.Pairwise (fun x y => y ≤ x)
  rel : Ls.Pairwise (VRel B)

theorem SRel.toV {v : α → Nat} {B : Nat} {L L' : List α} (h : SRel v B L L') :
    VRel B (L.map v) (L'.map v) := by
  intro z hz
  rw [List.head?_map] at hz
  obtain ⟨z0, hz0, rfl⟩ := Option.map_eq_some_iff.1 hz
  obtain ⟨pre, post, he, hlt, hpre, hpost⟩ := h z0 hz0
  refine ⟨pre.map v, post.map v, by rw [he, List.map_append], hlt, ?_, ?_⟩
  · intro u hu
    obtain ⟨u0, hu0, rfl⟩ := List.mem_map.1 hu
    exact hpre u0 hu0
  · intro u hu
    obtain ⟨u0, hu0, rfl⟩ := List.mem_map.1 hu
    exact hpost u0 hu0

theorem nf_of_run {v : α → Nat} {B : Nat} {P : List α} {Ls : List (List α)} {x : α} (hr : Fit.Run v B ρ P Ls)
    (hs : (P ++ [x]).Pairwise (fun a c => v c ≤ v a)) (hno : ∀ L ∈ Ls, B < binSum v L + v x) :
    NF B (v x) (Ls.map (List.map v)) := by
  obtain ⟨hs1, _, hs2⟩ := List.pairwise_append.1 hs
  refine ⟨?_, ?_, ?_, ?_, (run_srel hr hs1).map _ (fun _ _ h => h.toV)⟩
  · intro L hL y hy
    obtain ⟨L0, hL0, rfl⟩ := List.mem_map.1 hL
    obtain ⟨y0, hy0, rfl⟩ := List.mem_map.1 hy
    exact hs2 y0 (hr.mem_seen L0 hL0 y0 hy0) x (by simp)
  · intro L hL
    obtain ⟨L0, hL0, rfl⟩ := List.mem_map.1 hL
    exact hno L0 hL0
  · intro L hL
    obtain ⟨L0, hL0, rfl⟩ := List.mem_map.1 hL
    exact hr.le L0 hL0
  · intro L hL
    obtain ⟨L0, hL0, rfl⟩ := List.mem_map.1 hL
    rw [List.pairwise_map]
    exact hr.sorted_bins hs1 L0 hL0


/-- if a later bin was opened by an item `z ≤ B/t`, an earlier bin whose first item is at most `B/t` holds at least
    `t` items, and its first `t` items are at least `z`: fewer than `t` items `≤ B/t` leave room for `z` -/
theorem vrel_take_ge {B t x z : Nat} {r r' : List Nat} (hr : VRel B (x :: r) (z :: r'))
    (hs : (x :: r).Pairwise (fun p q => q ≤ p)) (hx : t * x ≤ B) (hz : t * z ≤ B) :
    t ≤ (x :: r).length ∧ ∀ u ∈ (x :: r).take t, z ≤ u := by
  obtain ⟨pre, post, he, hlt, hpre, _⟩ := hr z (by simp)
  have hall : ∀ u ∈ pre, t * u ≤ B := by
    intro u hu
    have hu' : u ∈ x :: r := by rw [he]; exact List.mem_append_left _ hu
    rcases List.mem_cons.1 hu' with rfl | hu'
    · exact hx
    · exact Nat.le_trans (Nat.mul_le_mul_left t ((List.pairwise_cons.1 hs).1 u hu')) hx
  have h4 : t ≤ pre.length := LPT43.many_per_bin hall hz hlt
  rw [he, List.take_append_of_le_length h4, List.length_append]
  exact ⟨by omega, fun u hu => hpre u (List.mem_of_mem_take hu)⟩

theorem nf_bin_ne_nil {B a : Nat} {Ls : List (List Nat)} (hnf : NF B a Ls) (haB : a ≤ B)
    {L : List Nat} (hL : L ∈ Ls) : L ≠ [] :=
  Part.ne_nil_of_sumL_pos (by have := hnf.full L hL; omega)

/-! ## From the run to the normal form: the moment the last bin was opened -/

/-- a bound `Φ k m` that holds (a) for one bin and (b) in the normal form, i.e. at every
    moment an item with property `C` opens a new bin, holds for every run of an any-fit rule on a sorted list
    whose last bin was opened by an item with property `C` -/
theorem last_bin_induction {v : α → Nat} {B : Nat} (C : Nat → Prop) (Φ : Nat → Nat → Prop)
    (hone : ∀ m, 1 ≤ m → Φ 1 m)
    (hnew : ∀ (a m : Nat) (Ls : List (List Nat)), C a → NF B a Ls → Packable B m (Ls.flatten ++ [a]) →
      Φ (Ls.length + 1) m) {xs : List α} {Ls : List (List α)} (hr : Fit.Run v B ρ xs Ls) :
    xs.Pairwise (fun a c => v c ≤ v a) → xs ≠ [] → ∀ m, Packable B m (xs.map v) →
      ∀ x L, Ls.getLast? = some (x :: L) → C (v x) → Φ Ls.length m := by
  intro hs hne m hf x L hlast hC
  have hm : 1 ≤ m := LPT43.packable_pos hf (by simpa using hne)
  rcases Nat.lt_or_ge 1 Ls.length with h1 | h1
  · -- the moment the last bin was opened
    obtain ⟨P, a, S, Ls', _, hr', hlen, hno, hs', hf', hhead⟩ :=
      LPT43.run_opened hr hs hf (j := Ls.length - 1) (by omega) (by omega)
    rw [List.getElem?_map, ← List.getLast?_eq_getElem?, hlast] at hhead
    simp only [Option.map_some, List.head?_cons, Option.some.injEq] at hhead
    subst hhead
    have hpk : Packable B m ((Ls'.map (List.map v)).flatten ++ [v x]) := by
      refine LPT43.packable_perm ?_ hf'
      rw [List.map_append, ← List.map_flatten]
      exact (hr'.perm.map v).symm.append_right _
    have := hnew (v x) m _ hC (nf_of_run hr' hs' hno) hpk
    rwa [List.length_map, hlen, Nat.sub_add_cancel (by omega)] at this
  · have : Ls.length = 1 := by
      cases Ls with
      | nil => simp at hlast
      | cons _ _ => simp at h1 ⊢; omega
    rw [this]; exact hone m hm

theorem gen_last_bin_induction {v : α → Nat} {B m : Nat} {step : Bins α → α → Bins α} {xs : List α} {b : Bins α}
    (hstep : ∀ b x, Fit.Step v B b x (step b x)) (C : Nat → Prop) (Φ : Nat → Nat → Prop)
    (hone : ∀ m, 1 ≤ m → Φ 1 m)
    (hnew : ∀ (a m : Nat) (Ls : List (List Nat)), C a → NF B a Ls → Packable B m (Ls.flatten ++ [a]) →
      Φ (Ls.length + 1) m)
    (hsorted : xs.Pairwise (fun a c => v c ≤ v a)) (hne : xs ≠ [])
    (hok : Fit.genLoop v B step (Bins.new 1) xs = .ok b) (hm : Packable B m (xs.map v))
    {x : α} {L : List α} (hlast : b.lists.getLast? = some (x :: L)) (hC : C (v x)) : Φ b.lists.length m :=
  last_bin_induction C Φ hone hnew (Fit.gen_run hstep hok) hsorted hne m hm x L hlast hC


/-! ## Decorated items: value, weight, and a tag (bin, position) that makes them pairwise distinct -/

structure DItem where
  val : Nat
  wt : Nat
  bin : Nat
  pos : Nat
deriving DecidableEq

/-- the items of bin number `i`, from position `p` on, with the weights `ws` (missing weights are `0`) -/
def mk (i : Nat) : Nat → List Nat → List Nat → List DItem
  | _, [], _ => []
  | p, x :: xs, [] => ⟨x, 0, i, p⟩ :: mk i (p + 1) xs []
  | p, x :: xs, w :: ws => ⟨x, w, i, p⟩ :: mk i (p + 1) xs ws

/-- all bins from number `i` on, with the weight rule `wts` -/
def deco (wts : List Nat → List Nat) : Nat → List (List Nat) → List DItem
  | _, [] => []
  | i, L :: Ls => mk i 0 L (wts L) ++ deco wts (i + 1) Ls

theorem mk_cons (i p x : Nat) (xs ws : List Nat) :
    mk i p (x :: xs) ws = ⟨x, ws.headD 0, i, p⟩ :: mk i (p + 1) xs ws.tail := by
  cases ws <;> rfl

theorem mk_val (i : Nat) : ∀ (p : Nat) (L ws : List Nat), (mk i p L ws).map DItem.val = L
  | _, [], _ => rfl
  | p, x :: xs, ws => by rw [mk_cons, List.map_cons, mk_val i (p + 1) xs ws.tail]

theorem mk_tag (i : Nat) : ∀ (p : Nat) (L ws : List Nat), ∀ e ∈ mk i p L ws, e.bin = i ∧ p ≤ e.pos
  | _, [], _, e, he => by simp [mk] at he
  | p, x :: xs, ws, e, he => by
    rw [mk_cons, List.mem_cons] at he
    rcases he with rfl | he
    · exact ⟨rfl, Nat.le_refl p⟩
    · have := mk_tag i (p + 1) xs ws.tail e he; omega

theorem mk_nodup (i : Nat) : ∀ (p : Nat) (L ws : List Nat), (mk i p L ws).Nodup
  | _, [], _ => by simp [mk]
  | p, x :: xs, ws => by
    rw [mk_cons, List.nodup_cons]
    refine ⟨fun h => ?_, mk_nodup i (p + 1) xs ws.tail⟩
    have := (mk_tag i (p + 1) xs ws.tail _ h).2
    exact Nat.not_succ_le_self p this

theorem deco_val (wts : List Nat → List Nat) : ∀ (i : Nat) (Ls : List (List Nat)),
    (deco wts i Ls).map DItem.val = Ls.flatten
  | _, [] => rfl
  | i, L :: Ls => by simp [deco, mk_val, deco_val wts (i + 1) Ls]

theorem deco_tag (wts : List Nat → List Nat) : ∀ (i : Nat) (Ls : List (List Nat)),
    ∀ e ∈ deco wts i Ls, i ≤ e.bin ∧ e.bin < i + Ls.length
  | _, [], e, he => by simp [deco] at he
  | i, L :: Ls, e, he => by
    simp only [deco, List.mem_append] at he
    rcases he with he | he
    · have := (mk_tag i 0 L (wts L) e he).1; simp; omega
    · have := deco_tag wts (i + 1) Ls e he; simp; omega

theorem deco_nodup (wts : List Nat → List Nat) : ∀ (i : Nat) (Ls : List (List Nat)), (deco wts i Ls).Nodup
  | _, [] => by simp [deco]
  | i, L :: Ls => by
    simp only [deco]
    rw [List.nodup_append]
    refine ⟨mk_nodup i 0 L (wts L), deco_nodup wts (i + 1) Ls, ?_⟩
    intro e he e' he' hee
    subst hee
    have h1 := (mk_tag i 0 L (wts L) e he).1
    have h2 := (deco_tag wts (i + 1) Ls e he').1
    omega

/-- weight of a bin under the rule -/
def binWt (wts : List Nat → List Nat) (L : List Nat) : Nat := binSum DItem.wt (mk 0 0 L (wts L))

theorem mk_wt (i p : Nat) : ∀ (L ws : List Nat) (i' p' : Nat),
    binSum DItem.wt (mk i p L ws) = binSum DItem.wt (mk i' p' L ws)
  | [], _, _, _ => rfl
  | x :: xs, ws, i', p' => by
    rw [mk_cons, mk_cons, Part.binSum_cons, Part.binSum_cons, mk_wt i (p + 1) xs ws.tail i' (p' + 1)]

theorem deco_wt (wts : List Nat → List Nat) : ∀ (i : Nat) (Ls : List (List Nat)),
    binSum DItem.wt (deco wts i Ls) = binSum (binWt wts) Ls
  | _, [] => rfl
  | i, L :: Ls => by
    simp only [deco, Part.binSum_append, Part.binSum_cons, deco_wt wts (i + 1) Ls, binWt]
    rw [mk_wt i 0 L (wts L) 0 0]

theorem deco_mem (wts : List Nat → List Nat) : ∀ (i : Nat) (Ls : List (List Nat)),
    ∀ e ∈ deco wts i Ls, ∃ L ∈ Ls, ∃ j, e ∈ mk j 0 L (wts L)
  | _, [], e, he => by simp [deco] at he
  | i, L :: Ls, e, he => by
    simp only [deco, List.mem_append] at he
    rcases he with he | he
    · exact ⟨L, by simp, i, he⟩
    · obtain ⟨L', hL', j, hj⟩ := deco_mem wts (i + 1) Ls e he
      exact ⟨L', List.mem_cons_of_mem _ hL', j, hj⟩

/-- two decorated items come from the same bin, or from two bins related by `R` in one of the two orders -/
theorem deco_mem2 (wts : List Nat → List Nat) {R : List Nat → List Nat → Prop} :
    ∀ (i : Nat) (Ls : List (List Nat)), Ls.Pairwise R → ∀ e ∈ deco wts i Ls, ∀ e' ∈ deco wts i Ls,
    (∃ L ∈ Ls, ∃ j, e ∈ mk j 0 L (wts L) ∧ e' ∈ mk j 0 L (wts L)) ∨
    (∃ L ∈ Ls, ∃ L' ∈ Ls, ∃ j j', R L L' ∧ e ∈ mk j 0 L (wts L) ∧ e' ∈ mk j' 0 L' (wts L')) ∨
    (∃ L ∈ Ls, ∃ L' ∈ Ls, ∃ j j', R L L' ∧ e' ∈ mk j 0 L (wts L) ∧ e ∈ mk j' 0 L' (wts L'))
  | _, [], _, e, he, _, _ => by simp [deco] at he
  | i, L :: Ls, hp, e, he, e', he' => by
    rw [List.pairwise_cons] at hp
    simp only [deco, List.mem_append] at he he'
    rcases he with he | he <;> rcases he' with he' | he'
    · exact Or.inl ⟨L, by simp, i, he, he'⟩
    · obtain ⟨L', hL', j, hj⟩ := deco_mem wts (i + 1) Ls e' he'
      exact Or.inr (Or.inl ⟨L, by simp, L', List.mem_cons_of_mem _ hL', i, j, hp.1 L' hL', he, hj⟩)
    · obtain ⟨L', hL', j, hj⟩ := deco_mem wts (i + 1) Ls e he
      exact Or.inr (Or.inr ⟨L, by simp, L', List.mem_cons_of_mem _ hL', i, j, hp.1 L' hL', he', hj⟩)
    · rcases deco_mem2 wts (i + 1) Ls hp.2 e he e' he' with ⟨M, hM, j, h1, h2⟩ | ⟨M, hM, M', hM', j, j', hr, h1, h2⟩ |
        ⟨M, hM, M', hM', j, j', hr, h1, h2⟩
      · exact Or.inl ⟨M, List.mem_cons_of_mem _ hM, j, h1, h2⟩
      · exact Or.inr (Or.inl ⟨M, List.mem_cons_of_mem _ hM, M', List.mem_cons_of_mem _ hM', j, j', hr, h1, h2⟩)
      · exact Or.inr (Or.inr ⟨M, List.mem_cons_of_mem _ hM, M', List.mem_cons_of_mem _ hM', j, j', hr, h1, h2⟩)

/-- the weighting argument: decorated items `D` whose values fit into `m` bins; if every duplicate-free
    sub-collection of `D` that fits into one bin weighs at most `c`, then `D` weighs at most `c · m`.
    Only sub-collections listed by non-increasing value need to be looked at. -/
theorem weight_le_of_packable {B m c : Nat} {D : List DItem} (hnd : D.Nodup)
    (hm : Packable B m (D.map DItem.val))
    (hT : ∀ T : List DItem, T.Nodup → T.Pairwise (fun e e' => e'.val ≤ e.val) → (∀ e ∈ T, e ∈ D) →
      binSum DItem.val T ≤ B → binSum DItem.wt T ≤ c) :
    binSum DItem.wt D ≤ c * m := by
  rw [Nat.mul_comm]
  refine LPT43.packable_weight_le_map hm fun T ⟨F, hs, hp⟩ hle => ?_
  have hps := Part.sortDesc_perm DItem.val T
  rw [← Part.binSum_perm DItem.wt hps]
  refine hT _ (hps.nodup_iff.2 ((hp.nodup_iff.2 hnd).sublist hs)) (Part.sortDesc_sorted _ T)
    (fun e he => hp.mem_iff.1 (hs.subset (hps.mem_iff.1 he))) ?_
  rw [Part.binSum_perm _ hps]
  exact hle

theorem mk_map (i : Nat) (f : Nat → Nat) : ∀ (p : Nat) (L : List Nat), ∀ e ∈ mk i p L (L.map f),
    e.wt = f e.val ∧ e.val ∈ L
  | _, [], e, he => by simp [mk] at he
  | p, x :: xs, e, he => by
    simp only [List.map_cons, mk, List.mem_cons] at he
    rcases he with rfl | he
    · simp
    · have := mk_map i f (p + 1) xs e he
      exact ⟨this.1, List.mem_cons_of_mem _ this.2⟩

theorem mk_map_wt (i : Nat) (f : Nat → Nat) : ∀ (p : Nat) (L : List Nat),
    binSum DItem.wt (mk i p L (L.map f)) = sumL (L.map f)
  | _, [] => by simp [mk, binSum, sumL]
  | p, x :: xs => by
    simp only [List.map_cons, mk, Part.binSum_cons, mk_map_wt i f (p + 1) xs, sumL]

end Prtpy.FFD119

namespace Prtpy.FFD119Gap
open Prtpy.FFD119

/-- the decorated items of a normal form: the bins of the run under the rule `wts`, and `a` with weight `wa`.
    (Under the namespace of `PrtpyProofs.FFD119Gap`, whose statements use it; it stands here because
    `FFD119.count_of_weights` is about this collection.) -/
def decoNF (wts : List Nat → List Nat) (a wa : Nat) (Ls : List (List Nat)) : List DItem :=
  deco wts 0 Ls ++ [⟨a, wa, Ls.length, 0⟩]

theorem decoNF_nodup (wts : List Nat → List Nat) (a wa : Nat) (Ls : List (List Nat)) :
    (decoNF wts a wa Ls).Nodup := by
  rw [decoNF, List.nodup_append]
  refine ⟨deco_nodup _ 0 Ls, by simp, ?_⟩
  intro e he e' he' hee
  simp only [List.mem_singleton] at he'
  subst hee
  have := (deco_tag _ 0 Ls e he).2
  rw [he'] at this
  simp at this

theorem decoNF_val (wts : List Nat → List Nat) (a wa : Nat) (Ls : List (List Nat)) :
    (decoNF wts a wa Ls).map DItem.val = Ls.flatten ++ [a] := by
  simp only [decoNF, List.map_append, deco_val, List.map_cons, List.map_nil]

theorem decoNF_wt (wts : List Nat → List Nat) (a wa : Nat) (Ls : List (List Nat)) :
    binSum DItem.wt (decoNF wts a wa Ls) = binSum (binWt wts) Ls + wa := by
  simp only [decoNF, Part.binSum_append, deco_wt, Part.binSum_singleton]

theorem mem_decoNF {wts : List Nat → List Nat} {a wa : Nat} {Ls : List (List Nat)} {e : DItem}
    (he : e ∈ decoNF wts a wa Ls) :
    (∃ L ∈ Ls, ∃ j, e ∈ mk j 0 L (wts L)) ∨ e = ⟨a, wa, Ls.length, 0⟩ := by
  simp only [decoNF, List.mem_append, List.mem_singleton] at he
  rcases he with he | rfl
  · exact Or.inl (deco_mem wts 0 Ls e he)
  · exact Or.inr rfl

end Prtpy.FFD119Gap

namespace Prtpy.FFD119

variable {α : Type}

/-! ### The weighting argument on a normal form

A weight rule `wts` (the weights of the items of a bin may depend on the whole bin), a weight `wa` for the item `a`
(decorated as the only item of bin number `Ls.length`), an allowed deficit `defc L` for each bin of the run. -/

theorem mem_deco_of_wt_ne {wts : List Nat → List Nat} {a wa : Nat} {Ls : List (List Nat)} {e : DItem}
    (he : e ∈ FFD119Gap.decoNF wts a wa Ls) (hw : e.wt ≠ wa) : e ∈ deco wts 0 Ls := by
  rcases List.mem_append.1 he with he | he
  · exact he
  · rw [List.mem_singleton.1 he] at hw
    exact absurd rfl hw

theorem count_of_weights {B a m lo hi wa : Nat} {Ls : List (List Nat)} (wts : List Nat → List Nat)
    (defc : List Nat → Nat) (hrun : ∀ L ∈ Ls, lo ≤ binWt wts L + defc L)
    (hopt : ∀ T : List DItem, T.Nodup → T.Pairwise (fun e e' => e'.val ≤ e.val) →
      (∀ e ∈ T, e ∈ FFD119Gap.decoNF wts a wa Ls) → binSum DItem.val T ≤ B → binSum DItem.wt T ≤ hi)
    (hm : Packable B m (Ls.flatten ++ [a])) : lo * Ls.length + wa ≤ hi * m + binSum defc Ls := by
  have h1 := Part.binSum_le_binSum (f := fun _ => lo) (g := fun L => binWt wts L + defc L) hrun
  rw [Part.binSum_const, Part.binSum_add, Nat.mul_comm] at h1
  have h2 := weight_le_of_packable (B := B) (m := m) (c := hi) (FFD119Gap.decoNF_nodup wts a wa Ls)
    (by rw [FFD119Gap.decoNF_val]; exact hm) hopt
  rw [FFD119Gap.decoNF_wt] at h2
  omega

/-- if two bins of the run cannot both be of the kind `p`, the bins of this kind, with deficit `d` each, have the
    total deficit `≤ d` -/
theorem deficit_le_of_unique {B a d : Nat} {Ls : List (List Nat)} (hnf : NF B a Ls) (p : List Nat → Bool)
    (huniq : ∀ L ∈ Ls, ∀ L' ∈ Ls, VRel B L L' → p L = true → p L' = true → False) :
    binSum (fun L => if p L then d else 0) Ls ≤ d :=
  Nat.le_trans (Part.binSum_ite_le p d (Part.countP_le_one (R := VRel B) p Ls hnf.rel huniq)) (Nat.le_of_eq (Nat.one_mul d))

/-- `e` is one of the two decorated items of a bin `[x, y]` (bin number `j`) with `B/3 < y ≤ x ≤ B/2` -/
def MidPair (B j : Nat) (L : List Nat) (e : DItem) : Prop :=
  ∃ x y, L = [x, y] ∧ 2 * x ≤ B ∧ B < 3 * y ∧ (e = ⟨x, e.wt, j, 0⟩ ∨ e = ⟨y, e.wt, j, 1⟩)

theorem MidPair.ge {B j : Nat} {L : List Nat} {e : DItem} (h : MidPair B j L e)
    (hs : L.Pairwise (fun x y => y ≤ x)) : ∃ x y, L = [x, y] ∧ 2 * x ≤ B ∧ B < 3 * y ∧ y ≤ x ∧ y ≤ e.val := by
  obtain ⟨x, y, rfl, hx, hy, hxy⟩ := h
  simp only [List.pairwise_cons, List.mem_singleton, forall_eq] at hs
  refine ⟨x, y, rfl, hx, hy, hs.1, ?_⟩
  rcases hxy with h | h
  · exact (congrArg DItem.val h).symm ▸ hs.1
  · exact Nat.le_of_eq (congrArg DItem.val h).symm

/-- the two items of such a bin do not fit into one bin together with `a` -/
theorem midPair_same {B a j : Nat} {L : List Nat} {e e' : DItem} (h : MidPair B j L e) (h' : MidPair B j L e')
    (hne : e ≠ e') (hw : e.wt = e'.wt) (hfull : B < sumL L + a) : B < e.val + e'.val + a := by
  obtain ⟨x, y, rfl, _, _, hxy⟩ := h
  obtain ⟨x', y', hL, _, _, hxy'⟩ := h'
  simp only [List.cons.injEq, and_true] at hL
  obtain ⟨rfl, rfl⟩ := hL
  simp only [sumL] at hfull
  rcases hxy with h | h <;> rcases hxy' with h' | h'
  · exact absurd (by rw [h, h', hw]) hne
  · have := congrArg DItem.val h
    have := congrArg DItem.val h'
    simp only at *
    omega
  · have := congrArg DItem.val h
    have := congrArg DItem.val h'
    simp only at *
    omega
  · exact absurd (by rw [h, h', hw]) hne

/-- neither do two items of two such bins (the later bin was opened by an item `x' ≤ B/2` that did not fit on top
    of the items of the earlier bin that had arrived: these are both items, and both are at least `x'`) -/
theorem midPair_cross {B a j j' : Nat} {L L' : List Nat} {e e' : DItem} (hr : VRel B L L') (h : MidPair B j L e)
    (h' : MidPair B j' L' e') (hfull' : B < sumL L' + a) (hs : L.Pairwise (fun x y => y ≤ x))
    (hs' : L'.Pairwise (fun x y => y ≤ x)) : B < e.val + e'.val + a := by
  obtain ⟨x, y, rfl, hx, hy, hxy, hval⟩ := h.ge hs
  obtain ⟨x', y', rfl, hx', hy', hxy', hval'⟩ := h'.ge hs'
  simp only [sumL] at hfull'
  have := (vrel_take_ge (t := 2) hr hs hx hx').2 y (by simp)
  omega

/-- two different decorated items of a normal form that have the same weight `w`, where under the rule `wts` only
    the two items of a bin `[x, y]` with `B/3 < y ≤ x ≤ B/2` get the weight `w`: they do not fit into one bin
    together with `a` -/
theorem midPair_exceeds {B a w : Nat} {Ls : List (List Nat)} (hnf : NF B a Ls) (wts : List Nat → List Nat)
    (hmid : ∀ L ∈ Ls, ∀ j, ∀ e ∈ mk j 0 L (wts L), e.wt = w → MidPair B j L e)
    {e e' : DItem} (he : e ∈ deco wts 0 Ls) (he' : e' ∈ deco wts 0 Ls) (hne : e ≠ e')
    (hw : e.wt = w) (hw' : e'.wt = w) : B < e.val + e'.val + a := by
  rcases deco_mem2 wts 0 Ls hnf.rel e he e' he' with
    ⟨L, hL, j, h1, h2⟩ | ⟨L, hL, L', hL', j, j', hr, h1, h2⟩ | ⟨L, hL, L', hL', j, j', hr, h1, h2⟩
  · exact midPair_same (hmid L hL j e h1 hw) (hmid L hL j e' h2 hw') hne (hw.trans hw'.symm) (hnf.full L hL)
  · exact midPair_cross hr (hmid L hL j e h1 hw) (hmid L' hL' j' e' h2 hw') (hnf.full L' hL')
      (hnf.sorted L hL) (hnf.sorted L' hL')
  · have := midPair_cross (a := a) hr (hmid L hL j e' h1 hw') (hmid L' hL' j' e h2 hw) (hnf.full L' hL')
      (hnf.sorted L hL) (hnf.sorted L' hL')
    omega

/-- what the two weightings below know about a group `T` of decorated items of a normal form: every item has its
    role (`Role`, from `hfacts` for the items of the bins and `hwa` for `a`), and two different items of weight `w`
    do not fit together with `a`, if only the items of bins `[x, y]` with `B/3 < y ≤ x ≤ B/2` get the weight `w` -/
theorem group_facts {B a w wa : Nat} {Ls : List (List Nat)} (hnf : NF B a Ls) (wts : List Nat → List Nat)
    (Role : DItem → Prop)
    (hfacts : ∀ L ∈ Ls, ∀ j, ∀ e ∈ mk j 0 L (wts L), Role e ∧ (e.wt = w → MidPair B j L e))
    (hwa : Role ⟨a, wa, Ls.length, 0⟩) (hw : w ≠ wa) {T : List DItem}
    (hTD : ∀ e ∈ T, e ∈ FFD119Gap.decoNF wts a wa Ls) :
    (∀ e ∈ T, Role e) ∧
      ∀ e ∈ T, ∀ e' ∈ T, e ≠ e' → e.wt = w → e'.wt = w → B < e.val + e'.val + a := by
  refine ⟨fun e he => ?_, fun e he e' he' hne h h' => ?_⟩
  · rcases FFD119Gap.mem_decoNF (hTD e he) with ⟨L, hL, j, hj⟩ | h
    · exact (hfacts L hL j e hj).1
    · rw [h]; exact hwa
  · exact midPair_exceeds hnf wts (fun L hL j e he => (hfacts L hL j e he).2)
      (mem_deco_of_wt_ne (hTD e he) (h ▸ hw)) (mem_deco_of_wt_ne (hTD e' he') (h' ▸ hw)) hne h h'

/-- the optimum's side as a case split: decorated items with value `≥ a > B/5`; a duplicate-free collection that fits
    into one bin, listed by non-increasing value, has at most four members, so a bound `hi` for its weight follows
    from the bound for one, two, three and four pairwise different items in this order -/
theorem opt_split_sorted {B a hi : Nat} (h5 : B < 5 * a) (P : DItem → Prop) (hP : ∀ e, P e → a ≤ e.val)
    (h1 : ∀ e, P e → e.val ≤ B → e.wt ≤ hi)
    (h2 : ∀ e1 e2, P e1 → P e2 → e1 ≠ e2 → e2.val ≤ e1.val → e1.val + e2.val ≤ B → e1.wt + e2.wt ≤ hi)
    (h3 : ∀ e1 e2 e3, P e1 → P e2 → P e3 → e1 ≠ e2 → e1 ≠ e3 → e2 ≠ e3 → e2.val ≤ e1.val → e3.val ≤ e2.val →
      e1.val + e2.val + e3.val ≤ B → e1.wt + e2.wt + e3.wt ≤ hi)
    (h4 : ∀ e1 e2 e3 e4, P e1 → P e2 → P e3 → P e4 → e1 ≠ e2 → e1 ≠ e3 → e1 ≠ e4 → e2 ≠ e3 → e2 ≠ e4 → e3 ≠ e4 →
      e2.val ≤ e1.val → e3.val ≤ e2.val → e4.val ≤ e3.val → e1.val + e2.val + e3.val + e4.val ≤ B →
      e1.wt + e2.wt + e3.wt + e4.wt ≤ hi)
    (T : List DItem) (hnd : T.Nodup) (hsort : T.Pairwise (fun e e' => e'.val ≤ e.val)) (hT : ∀ e ∈ T, P e)
    (hs : binSum DItem.val T ≤ B) : binSum DItem.wt T ≤ hi := by
  match T, hnd, hsort, hT, hs with
  | [], _, _, _, _ => simp [binSum, sumL]
  | [e], _, _, hT, hs =>
    simp only [binSum, List.map_cons, List.map_nil, sumL] at hs ⊢
    have := h1 e (hT e (by simp)) (by omega)
    omega
  | [e1, e2], hnd, hsort, hT, hs =>
    simp only [List.nodup_cons, List.mem_cons, List.not_mem_nil, or_false] at hnd
    simp only [binSum, List.map_cons, List.map_nil, sumL] at hs ⊢
    have := h2 e1 e2 (hT e1 (by simp)) (hT e2 (by simp)) hnd.1 (List.rel_of_pairwise_cons hsort (by simp))
      (by omega)
    omega
  | [e1, e2, e3], hnd, hsort, hT, hs =>
    simp only [List.nodup_cons, List.mem_cons, List.not_mem_nil, or_false, not_or] at hnd
    simp only [binSum, List.map_cons, List.map_nil, sumL] at hs ⊢
    have s2 := (List.pairwise_cons.1 hsort).2
    have := h3 e1 e2 e3 (hT e1 (by simp)) (hT e2 (by simp)) (hT e3 (by simp)) hnd.1.1 hnd.1.2 hnd.2.1
      (List.rel_of_pairwise_cons hsort (by simp)) (List.rel_of_pairwise_cons s2 (by simp)) (by omega)
    omega
  | [e1, e2, e3, e4], hnd, hsort, hT, hs =>
    simp only [List.nodup_cons, List.mem_cons, List.not_mem_nil, or_false, not_or] at hnd
    simp only [binSum, List.map_cons, List.map_nil, sumL] at hs ⊢
    have s2 := (List.pairwise_cons.1 hsort).2
    have s3 := (List.pairwise_cons.1 s2).2
    have := h4 e1 e2 e3 e4 (hT e1 (by simp)) (hT e2 (by simp)) (hT e3 (by simp)) (hT e4 (by simp))
      hnd.1.1 hnd.1.2.1 hnd.1.2.2 hnd.2.1.1 hnd.2.1.2 hnd.2.2.1 (List.rel_of_pairwise_cons hsort (by simp))
      (List.rel_of_pairwise_cons s2 (by simp)) (List.rel_of_pairwise_cons s3 (by simp)) (by omega)
    omega
  | e1 :: e2 :: e3 :: e4 :: e5 :: r, _, _, hT, hs =>
    have a1 := hP e1 (hT e1 (by simp))
    have a2 := hP e2 (hT e2 (by simp))
    have a3 := hP e3 (hT e3 (by simp))
    have a4 := hP e4 (hT e4 (by simp))
    have a5 := hP e5 (hT e5 (by simp))
    simp only [binSum, List.map_cons, sumL] at hs
    omega

/-! ## The range `B/4 < a ≤ B/3`

Weights in units of `1/6`: a bin with one item: `6`; a bin `[x, y]`: `4, 2` if `x > B/2`, else `3, 3` if
`y > B/3`, else `2, 2` (at most one such bin); bins with three items: `2, 2, 2`.  Every bin of the optimum weighs
at most `7`. -/

def wts1 (B : Nat) : List Nat → List Nat
  | [_] => [6]
  | [x, y] => if B < 2 * x then [4, 2] else if B < 3 * y then [3, 3] else [2, 2]
  | L => L.map fun _ => 2

/-- the one kind of bin that weighs less than `6` -/
def exc1 (B : Nat) : List Nat → Bool
  | [x, y] => decide (2 * x ≤ B) && decide (3 * y ≤ B)
  | _ => false

/-- what the optimum's side needs to know about an item -/
def Role1 (B a : Nat) (e : DItem) : Prop :=
  a ≤ e.val ∧ ((e.wt = 6 ∧ B < e.val + a) ∨ (e.wt = 4 ∧ B < 2 * e.val) ∨ e.wt = 3 ∨ e.wt = 2)

theorem wts1_facts {B a j : Nat} {L : List Nat} (hge : ∀ y ∈ L, a ≤ y) (hfull : B < sumL L + a) :
    ∀ e ∈ mk j 0 L (wts1 B L), Role1 B a e ∧ (e.wt = 3 → MidPair B j L e) := by
  intro e he
  match L, hge, hfull, he with
  | [], _, _, he => simp [mk] at he
  | [x], hge, hfull, he =>
    simp only [wts1, mk, List.mem_singleton] at he
    subst he
    simp only [sumL, Nat.add_zero] at hfull
    exact ⟨⟨hge x (by simp), Or.inl ⟨rfl, hfull⟩⟩, fun h => by simp at h⟩
  | [x, y], hge, hfull, he =>
    have hx := hge x (by simp)
    have hy := hge y (by simp)
    simp only [sumL] at hfull
    simp only [wts1] at he
    split at he
    · simp only [mk, List.mem_cons, List.not_mem_nil, or_false] at he
      rcases he with rfl | rfl
      · exact ⟨⟨hx, Or.inr (Or.inl ⟨rfl, by assumption⟩)⟩, fun h => by simp at h⟩
      · exact ⟨⟨hy, Or.inr (Or.inr (Or.inr rfl))⟩, fun h => by simp at h⟩
    · split at he
      · simp only [mk, List.mem_cons, List.not_mem_nil, or_false] at he
        rcases he with rfl | rfl
        · exact ⟨⟨hx, Or.inr (Or.inr (Or.inl rfl))⟩, fun _ => ⟨x, y, rfl, by omega, by omega, Or.inl rfl⟩⟩
        · exact ⟨⟨hy, Or.inr (Or.inr (Or.inl rfl))⟩, fun _ => ⟨x, y, rfl, by omega, by omega, Or.inr rfl⟩⟩
      · simp only [mk, List.mem_cons, List.not_mem_nil, or_false] at he
        rcases he with rfl | rfl
        · exact ⟨⟨hx, Or.inr (Or.inr (Or.inr rfl))⟩, fun h => by simp at h⟩
        · exact ⟨⟨hy, Or.inr (Or.inr (Or.inr rfl))⟩, fun h => by simp at h⟩
  | x :: y :: z :: r, hge, _, he =>
    obtain ⟨hw, hv⟩ := mk_map j (fun _ => 2) 0 _ e he
    exact ⟨⟨hge _ hv, Or.inr (Or.inr (Or.inr hw))⟩, fun h => by omega⟩

theorem binWt1_ge {B : Nat} {L : List Nat} (hne : L ≠ []) :
    6 ≤ binWt (wts1 B) L + (if exc1 B L then 2 else 0) := by
  match L, hne with
  | [x], _ => simp [binWt, wts1, mk, binSum, sumL]
  | [x, y], _ =>
    simp only [binWt, wts1, exc1]
    split
    · simp [mk, binSum, sumL]
    · split
      · simp [mk, binSum, sumL]
      · have h1 : 2 * x ≤ B := by omega
        have h2 : 3 * y ≤ B := by omega
        simp [mk, binSum, sumL, h1, h2]
  | x :: y :: z :: r, _ =>
    have h1 : wts1 B (x :: y :: z :: r) = (x :: y :: z :: r).map fun _ => 2 := by simp [wts1]
    rw [binWt, h1, mk_map_wt]
    simp only [List.map_cons, sumL]
    omega

theorem exc1_unique {B a : Nat} {L L' : List Nat} (h3 : 3 * a ≤ B) (hr : VRel B L L')
    (hs : L.Pairwise (fun x y => y ≤ x)) (hfull : B < sumL L' + a)
    (h : exc1 B L = true) (h' : exc1 B L' = true) : False := by
  match L, L', hs, h, h' with
  | [x, y], [x', y'], hs, h, h' =>
    simp only [exc1, Bool.and_eq_true, decide_eq_true_eq] at h h'
    simp only [sumL] at hfull
    have := (vrel_take_ge (t := 2) hr hs h.1 h'.1).2 y (by simp)
    omega

/-- an item that shares a bin with two other items weighs at most `3` (in units of `1/6`) -/
theorem Role1.wt_le_three {B a : Nat} {e : DItem} (h : Role1 B a e) (hB : B < 4 * a) (hs : e.val + 2 * a ≤ B) :
    e.wt ≤ 3 := by
  unfold Role1 at h
  omega

/-- every bin of the optimum weighs at most `7/6`: at most three items fit; with three items each weighs at most
    `3`, and two items of weight `3` leave no room for a third item -/
theorem opt_bin1 {B a : Nat} (hB : B < 4 * a) (T : List DItem) (hnd : T.Nodup)
    (hsort : T.Pairwise (fun e e' => e'.val ≤ e.val)) (h1 : ∀ e ∈ T, Role1 B a e)
    (h2 : ∀ e ∈ T, ∀ e' ∈ T, e ≠ e' → e.wt = 3 → e'.wt = 3 → B < e.val + e'.val + a)
    (hs : binSum DItem.val T ≤ B) : binSum DItem.wt T ≤ 7 := by
  refine opt_split_sorted (by omega) (· ∈ T) (fun e he => (h1 e he).1) ?_ ?_ ?_ ?_ T hnd hsort (fun _ h => h) hs
  · intro e m _
    have f := h1 e m
    unfold Role1 at f
    omega
  · intro e1 e2 m1 m2 _ _ hs
    have f1 := h1 e1 m1
    have f2 := h1 e2 m2
    unfold Role1 at f1 f2
    omega
  · intro e1 e2 e3 m1 m2 m3 n12 n13 n23 _ _ hs
    have a1 := (h1 e1 m1).1
    have a2 := (h1 e2 m2).1
    have a3 := (h1 e3 m3).1
    have g12 := h2 e1 m1 e2 m2 n12
    have g13 := h2 e1 m1 e3 m3 n13
    have g23 := h2 e2 m2 e3 m3 n23
    have u1 := (h1 e1 m1).wt_le_three hB (by omega)
    have u2 := (h1 e2 m2).wt_le_three hB (by omega)
    have u3 := (h1 e3 m3).wt_le_three hB (by omega)
    omega
  · intro e1 e2 e3 e4 m1 m2 m3 m4 _ _ _ _ _ _ _ _ _ hs
    have a1 := (h1 e1 m1).1
    have a2 := (h1 e2 m2).1
    have a3 := (h1 e3 m3).1
    have a4 := (h1 e4 m4).1
    omega

/-- the count for `B/4 < a ≤ B/3`, in units of `1/6`: every bin of the run weighs `≥ 6` up to a total deficit of `2`
    (`exc1`), `a` weighs `2`, a bin of the optimum weighs `≤ 7`: `6·Ls.length + 2 ≤ 7·m + 2` -/
theorem count_quarter_third {B a m : Nat} {Ls : List (List Nat)} (hnf : NF B a Ls) (h4 : B < 4 * a)
    (h3 : 3 * a ≤ B) (hm : Packable B m (Ls.flatten ++ [a])) : 6 * Ls.length ≤ 7 * m := by
  have hdef := deficit_le_of_unique (d := 2) hnf (exc1 B) (fun L hL L' hL' hr h h' =>
    exc1_unique h3 hr (hnf.sorted L hL) (hnf.full L' hL') h h')
  have hmain := count_of_weights (B := B) (lo := 6) (hi := 7) (wa := 2) (wts1 B)
    (fun L => if exc1 B L then 2 else 0) (fun L hL => binWt1_ge (nf_bin_ne_nil hnf (by omega) hL))
    (fun T hTnd hTsort hTD hTs =>
      have h := group_facts (w := 3) hnf (wts1 B) (Role1 B a)
        (fun L hL j => wts1_facts (hnf.ge L hL) (hnf.full L hL))
        ⟨Nat.le_refl a, Or.inr (Or.inr (Or.inr rfl))⟩ (by decide) hTD
      opt_bin1 h4 T hTnd hTsort h.1 h.2 hTs)
    hm
  omega

/-! ## The range `B/5 < a ≤ B/4`, with the ratio `5/4`

Weights in units of `1/72`.  Every item has the weight of its size class (`cw`: `30` above `B/3`, `24` above `B/4`,
`18` otherwise), except: the only item of a bin (`72`); the first item of a bin if it exceeds `B/2` (`72 −` the
weight of the second item in a bin with two items, `42` in longer bins); the two items of a bin `[x, y]` with
`B/3 < y ≤ x ≤ B/2` (`36, 36`, or `42, 30` if `y ≤ 3B/4 − 2a`).  Every bin of the run weighs at least `72`, except
at most one bin "one item above `B/3`, the second one not" (`−18`) and one bin that starts with an item in
`(B/4, B/3]` and has no third such item (`−12`); every bin of the optimum weighs at most `90`. -/

/-- weight of the size class -/
def cw (B y : Nat) : Nat := if B < 3 * y then 30 else if B < 4 * y then 24 else 18

def wts2 (B a : Nat) : List Nat → List Nat
  | [] => []
  | [_] => [72]
  | [x, y] =>
    if B < 2 * x then [72 - cw B y, cw B y]
    else if B < 3 * y then (if 4 * y + 8 * a ≤ 3 * B then [42, 30] else [36, 36])
    else [cw B x, cw B y]
  | x :: y :: z :: r =>
    if B < 2 * x then 42 :: (y :: z :: r).map (cw B) else (x :: y :: z :: r).map (cw B)

theorem cw_ge (B y : Nat) : 18 ≤ cw B y := by
  unfold cw; split
  · omega
  · split <;> omega

theorem cw_le (B y : Nat) : cw B y ≤ 30 := by
  unfold cw; split
  · omega
  · split <;> omega

theorem sumL_map_cw_ge (B : Nat) (L : List Nat) : 18 * L.length ≤ sumL (L.map (cw B)) := by
  have := Part.length_mul_le_binSum (f := cw B) (l := L) fun y _ => cw_ge B y
  rw [Nat.mul_comm]
  exact this

/-- what the optimum's side needs to know about an item: its weight under `wts2` and what the bin it comes from
    (filled above `B − a`, sorted) says about its value.

    | weight | item                                                   | known about its value `x`            |
    |--------|--------------------------------------------------------|--------------------------------------|
    | `72`   | alone in its bin                                       | `x > B − a`: no room for a partner   |
    | `54`   | first of `[x, y]`, `x > B/2`, `y ≤ B/4` (`72 − 18`)    | `x + y + a > B`, so `x > 3B/4 − a`   |
    | `48`   | first of `[x, y]`, `x > B/2`, `B/4 < y ≤ B/3` (`72−24`)| `x > 2B/3 − a`                       |
    | `≤ 42` | other first items above `B/2`                          | `x > B/2`                            |
    | `42`   | `x` of `[x, y]`, `x ≤ B/2`, `B/3 < y ≤ 3B/4 − 2a`      | `x > B − a − y ≥ B/4 + a`            |
    | `36`   | both items of `[x, y]`, `x ≤ B/2`, `y > 3B/4 − 2a`     | `> B/3`, `> 3B/4 − 2a`, `≤ B/2`      |
    | `≤ 30`, `≤ 24`, `≤ 18` | the size class                         | `> B/3`, `> B/4`, `≥ a`              |

    The threshold `3B/4 − 2a` is where `42 + 36 + 18` would fit: an item of weight `42` exceeds `B/4 + a`, one of
    weight `36` exceeds `3B/4 − 2a`, and with a third item `≥ a` they exceed `B`. -/
def Role2 (B a : Nat) (e : DItem) : Prop :=
  (e.wt = 72 ∧ B < e.val + a) ∨
  (e.wt = 54 ∧ 3 * B < 4 * e.val + 4 * a ∧ B < 2 * e.val) ∨
  (e.wt = 48 ∧ 2 * B < 3 * e.val + 3 * a ∧ B < 2 * e.val) ∨
  (e.wt ≤ 42 ∧ B < 2 * e.val) ∨
  (e.wt = 42 ∧ B + 4 * a < 4 * e.val) ∨
  (e.wt = 36 ∧ B < 3 * e.val ∧ 3 * B < 4 * e.val + 8 * a ∧ 2 * e.val ≤ B) ∨
  (e.wt ≤ 30 ∧ B < 3 * e.val) ∨
  (e.wt ≤ 24 ∧ B < 4 * e.val) ∨
  (e.wt ≤ 18 ∧ a ≤ e.val)

theorem Role2.r1 {B a : Nat} {e : DItem} (h : e.wt = 72 ∧ B < e.val + a) : Role2 B a e := Or.inl h
theorem Role2.r2 {B a : Nat} {e : DItem} (h : e.wt = 54 ∧ 3 * B < 4 * e.val + 4 * a ∧ B < 2 * e.val) :
    Role2 B a e := Or.inr (Or.inl h)
theorem Role2.r3 {B a : Nat} {e : DItem} (h : e.wt = 48 ∧ 2 * B < 3 * e.val + 3 * a ∧ B < 2 * e.val) :
    Role2 B a e := Or.inr (Or.inr (Or.inl h))
theorem Role2.r4 {B a : Nat} {e : DItem} (h : e.wt ≤ 42 ∧ B < 2 * e.val) : Role2 B a e :=
  Or.inr (Or.inr (Or.inr (Or.inl h)))
theorem Role2.r5 {B a : Nat} {e : DItem} (h : e.wt = 42 ∧ B + 4 * a < 4 * e.val) : Role2 B a e :=
  Or.inr (Or.inr (Or.inr (Or.inr (Or.inl h))))
theorem Role2.r6 {B a : Nat} {e : DItem}
    (h : e.wt = 36 ∧ B < 3 * e.val ∧ 3 * B < 4 * e.val + 8 * a ∧ 2 * e.val ≤ B) : Role2 B a e :=
  Or.inr (Or.inr (Or.inr (Or.inr (Or.inr (Or.inl h)))))
theorem Role2.r7 {B a : Nat} {e : DItem} (h : e.wt ≤ 30 ∧ B < 3 * e.val) : Role2 B a e :=
  Or.inr (Or.inr (Or.inr (Or.inr (Or.inr (Or.inr (Or.inl h))))))
theorem Role2.r8 {B a : Nat} {e : DItem} (h : e.wt ≤ 24 ∧ B < 4 * e.val) : Role2 B a e :=
  Or.inr (Or.inr (Or.inr (Or.inr (Or.inr (Or.inr (Or.inr (Or.inl h)))))))
theorem Role2.r9 {B a : Nat} {e : DItem} (h : e.wt ≤ 18 ∧ a ≤ e.val) : Role2 B a e :=
  Or.inr (Or.inr (Or.inr (Or.inr (Or.inr (Or.inr (Or.inr (Or.inr h)))))))

theorem role2_cw {B a : Nat} {e : DItem} (hw : e.wt = cw B e.val) (ha : a ≤ e.val) : Role2 B a e := by
  unfold cw at hw
  split at hw
  · exact Role2.r7 (by omega)
  · split at hw
    · exact Role2.r8 (by omega)
    · exact Role2.r9 (by omega)

theorem wts2_facts {B a j : Nat} {L : List Nat} (hge : ∀ y ∈ L, a ≤ y) (hfull : B < sumL L + a)
    (hs : L.Pairwise (fun x y => y ≤ x)) :
    ∀ e ∈ mk j 0 L (wts2 B a L), Role2 B a e ∧ (e.wt = 36 → MidPair B j L e) := by
  intro e he
  match L, hge, hfull, hs, he with
  | [], _, _, _, he => simp [mk] at he
  | [x], hge, hfull, _, he =>
    simp only [wts2, mk, List.mem_singleton] at he
    subst he
    simp only [sumL] at hfull
    refine ⟨Or.inl ⟨rfl, by simpa using hfull⟩, by simp⟩
  | [x, y], hge, hfull, hs, he =>
    have hx := hge x (by simp)
    have hy := hge y (by simp)
    simp only [sumL] at hfull
    simp only [List.pairwise_cons, List.mem_singleton, forall_eq] at hs
    have hxy := hs.1
    simp only [wts2] at he
    split at he
    · -- first item above B/2
      simp only [mk, List.mem_cons, List.not_mem_nil, or_false] at he
      have h1 := cw_ge B y
      have h2 := cw_le B y
      rcases he with rfl | rfl
      · refine ⟨?_, ?_⟩
        · unfold cw
          split
          · exact Role2.r4 ⟨by simp, by simp only; omega⟩
          · split
            · exact Role2.r3 ⟨by simp, by simp only; omega, by simp only; omega⟩
            · exact Role2.r2 ⟨by simp, by simp only; omega, by simp only; omega⟩
        · simp only
          omega
      · refine ⟨role2_cw rfl hy, ?_⟩
        simp only
        omega
    · split at he
      · split at he
        · simp only [mk, List.mem_cons, List.not_mem_nil, or_false] at he
          rcases he with rfl | rfl
          · exact ⟨Role2.r5 ⟨by simp, by simp only; omega⟩, by simp⟩
          · exact ⟨Role2.r7 ⟨by simp, by simp only; omega⟩, by simp⟩
        · simp only [mk, List.mem_cons, List.not_mem_nil, or_false] at he
          rcases he with rfl | rfl
          · exact ⟨Role2.r6 ⟨by simp, by simp only; omega, by simp only; omega, by simp only; omega⟩,
              fun _ => ⟨x, y, rfl, by omega, by omega, Or.inl rfl⟩⟩
          · exact ⟨Role2.r6 ⟨by simp, by simp only; omega, by simp only; omega, by simp only; omega⟩,
              fun _ => ⟨x, y, rfl, by omega, by omega, Or.inr rfl⟩⟩
      · simp only [mk, List.mem_cons, List.not_mem_nil, or_false] at he
        rcases he with rfl | rfl
        · refine ⟨role2_cw rfl hx, ?_⟩
          simp only
          have := cw_le B x
          omega
        · refine ⟨role2_cw rfl hy, ?_⟩
          simp only
          have := cw_le B y
          omega
  | x :: y :: z :: r, hge, _, _, he =>
    simp only [wts2] at he
    split at he
    · simp only [mk, List.mem_cons] at he
      rcases he with rfl | he
      · exact ⟨Role2.r4 ⟨by simp, by simp only; omega⟩, by simp⟩
      · have he' : e ∈ mk j 1 (y :: z :: r) ((y :: z :: r).map (cw B)) := by simpa using he
        obtain ⟨hw, hv⟩ := mk_map j (cw B) _ _ e he'
        have := cw_le B e.val
        exact ⟨role2_cw hw (hge _ (List.mem_cons_of_mem _ hv)), by omega⟩
    · obtain ⟨hw, hv⟩ := mk_map j (cw B) _ _ e he
      have := cw_le B e.val
      exact ⟨role2_cw hw (hge _ hv), by omega⟩


/-- the two kinds of bins that may weigh less than `72` -/
def e1 (B : Nat) : List Nat → Bool
  | x :: y :: _ => decide (B < 3 * x) && decide (2 * x ≤ B) && decide (3 * y ≤ B)
  | _ => false

def e2 (B : Nat) : List Nat → Bool
  | [x, _] => decide (B < 4 * x) && decide (3 * x ≤ B)
  | x :: _ :: z :: _ => decide (B < 4 * x) && decide (3 * x ≤ B) && decide (4 * z ≤ B)
  | _ => false

theorem cw_eq_30 {B y : Nat} (h : B < 3 * y) : cw B y = 30 := by unfold cw; rw [if_pos h]

theorem cw_eq_24 {B y : Nat} (h3 : 3 * y ≤ B) (h4 : B < 4 * y) : cw B y = 24 := by
  unfold cw; rw [if_neg (by omega), if_pos h4]

theorem binWt2_ge {B a : Nat} {L : List Nat} (h4 : 4 * a ≤ B) (hge : ∀ y ∈ L, a ≤ y)
    (hfull : B < sumL L + a) (hs : L.Pairwise (fun x y => y ≤ x)) :
    72 ≤ binWt (wts2 B a) L ∨ (e1 B L = true ∧ 54 ≤ binWt (wts2 B a) L) ∨
      (e2 B L = true ∧ 60 ≤ binWt (wts2 B a) L) := by
  match L, hge, hfull, hs with
  | [], _, hfull, _ => simp only [sumL] at hfull; omega
  | [x], _, _, _ => left; simp [binWt, wts2, mk, binSum, sumL]
  | [x, y], hge, hfull, hs =>
    have hx := hge x (by simp)
    have hy := hge y (by simp)
    simp only [sumL] at hfull
    simp only [List.pairwise_cons, List.mem_singleton, forall_eq] at hs
    have hxy := hs.1
    have h1 := cw_ge B y
    have h2 := cw_le B y
    simp only [binWt, wts2]
    split
    · left; simp only [mk, binSum, List.map_cons, List.map_nil, sumL]; omega
    · split
      · left; split <;> simp [mk, binSum, sumL]
      · -- x is above B/3, y is above B/4 and at most B/3
        have hcx := cw_eq_30 (B := B) (y := x) (by omega)
        have hcy := cw_eq_24 (B := B) (y := y) (by omega) (by omega)
        right; left
        refine ⟨?_, ?_⟩
        · simp only [e1, Bool.and_eq_true, decide_eq_true_eq]; omega
        · simp only [mk, binSum, List.map_cons, List.map_nil, sumL, hcx, hcy]; omega
  | x :: y :: z :: r, hge, hfull, hs =>
    have hx := hge x (by simp)
    have hy := hge y (by simp)
    have hz := hge z (by simp)
    simp only [List.pairwise_cons, List.mem_cons] at hs
    have hxy := hs.1 y (by simp)
    have hyz := hs.2.1 z (by simp)
    simp only [binWt, wts2]
    split
    · have h1 : mk 0 0 (x :: y :: z :: r) (42 :: (y :: z :: r).map (cw B)) =
          ⟨x, 42, 0, 0⟩ :: mk 0 (0 + 1) (y :: z :: r) ((y :: z :: r).map (cw B)) := rfl
      rw [h1, Part.binSum_cons, mk_map_wt]
      have := sumL_map_cw_ge B (y :: z :: r)
      simp only [List.length_cons] at this
      left
      simp only
      omega
    · rw [mk_map_wt]
      match r, hge, hfull with
      | w :: r', _, _ =>
        have := sumL_map_cw_ge B (x :: y :: z :: w :: r')
        simp only [List.length_cons] at this
        left
        omega
      | [], hge, hfull =>
        simp only [sumL] at hfull
        simp only [List.map_cons, List.map_nil, sumL, e1, e2]
        have c1 := cw_ge B x
        have c2 := cw_ge B y
        have c3 := cw_ge B z
        by_cases h3y : B < 3 * y
        · have hcx := cw_eq_30 (B := B) (y := x) (by omega)
          have hcy := cw_eq_30 (B := B) (y := y) (by omega)
          left; omega
        · by_cases h3x : B < 3 * x
          · have hcx := cw_eq_30 (B := B) (y := x) (by omega)
            right; left
            refine ⟨?_, by omega⟩
            simp only [Bool.and_eq_true, decide_eq_true_eq]; omega
          · have hcx := cw_eq_24 (B := B) (y := x) (by omega) (by omega)
            by_cases h4z : B < 4 * z
            · have hcy := cw_eq_24 (B := B) (y := y) (by omega) (by omega)
              have hcz := cw_eq_24 (B := B) (y := z) (by omega) (by omega)
              left; omega
            · right; right
              refine ⟨?_, by omega⟩
              simp only [Bool.and_eq_true, decide_eq_true_eq]; omega

theorem e1_unique {B : Nat} {L L' : List Nat} (hr : VRel B L L') (hs : L.Pairwise (fun x y => y ≤ x))
    (h : e1 B L = true) (h' : e1 B L' = true) : False := by
  match L, L', h, h' with
  | x :: y :: r, x' :: y' :: r', h, h' =>
    simp only [e1, Bool.and_eq_true, decide_eq_true_eq] at h h'
    have := (vrel_take_ge (t := 2) hr hs h.1.2 h'.1.2).2 y (by simp)
    omega

theorem e2_unique {B : Nat} {L L' : List Nat} (hr : VRel B L L') (hs : L.Pairwise (fun x y => y ≤ x))
    (h : e2 B L = true) (h' : e2 B L' = true) : False := by
  have hx' : ∃ x' r', L' = x' :: r' ∧ B < 4 * x' ∧ 3 * x' ≤ B := by
    match L', h' with
    | [x', _], h' =>
      simp only [e2, Bool.and_eq_true, decide_eq_true_eq] at h'
      exact ⟨x', _, rfl, h'.1, h'.2⟩
    | x' :: _ :: _ :: _, h' =>
      simp only [e2, Bool.and_eq_true, decide_eq_true_eq] at h'
      exact ⟨x', _, rfl, h'.1.1, h'.1.2⟩
  obtain ⟨x', r', rfl, h1', h2'⟩ := hx'
  match L, hs, h, hr with
  | [x, y], hs, h, hr =>
    simp only [e2, Bool.and_eq_true, decide_eq_true_eq] at h
    have := (vrel_take_ge (t := 3) hr hs h.2 h2').1
    simp at this
  | x :: y :: z :: r, hs, h, hr =>
    simp only [e2, Bool.and_eq_true, decide_eq_true_eq] at h
    have := (vrel_take_ge (t := 3) hr hs h.1.2 h2').2 z (by simp)
    omega

/-- the kinds of items that are at most `B/2` -/
def Small2 (B a : Nat) (e : DItem) : Prop :=
  (e.wt = 42 ∧ B + 4 * a < 4 * e.val) ∨
  (e.wt = 36 ∧ B < 3 * e.val ∧ 3 * B < 4 * e.val + 8 * a ∧ 2 * e.val ≤ B) ∨
  (e.wt ≤ 30 ∧ B < 3 * e.val) ∨
  (e.wt ≤ 24 ∧ B < 4 * e.val) ∨
  (e.wt ≤ 18 ∧ a ≤ e.val)

theorem Role2.small {B a : Nat} {e : DItem} (h : Role2 B a e) (h4 : 4 * a ≤ B) (hle : 2 * e.val ≤ B) :
    Small2 B a e := by
  rcases h with h | h | h | h | h
  · omega
  · omega
  · omega
  · omega
  · exact h

theorem Role2.ge {B a : Nat} {e : DItem} (h : Role2 B a e) (h4 : 4 * a ≤ B) : a ≤ e.val := by
  unfold Role2 at h
  omega

/-- every bin of the optimum weighs at most `90/72 = 5/4`.  The items are listed by non-increasing value, so all
    but the first one are at most `B/2`, and only the first two can both have the weight `36`.  More than four items
    `≥ a > B/5` do not fit; an item of weight `72` has no partner; with these exclusions `omega` goes through the
    kinds of `Role2` (first item) and `Small2` (the others).  The bound is attained by `54 + 36`, `48 + 42`,
    `54 + 18 + 18`, `48 + 24 + 18`, `42 + 30 + 18`, `42 + 24 + 24`, `36 + 30 + 24`, `36 + 18·3`, `30 + 24 + 18·2`,
    `24·3 + 18`; every heavier combination of kinds is excluded by the value bounds of its kinds alone, except two
    items of weight `36`, which need `h2`. -/
theorem opt_bin2 {B a : Nat} (h5 : B < 5 * a) (h4 : 4 * a ≤ B) (T : List DItem) (hnd : T.Nodup)
    (hsort : T.Pairwise (fun e e' => e'.val ≤ e.val)) (h1 : ∀ e ∈ T, Role2 B a e)
    (h2 : ∀ e ∈ T, ∀ e' ∈ T, e ≠ e' → e.wt = 36 → e'.wt = 36 → B < e.val + e'.val + a)
    (hs : binSum DItem.val T ≤ B) : binSum DItem.wt T ≤ 90 := by
  refine opt_split_sorted h5 (· ∈ T) (fun e he => (h1 e he).ge h4) ?_ ?_ ?_ ?_ T hnd hsort (fun _ h => h) hs
  · intro e m _
    have f := h1 e m
    unfold Role2 at f
    omega
  · intro e1 e2 m1 m2 _ _ hs
    have f1 := h1 e1 m1
    -- only the first item can be above `B/2`: `e2.val ≤ e1.val` and `e1.val + e2.val ≤ B`, so `.small` applies to `e2`
    have f2 := (h1 e2 m2).small h4 (by omega)
    unfold Role2 at f1
    unfold Small2 at f2
    omega
  · intro e1 e2 e3 m1 m2 m3 n12 _ _ _ _ hs
    have g12 := h2 e1 m1 e2 m2 n12
    have f1 := h1 e1 m1
    have f2 := (h1 e2 m2).small h4 (by omega)
    have f3 := (h1 e3 m3).small h4 (by omega)
    unfold Role2 at f1
    unfold Small2 at f2 f3
    omega
  · intro e1 e2 e3 e4 m1 m2 m3 m4 _ _ _ _ _ _ _ _ _ hs
    have a4 := (h1 e4 m4).ge h4
    have f1 := (h1 e1 m1).small h4 (by omega)
    have f2 := (h1 e2 m2).small h4 (by omega)
    have f3 := (h1 e3 m3).small h4 (by omega)
    have f4 := (h1 e4 m4).small h4 (by omega)
    unfold Small2 at f1 f2 f3 f4
    omega

/-- the count for `B/5 < a ≤ B/4`, in units of `1/72`: every bin of the run weighs `≥ 72` up to a total deficit of
    `18 + 12` (`e1`, `e2`), `a` weighs `18`, a bin of the optimum weighs `≤ 90`: `72·Ls.length + 18 ≤ 90·m + 30` -/
theorem count_fifth_quarter {B a m : Nat} {Ls : List (List Nat)} (hnf : NF B a Ls) (h5 : B < 5 * a)
    (h4 : 4 * a ≤ B) (hm : Packable B m (Ls.flatten ++ [a])) : 72 * Ls.length ≤ 90 * m + 12 := by
  have hd1 := deficit_le_of_unique (d := 18) hnf (e1 B) (fun L hL L' _ hr h h' =>
    e1_unique hr (hnf.sorted L hL) h h')
  have hd2 := deficit_le_of_unique (d := 12) hnf (e2 B) (fun L hL L' _ hr h h' =>
    e2_unique hr (hnf.sorted L hL) h h')
  have hmain := count_of_weights (B := B) (lo := 72) (hi := 90) (wa := 18) (wts2 B a)
    (fun L => (if e1 B L then 18 else 0) + (if e2 B L then 12 else 0))
    (by
      intro L hL
      rcases binWt2_ge h4 (hnf.ge L hL) (hnf.full L hL) (hnf.sorted L hL) with h | ⟨hc, h⟩ | ⟨hc, h⟩
      · omega
      · simp only [hc, if_true]; omega
      · simp only [hc, if_true]; omega)
    (fun T hTnd hTsort hTD hTs =>
      have h := group_facts (w := 36) hnf (wts2 B a) (Role2 B a)
        (fun L hL j => wts2_facts (hnf.ge L hL) (hnf.full L hL) (hnf.sorted L hL))
        (Role2.r9 ⟨Nat.le_refl 18, Nat.le_refl a⟩) (by decide) hTD
      opt_bin2 h5 h4 T hTnd hTsort h.1 h.2 hTs)
    hm
  rw [Part.binSum_add] at hmain
  omega

/-! ## The theorems -/

section generic
variable {v : α → Nat} {B m : Nat} {step : Bins α → α → Bins α} {xs : List α} {b : Bins α}

theorem gen_last_exists (hstep : ∀ b x, Fit.Step v B b x (step b x)) (hne : xs ≠ [])
    (hok : Fit.genLoop v B step (Bins.new 1) xs = .ok b) : ∃ x L, b.lists.getLast? = some (x :: L) := by
  have hr := Fit.gen_run hstep hok
  cases hb : b.lists.getLast? with
  | none =>
    have := hr.length_pos
    rw [List.getLast?_eq_none_iff.1 hb] at this
    exact absurd this (Nat.lt_irrefl 0)
  | some M =>
    match M, hr.ne_nil_of_ne hne M (List.mem_of_getLast? hb) with
    | x :: L, _ => exact ⟨x, L, rfl⟩

/-- every any-fit rule on a sorted input: if the item `a` that opened the last bin satisfies
    `B/4 < a ≤ B/3` then `#bins ≤ 7/6 · m + 1` -/
theorem gen_seven_sixths_of_last_quarter_third (hstep : ∀ b x, Fit.Step v B b x (step b x))
    (hsorted : xs.Pairwise (fun a c => v c ≤ v a)) (hne : xs ≠ [])
    (hok : Fit.genLoop v B step (Bins.new 1) xs = .ok b) (hm : Packable B m (xs.map v))
    {x : α} {L : List α} (hlast : b.lists.getLast? = some (x :: L))
    (h4 : B < 4 * v x) (h3 : 3 * v x ≤ B) : 6 * (b.lists.length - 1) ≤ 7 * m :=
  gen_last_bin_induction hstep (fun a => B < 4 * a ∧ 3 * a ≤ B) (fun k m => 6 * (k - 1) ≤ 7 * m)
    (fun m _ => by omega)
    (fun a m Ls hC hnf hpk => by simpa using count_quarter_third hnf hC.1 hC.2 hpk)
    hsorted hne hok hm hlast ⟨h4, h3⟩

/-- the same with `3·#bins ≤ 4·m + 1`: `9·#bins ≤ 11·m + 6` -/
theorem gen_eleven_ninths_of_last_quarter_third (hstep : ∀ b x, Fit.Step v B b x (step b x))
    (hsorted : xs.Pairwise (fun a c => v c ≤ v a)) (hne : xs ≠ [])
    (hok : Fit.genLoop v B step (Bins.new 1) xs = .ok b) (hm : Packable B m (xs.map v))
    {x : α} {L : List α} (hlast : b.lists.getLast? = some (x :: L))
    (h4 : B < 4 * v x) (h3 : 3 * v x ≤ B) : 9 * b.lists.length ≤ 11 * m + 6 := by
  have h1 := gen_seven_sixths_of_last_quarter_third hstep hsorted hne hok hm hlast h4 h3
  have h2 := FFD.gen_sorted_four_thirds hstep hsorted hne hok hm
  omega

/-- every any-fit rule on a sorted input: if `B/5 < a ≤ B/4` then `#bins ≤ 5/4 · m + 1` -/
theorem gen_five_fourths_of_last_fifth_quarter (hstep : ∀ b x, Fit.Step v B b x (step b x))
    (hsorted : xs.Pairwise (fun a c => v c ≤ v a)) (hne : xs ≠ [])
    (hok : Fit.genLoop v B step (Bins.new 1) xs = .ok b) (hm : Packable B m (xs.map v))
    {x : α} {L : List α} (hlast : b.lists.getLast? = some (x :: L))
    (h5 : B < 5 * v x) (h4 : 4 * v x ≤ B) : 4 * (b.lists.length - 1) ≤ 5 * m :=
  gen_last_bin_induction hstep (fun a => B < 5 * a ∧ 4 * a ≤ B) (fun k m => 4 * (k - 1) ≤ 5 * m)
    (fun m _ => by omega)
    (fun a m Ls hC hnf hpk => by
      have := count_fifth_quarter hnf hC.1 hC.2 hpk
      simp only [Nat.add_sub_cancel]
      omega)
    hsorted hne hok hm hlast ⟨h5, h4⟩

theorem five_fourths_arith {k' m B a : Nat} (h : k' * (B - a + 1) + a ≤ m * B) (ha : 5 * a ≤ B) :
    4 * k' ≤ 5 * m := by
  rcases FFD.volume_ratio (p := 4) (q := 5) h (by omega) (by omega) with h0 | h0 <;> omega

/-- every any-fit rule on a non-empty sorted input: `#bins ≤ 5/4 · m + 1` whenever `m` bins suffice.
    By the size `a` of the item that opened the last bin: `a > B/3`: optimal; `B/4 < a ≤ B/3`: `7/6 · m + 1`;
    `B/5 < a ≤ B/4`: weights, `5/4 · m + 1`; `a ≤ B/5`: all other bins are filled above `4B/5`. -/
theorem gen_sorted_five_fourths (hstep : ∀ b x, Fit.Step v B b x (step b x))
    (hsorted : xs.Pairwise (fun a c => v c ≤ v a)) (hne : xs ≠ [])
    (hok : Fit.genLoop v B step (Bins.new 1) xs = .ok b) (hm : Packable B m (xs.map v)) :
    4 * (b.lists.length - 1) ≤ 5 * m := by
  obtain ⟨x, L, hlast⟩ := gen_last_exists hstep hne hok
  by_cases h3 : B < 3 * v x
  · have := FFD.gen_sorted_opt_of_last_big hstep hsorted hne hok hm hlast h3
    omega
  · by_cases h4 : B < 4 * v x
    · have := gen_seven_sixths_of_last_quarter_third hstep hsorted hne hok hm hlast h4 (by omega)
      omega
    · by_cases h5 : B < 5 * v x
      · exact gen_five_fourths_of_last_fifth_quarter hstep hsorted hne hok hm hlast h5 (by omega)
      · have := FFD.run_volume_of_last (Fit.gen_run hstep hok) hm hlast
        exact five_fourths_arith this (by omega)

/-- what is proved of `#bins ≤ 11/9 · m + c`: it holds with `c = 8/9` whenever the item `a` that opened the last
    bin lies outside `(2B/11, B/4]` -/
theorem gen_eleven_ninths_partial_outside_gap (hstep : ∀ b x, Fit.Step v B b x (step b x))
    (hsorted : xs.Pairwise (fun a c => v c ≤ v a)) (hne : xs ≠ [])
    (hok : Fit.genLoop v B step (Bins.new 1) xs = .ok b) (hm : Packable B m (xs.map v))
    {x : α} {L : List α} (hlast : b.lists.getLast? = some (x :: L))
    (hx : 11 * v x ≤ 2 * B ∨ B < 4 * v x) : 9 * b.lists.length ≤ 11 * m + 8 := by
  rcases hx with hx | hx
  · exact FFD.gen_eleven_ninths_of_last_small hstep hne hok hm hlast hx
  · by_cases h3 : B < 3 * v x
    · have := FFD.gen_sorted_opt_of_last_big hstep hsorted hne hok hm hlast h3
      have := LPT43.packable_pos hm (by simpa using hne)
      omega
    · have := gen_eleven_ninths_of_last_quarter_third hstep hsorted hne hok hm hlast hx (by omega)
      omega

end generic

section main
variable {v : α → Nat} {B m : Nat} {items : List α} {b : Bins α}

theorem ffd_last_exists (hne : items ≠ []) (hok : ffDecreasing v B items = .ok b) :
    ∃ x L, b.lists.getLast? = some (x :: L) :=
  gen_last_exists (Fit.ffStep_step v B) (Part.sortDesc_ne_nil v hne) (Fit.ffDecreasing_eq_gen ▸ hok)

theorem bfd_last_exists (hne : items ≠ []) (hok : bfDecreasing v B items = .ok b) :
    ∃ x L, b.lists.getLast? = some (x :: L) :=
  gen_last_exists (Fit.bfStep_step v B) (Part.sortDesc_ne_nil v hne) (Fit.bfDecreasing_eq_gen ▸ hok)

/-- if the item `a` that opened the last bin satisfies `B/4 < a ≤ B/3` then
    `FFD ≤ 7/6 · OPT + 1` -/
theorem ffd_seven_sixths_of_last_quarter_third (hne : items ≠ []) (hok : ffDecreasing v B items = .ok b)
    (hm : Packable B m (items.map v)) {x : α} {L : List α} (hlast : b.lists.getLast? = some (x :: L))
    (h4 : B < 4 * v x) (h3 : 3 * v x ≤ B) : 6 * (b.lists.length - 1) ≤ 7 * m :=
  FFD.ffd_of_gen hne hok hm fun g1 g2 g3 g4 g5 => gen_seven_sixths_of_last_quarter_third g1 g2 g3 g4 g5 hlast h4 h3

theorem bfd_seven_sixths_of_last_quarter_third (hne : items ≠ []) (hok : bfDecreasing v B items = .ok b)
    (hm : Packable B m (items.map v)) {x : α} {L : List α} (hlast : b.lists.getLast? = some (x :: L))
    (h4 : B < 4 * v x) (h3 : 3 * v x ≤ B) : 6 * (b.lists.length - 1) ≤ 7 * m :=
  FFD.bfd_of_gen hne hok hm fun g1 g2 g3 g4 g5 => gen_seven_sixths_of_last_quarter_third g1 g2 g3 g4 g5 hlast h4 h3

/-- C09 for `B/4 < a ≤ B/3`: if the item `a` that opened the last bin satisfies `B/4 < a ≤ B/3` then
    `FFD ≤ 11/9 · OPT + 6/9` -/
theorem ffd_eleven_ninths_of_last_quarter_third (hne : items ≠ []) (hok : ffDecreasing v B items = .ok b)
    (hm : Packable B m (items.map v)) {x : α} {L : List α} (hlast : b.lists.getLast? = some (x :: L))
    (h4 : B < 4 * v x) (h3 : 3 * v x ≤ B) : 9 * b.lists.length ≤ 11 * m + 6 :=
  FFD.ffd_of_gen hne hok hm fun g1 g2 g3 g4 g5 => gen_eleven_ninths_of_last_quarter_third g1 g2 g3 g4 g5 hlast h4 h3

theorem bfd_eleven_ninths_of_last_quarter_third (hne : items ≠ []) (hok : bfDecreasing v B items = .ok b)
    (hm : Packable B m (items.map v)) {x : α} {L : List α} (hlast : b.lists.getLast? = some (x :: L))
    (h4 : B < 4 * v x) (h3 : 3 * v x ≤ B) : 9 * b.lists.length ≤ 11 * m + 6 :=
  FFD.bfd_of_gen hne hok hm fun g1 g2 g3 g4 g5 => gen_eleven_ninths_of_last_quarter_third g1 g2 g3 g4 g5 hlast h4 h3

/-- if the item `a` that opened the last bin satisfies `B/5 < a ≤ B/4` then
    `FFD ≤ 5/4 · OPT + 1`.
    (The ratio `11/9` is *not* reached in this range: the weighting argument used here, one weight per item and a
    bound for every single bin of the optimum, gives `5/4`; the classical proofs of `11/9` in this range
    (Johnson, Baker, Yue, Dósa) refine the item classes by thresholds that depend on `a` and, in addition,
    amortise over several bins of the optimum.) -/
theorem ffd_five_fourths_of_last_fifth_quarter (hne : items ≠ []) (hok : ffDecreasing v B items = .ok b)
    (hm : Packable B m (items.map v)) {x : α} {L : List α} (hlast : b.lists.getLast? = some (x :: L))
    (h5 : B < 5 * v x) (h4 : 4 * v x ≤ B) : 4 * (b.lists.length - 1) ≤ 5 * m :=
  FFD.ffd_of_gen hne hok hm fun g1 g2 g3 g4 g5 => gen_five_fourths_of_last_fifth_quarter g1 g2 g3 g4 g5 hlast h5 h4

theorem bfd_five_fourths_of_last_fifth_quarter (hne : items ≠ []) (hok : bfDecreasing v B items = .ok b)
    (hm : Packable B m (items.map v)) {x : α} {L : List α} (hlast : b.lists.getLast? = some (x :: L))
    (h5 : B < 5 * v x) (h4 : 4 * v x ≤ B) : 4 * (b.lists.length - 1) ≤ 5 * m :=
  FFD.bfd_of_gen hne hok hm fun g1 g2 g3 g4 g5 => gen_five_fourths_of_last_fifth_quarter g1 g2 g3 g4 g5 hlast h5 h4

/-- **C09, the ratio proved for every input**: `FFD ≤ 5/4 · OPT + 1`.
    Between the textbook bound `4/3 · OPT + 1/3` (`FFD.ffd_partial_four_thirds`) and Johnson's `11/9 · OPT + c`. -/
theorem ffd_five_fourths (hne : items ≠ []) (hok : ffDecreasing v B items = .ok b)
    (hm : Packable B m (items.map v)) : 4 * (b.lists.length - 1) ≤ 5 * m :=
  FFD.ffd_of_gen hne hok hm gen_sorted_five_fourths

/-- C09, the same for best fit decreasing: `BFD ≤ 5/4 · OPT + 1` -/
theorem bfd_five_fourths (hne : items ≠ []) (hok : bfDecreasing v B items = .ok b)
    (hm : Packable B m (items.map v)) : 4 * (b.lists.length - 1) ≤ 5 * m :=
  FFD.bfd_of_gen hne hok hm gen_sorted_five_fourths

/-- without the hypothesis `items ≠ []` (the empty input is packed into one empty bin: `4·0 ≤ 5·m`) -/
theorem ffd_five_fourths_all (hok : ffDecreasing v B items = .ok b) (hm : Packable B m (items.map v)) :
    4 * (b.lists.length - 1) ≤ 5 * m := by
  by_cases hne : items = []
  · have := FFD.ffd_length_of_nil hok hne
    omega
  · exact ffd_five_fourths hne hok hm

theorem bfd_five_fourths_all (hok : bfDecreasing v B items = .ok b) (hm : Packable B m (items.map v)) :
    4 * (b.lists.length - 1) ≤ 5 * m := by
  by_cases hne : items = []
  · have := FFD.bfd_length_of_nil hok hne
    omega
  · exact bfd_five_fourths hne hok hm

/-- against the oracle: a successful run has an optimum `m = optBins …`, and `FFD ≤ 5/4 · m + 1` -/
theorem ffd_five_fourths_opt (hok : ffDecreasing v B items = .ok b) :
    ∃ m, optBins B (items.map v) = some m ∧ 4 * (b.lists.length - 1) ≤ 5 * m := by
  obtain ⟨m, h1, h2, _⟩ := Checkers.optBins_spec
    (Fit.gen_ok_all_le_map (Fit.ffDecreasing_eq_gen ▸ hok) (Part.sortDesc_perm v items))
  exact ⟨m, h1, ffd_five_fourths_all hok h2⟩

theorem bfd_five_fourths_opt (hok : bfDecreasing v B items = .ok b) :
    ∃ m, optBins B (items.map v) = some m ∧ 4 * (b.lists.length - 1) ≤ 5 * m := by
  obtain ⟨m, h1, h2, _⟩ := Checkers.optBins_spec
    (Fit.gen_ok_all_le_map (Fit.bfDecreasing_eq_gen ▸ hok) (Part.sortDesc_perm v items))
  exact ⟨m, h1, bfd_five_fourths_all hok h2⟩

/-- C09 with Johnson's constant for moderate optima: `FFD ≤ 11/9 · OPT + 4` whenever `OPT ≤ 108`
    (from `FFD ≤ 5/4 · OPT + 1`; the empty input included) -/
theorem ffd_eleven_ninths_of_opt_le_108 (hok : ffDecreasing v B items = .ok b)
    (hm : Packable B m (items.map v)) (hsmall : m ≤ 108) : 9 * b.lists.length ≤ 11 * m + 36 := by
  have := ffd_five_fourths_all hok hm
  omega

/-- the same for best fit decreasing (`FFD.bfd_eleven_ninths_of_opt_small` has `OPT ≤ 33`) -/
theorem bfd_eleven_ninths_of_opt_le_108 (hok : bfDecreasing v B items = .ok b)
    (hm : Packable B m (items.map v)) (hsmall : m ≤ 108) : 9 * b.lists.length ≤ 11 * m + 36 := by
  have := bfd_five_fourths_all hok hm
  omega

/-- `ffd_five_fourths` in the form `4·FFD ≤ 5·OPT + 4`: the ratio proved for *every* input is `5/4`, not the `11/9`
    of C09 -/
theorem ffd_eleven_ninths_partial_five_fourths (hne : items ≠ []) (hok : ffDecreasing v B items = .ok b)
    (hm : Packable B m (items.map v)) : 4 * b.lists.length ≤ 5 * m + 4 := by
  have := ffd_five_fourths hne hok hm
  omega

theorem bfd_eleven_ninths_partial_five_fourths (hne : items ≠ []) (hok : bfDecreasing v B items = .ok b)
    (hm : Packable B m (items.map v)) : 4 * b.lists.length ≤ 5 * m + 4 := by
  have := bfd_five_fourths hne hok hm
  omega

/-- **C09, what is proved of `FFD ≤ 11/9 · OPT + c`**: the bound holds with `c = 8/9` whenever the item `a`
    that opened the last bin lies outside `(2B/11, B/4]`.  For `B/5 < a ≤ B/4` the ratio `5/4` is proved
    (`ffd_five_fourths_of_last_fifth_quarter`), for `2B/11 < a ≤ B/5` only the volume bound `1/(1 − a/B) ≤ 5/4`. -/
theorem ffd_eleven_ninths_partial_outside_gap (hne : items ≠ []) (hok : ffDecreasing v B items = .ok b)
    (hm : Packable B m (items.map v)) {x : α} {L : List α} (hlast : b.lists.getLast? = some (x :: L))
    (hx : 11 * v x ≤ 2 * B ∨ B < 4 * v x) : 9 * b.lists.length ≤ 11 * m + 8 :=
  FFD.ffd_of_gen hne hok hm fun g1 g2 g3 g4 g5 => gen_eleven_ninths_partial_outside_gap g1 g2 g3 g4 g5 hlast hx

theorem bfd_eleven_ninths_partial_outside_gap (hne : items ≠ []) (hok : bfDecreasing v B items = .ok b)
    (hm : Packable B m (items.map v)) {x : α} {L : List α} (hlast : b.lists.getLast? = some (x :: L))
    (hx : 11 * v x ≤ 2 * B ∨ B < 4 * v x) : 9 * b.lists.length ≤ 11 * m + 8 :=
  FFD.bfd_of_gen hne hok hm fun g1 g2 g3 g4 g5 => gen_eleven_ninths_partial_outside_gap g1 g2 g3 g4 g5 hlast hx

end main

/-! ## Examples -/

/-- `B = 100`, `[60, 40, 35, 35, 30, 30]`: three bins, the last one opened by `30 ∈ (25, 33]` -/
theorem ex1_ffd : ffDecreasing id 100 [30, 35, 60, 30, 40, 35] =
    .ok ⟨[100, 100, 30], [[60, 40], [35, 35, 30], [30]]⟩ := rfl

theorem ex1_bfd : bfDecreasing id 100 [30, 35, 60, 30, 40, 35] =
    .ok ⟨[100, 100, 30], [[60, 40], [35, 35, 30], [30]]⟩ := rfl

theorem ex1_packable : Packable 100 3 (([30, 35, 60, 30, 40, 35] : List Nat).map id) :=
  ⟨[1, 1, 0, 2, 0, 1], ⟨rfl, by decide⟩, by decide⟩

example : 6 * (3 - 1) ≤ 7 * 3 :=
  ffd_seven_sixths_of_last_quarter_third (by decide) ex1_ffd ex1_packable (x := 30) (L := []) rfl
    (by decide) (by decide)

example : 9 * 3 ≤ 11 * 3 + 6 :=
  ffd_eleven_ninths_of_last_quarter_third (by decide) ex1_ffd ex1_packable (x := 30) (L := []) rfl
    (by decide) (by decide)

example : 9 * 3 ≤ 11 * 3 + 6 :=
  bfd_eleven_ninths_of_last_quarter_third (by decide) ex1_bfd ex1_packable (x := 30) (L := []) rfl
    (by decide) (by decide)

example : 9 * 3 ≤ 11 * 3 + 8 :=
  ffd_eleven_ninths_partial_outside_gap (by decide) ex1_ffd ex1_packable (x := 30) (L := []) rfl
    (Or.inr (by decide))

example : 9 * 3 ≤ 11 * 3 + 8 :=
  bfd_eleven_ninths_partial_outside_gap (by decide) ex1_bfd ex1_packable (x := 30) (L := []) rfl
    (Or.inr (by decide))

/-- the normal form of this run at the moment `30` opens the third bin -/
example : NF 100 30 [[60, 40], [35, 35, 30]] := by
  refine ⟨by decide, by decide, by decide, by decide, ?_⟩
  simp only [List.pairwise_cons, List.mem_singleton, forall_eq, List.not_mem_nil, false_imp_iff,
    implies_true, List.Pairwise.nil, and_true]
  exact vrel_of_full (by decide) (by decide)

/-- the weights `wts1` on this run: `[60, 40] ↦ 4 + 2`, `[35, 35, 30] ↦ 2 + 2 + 2` -/
example : deco (wts1 100) 0 [[60, 40], [35, 35, 30]] =
    [⟨60, 4, 0, 0⟩, ⟨40, 2, 0, 1⟩, ⟨35, 2, 1, 0⟩, ⟨35, 2, 1, 1⟩, ⟨30, 2, 1, 2⟩] := by decide

/-- `B = 100`, `[51, 27, 26, 23, 23, 23, 23, 23]`: three bins, the last one opened by `23 ∈ (20, 25]` -/
theorem ex2_ffd : ffDecreasing id 100 [23, 51, 23, 27, 23, 26, 23, 23] =
    .ok ⟨[78, 95, 46], [[51, 27], [26, 23, 23, 23], [23, 23]]⟩ := rfl

theorem ex2_bfd : bfDecreasing id 100 [23, 51, 23, 27, 23, 26, 23, 23] =
    .ok ⟨[78, 95, 46], [[51, 27], [26, 23, 23, 23], [23, 23]]⟩ := rfl

/-- `51 + 26 + 23`, `27 + 23 + 23 + 23`, `23` -/
theorem ex2_packable : Packable 100 3 (([23, 51, 23, 27, 23, 26, 23, 23] : List Nat).map id) :=
  ⟨[0, 0, 1, 1, 1, 0, 1, 2], ⟨rfl, by decide⟩, by decide⟩

example : 4 * (3 - 1) ≤ 5 * 3 :=
  ffd_five_fourths_of_last_fifth_quarter (by decide) ex2_ffd ex2_packable (x := 23) (L := [23]) rfl
    (by decide) (by decide)

example : 4 * (3 - 1) ≤ 5 * 3 :=
  bfd_five_fourths_of_last_fifth_quarter (by decide) ex2_bfd ex2_packable (x := 23) (L := [23]) rfl
    (by decide) (by decide)

example : 4 * (3 - 1) ≤ 5 * 3 := ffd_five_fourths (by decide) ex2_ffd ex2_packable
example : 4 * (3 - 1) ≤ 5 * 3 := bfd_five_fourths (by decide) ex2_bfd ex2_packable
example : 4 * 3 ≤ 5 * 3 + 4 := bfd_eleven_ninths_partial_five_fourths (by decide) ex2_bfd ex2_packable
example : 4 * (3 - 1) ≤ 5 * 3 := ffd_five_fourths (by decide) ex1_ffd ex1_packable
example : 4 * (3 - 1) ≤ 5 * 3 := ffd_five_fourths_all ex2_ffd ex2_packable
example : ∃ m, optBins 100 (([23, 51, 23, 27, 23, 26, 23, 23] : List Nat).map id) = some m ∧ 4 * (3 - 1) ≤ 5 * m :=
  ffd_five_fourths_opt ex2_ffd
example : 4 * 3 ≤ 5 * 3 + 4 := ffd_eleven_ninths_partial_five_fourths (by decide) ex2_ffd ex2_packable
example : 9 * 3 ≤ 11 * 3 + 36 := ffd_eleven_ninths_of_opt_le_108 ex2_ffd ex2_packable (by decide)
example : 9 * 3 ≤ 11 * 3 + 36 := bfd_eleven_ninths_of_opt_le_108 ex2_bfd ex2_packable (by decide)

/-- the weights `wts2` on the bins that are open when `23` opens the third bin:
    `[51, 27] ↦ 48 + 24`, `[26, 23, 23, 23] ↦ 24 + 18 + 18 + 18` -/
example : deco (wts2 100 23) 0 [[51, 27], [26, 23, 23, 23]] =
    [⟨51, 48, 0, 0⟩, ⟨27, 24, 0, 1⟩, ⟨26, 24, 1, 0⟩, ⟨23, 18, 1, 1⟩, ⟨23, 18, 1, 2⟩, ⟨23, 18, 1, 3⟩] := by
  decide

/-- Johnson's family (`FFD.johnson`, `B = 100`, `OPT = 9`, `FFD = 11`, last bin opened by `23`) lies in the
    range that is open for `11/9`; the bound `5/4` applies: `4·11 ≤ 5·9 + 4` -/
example : 4 * 11 ≤ 5 * 9 + 4 := by
  obtain ⟨b, hb, hl⟩ := FFD.johnson_ffd
  have := ffd_eleven_ninths_partial_five_fourths (by decide) hb FFD.johnson_packable
  omega

end Prtpy.FFD119
