/-
  First fit / best fit, absolute bound `#bins ≤ ⌊1.7 · OPT⌋`: the configuration left open by
  `PrtpyProofs.FF17AbsB`, a bin holding a single item `x` with `5·B/12 < x ≤ B/2` (half singleton).
  Everything is proved more generally for a bin `[x]` with `x ≤ B/2` (structure) resp. `B/3 ≤ x ≤ B/2` (loss).

  Structure (bins `Ls` with `Ls.Pairwise (Rel v B)`; run-level versions `ff_…` / `bf_…`): at most one bin holds a
  single item `x ≤ B/2` (`singleSmall_count`), so at most one half singleton; every other bin `M` has
  `B < s(M) + v x` (`singleSmall_others`); every bin after `[x]` is a big bin (`singleSmall_later_big`).
  Loss (`bins_weight_single`): with `[x] ∈ Ls`, `B/3 ≤ x ≤ B/2` and `K` big bins, every big bin is more than `B − x`
  full, so `10·B·n + 1 + (6·B − 12·x)·K ≤ W + 7·B`.  Hence (`ff_seventeen_tenths_abs_partial3` / `bf_…`)
  `10 · #bins ≤ 17 · m` when the output has such a bin `[x]` with `7·B ≤ (6·B − 12·x)·k`, `k = nBig v B items`,
  i.e. `x ≤ B/2 − 7·B/(12·k)`  (`x ≤ 5·B/12`: `k ≥ 7` suffices; half singletons: needs `k ≥ 8`).

  What FF17Abs, FF17AbsB and this file leave open of the absolute bound `10 · #bins ≤ 17 · m` (non-empty input,
  `m ≥ 4`, `k` items above `B/2`; all other cases are proved):
    * output without half singleton:  `k = m − 1` with `m ≡ 7`,  `k = m` with `m ≡ 1, 4, 7 (mod 10)`;
    * output with a half singleton `[x]` and `(6·B − 12·x)·k < 7·B`:  `k = m − 2` with `m ≡ 4, 7`,
      `k = m − 1` with `m ≡ 1, 4, 7, 8`,  `k = m` with `m ≡ 1, 2, 4, 5, 7, 8 (mod 10)`.
  The weight function alone gives no unconditional constant below `+ 6`: with a half singleton (`x → 1/2`, a chain bin
  of sand of total `→ 1/2`, big bins `→ 1/2`) it loses `7/10`, and only an amortisation against the optimum's bins
  (Dósa–Sgall) can recover it.
-/
import PrtpyProofs.Feasible
import PrtpyProofs.FF17
import PrtpyProofs.FF17Abs
open Prtpy

namespace Prtpy.FF17AbsC

open Prtpy.FF17 Prtpy.FF17Abs Prtpy.FF17AbsB

variable {α : Type}

section Bins
variable {v : α → Nat} {B : Nat}

/-! ## The structure around a half singleton -/

/-- the bin holds a single item of at most `B/2` -/
def isSingleSmall (v : α → Nat) (B : Nat) (L : List α) : Bool :=
  match L with
  | [x] => decide (2 * v x ≤ B)
  | _ => false

theorem isBig_single {x : α} (hx : 2 * v x ≤ B) : FF17.isBig v B [x] = false := by
  simp only [FF17.isBig, List.any_cons, List.any_nil, Bool.or_false, decide_eq_false_iff_not]
  omega

theorem isSingleSmall_spec (L : List α) (h : isSingleSmall v B L = true) :
    FF17.isBig v B L = false ∧ L.length ≤ 1 := by
  match L, h with
  | [x], h => exact ⟨isBig_single (by simpa [isSingleSmall] using h), Nat.le_refl 1⟩

/-- C09, structure: at most one bin holds a single item of at most `B/2` (so at most one half singleton) -/
theorem singleSmall_count {Ls : List (List α)} (hp : Ls.Pairwise (Rel v B)) :
    (Ls.filter (isSingleSmall v B)).length ≤ 1 :=
  small_count _ (fun L hL => isSingleSmall_spec L (List.mem_filter.1 hL).2) (hp.filter _)

/-- two bins of a single item `≤ B/2` each are the same bin (so in particular there is at most one half singleton) -/
theorem halfSingleton_unique {Ls : List (List α)} (hp : Ls.Pairwise (Rel v B)) {x y : α}
    (hx : [x] ∈ Ls) (hy : [y] ∈ Ls) (hx2 : 2 * v x ≤ B) (hy2 : 2 * v y ≤ B) : ([x] : List α) = [y] :=
  small_unique hp hx hy (isBig_single hx2) (Nat.le_refl 1) (isBig_single hy2) (Nat.le_refl 1)

/-- C09, structure: every bin other than `[x]` is more than `B − x` full -/
theorem singleSmall_others {Ls : List (List α)} (hp : Ls.Pairwise (Rel v B)) {x : α} (hx : [x] ∈ Ls)
    {M : List α} (hM : M ∈ Ls) (hne : M ≠ [x]) : B < binSum v M + v x := by
  have := pairwise_sum hp hM hx hne
  simpa [binSum, sumL] using this

/-- every bin after a bin `[x]` with `x ≤ B/2` starts with an item above `B/2` (it is a big bin): the bin `[x]` is
    the last of the bins without an item above `B/2`.  It need not be the last or next to last bin of the packing:
    any number of big bins may follow, e.g. `[9], [9], [4], [9], [9]` with `B = 12`. -/
theorem singleSmall_later_big {pre post : List (List α)} {x : α}
    (hp : (pre ++ [x] :: post).Pairwise (Rel v B)) (hx2 : 2 * v x ≤ B) :
    ∀ M ∈ post, (∃ y, M.head? = some y ∧ B < 2 * v y) ∧ FF17.isBig v B M = true := by
  intro M hM
  rw [List.pairwise_append] at hp
  have hr : Rel v B [x] M := (List.pairwise_cons.1 hp.2.1).1 M hM
  obtain ⟨⟨y, hy, hlt⟩, _⟩ := hr
  simp only [binSum, List.map_cons, List.map_nil, sumL] at hlt
  have hbig : B < 2 * v y := by omega
  refine ⟨⟨y, hy, hbig⟩, ?_⟩
  simp only [FF17.isBig, List.any_eq_true, decide_eq_true_eq]
  exact ⟨y, List.mem_of_head? hy, hbig⟩

theorem singleSmall_earlier {pre post : List (List α)} {x : α}
    (hp : (pre ++ [x] :: post).Pairwise (Rel v B)) : ∀ M ∈ pre, B < binSum v M + v x := by
  intro M hM
  rw [List.pairwise_append] at hp
  have hr : Rel v B M [x] := hp.2.2 M hM [x] (by simp)
  obtain ⟨⟨y, hy, hlt⟩, _⟩ := hr
  simp only [List.head?_cons, Option.some.injEq] at hy
  subst hy
  exact hlt

/-- among the bins without an item above `B/2` and with at least two items, at most one is less than `2/3`
    full: a later one starts with two items that do not fit into the earlier one -/
theorem chain_two_thirds {C C' : List α} (hr : Rel v B C C') (hC' : FF17.isBig v B C' = false)
    (h2 : 2 ≤ C'.length) (hs : 3 * binSum v C < 2 * B) : 2 * B < 3 * binSum v C' :=
  ((rel_chain hr hC' h2).2 hs).2

/-! ## The loss next to a single item between `B/3` and `B/2` -/

/-- Lemma B next to a bin `[x]` with `B/3 ≤ x ≤ B/2`: every big bin is more than `B − x` full and pays
    `6·B − 12·x` towards the loss: `10·B·n + (6·B − 12·x)·K < W + 7·B`, `K` the number of big bins -/
theorem bins_weight_single {Ls : List (List α)} (hp : Ls.Pairwise (Rel v B)) (hB : 0 < B)
    {x : α} (hx : [x] ∈ Ls) (hx3 : B ≤ 3 * v x) (hx2 : 2 * v x ≤ B) :
    10 * (B * Ls.length) + 1 + (6 * B - 12 * v x) * (Ls.filter (FF17.isBig v B)).length ≤
      binSum (W v B) Ls.flatten + 7 * B := by
  have hxb := isBig_single hx2
  have hsx : binSum v [x] = v x := Part.binSum_singleton v x
  have hwx : binSum (W v B) [x] = 12 * v x + B := by
    simp only [binSum, List.map_cons, List.map_nil, sumL, W, wt, bonus_third hx2 hx3]
    omega
  have hge := big_total_ge_beside hp hx hxb (6 * B - 12 * v x) (by omega)
  -- there is a bin with at most one item and no big item, `[x]`, and it is the only one
  have hSx : ∀ S ∈ Ls, FF17.isBig v B S = false → S.length ≤ 1 → S = [x] :=
    fun S hS hSb hS1 => small_unique hp hS hx hSb hS1 hxb (Nat.le_refl 1)
  rcases bins_cases hp with ⟨hno, _⟩ | ⟨S, hS, hSb, hS1, hn, hw⟩ | ⟨hno, _⟩ |
    ⟨S, hS, hSb, hS1, L', _, _, hov, hw⟩
  · exact absurd (hno [x] hx hxb) (by simp)
  · rw [hn, hw, hSx S hS hSb hS1, hwx, Nat.mul_add]
    omega
  · exact absurd (hno [x] hx hxb) (by simp)
  · rw [hSx S hS hSb hS1] at hov hw
    omega

end Bins

/-! ## Runs -/

theorem inv2_bound_single {v : α → Nat} {B m : Nat} {items : List α} {b : Bins α} (h : Inv2 v B items b)
    (hm : Packable B m (items.map v)) (h2 : 2 ≤ b.lists.length) {x : α}
    (hx : [x] ∈ b.lists) (hx3 : B ≤ 3 * v x) (hx2 : 2 * v x ≤ B) :
    10 * (B * b.lists.length) + (6 * B - 12 * v x) * nBig v B items <
      15 * (B * m) + 2 * (B * nBig v B items) + 7 * B := by
  obtain ⟨hB, hO, _, hK⟩ := run_facts h hm h2
  have hdK := Nat.mul_le_mul_left (6 * B - 12 * v x) hK
  have hW := bins_weight_single h.pairwise hB hx hx3 hx2
  omega

/-- the absolute bound next to a single item `x`, `B/3 ≤ x ≤ B/2`, that is not too close to `B/2`:
    `7·B ≤ (6·B − 12·x)·k`, i.e. `x ≤ B/2 − 7·B/(12·k)`, `k` the number of items above `B/2`.
    For a half singleton (`x > 5·B/12`) this needs `k ≥ 8`. -/
theorem inv2_abs_single {v : α → Nat} {B m : Nat} {items : List α} {b : Bins α} (h : Inv2 v B items b)
    (hne : items ≠ []) (hm : Packable B m (items.map v)) {x : α}
    (hx : [x] ∈ b.lists) (hx3 : B ≤ 3 * v x) (hx2 : 2 * v x ≤ B)
    (hk : 7 * B ≤ (6 * B - 12 * v x) * nBig v B items) : 10 * b.lists.length ≤ 17 * m := by
  have hm1 : 1 ≤ m := LPT43.packable_pos hm (by simpa using hne)
  by_cases h2 : 2 ≤ b.lists.length
  · have h1 := inv2_bound_single h hm h2 hx hx3 hx2
    have hkm : B * nBig v B items ≤ B * m := Nat.mul_le_mul_left B (nBig_le hm)
    -- `15·B·m + 2·B·k + 7·B ≤ 17·B·m + (6·B − 12·x)·k` by `hk` and `k ≤ m`
    have := unscale_lt (show 10 * (B * b.lists.length) < 17 * (B * m) + 0 * B by omega)
    omega
  · omega

variable {v : α → Nat} {B m : Nat} {items : List α} {b : Bins α}

theorem ff_bound_single (hok : ffOnline v B items = .ok b)
    (hm : Packable B m (items.map v)) (h2 : 2 ≤ b.lists.length) {x : α}
    (hx : [x] ∈ b.lists) (hx3 : B ≤ 3 * v x) (hx2 : 2 * v x ≤ B) :
    10 * (B * b.lists.length) + (6 * B - 12 * v x) * nBig v B items <
      15 * (B * m) + 2 * (B * nBig v B items) + 7 * B :=
  inv2_bound_single (ffOnline_inv2 hok) hm h2 hx hx3 hx2

theorem bf_bound_single (hok : bfOnline v B items = .ok b)
    (hm : Packable B m (items.map v)) (h2 : 2 ≤ b.lists.length) {x : α}
    (hx : [x] ∈ b.lists) (hx3 : B ≤ 3 * v x) (hx2 : 2 * v x ≤ B) :
    10 * (B * b.lists.length) + (6 * B - 12 * v x) * nBig v B items <
      15 * (B * m) + 2 * (B * nBig v B items) + 7 * B :=
  inv2_bound_single (bfOnline_inv2 hok) hm h2 hx hx3 hx2

/-- C09, the absolute bound for first fit when the output has a bin `[x]`, `B/3 ≤ x ≤ B/2`, with
    `7·B ≤ (6·B − 12·x)·k` -/
theorem ff_seventeen_tenths_abs_partial3 (hne : items ≠ []) (hok : ffOnline v B items = .ok b)
    (hm : Packable B m (items.map v)) {x : α} (hx : [x] ∈ b.lists) (hx3 : B ≤ 3 * v x) (hx2 : 2 * v x ≤ B)
    (hk : 7 * B ≤ (6 * B - 12 * v x) * nBig v B items) : 10 * b.lists.length ≤ 17 * m :=
  inv2_abs_single (ffOnline_inv2 hok) hne hm hx hx3 hx2 hk

theorem bf_seventeen_tenths_abs_partial3 (hne : items ≠ []) (hok : bfOnline v B items = .ok b)
    (hm : Packable B m (items.map v)) {x : α} (hx : [x] ∈ b.lists) (hx3 : B ≤ 3 * v x) (hx2 : 2 * v x ≤ B)
    (hk : 7 * B ≤ (6 * B - 12 * v x) * nBig v B items) : 10 * b.lists.length ≤ 17 * m :=
  inv2_abs_single (bfOnline_inv2 hok) hne hm hx hx3 hx2 hk

/-- the structure around a bin `[x]`, `x ≤ B/2`, of a first-fit run: it is the only such bin, every other bin
    is more than `B − x` full -/
theorem ff_singleSmall_structure (hok : ffOnline v B items = .ok b) {x : α} (hx : [x] ∈ b.lists) :
    (b.lists.filter (isSingleSmall v B)).length ≤ 1 ∧
    ∀ M ∈ b.lists, M ≠ [x] → B < binSum v M + v x :=
  ⟨singleSmall_count (ffOnline_inv2 hok).pairwise,
    fun _ hM hne => singleSmall_others (ffOnline_inv2 hok).pairwise hx hM hne⟩

theorem bf_singleSmall_structure (hok : bfOnline v B items = .ok b) {x : α} (hx : [x] ∈ b.lists) :
    (b.lists.filter (isSingleSmall v B)).length ≤ 1 ∧
    ∀ M ∈ b.lists, M ≠ [x] → B < binSum v M + v x :=
  ⟨singleSmall_count (bfOnline_inv2 hok).pairwise,
    fun _ hM hne => singleSmall_others (bfOnline_inv2 hok).pairwise hx hM hne⟩

theorem ff_singleSmall_later_big (hok : ffOnline v B items = .ok b) {pre post : List (List α)} {x : α}
    (hb : b.lists = pre ++ [x] :: post) (hx2 : 2 * v x ≤ B) :
    ∀ M ∈ post, (∃ y, M.head? = some y ∧ B < 2 * v y) ∧ FF17.isBig v B M = true := by
  have hp := (ffOnline_inv2 hok).pairwise
  rw [hb] at hp
  exact singleSmall_later_big hp hx2

theorem bf_singleSmall_later_big (hok : bfOnline v B items = .ok b) {pre post : List (List α)} {x : α}
    (hb : b.lists = pre ++ [x] :: post) (hx2 : 2 * v x ≤ B) :
    ∀ M ∈ post, (∃ y, M.head? = some y ∧ B < 2 * v y) ∧ FF17.isBig v B M = true := by
  have hp := (bfOnline_inv2 hok).pairwise
  rw [hb] at hp
  exact singleSmall_later_big hp hx2

/-! ## Non-vacuity -/

attribute [local instance] decEqBins decEqExcept

/-- four items of size 9 and one of size 4, `B = 12`: the bin `[4]` (`x = B/3`), `k = 4`, `7·12 ≤ (72 − 48)·4` -/
def ex94 : List Nat := [9, 9, 9, 9, 4]
theorem ex94_ff : ffOnline id 12 ex94 = .ok ⟨[9, 9, 9, 9, 4], [[9], [9], [9], [9], [4]]⟩ := by decide +kernel
theorem ex94_bf : bfOnline id 12 ex94 = .ok ⟨[9, 9, 9, 9, 4], [[9], [9], [9], [9], [4]]⟩ := by decide +kernel
theorem ex94_packable : Packable 12 5 (ex94.map id) := ⟨[0, 1, 2, 3, 4], ⟨rfl, by decide⟩, by decide⟩

example : 10 * 5 ≤ 17 * 5 :=
  ff_seventeen_tenths_abs_partial3 (x := 4) (by decide) ex94_ff ex94_packable (by simp) (by decide) (by decide)
    (by decide)
example : 10 * 5 ≤ 17 * 5 :=
  bf_seventeen_tenths_abs_partial3 (x := 4) (by decide) ex94_bf ex94_packable (by simp) (by decide) (by decide)
    (by decide)
example : 10 * (12 * 5) + (6 * 12 - 12 * 4) * nBig id 12 ex94 < 15 * (12 * 5) + 2 * (12 * nBig id 12 ex94) + 7 * 12 :=
  ff_bound_single (x := 4) ex94_ff ex94_packable (by decide) (by simp) (by decide) (by decide)
example : 10 * (12 * 5) + (6 * 12 - 12 * 4) * nBig id 12 ex94 < 15 * (12 * 5) + 2 * (12 * nBig id 12 ex94) + 7 * 12 :=
  bf_bound_single (x := 4) ex94_bf ex94_packable (by decide) (by simp) (by decide) (by decide)

/-- a half singleton (`x = 11`, `B = 24`, `5·24 < 12·11`) with fourteen items above `B/2`: `7·24 ≤ (144 − 132)·14` -/
def exHS : List Nat := List.replicate 14 14 ++ [11]
theorem exHS_ff : ffOnline id 24 exHS = .ok ⟨List.replicate 14 14 ++ [11], List.replicate 14 [14] ++ [[11]]⟩ := by decide +kernel
theorem exHS_packable : Packable 24 15 (exHS.map id) := ⟨List.range 15, ⟨rfl, by decide⟩, by decide⟩
example : HalfSingleton id 24 (List.replicate 14 [14] ++ [[11]]) := ⟨11, by simp, by decide, by decide⟩
example : 10 * 15 ≤ 17 * 15 :=
  ff_seventeen_tenths_abs_partial3 (x := 11) (by decide) exHS_ff exHS_packable (by simp) (by decide) (by decide)
    (by decide)

/-- the structure lemmas on the run `[5, 5, 6]`, `B = 12` (bins `[5, 5]`, `[6]`; `[6]` is a half singleton) -/
theorem ex556_ff : ffOnline id 12 [5, 5, 6] = .ok ⟨[10, 6], [[5, 5], [6]]⟩ := rfl
example := ff_singleSmall_structure (x := 6) ex556_ff (by simp)
example := bf_singleSmall_structure (v := id) (B := 12) (items := [5, 5, 6]) (b := ⟨[10, 6], [[5, 5], [6]]⟩)
  (x := 6) rfl (by simp)
example := ff_singleSmall_later_big (pre := [[9], [9]]) (post := [[9], [9]]) (x := 4)
  (v := id) (B := 12) (items := [9, 9, 4, 9, 9]) (b := ⟨[9, 9, 4, 9, 9], [[9], [9], [4], [9], [9]]⟩) rfl rfl (by decide)
example := bf_singleSmall_later_big (pre := [[9], [9]]) (post := [[9], [9]]) (x := 4)
  (v := id) (B := 12) (items := [9, 9, 4, 9, 9]) (b := ⟨[9, 9, 4, 9, 9], [[9], [9], [4], [9], [9]]⟩) rfl rfl (by decide)
example : ([6] : List Nat) = [6] :=
  halfSingleton_unique (v := id) (B := 12) (ffOnline_inv2 ex556_ff).pairwise (x := 6) (y := 6) (by simp) (by simp)
    (by decide) (by decide)
example := singleSmall_earlier (v := id) (B := 12) (pre := [[5, 5]]) (post := []) (x := 6)
  (ffOnline_inv2 ex556_ff).pairwise
example : 2 * 12 < 3 * binSum id [6, 6] :=
  chain_two_thirds (v := id) (B := 12) (C := [4, 3]) (C' := [6, 6])
    ⟨⟨6, rfl, by decide⟩, fun x y r h _ => by cases h; decide⟩ (by decide) (by decide) (by decide)
example := bins_weight_single (v := id) (B := 12) (ffOnline_inv2 ex94_ff).pairwise (by decide)
  (x := 4) (by simp) (by decide) (by decide)


end Prtpy.FF17AbsC
