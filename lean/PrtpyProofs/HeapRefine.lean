/-
  PrtpyProofs.HeapRefine — C16 at the reference level: the heap model of the two bins-managers
  (`Prtpy.Heap`: numbered numpy buffers, numbered inner Python lists, numbered outer lists, handles
  that may alias) refines the pool of immutable `Bins α` values (`Heap.PurePool`, `Heap.pureStep`)
  as long as the hand-over discipline is respected.

  `Inv s pool` is the simulation invariant (live handles: `abs` = pool value, well-formed `Good`, pairwise
  separated `Sep`).  Every operation touches one entry of the pool and *keeps* every other live handle
  (`Keeps`: its buffer, outer list and inner lists read the same); `Inv.touch` is the preservation theorem for
  that.  Its two instances carry the eight operations: `Inv.extend_outer` for the allocating ones (the new state
  is an `Ext`ension with a new outer list; `Inv.extend` is its base; `Inv.share` is the case of a fresh buffer whose
  bins are old inner lists followed by fresh ones) and `Inv.frame` for the in-place ones (only cells owned by one
  handle change: `Frame`).  The corollaries (consistency, independence of copies, unmodified
  arguments, the sums-only manager) follow from `run_refines`, the pure frame `pureRun_frame` and `step_shape` (heap
  side, in every state, no invariant: a step appends cells and one handle, or leaves the handles alone):
  `unwritten_unchanged` takes from it that a handle object stays (`run_handles_get`); `args_unmodified_alloc` is
  `step_shape`, `Ext.keeps` and `Keeps.abs_eq`, and uses neither the pool nor `run_refines`.

  Layer below.  The pool holds `Bins α` values, and what an operation does to a value is proved at the value level
  (`Basic.lean`, `BinsOps.lean`), not here: `pureStep_consistent` is `Part.new_consistent`, `Part.add_consistent`,
  `Part.sortAsc_consistent`, `BinsOps.addEmpty_consistent`, `BinsOps.removeLast_consistent`,
  `BinsOps.concat_consistent`, `BinsOps.combine_consistent`, one for each operation but `copy` (which makes no new
  value); the sort step (`srtZ_perm`, `srt_abs`) takes `Part.sortAsc_perm` and `BinsOps.map_sortAsc`; `PStep_map` is
  `BinsOps.mapItems_*`, again one for each operation but `copy`.

  Trusted.  The test harness (`lean/Driver.lean`) prints `Heap.trace`, the theorems here are about `Heap.run`; no
  theorem mentions `Heap.trace`.  That `trace` makes the steps of `run` and shows `s'.handles.map (abs s')` after
  each is read off their two definitions in `lean/Prtpy/Heap.lean`.

  Names.  `Heap.*` here is the memory model of `Prtpy/Heap.lean` (`Heap.State`, `Heap.step`, `Heap.abs`, …), not the
  Karmarkar–Karp priority queue `Prtpy.Heap α` of `Prtpy/Model/KK.lean`.  `Valid`, `Good`, `Inv` are predicates on
  handles and heap states and have nothing to do with `Cover.Good`, `Fit.Inv`.

  Model note.  The discipline is necessary in the model exactly as in Python: see the `example` after
  `heap_refines_pure` where a later `add` through the array returned by `remove_bins` shows through the
  handed-over (dead) handle.
-/
import PrtpyProofs.BinsOps
open Prtpy

namespace Prtpy.HeapRefine

open Heap

variable {α : Type}

/-! ## List helpers -/

section ListHelpers
variable {β : Type}

theorem getD_append_left (l l' : List β) (k : Nat) (d : β) (h : k < l.length) :
    (l ++ l').getD k d = l.getD k d := by
  simp only [List.getD_eq_getElem?_getD, List.getElem?_append_left h]

theorem getD_append_length (l l' : List β) (k : Nat) (d : β) :
    (l ++ l').getD (k + l.length) d = l'.getD k d := by
  simp only [List.getD_eq_getElem?_getD]
  rw [List.getElem?_append_right (by omega)]
  congr 2; omega

theorem getD_append_self (l : List β) (x d : β) : (l ++ [x]).getD l.length d = x := by
  simp [List.getD_eq_getElem?_getD]

theorem getD_modify_ne (l : List β) (f : β → β) (i j : Nat) (d : β) (h : i ≠ j) :
    (l.modify i f).getD j d = l.getD j d := by
  simp only [List.getD_eq_getElem?_getD, List.getElem?_modify_ne f l h]

theorem getD_modify_eq (l : List β) (f : β → β) (i : Nat) (d : β) (h : i < l.length) :
    (l.modify i f).getD i d = f (l.getD i d) := by
  simp only [List.getD_eq_getElem?_getD, List.getElem?_modify_eq, List.getElem?_eq_getElem h]
  rfl

/-- Reading back freshly appended cells through their (shifted) indices. -/
theorem map_range_getD_append (pre l : List β) (d : β) :
    ((List.range l.length).map (· + pre.length)).map (fun id => (pre ++ l).getD id d) = l := by
  simp only [List.map_map, Function.comp_def, getD_append_length]
  exact Part.map_getD_range l d

theorem nodup_range_shift (n base : Nat) : ((List.range n).map (· + base)).Nodup := by
  rw [List.nodup_iff_pairwise_ne, List.pairwise_map]
  have := @List.nodup_range n
  rw [List.nodup_iff_pairwise_ne] at this
  exact this.imp (fun h e => h (by omega))

theorem mem_range_shift {n base id : Nat} (h : id ∈ (List.range n).map (· + base)) :
    base ≤ id ∧ id < base + n := by
  simp only [List.mem_map, List.mem_range] at h
  obtain ⟨a, ha, rfl⟩ := h
  omega

/-- Reading a `Nodup` list of cell ids after modifying the cell at position `i`. -/
theorem map_getD_modify_nodup (cells : List β) (ids : List Nat) (g : β → β) (d : β) (i : Nat)
    (hn : ids.Nodup) (hi : i < ids.length) (hv : ids[i] < cells.length) :
    ids.map (fun id => (cells.modify ids[i] g).getD id d)
      = (ids.map (fun id => cells.getD id d)).modify i g := by
  apply List.ext_getElem?
  intro j
  rw [List.getElem?_modify, List.getElem?_map, List.getElem?_map]
  by_cases hj : j < ids.length
  · rw [List.getElem?_eq_getElem hj]
    simp only [Option.map_some, Option.map_eq_map]
    by_cases e : i = j
    · subst e
      simp only [if_true, getD_modify_eq _ _ _ _ hv]
    · have : ids[i] ≠ ids[j] := fun e' => e ((List.getElem_inj hn).1 e')
      simp only [if_neg e, getD_modify_ne _ _ _ _ _ this]
  · rw [List.getElem?_eq_none (by omega)]; rfl

/-- An invariant of the steps of a `foldlM` in `Option` is an invariant of the fold.  `pureRun` and `run` are such folds
    (`pureRun_eq_foldlM`, `run_eq_foldlM`); `pureRun_consistent`, `pureRun_frame`, `run_handles_get` go by this rule. -/
theorem foldlM_some_inv {σ ι : Type} {f : σ → ι → Option σ} {P : σ → Prop} (l : List ι)
    (hstep : ∀ a a' x, x ∈ l → P a → f a x = some a' → P a') {a a' : σ}
    (h : l.foldlM f a = some a') (ha : P a) : P a' := by
  induction l generalizing a with
  | nil => cases h; exact ha
  | cons x l ih =>
    rw [List.foldlM_cons] at h
    obtain ⟨a₁, h₁, h⟩ := Option.bind_eq_some_iff.1 h
    exact ih (fun a a' y hy => hstep a a' y (List.mem_cons_of_mem _ hy)) h
      (hstep a a₁ x (List.mem_cons_self ..) ha h₁)

end ListHelpers

/-! ## The simulation invariant -/

/-- the inner-list ids of a handle -/
def ids (s : State α) (h : Handle) : List Nat := s.outers.getD h.outer []

/-- `abs` in terms of `ids`: the view of the buffer, and the inner lists the outer list names -/
theorem abs_eq (s : State α) (h : Handle) :
    abs s h = ⟨(s.bufs.getD h.buf []).take h.len, (ids s h).map fun id => s.inners.getD id []⟩ := rfl

/-- a handle whose ids are all allocated -/
structure Valid (s : State α) (h : Handle) : Prop where
  buf_lt : h.buf < s.bufs.length
  outer_lt : h.outer < s.outers.length
  ids_lt : ∀ id ∈ ids s h, id < s.inners.length

/-- a well-formed handle: allocated ids, a prefix view of its buffer, one distinct inner list per bin -/
structure Good (s : State α) (h : Handle) : Prop extends Valid s h where
  len_le : h.len ≤ (s.bufs.getD h.buf []).length
  ids_len : (ids s h).length = h.len
  nodup : (ids s h).Nodup

/-- separation of two handles: different buffers, different outer lists, disjoint inner lists -/
structure Sep (s : State α) (a b : Handle) : Prop where
  buf : a.buf ≠ b.buf
  outer : a.outer ≠ b.outer
  disj : ∀ id, id ∈ ids s a → id ∈ ids s b → False

theorem Sep.symm {s : State α} {a b : Handle} (h : Sep s a b) : Sep s b a :=
  ⟨h.buf.symm, h.outer.symm, fun id hb ha => h.disj id ha hb⟩

/-- Entry `i` of the pool is live: it exists and holds a value, not `none` (handed over).  A statement that needs the
    value `b` spells this `p[i]? = some (some b)` (`Inv.good`, `PStep`, `step_copy` … `step_sort`); one that does not
    says `Live p i` (`Inv.sep`, `Inv.touch`, the corollaries).  `Heap.live p i = some b`, the spelling of `pureStep`,
    is the first of these by `live_iff`; only `PStep_of_pureStep` and `pureStep_of_PStep` meet it. -/
def Live (p : PurePool α) (i : Nat) : Prop := ∃ b, p[i]? = some (some b)

/-- The simulation invariant: every live entry of the pool has a well-formed handle denoting it, and live
    handles are pairwise separated.  Dead entries (`none`) are unconstrained. -/
structure Inv (s : State α) (p : PurePool α) : Prop where
  len : s.handles.length = p.length
  good : ∀ (i : Nat) (b : Bins α), p[i]? = some (some b) → ∃ hd, s.handles[i]? = some hd ∧ Good s hd ∧ abs s hd = b
  sep : ∀ (i j : Nat) (hi hj : Handle), i ≠ j → Live p i → Live p j → s.handles[i]? = some hi → s.handles[j]? = some hj →
    Sep s hi hj

theorem inv_init : Inv (State.init : State α) [] :=
  ⟨rfl, fun i b h => by simp at h, fun i j _ _ _ h => by obtain ⟨b, hb⟩ := h; simp at hb⟩

theorem kill_length (p : PurePool α) (h : Nat) : (kill p h).length = p.length := by
  simp [kill]

theorem kill_live (p : PurePool α) (h i : Nat) (b : Bins α) (hb : (kill p h)[i]? = some (some b)) :
    p[i]? = some (some b) ∧ i ≠ h := by
  unfold kill at hb
  rw [List.getElem?_set] at hb
  by_cases e : h = i
  · subst e; simp only [if_true] at hb; split at hb <;> simp at hb
  · simp only [if_neg e] at hb; exact ⟨hb, fun e' => e e'.symm⟩

/-- Handles may die at any time: the invariant only speaks about live handles. -/
theorem Inv.kill {s : State α} {p : PurePool α} (h : Inv s p) (k : Nat) : Inv s (kill p k) :=
  ⟨h.len.trans (kill_length p k).symm, fun i b hb => h.good i b (kill_live p k i b hb).1,
   fun i j hi hj ne ⟨bi, li⟩ ⟨bj, lj⟩ =>
    h.sep i j hi hj ne ⟨bi, (kill_live p k i bi li).1⟩ ⟨bj, (kill_live p k j bj lj).1⟩⟩

theorem live_iff {p : PurePool α} {h : Nat} {b : Bins α} : live p h = some b ↔ p[h]? = some (some b) :=
  Option.join_eq_some_iff

/-! ## What every operation does: one entry of the pool is touched, every other live handle is *kept* -/

/-- `s'` shows the handle `h` what `s` showed it: its buffer, its outer list and its inner lists are the same,
    and nothing was deallocated -/
structure Keeps (s s' : State α) (h : Handle) : Prop where
  buf : s'.bufs.getD h.buf [] = s.bufs.getD h.buf []
  ids_eq : ids s' h = ids s h
  inners : ∀ id ∈ ids s h, s'.inners.getD id [] = s.inners.getD id []
  bufs_le : s.bufs.length ≤ s'.bufs.length
  outers_le : s.outers.length ≤ s'.outers.length
  inners_le : s.inners.length ≤ s'.inners.length

theorem Keeps.abs_eq {s s' : State α} {h : Handle} (k : Keeps s s' h) : abs s' h = abs s h := by
  simp only [HeapRefine.abs_eq, k.ids_eq, k.buf, Bins.mk.injEq, true_and]
  exact List.map_congr_left k.inners

theorem Keeps.valid {s s' : State α} {h : Handle} (k : Keeps s s' h) (hv : Valid s h) : Valid s' h :=
  ⟨Nat.lt_of_lt_of_le hv.buf_lt k.bufs_le, Nat.lt_of_lt_of_le hv.outer_lt k.outers_le,
    fun id hid => Nat.lt_of_lt_of_le (hv.ids_lt id (k.ids_eq ▸ hid)) k.inners_le⟩

theorem Keeps.good {s s' : State α} {h : Handle} (k : Keeps s s' h) (hg : Good s h) : Good s' h :=
  ⟨k.valid hg.toValid, by rw [k.buf]; exact hg.len_le, by rw [k.ids_eq]; exact hg.ids_len,
    by rw [k.ids_eq]; exact hg.nodup⟩

theorem Keeps.sep {s s' : State α} {a b : Handle} (ka : Keeps s s' a) (kb : Keeps s s' b) (hs : Sep s a b) :
    Sep s' a b :=
  ⟨hs.buf, hs.outer, by rw [ka.ids_eq, kb.ids_eq]; exact hs.disj⟩

theorem Inv.good_at {s : State α} {p : PurePool α} (h : Inv s p) {i : Nat} {b : Bins α} {hd : Handle}
    (hb : p[i]? = some (some b)) (g : s.handles[i]? = some hd) : Good s hd ∧ abs s hd = b := by
  obtain ⟨hd', g1, g2, g3⟩ := h.good i b hb
  rw [g] at g1; cases g1
  exact ⟨g2, g3⟩

/-- Preservation, for all eight operations.  Handle objects are only appended; the pool is touched at one
    index `k` (a new entry, or an entry rewritten in place), whose handle is good, denotes the new value `b'`
    and is separated from the other live handles; every other live entry was live before with the same value,
    and its handle is kept. -/
theorem Inv.touch {s s' : State α} {p p' : PurePool α} (h : Inv s p) (k : Nat) (hk : Handle) (b' : Bins α)
    (hlen : s'.handles.length = p'.length)
    (hh : ∀ (i : Nat) (hd : Handle), s.handles[i]? = some hd → s'.handles[i]? = some hd)
    (hold : ∀ (i : Nat) (b : Bins α), p'[i]? = some (some b) → (i ≠ k ∧ p[i]? = some (some b)) ∨ (i = k ∧ b = b'))
    (hkeep : ∀ (i : Nat) (hd : Handle), i ≠ k → Live p i → s.handles[i]? = some hd → Keeps s s' hd)
    (gk : s'.handles[k]? = some hk) (hg : Good s' hk) (ha : abs s' hk = b')
    (hsep : ∀ (j : Nat) (hj : Handle), j ≠ k → Live p j → s.handles[j]? = some hj → Sep s' hj hk) : Inv s' p' := by
  -- the handle of an entry that was live before is its old handle
  have old : ∀ (i : Nat) (b : Bins α) (hi : Handle), p[i]? = some (some b) → s'.handles[i]? = some hi →
      s.handles[i]? = some hi := by
    intro i b hi hb gi
    obtain ⟨hd, g1, -, -⟩ := h.good i b hb
    rw [hh i hd g1] at gi; cases gi
    exact g1
  refine ⟨hlen, ?_, ?_⟩
  · intro i b hb
    rcases hold i b hb with ⟨ne, hb⟩ | ⟨rfl, rfl⟩
    · obtain ⟨hd, g1, g2, g3⟩ := h.good i b hb
      have kp := hkeep i hd ne ⟨b, hb⟩ g1
      exact ⟨hd, hh i hd g1, kp.good g2, by rw [kp.abs_eq, g3]⟩
    · exact ⟨hk, gk, hg, ha⟩
  · intro i j hi hj ne ⟨bi, li⟩ ⟨bj, lj⟩ gi gj
    rcases hold i bi li with ⟨ni, li⟩ | ⟨rfl, -⟩ <;> rcases hold j bj lj with ⟨nj, lj⟩ | ⟨rfl, -⟩
    · have gi' := old i bi hi li gi
      have gj' := old j bj hj lj gj
      exact (hkeep i hi ni ⟨bi, li⟩ gi').sep (hkeep j hj nj ⟨bj, lj⟩ gj') (h.sep i j hi hj ne ⟨bi, li⟩ ⟨bj, lj⟩ gi' gj')
    · rw [gk] at gj; cases gj
      exact hsep i hi ni ⟨bi, li⟩ (old i bi hi li gi)
    · rw [gk] at gi; cases gi
      exact (hsep j hj nj ⟨bj, lj⟩ (old j bj hj lj gj)).symm
    · exact absurd rfl ne

/-! ## Extensions: appended cells leave the old handles alone -/

/-- `s'` is obtained from `s` by appending cells and one handle -/
structure Ext (s s' : State α) (h' : Handle) : Prop where
  handles : s'.handles = s.handles ++ [h']
  bufs : ∃ x, s'.bufs = s.bufs ++ x
  inners : ∃ x, s'.inners = s.inners ++ x
  outers : ∃ x, s'.outers = s.outers ++ x

theorem Ext.keeps {s s' : State α} {h' : Handle} (e : Ext s s' h') {h : Handle} (hv : Valid s h) :
    Keeps s s' h := by
  obtain ⟨xb, hb⟩ := e.bufs
  obtain ⟨xi, hi⟩ := e.inners
  obtain ⟨xo, ho⟩ := e.outers
  refine ⟨?_, ?_, fun id hid => ?_, ?_, ?_, ?_⟩
  · rw [hb, getD_append_left _ _ _ _ hv.buf_lt]
  · simp only [ids, ho, getD_append_left _ _ _ _ hv.outer_lt]
  · rw [hi, getD_append_left _ _ _ _ (hv.ids_lt id hid)]
  · rw [hb, List.length_append]; omega
  · rw [ho, List.length_append]; omega
  · rw [hi, List.length_append]; omega

theorem append_live {q : PurePool α} {b' b : Bins α} {i : Nat}
    (hb : (q ++ [some b'])[i]? = some (some b)) :
    (i ≠ q.length ∧ q[i]? = some (some b)) ∨ (i = q.length ∧ b = b') := by
  rw [List.getElem?_append] at hb
  split at hb
  · exact Or.inl ⟨by omega, hb⟩
  · rename_i hi
    by_cases e : i = q.length
    · right; subst e; simp at hb; exact ⟨rfl, hb.symm⟩
    · rw [List.getElem?_eq_none (by simp; omega)] at hb; simp at hb

/-- Preservation for the allocating operations: the new handle must be good and separated from the live old ones. -/
theorem Inv.extend {s s' : State α} {q : PurePool α} {h' : Handle} {b' : Bins α} (h : Inv s q)
    (e : Ext s s' h') (hg : Good s' h') (ha : abs s' h' = b')
    (hsep : ∀ j hj, Live q j → s.handles[j]? = some hj → Sep s' hj h') :
    Inv s' (q ++ [some b']) := by
  refine h.touch q.length h' b' (by rw [e.handles]; simp [h.len])
    (fun i hd g => by rw [e.handles, List.getElem?_append_left (List.getElem?_eq_some_iff.1 g).1, g])
    (fun i b => append_live) (fun i hd _ ⟨b, hb⟩ g => e.keeps (h.good_at hb g).1.toValid)
    (by rw [e.handles, ← h.len]; simp) hg ha (fun j hj _ => hsep j hj)

theorem Good.sums_length {s : State α} {h : Handle} (hg : Good s h) : (abs s h).sums.length = h.len := by
  simp only [abs_eq, List.length_take]; have := hg.len_le; omega

theorem Good.lists_length {s : State α} {h : Handle} (hg : Good s h) : (abs s h).lists.length = h.len := by
  simp only [abs_eq, List.length_map]; exact hg.ids_len

/-! ## Allocation: a fresh buffer and a fresh outer list; the inner lists are fresh (`new_bins`, `copy_bins`),
shared (`concatenate_bins`) or both (`add_empty_bins`) -/

/-- the state after `extra` new inner lists and a new handle with buffer `sums` and inner ids `idl`: what `step`
    returns for `addEmpty` (`step_addEmpty_eq`), for `concat` (`step_concat_eq`: `allocShared`, the case `extra = []`,
    `sh_nil`) and for `new`, `copy` (`step_new_eq`, `step_copy_eq`: `(alloc …).1`, the case where `idl` names exactly
    `extra`, `alloc_fst_eq_sh`) -/
def sh (s : State α) (extra : List (List α)) (sums : List Nat) (idl : List Nat) : State α :=
  allocShared { s with inners := s.inners ++ extra } sums idl

/-- the handle that `sh s extra sums idl` appends -/
def shH (s : State α) (sums : List Nat) : Handle := ⟨s.bufs.length, sums.length, s.outers.length⟩

theorem sh_nil (s : State α) (sums : List Nat) (idl : List Nat) : allocShared s sums idl = sh s [] sums idl := by
  simp [sh]

theorem alloc_fst_eq_sh (s : State α) (sums : List Nat) (lists : List (List α)) :
    (alloc s sums lists).1 = sh s lists sums ((List.range lists.length).map (· + s.inners.length)) := rfl

theorem sh_ext (s : State α) (extra : List (List α)) (sums : List Nat) (idl : List Nat) :
    Ext s (sh s extra sums idl) (shH s sums) :=
  ⟨rfl, ⟨_, rfl⟩, ⟨_, rfl⟩, ⟨_, rfl⟩⟩

theorem sh_abs (s : State α) (extra : List (List α)) (sums : List Nat) (idl : List Nat) :
    abs (sh s extra sums idl) (shH s sums)
      = ⟨sums, idl.map (fun id => (s.inners ++ extra).getD id [])⟩ := by
  simp only [abs, sh, shH, allocShared, getD_append_self, List.take_length]

/-- `Inv.extend` for a handle with a new outer list `idl` (all five allocating operations), in terms of lists:
    `idl` is duplicate-free and allocated, it is as long as the view of the buffer, and neither the buffer nor an
    inner list of `idl` belongs to a live handle (the buffer is fresh or was handed over). -/
theorem Inv.extend_outer {s s' : State α} {q : PurePool α} (h : Inv s q) {buf len : Nat} {idl : List Nat}
    (e : Ext s s' ⟨buf, len, s.outers.length⟩) (ho : s'.outers = s.outers ++ [idl])
    (hbuf : buf < s'.bufs.length) (hlen : len ≤ (s'.bufs.getD buf []).length) (hl : idl.length = len)
    (hn : idl.Nodup) (hv : ∀ id ∈ idl, id < s'.inners.length)
    (hd : ∀ j hj, Live q j → s.handles[j]? = some hj →
      hj.buf ≠ buf ∧ ∀ id, id ∈ ids s hj → id ∈ idl → False) :
    Inv s' (q ++ [some (abs s' ⟨buf, len, s.outers.length⟩)]) := by
  have hids : ids s' ⟨buf, len, s.outers.length⟩ = idl := by simp only [ids, ho, getD_append_self]
  refine h.extend e ⟨⟨hbuf, by simp [ho], hids ▸ hv⟩, hlen, hids ▸ hl, hids ▸ hn⟩ rfl ?_
  intro j hj ⟨b, hb⟩ gj
  have g2 := (h.good_at hb gj).1
  refine ⟨(hd j hj ⟨b, hb⟩ gj).1, Nat.ne_of_lt g2.outer_lt, fun id i1 i2 => ?_⟩
  rw [(e.keeps g2.toValid).ids_eq] at i1
  rw [hids] at i2
  exact (hd j hj ⟨b, hb⟩ gj).2 id i1 i2

/-- The invariant after allocating a handle with a fresh buffer `sums` whose bins are the inner lists `old`
    (owned by no live handle of `q`) followed by the fresh inner lists `extra`. -/
theorem Inv.share {s : State α} {q : PurePool α} (h : Inv s q) (old : List Nat) (extra : List (List α))
    (sums : List Nat) (hl : old.length + extra.length = sums.length) (hn : old.Nodup)
    (hv : ∀ id ∈ old, id < s.inners.length)
    (hd : ∀ j hj, Live q j → s.handles[j]? = some hj → ∀ id, id ∈ ids s hj → id ∈ old → False) :
    Inv (sh s extra sums (old ++ (List.range extra.length).map (· + s.inners.length)))
      (q ++ [some ⟨sums, old.map (fun id => s.inners.getD id []) ++ extra⟩]) := by
  -- an old id is below `s.inners.length`, a fresh one is not
  have fresh : ∀ id ∈ (List.range extra.length).map (· + s.inners.length),
      s.inners.length ≤ id ∧ id < s.inners.length + extra.length := fun id hid => mem_range_shift hid
  have := h.extend_outer (idl := old ++ (List.range extra.length).map (· + s.inners.length))
    (sh_ext s extra sums _) rfl (by simp [sh, allocShared]) (by simp [sh, allocShared]) (by simp [hl])
    (List.nodup_append.2 ⟨hn, nodup_range_shift _ _, fun a ha c hc e => by
      have := hv a ha; have := fresh c hc; omega⟩)
    (fun id hid => by
      simp only [sh, allocShared, List.length_append]
      rcases List.mem_append.1 hid with hid | hid
      · have := hv id hid; omega
      · have := fresh id hid; omega)
    (fun j hj ⟨b, hb⟩ gj => by
      have g2 := (h.good_at hb gj).1
      refine ⟨Nat.ne_of_lt g2.buf_lt, fun id i1 i2 => ?_⟩
      rcases List.mem_append.1 i2 with i2 | i2
      · exact hd j hj ⟨b, hb⟩ gj id i1 i2
      · have := g2.ids_lt id i1; have := fresh id i2; omega)
  rw [show (⟨s.bufs.length, sums.length, s.outers.length⟩ : Handle) = shH s sums from rfl, sh_abs, List.map_append,
    map_range_getD_append] at this
  rw [← List.map_congr_left fun id hid => getD_append_left _ extra _ [] (hv id hid)]
  exact this

theorem Inv.alloc {s : State α} {p : PurePool α} (h : Inv s p) (sums : List Nat) (lists : List (List α))
    (hl : sums.length = lists.length) : Inv (alloc s sums lists).1 (p ++ [some ⟨sums, lists⟩]) :=
  alloc_fst_eq_sh s sums lists ▸
    h.share [] lists sums (by simp [hl]) .nil (fun _ hid => nomatch hid) (fun _ _ _ _ _ _ hid => nomatch hid)

variable (v : α → Nat)

/-! What `step` returns, operation by operation, in the words `alloc`, `allocShared`, `sh`, `rm`, `upd`, `srt` (all
by `rfl`): `step_new_eq` … `step_sort_eq`, each after the definition it speaks of.  The lemmas `step_new` …
`step_sort` and `step_shape` read `step` through them. -/

theorem step_new_eq (s : State α) (k : Nat) :
    step v s (.new k) = some (alloc s (List.replicate k 0) (List.replicate k [])).1 := rfl

theorem step_copy_eq (s : State α) (hi : Nat) :
    step v s (.copy hi) = s.handles[hi]?.bind fun a => some (alloc s (abs s a).sums (abs s a).lists).1 := rfl

theorem step_addEmpty_eq (s : State α) (hi n : Nat) :
    step v s (.addEmpty hi n) = s.handles[hi]?.bind fun a =>
      some (sh s (List.replicate n []) ((abs s a).sums ++ List.replicate n 0)
        (ids s a ++ (List.range n).map (· + s.inners.length))) := rfl

theorem step_concat_eq (s : State α) (h1 h2 : Nat) :
    step v s (.concat h1 h2) = s.handles[h1]?.bind fun a => s.handles[h2]?.bind fun c =>
      some (allocShared s ((abs s a).sums ++ (abs s c).sums) (ids s a ++ ids s c)) := rfl

theorem step_new {s : State α} {p : PurePool α} (h : Inv s p) (k : Nat) :
    ∃ s', step v s (.new k) = some s' ∧ Inv s' (p ++ [some (Bins.new k)]) :=
  ⟨_, step_new_eq v s k, h.alloc _ _ (by simp)⟩

theorem step_copy {s : State α} {p : PurePool α} (h : Inv s p) (hi : Nat) (b : Bins α)
    (hb : p[hi]? = some (some b)) :
    ∃ s', step v s (.copy hi) = some s' ∧ Inv s' (p ++ [some b]) := by
  obtain ⟨hd, h1, h2, h3⟩ := h.good hi b hb
  refine ⟨(alloc s (abs s hd).sums (abs s hd).lists).1, ?_, ?_⟩
  · simp only [step_copy_eq, h1, Option.bind_some]
  · have := h.alloc (abs s hd).sums (abs s hd).lists (by rw [h2.sums_length, h2.lists_length])
    rw [← h3]; exact this

/-- what is live once `i` is handed over is separated from the handle of `i` -/
theorem Inv.sep_of_kill {s : State α} {p : PurePool α} (h : Inv s p) {i j : Nat} {hi hj : Handle} {bi : Bins α}
    (hb : p[i]? = some (some bi)) (gi : s.handles[i]? = some hi) (lj : Live (Heap.kill p i) j)
    (gj : s.handles[j]? = some hj) : Sep s hj hi := by
  obtain ⟨bj, lj⟩ := lj
  have ⟨lj', ne⟩ := kill_live p i j bj lj
  exact h.sep j i hj hi ne ⟨bj, lj'⟩ ⟨bi, hb⟩ gj gi

theorem step_addEmpty {s : State α} {p : PurePool α} (h : Inv s p) (hi n : Nat) (b : Bins α)
    (hb : p[hi]? = some (some b)) :
    ∃ s', step v s (.addEmpty hi n) = some s' ∧ Inv s' (kill p hi ++ [some (b.addEmpty n)]) := by
  obtain ⟨hd, h1, h2, h3⟩ := h.good hi b hb
  have hq := h.kill hi
  have := hq.share (ids s hd) (List.replicate n []) ((abs s hd).sums ++ List.replicate n 0)
    (by simp [h2.ids_len, h2.sums_length]) h2.nodup h2.ids_lt
    (fun j hj lj gj id => (h.sep_of_kill hb h1 lj gj).disj id)
  rw [List.length_replicate] at this
  have e : b.addEmpty n = ⟨(abs s hd).sums ++ List.replicate n 0,
      (ids s hd).map (fun id => s.inners.getD id []) ++ List.replicate n []⟩ := by rw [← h3]; rfl
  rw [e]
  refine ⟨_, ?_, this⟩
  simp only [step_addEmpty_eq, h1, Option.bind_some]

theorem step_concat {s : State α} {p : PurePool α} (h : Inv s p) (i1 i2 : Nat) (b1 b2 : Bins α)
    (hb1 : p[i1]? = some (some b1)) (hb2 : p[i2]? = some (some b2)) (ne : i1 ≠ i2) :
    ∃ s', step v s (.concat i1 i2) = some s' ∧
      Inv s' (kill (kill p i1) i2 ++ [some (b1.concat b2)]) := by
  obtain ⟨a, a1, a2, a3⟩ := h.good i1 b1 hb1
  obtain ⟨c, c1, c2, c3⟩ := h.good i2 b2 hb2
  have hs := h.sep i1 i2 a c ne ⟨b1, hb1⟩ ⟨b2, hb2⟩ a1 c1
  have hq := (h.kill i1).kill i2
  have := hq.share (ids s a ++ ids s c) [] ((abs s a).sums ++ (abs s c).sums)
    (by simp [a2.ids_len, c2.ids_len, a2.sums_length, c2.sums_length])
    (List.nodup_append.2 ⟨a2.nodup, c2.nodup, fun x hx y hy e => hs.disj x hx (e ▸ hy)⟩)
    (fun id hid => (List.mem_append.1 hid).elim (a2.ids_lt id) (c2.ids_lt id))
    (fun j hj ⟨bj, lj⟩ gj id k1 k2 =>
      have ⟨lj1, ne2⟩ := kill_live _ i2 j bj lj
      (List.mem_append.1 k2).elim ((h.sep_of_kill hb1 a1 ⟨bj, lj1⟩ gj).disj id k1)
        ((h.sep j i2 hj c ne2 ⟨bj, (kill_live p i1 j bj lj1).1⟩ ⟨b2, hb2⟩ gj c1).disj id k1))
  simp only [List.length_nil, List.range_zero, List.map_nil, List.append_nil, List.map_append] at this
  have e : b1.concat b2 = ⟨(abs s a).sums ++ (abs s c).sums,
      (ids s a).map (fun id => s.inners.getD id []) ++ (ids s c).map (fun id => s.inners.getD id [])⟩ := by
    rw [← a3, ← c3]; rfl
  rw [e]
  refine ⟨_, ?_, this⟩
  simp only [step_concat_eq, a1, c1, Option.bind_some, sh_nil]

/-! ## `remove_bins`: a shorter view of the same buffer, a new outer list sharing the inner lists -/

/-- the handle that `remove_bins(a, n)` returns: the first `a.len - n` cells of `a`'s buffer, a new outer list -/
def rmH (s : State α) (a : Handle) (n : Nat) : Handle := ⟨a.buf, a.len - n, s.outers.length⟩

/-- the state `step v s (.remove hi n)` returns when handle `hi` is `a` (`step_remove_eq`) -/
def rm (s : State α) (a : Handle) (n : Nat) : State α :=
  { s with outers := s.outers ++ [(ids s a).take ((ids s a).length - n)],
           handles := s.handles ++ [rmH s a n] }

theorem step_remove_eq (s : State α) (hi n : Nat) :
    step v s (.remove hi n) = s.handles[hi]?.bind fun a => if n ≤ a.len then some (rm s a n) else none := rfl

theorem rm_ext (s : State α) (a : Handle) (n : Nat) : Ext s (rm s a n) (rmH s a n) :=
  ⟨rfl, ⟨[], by simp [rm]⟩, ⟨[], by simp [rm]⟩, ⟨_, rfl⟩⟩

/-- the shorter view of `a`'s buffer (take of take) and the prefix of its outer list (map of take) are `removeLast` -/
theorem rm_abs {s : State α} {a : Handle} (hg : Good s a) (n : Nat) :
    abs (rm s a n) (rmH s a n) = (abs s a).removeLast n := by
  have e : ids (rm s a n) (rmH s a n) = (ids s a).take ((ids s a).length - n) := by
    simp only [ids, rm, rmH, getD_append_self]
  rw [abs_eq, e, Bins.removeLast, hg.sums_length, hg.lists_length, hg.ids_len]
  simp only [abs_eq, rm, rmH, List.take_take, List.map_take, Nat.min_eq_left (Nat.sub_le _ _)]

theorem step_remove {s : State α} {p : PurePool α} (h : Inv s p) (hi n : Nat) (b : Bins α)
    (hb : p[hi]? = some (some b)) (hn : n ≤ b.sums.length) :
    ∃ s', step v s (.remove hi n) = some s' ∧ Inv s' (kill p hi ++ [some (b.removeLast n)]) := by
  obtain ⟨a, a1, a2, a3⟩ := h.good hi b hb
  have hn' : n ≤ a.len := by rw [← a2.sums_length, a3]; exact hn
  have := (h.kill hi).extend_outer (rm_ext s a n) rfl a2.buf_lt (Nat.le_trans (Nat.sub_le _ _) a2.len_le)
    (by simp [a2.ids_len]) (a2.nodup.sublist (List.take_sublist _ _))
    (fun id hid => a2.ids_lt id (List.mem_of_mem_take hid))
    (fun j hj lj gj =>
      have hs := h.sep_of_kill hb a1 lj gj
      ⟨hs.buf, fun id k1 k2 => hs.disj id k1 (List.mem_of_mem_take k2)⟩)
  rw [← a3, ← rm_abs a2 n]
  refine ⟨_, ?_, this⟩
  simp only [step_remove_eq, a1, Option.bind_some, if_pos hn']

/-! ## In-place operations: only cells owned by one handle `a` change -/

structure Frame (s s' : State α) (a : Handle) : Prop where
  handles : s'.handles = s.handles
  bufs_len : s'.bufs.length = s.bufs.length
  inners_len : s'.inners.length = s.inners.length
  outers_len : s'.outers.length = s.outers.length
  bufs : ∀ k, k ≠ a.buf → s'.bufs.getD k [] = s.bufs.getD k []
  outers : ∀ k, k ≠ a.outer → s'.outers.getD k [] = s.outers.getD k []
  inners : ∀ k, k ∉ ids s a → s'.inners.getD k [] = s.inners.getD k []
  ids_mem : ∀ k, k ∈ ids s' a ↔ k ∈ ids s a

theorem Frame.keeps {s s' : State α} {a : Handle} (f : Frame s s' a) {h : Handle} (hs : Sep s h a) :
    Keeps s s' h :=
  ⟨f.bufs _ hs.buf, f.outers _ hs.outer, fun id hid => f.inners id (hs.disj id hid),
    Nat.le_of_eq f.bufs_len.symm, Nat.le_of_eq f.outers_len.symm, Nat.le_of_eq f.inners_len.symm⟩

theorem Frame.sep_a {s s' : State α} {a : Handle} (f : Frame s s' a) {h : Handle} (hs : Sep s h a) :
    Sep s' h a :=
  ⟨hs.buf, hs.outer, fun id h1 h2 => by
    rw [(f.keeps hs).ids_eq] at h1
    exact hs.disj id h1 ((f.ids_mem id).1 h2)⟩

theorem set_live {p : PurePool α} {h i : Nat} {b' bi : Bins α}
    (hb : (p.set h (some b'))[i]? = some (some bi)) :
    (i ≠ h ∧ p[i]? = some (some bi)) ∨ (i = h ∧ bi = b') := by
  rw [List.getElem?_set] at hb
  by_cases e : h = i
  · subst e
    simp only [if_true] at hb
    split at hb
    · right; simp at hb; exact ⟨rfl, hb.symm⟩
    · simp at hb
  · simp only [if_neg e] at hb
    exact Or.inl ⟨fun e' => e e'.symm, hb⟩

/-- Preservation for the in-place operations: `a` must stay good; the others are carried by the frame. -/
theorem Inv.frame {s s' : State α} {p : PurePool α} {h : Nat} {a : Handle} {b b' : Bins α}
    (hinv : Inv s p) (hb : p[h]? = some (some b)) (ha : s.handles[h]? = some a) (f : Frame s s' a)
    (hg : Good s' a) (hab : abs s' a = b') : Inv s' (p.set h (some b')) := by
  have sepA : ∀ i hi, i ≠ h → Live p i → s.handles[i]? = some hi → Sep s hi a :=
    fun i hi ne l g => hinv.sep i h hi a ne l ⟨b, hb⟩ g ha
  exact hinv.touch h a b' (by rw [f.handles, hinv.len]; simp) (fun i hd g => f.handles ▸ g)
    (fun i bi => set_live) (fun i hi ne l g => f.keeps (sepA i hi ne l g))
    (f.handles ▸ ha) hg hab (fun j hj ne l g => f.sep_a (sepA j hj ne l g))

/-! ### `add_item_to_bin` and `combine_bins`: one buffer cell and one inner list change -/

/-- the state `step` returns for `add` (`c := v x`, `ex := [x]`) and `combine` (`c`, `ex` = sum and contents of the
    other bin) on bin `i` of handle `a` (`step_add_eq`, `step_combine_eq`) -/
def upd (s : State α) (a : Handle) (i c : Nat) (ex : List α) : State α :=
  { s with bufs := s.bufs.modify a.buf (·.modify i (· + c)),
           inners := s.inners.modify ((ids s a).getD i 0) (· ++ ex) }

theorem step_add_eq (s : State α) (hi : Nat) (x : α) (i : Nat) :
    step v s (.add hi x i) = s.handles[hi]?.bind fun a =>
      if i < a.len then some (upd s a i (v x) [x]) else none := rfl

theorem step_combine_eq (s : State α) (h1 i1 h2 i2 : Nat) :
    step v s (.combine h1 i1 h2 i2) = s.handles[h1]?.bind fun a => s.handles[h2]?.bind fun c =>
      if i1 < a.len ∧ i2 < c.len then
        some (upd s a i1 ((abs s c).sums.getD i2 0) ((abs s c).lists.getD i2 []))
      else none := rfl

theorem upd_frame {s : State α} {a : Handle} (hg : Good s a) (i c : Nat) (ex : List α) (hi : i < a.len) :
    Frame s (upd s a i c ex) a := by
  have hi' : i < (ids s a).length := by rw [hg.ids_len]; exact hi
  refine ⟨rfl, ?_, ?_, rfl, ?_, ?_, ?_, ?_⟩
  · simp [upd]
  · simp [upd]
  · intro k hk; exact getD_modify_ne _ _ _ _ _ hk.symm
  · intro k _; rfl
  · intro k hk
    apply getD_modify_ne
    intro e
    apply hk
    rw [← e, Part.getD_eq_getElem hi']
    exact List.getElem_mem hi'
  · intro k; exact Iff.rfl

theorem upd_abs {s : State α} {a : Handle} (hg : Good s a) (i c : Nat) (ex : List α) (hi : i < a.len) :
    abs (upd s a i c ex) a = ⟨(abs s a).sums.modify i (· + c), (abs s a).lists.modify i (· ++ ex)⟩ := by
  have hi' : i < (ids s a).length := by rw [hg.ids_len]; exact hi
  have e0 : (ids s a).getD i 0 = (ids s a)[i] := Part.getD_eq_getElem hi'
  have hv : (ids s a)[i] < s.inners.length := hg.ids_lt _ (List.getElem_mem hi')
  have key := map_getD_modify_nodup s.inners (ids s a) (· ++ ex) [] i hg.nodup hi' hv
  simp only [abs, upd, e0, getD_modify_eq _ _ _ _ hg.buf_lt, List.take_modify, Bins.mk.injEq, true_and]
  exact key

theorem upd_good {s : State α} {a : Handle} (hg : Good s a) (i c : Nat) (ex : List α) :
    Good (upd s a i c ex) a := by
  refine ⟨⟨?_, ?_, ?_⟩, ?_, ?_, ?_⟩
  · simp only [upd, List.length_modify]; exact hg.buf_lt
  · exact hg.outer_lt
  · intro id hid
    simp only [upd, List.length_modify]; exact hg.ids_lt id hid
  · simp only [upd, getD_modify_eq _ _ _ _ hg.buf_lt, List.length_modify]; exact hg.len_le
  · exact hg.ids_len
  · exact hg.nodup

theorem step_add {s : State α} {p : PurePool α} (h : Inv s p) (hi : Nat) (x : α) (i : Nat) (b : Bins α)
    (hb : p[hi]? = some (some b)) (hlt : i < b.sums.length) :
    ∃ s', step v s (.add hi x i) = some s' ∧ Inv s' (p.set hi (some (b.add v x i))) := by
  obtain ⟨a, a1, a2, a3⟩ := h.good hi b hb
  have hlt' : i < a.len := by rw [← a2.sums_length, a3]; exact hlt
  refine ⟨upd s a i (v x) [x], ?_, ?_⟩
  · simp only [step_add_eq, a1, Option.bind_some, if_pos hlt']
  · refine h.frame hb a1 (upd_frame a2 i _ _ hlt') (upd_good a2 i _ _) ?_
    rw [upd_abs a2 i _ _ hlt', a3]; rfl

theorem step_combine {s : State α} {p : PurePool α} (h : Inv s p) (h1 i1 h2 i2 : Nat) (b1 b2 : Bins α)
    (hb1 : p[h1]? = some (some b1)) (hb2 : p[h2]? = some (some b2))
    (hlt : i1 < b1.sums.length ∧ i2 < b2.sums.length) :
    ∃ s', step v s (.combine h1 i1 h2 i2) = some s' ∧
      Inv s' (p.set h1 (some (b1.combine i1 b2 i2))) := by
  obtain ⟨a, a1, a2, a3⟩ := h.good h1 b1 hb1
  obtain ⟨c, c1, c2, c3⟩ := h.good h2 b2 hb2
  have hlt' : i1 < a.len ∧ i2 < c.len := by
    rw [← a2.sums_length, a3, ← c2.sums_length, c3]; exact hlt
  refine ⟨upd s a i1 ((abs s c).sums.getD i2 0) ((abs s c).lists.getD i2 []), ?_, ?_⟩
  · simp only [step_combine_eq, a1, c1, Option.bind_some, if_pos hlt']
  · refine h.frame hb1 a1 (upd_frame a2 i1 _ _ hlt'.1) (upd_good a2 i1 _ _) ?_
    rw [upd_abs a2 i1 _ _ hlt'.1, a3, c3]; rfl

/-! ### `sort_by_ascending_sum`: the buffer prefix and the outer list are overwritten in place -/

/-- the (sum, inner-list id) pairs of `a`, sorted by sum: what `sort_by_ascending_sum` writes back -/
def srtZ (s : State α) (a : Handle) : List (Nat × Nat) :=
  Prtpy.sortAsc (fun p => p.1) ((abs s a).sums.zip (ids s a))

/-- the state `step v s (.sort hi)` returns when handle `hi` is `a` (`step_sort_eq`) -/
def srt (s : State α) (a : Handle) : State α :=
  { s with bufs := s.bufs.modify a.buf (fun l => writePrefix l ((srtZ s a).map (·.1))),
           outers := s.outers.modify a.outer (fun l => writePrefix l ((srtZ s a).map (·.2))) }

theorem step_sort_eq (s : State α) (hi : Nat) :
    step v s (.sort hi) = s.handles[hi]?.bind fun a => some (srt s a) := rfl

theorem srtZ_perm (s : State α) (a : Handle) : (srtZ s a).Perm ((abs s a).sums.zip (ids s a)) :=
  Part.sortAsc_perm _ _

theorem srtZ_length {s : State α} {a : Handle} (hg : Good s a) : (srtZ s a).length = a.len := by
  rw [(srtZ_perm s a).length_eq, List.length_zip, hg.sums_length, hg.ids_len]; simp

theorem srtZ_snd_perm {s : State α} {a : Handle} (hg : Good s a) :
    ((srtZ s a).map (·.2)).Perm (ids s a) := by
  have := (srtZ_perm s a).map Prod.snd
  rw [List.map_snd_zip (by rw [hg.sums_length, hg.ids_len]; exact Nat.le_refl _)] at this
  exact this

theorem srt_ids {s : State α} {a : Handle} (hg : Good s a) : ids (srt s a) a = (srtZ s a).map (·.2) := by
  simp only [ids, srt, getD_modify_eq _ _ _ _ hg.outer_lt, writePrefix]
  have : List.drop ((srtZ s a).map (·.2)).length (s.outers.getD a.outer []) = [] := by
    apply List.drop_eq_nil_of_le
    have := hg.ids_len; unfold ids at this
    rw [this, List.length_map, srtZ_length hg]; exact Nat.le_refl _
  rw [this, List.append_nil]

theorem srt_frame {s : State α} {a : Handle} (hg : Good s a) : Frame s (srt s a) a := by
  refine ⟨rfl, ?_, rfl, ?_, ?_, ?_, ?_, ?_⟩
  · simp [srt]
  · simp [srt]
  · intro k hk; exact getD_modify_ne _ _ _ _ _ hk.symm
  · intro k hk; exact getD_modify_ne _ _ _ _ _ hk.symm
  · intro k _; rfl
  · intro k; rw [srt_ids hg]; exact (srtZ_snd_perm hg).mem_iff

theorem srt_good {s : State α} {a : Handle} (hg : Good s a) : Good (srt s a) a := by
  refine ⟨⟨?_, ?_, ?_⟩, ?_, ?_, ?_⟩
  · simp only [srt, List.length_modify]; exact hg.buf_lt
  · simp only [srt, List.length_modify]; exact hg.outer_lt
  · intro id hid
    rw [srt_ids hg] at hid
    exact hg.ids_lt id ((srtZ_snd_perm hg).mem_iff.1 hid)
  · simp only [srt, getD_modify_eq _ _ _ _ hg.buf_lt, writePrefix, List.length_append, List.length_map,
      srtZ_length hg]
    omega
  · rw [srt_ids hg, List.length_map, srtZ_length hg]
  · rw [srt_ids hg]; exact (srtZ_snd_perm hg).nodup_iff.2 hg.nodup

theorem srt_abs {s : State α} {a : Handle} (hg : Good s a) : abs (srt s a) a = (abs s a).sortAsc := by
  let g : Nat → List α := fun id => s.inners.getD id []
  have e1 : ((srt s a).bufs.getD a.buf []).take a.len = (srtZ s a).map (·.1) := by
    simp only [srt, getD_modify_eq _ _ _ _ hg.buf_lt, writePrefix]
    exact List.take_left' (by rw [List.length_map, srtZ_length hg])
  have eL : abs (srt s a) a = ⟨(srtZ s a).map (·.1), ((srtZ s a).map (·.2)).map g⟩ := by
    rw [abs_eq, srt_ids hg, e1]
    rfl
  -- the pure side: sort the (sum, list) pairs
  have hz : (abs s a).sums.zip (abs s a).lists
      = ((abs s a).sums.zip (ids s a)).map (Prod.map id g) := by
    rw [← List.zip_map_right]; rfl
  have hsort : (srtZ s a).map (Prod.map id g)
      = Prtpy.sortAsc (fun p => p.1) (((abs s a).sums.zip (ids s a)).map (Prod.map id g)) :=
    BinsOps.map_sortAsc (Prod.map id g : Nat × Nat → Nat × List α) (fun p => p.1)
      ((abs s a).sums.zip (ids s a))
  have eR : (abs s a).sortAsc = ⟨(srtZ s a).map (·.1), ((srtZ s a).map (·.2)).map g⟩ := by
    simp only [Bins.sortAsc]
    rw [hz, ← hsort]
    simp only [List.map_map, Bins.mk.injEq]
    exact ⟨List.map_congr_left (fun _ _ => rfl), List.map_congr_left (fun _ _ => rfl)⟩
  rw [eL, eR]

theorem step_sort {s : State α} {p : PurePool α} (h : Inv s p) (hi : Nat) (b : Bins α)
    (hb : p[hi]? = some (some b)) :
    ∃ s', step v s (.sort hi) = some s' ∧ Inv s' (p.set hi (some b.sortAsc)) := by
  obtain ⟨a, a1, a2, a3⟩ := h.good hi b hb
  refine ⟨srt s a, ?_, ?_⟩
  · simp only [step_sort_eq, a1, Option.bind_some]
  · refine h.frame hb a1 (srt_frame a2) (srt_good a2) ?_
    rw [srt_abs a2, a3]

/-! ## One step, then a whole run -/

/-- The pure step as a relation (inversion of `pureStep`; `h` live means `p[h]? = some (some b)`). -/
inductive PStep (v : α → Nat) (p : PurePool α) : Op α → PurePool α → Prop
  | new (k : Nat) : PStep v p (.new k) (p ++ [some (Bins.new k)])
  | add (h : Nat) (x : α) (i : Nat) (b : Bins α) (hb : p[h]? = some (some b)) (hi : i < b.sums.length) :
      PStep v p (.add h x i) (p.set h (some (b.add v x i)))
  | copy (h : Nat) (b : Bins α) (hb : p[h]? = some (some b)) : PStep v p (.copy h) (p ++ [some b])
  | sort (h : Nat) (b : Bins α) (hb : p[h]? = some (some b)) : PStep v p (.sort h) (p.set h (some b.sortAsc))
  | addEmpty (h n : Nat) (b : Bins α) (hb : p[h]? = some (some b)) :
      PStep v p (.addEmpty h n) (kill p h ++ [some (b.addEmpty n)])
  | remove (h n : Nat) (b : Bins α) (hb : p[h]? = some (some b)) (hn : n ≤ b.sums.length) :
      PStep v p (.remove h n) (kill p h ++ [some (b.removeLast n)])
  | concat (h1 h2 : Nat) (b1 b2 : Bins α) (hb1 : p[h1]? = some (some b1)) (hb2 : p[h2]? = some (some b2))
      (ne : h1 ≠ h2) : PStep v p (.concat h1 h2) (kill (kill p h1) h2 ++ [some (b1.concat b2)])
  | combine (h1 i1 h2 i2 : Nat) (b1 b2 : Bins α) (hb1 : p[h1]? = some (some b1))
      (hb2 : p[h2]? = some (some b2)) (ne : h1 ≠ h2) (hi : i1 < b1.sums.length ∧ i2 < b2.sums.length) :
      PStep v p (.combine h1 i1 h2 i2) (p.set h1 (some (b1.combine i1 b2 i2)))

theorem PStep_of_pureStep {p p' : PurePool α} {op : Op α} (hp : pureStep v p op = some p') : PStep v p op p' := by
  cases op <;>
    simp only [pureStep, Option.bind_eq_bind, Option.bind_eq_some_iff, Option.ite_none_right_eq_some,
      Option.ite_none_left_eq_some, Option.some.injEq] at hp
  case new k => subst hp; exact .new k
  case add hi x i => obtain ⟨b, hl, hlt, rfl⟩ := hp; exact .add hi x i b (live_iff.1 hl) hlt
  case copy hi => obtain ⟨b, hl, rfl⟩ := hp; exact .copy hi b (live_iff.1 hl)
  case sort hi => obtain ⟨b, hl, rfl⟩ := hp; exact .sort hi b (live_iff.1 hl)
  case addEmpty hi n => obtain ⟨b, hl, rfl⟩ := hp; exact .addEmpty hi n b (live_iff.1 hl)
  case remove hi n => obtain ⟨b, hl, hn, rfl⟩ := hp; exact .remove hi n b (live_iff.1 hl) hn
  case concat h1 h2 =>
    obtain ⟨b1, hl1, b2, hl2, ne, rfl⟩ := hp
    exact .concat h1 h2 b1 b2 (live_iff.1 hl1) (live_iff.1 hl2) ne
  case combine h1 i1 h2 i2 =>
    obtain ⟨b1, hl1, b2, hl2, ne, hlt, rfl⟩ := hp
    exact .combine h1 i1 h2 i2 b1 b2 (live_iff.1 hl1) (live_iff.1 hl2) ne hlt

/-- …and conversely: the relation is exactly the graph of `pureStep`. -/
theorem pureStep_of_PStep {p p' : PurePool α} {op : Op α} (hp : PStep v p op p') :
    pureStep v p op = some p' := by
  cases hp with
  | new k => rfl
  | add h x i b hb hi => simp [pureStep, live_iff.2 hb, hi]
  | copy h b hb => simp [pureStep, live_iff.2 hb]
  | sort h b hb => simp [pureStep, live_iff.2 hb]
  | addEmpty h n b hb => simp [pureStep, live_iff.2 hb]
  | remove h n b hb hn => simp [pureStep, live_iff.2 hb, hn]
  | concat h1 h2 b1 b2 hb1 hb2 ne => simp [pureStep, live_iff.2 hb1, live_iff.2 hb2, ne]
  | combine h1 i1 h2 i2 b1 b2 hb1 hb2 ne hi => simp [pureStep, live_iff.2 hb1, live_iff.2 hb2, ne, hi]

/-- C16, one step: every discipline-respecting step of the pure pool is matched by the heap, and the invariant is kept. -/
theorem step_refines {s : State α} {p p' : PurePool α} (h : Inv s p) (op : Op α)
    (hp : pureStep v p op = some p') : ∃ s', step v s op = some s' ∧ Inv s' p' := by
  cases PStep_of_pureStep v hp with
  | new k => exact step_new v h k
  | add hi x i b hb hlt => exact step_add v h hi x i b hb hlt
  | copy hi b hb => exact step_copy v h hi b hb
  | sort hi b hb => exact step_sort v h hi b hb
  | addEmpty hi n b hb => exact step_addEmpty v h hi n b hb
  | remove hi n b hb hn => exact step_remove v h hi n b hb hn
  | concat h1 h2 b1 b2 hb1 hb2 ne => exact step_concat v h h1 h2 b1 b2 hb1 hb2 ne
  | combine h1 i1 h2 i2 b1 b2 hb1 hb2 ne hlt => exact step_combine v h h1 i1 h2 i2 b1 b2 hb1 hb2 hlt

/-- `pureRun` and `run` are core's `List.foldlM` in `Option`: `pureRun_cons`, `pureRun_append`, `run_append` are core's
    facts, and an invariant of the step is one of the run (`foldlM_some_inv`). -/
theorem pureRun_eq_foldlM (p : PurePool α) (ops : List (Op α)) :
    pureRun v p ops = ops.foldlM (pureStep v) p := by
  induction ops generalizing p with
  | nil => rfl
  | cons op ops ih =>
    simp only [pureRun, List.foldlM_cons]
    cases pureStep v p op with
    | none => rfl
    | some p₁ => exact ih p₁

theorem run_eq_foldlM (s : State α) (ops : List (Op α)) : run v s ops = ops.foldlM (step v) s := by
  induction ops generalizing s with
  | nil => rfl
  | cons op ops ih =>
    simp only [run, List.foldlM_cons]
    cases step v s op with
    | none => rfl
    | some s₁ => exact ih s₁

theorem pureRun_cons {p p' : PurePool α} {op : Op α} {ops : List (Op α)}
    (hp : pureRun v p (op :: ops) = some p') :
    ∃ p₁, pureStep v p op = some p₁ ∧ pureRun v p₁ ops = some p' := by
  simp only [pureRun_eq_foldlM, List.foldlM_cons] at hp ⊢
  exact Option.bind_eq_some_iff.1 hp

theorem pureRun_append {p : PurePool α} (ops ops' : List (Op α)) :
    pureRun v p (ops ++ ops') = (pureRun v p ops).bind (fun q => pureRun v q ops') := by
  simp only [pureRun_eq_foldlM, List.foldlM_append]; rfl

theorem run_append {s : State α} (ops ops' : List (Op α)) :
    run v s (ops ++ ops') = (run v s ops).bind (fun q => run v q ops') := by
  simp only [run_eq_foldlM, List.foldlM_append]; rfl

theorem run_refines {s : State α} {p p' : PurePool α} (h : Inv s p) (ops : List (Op α))
    (hp : pureRun v p ops = some p') : ∃ s', run v s ops = some s' ∧ Inv s' p' := by
  induction ops generalizing s p with
  | nil => cases hp; exact ⟨s, rfl, h⟩
  | cons op ops ih =>
    obtain ⟨p1, hs, hp⟩ := pureRun_cons v hp
    obtain ⟨s1, e1, inv1⟩ := step_refines v h op hs
    obtain ⟨s', e2, inv2⟩ := ih inv1 hp
    exact ⟨s', by simp only [run, e1, e2], inv2⟩

/-- **C16, refinement.**  Any operation sequence accepted by the pure pool (i.e. respecting
    the hand-over discipline, with valid indices) runs on the aliasing heap without error, and every live
    handle denotes in the heap exactly the immutable value the pure pool assigns to it. -/
theorem heap_refines_pure (v : α → Nat) (ops : List (Heap.Op α)) (pool : Heap.PurePool α)
    (h : Heap.pureRun v [] ops = some pool) :
    ∃ s, Heap.run v Heap.State.init ops = some s ∧ s.handles.length = pool.length ∧
      ∀ (i : Nat) (b : Bins α), pool[i]? = some (some b) →
        ∃ hd, s.handles[i]? = some hd ∧ Heap.abs s hd = b := by
  obtain ⟨s, hr, inv⟩ := run_refines v inv_init ops h
  refine ⟨s, hr, inv.len, ?_⟩
  intro i b hb
  obtain ⟨hd, h1, _, h3⟩ := inv.good i b hb
  exact ⟨hd, h1, h3⟩

/-- A sequence using every operation, including the three hand-overs. -/
def exOps : List (Op (Nat × Nat)) :=
  [.new 3, .add 0 (7, 3) 1, .copy 0, .sort 0, .addEmpty 0 2, .remove 1 1, .add 3 (9, 5) 0,
   .concat 2 3, .new 2, .add 5 (4, 4) 1, .combine 4 0 5 1]

example : ∃ pool, pureRun Prod.snd [] exOps = some pool ∧ pool.length = 6 ∧
    (pool[4]?.join.map (·.sums)) = some [4, 0, 3, 0, 0, 5, 3] := ⟨_, rfl, rfl, rfl⟩

example : ∃ s, run Prod.snd State.init exOps = some s ∧ s.handles.length = 6 :=
  let ⟨s, h, hl, _⟩ := heap_refines_pure Prod.snd exOps _ rfl
  ⟨s, h, hl⟩

/-- The discipline is necessary: handle 1 was handed over to `remove`; the later `add` through the
    returned handle 3 is visible through the dead handle 1 (same buffer, same inner lists). -/
example : (run Prod.snd State.init exOps).map (fun s => (s.handles[1]?.map (abs s)).map (·.sums))
    = some (some [5, 3, 0]) := rfl

/-! ## Consistency of every live array -/

def PoolConsistent (v : α → Nat) (p : PurePool α) : Prop :=
  ∀ (i : Nat) (b : Bins α), p[i]? = some (some b) → b.Consistent v

theorem PoolConsistent.append {p : PurePool α} {b : Bins α} (hp : PoolConsistent v p)
    (hb : b.Consistent v) : PoolConsistent v (p ++ [some b]) := by
  intro i bi hi
  rcases append_live hi with ⟨_, h⟩ | ⟨_, rfl⟩
  · exact hp i bi h
  · exact hb

theorem PoolConsistent.set {p : PurePool α} {b : Bins α} (hp : PoolConsistent v p) (h : Nat)
    (hb : b.Consistent v) : PoolConsistent v (p.set h (some b)) := by
  intro i bi hi
  rcases set_live hi with ⟨_, l⟩ | ⟨_, rfl⟩
  · exact hp i bi l
  · exact hb

theorem PoolConsistent.kill {p : PurePool α} (hp : PoolConsistent v p) (h : Nat) :
    PoolConsistent v (kill p h) :=
  fun i bi hi => hp i bi (kill_live p h i bi hi).1

theorem pureStep_consistent {p p' : PurePool α} {op : Op α} (hc : PoolConsistent v p)
    (hp : pureStep v p op = some p') : PoolConsistent v p' := by
  cases PStep_of_pureStep v hp with
  | new k => exact hc.append v (Part.new_consistent v k)
  | add h x i b hb hi => exact hc.set v h (Part.add_consistent v b x i (hc h b hb))
  | copy h b hb => exact hc.append v (hc h b hb)
  | sort h b hb => exact hc.set v h (Part.sortAsc_consistent v b (hc h b hb))
  | addEmpty h n b hb => exact (hc.kill v h).append v (BinsOps.addEmpty_consistent v b n (hc h b hb))
  | remove h n b hb hn => exact (hc.kill v h).append v (BinsOps.removeLast_consistent v b n (hc h b hb))
  | concat h1 h2 b1 b2 hb1 hb2 ne =>
    exact ((hc.kill v h1).kill v h2).append v (BinsOps.concat_consistent v b1 b2 (hc h1 b1 hb1) (hc h2 b2 hb2))
  | combine h1 i1 h2 i2 b1 b2 hb1 hb2 ne hi =>
    exact hc.set v h1 (BinsOps.combine_consistent v b1 b2 i1 i2 (hc h1 b1 hb1) (hc h2 b2 hb2))

theorem pureRun_consistent {p p' : PurePool α} (ops : List (Op α)) (hc : PoolConsistent v p)
    (hp : pureRun v p ops = some p') : PoolConsistent v p' :=
  foldlM_some_inv ops (fun _ _ _ _ hc hs => pureStep_consistent v hc hs) (pureRun_eq_foldlM v p ops ▸ hp) hc

/-- C16, the pure side: from the empty pool the operations only ever produce consistent values. -/
theorem pure_consistent (ops : List (Op α)) (pool : PurePool α) (h : pureRun v [] ops = some pool) :
    PoolConsistent v pool :=
  pureRun_consistent v ops (fun i b hb => by simp at hb) h

/-- C16, consistency.  After any discipline-respecting sequence every live array of the heap is
    consistent: each bin's sum is the total value of its recorded items. -/
theorem all_consistent (v : α → Nat) (ops : List (Op α)) (pool : PurePool α)
    (h : pureRun v [] ops = some pool) :
    ∃ s, run v State.init ops = some s ∧
      ∀ i, Live pool i → ∃ hd, s.handles[i]? = some hd ∧ (abs s hd).Consistent v := by
  obtain ⟨s, hr, _, hg⟩ := heap_refines_pure v ops pool h
  refine ⟨s, hr, ?_⟩
  intro i ⟨b, hb⟩
  obtain ⟨hd, h1, h2⟩ := hg i b hb
  exact ⟨hd, h1, by rw [h2]; exact pure_consistent v ops pool h i b hb⟩

example : ∃ s, run Prod.snd State.init exOps = some s ∧
    ∀ i, Live (α := Nat × Nat) [none, none, none, none,
        some ⟨[4, 0, 3, 0, 0, 5, 3], [[(4, 4)], [], [(7, 3)], [], [], [(9, 5)], [(7, 3)]]⟩,
        some ⟨[0, 4], [[], [(4, 4)]]⟩] i →
      ∃ hd, s.handles[i]? = some hd ∧ (abs s hd).Consistent Prod.snd :=
  all_consistent Prod.snd exOps _ rfl

/-! ## Independence: a live array changes only through operations applied to itself -/

/-- `op` writes to (or hands over) the array with handle `k`.  The second argument of `combine` and the
    argument of `copy` are only read. -/
def writes : Op α → Nat → Prop
  | .new _, _ => False
  | .add h _ _, k => h = k
  | .copy _, _ => False
  | .sort h, k => h = k
  | .addEmpty h _, k => h = k
  | .remove h _, k => h = k
  | .concat h1 h2, k => h1 = k ∨ h2 = k
  | .combine h1 _ _ _, k => h1 = k

theorem pureStep_length_le {p p' : PurePool α} {op : Op α} (hp : pureStep v p op = some p') :
    p.length ≤ p'.length := by
  cases PStep_of_pureStep v hp <;> simp [kill_length]

theorem pureStep_frame {p p' : PurePool α} {op : Op α} (hp : pureStep v p op = some p') (k : Nat)
    (hk : k < p.length) (hw : ¬ writes op k) : p'[k]? = p[k]? := by
  cases PStep_of_pureStep v hp with
  | new _ => exact List.getElem?_append_left hk
  | add h x i b hb hi => exact List.getElem?_set_ne hw
  | copy h b hb => exact List.getElem?_append_left hk
  | sort h b hb => exact List.getElem?_set_ne hw
  | addEmpty h n b hb =>
    rw [List.getElem?_append_left (by rw [kill_length]; exact hk)]
    exact List.getElem?_set_ne hw
  | remove h n b hb hn =>
    rw [List.getElem?_append_left (by rw [kill_length]; exact hk)]
    exact List.getElem?_set_ne hw
  | concat h1 h2 b1 b2 hb1 hb2 ne =>
    rw [List.getElem?_append_left (by rw [kill_length, kill_length]; exact hk)]
    unfold kill
    rw [List.getElem?_set_ne (fun e => hw (Or.inr e)), List.getElem?_set_ne (fun e => hw (Or.inl e))]
  | combine h1 i1 h2 i2 b1 b2 hb1 hb2 ne hi => exact List.getElem?_set_ne hw

theorem pureRun_frame {p p' : PurePool α} (ops : List (Op α)) (hp : pureRun v p ops = some p') (k : Nat)
    (hk : k < p.length) (hw : ∀ op ∈ ops, ¬ writes op k) : p'[k]? = p[k]? :=
  -- the invariant: the pool has not become shorter, and entry `k` is the one of `p`
  (foldlM_some_inv (P := fun q => p.length ≤ q.length ∧ q[k]? = p[k]?) ops
    (fun _ _ op ho ⟨hl, he⟩ hs => ⟨Nat.le_trans hl (pureStep_length_le v hs),
      (pureStep_frame v hs k (Nat.lt_of_lt_of_le hk hl) (hw op ho)).trans he⟩)
    (pureRun_eq_foldlM v p ops ▸ hp) ⟨Nat.le_refl _, rfl⟩).2

/-- the five operations that only allocate; what that says about the heap is `step_shape` -/
def allocOnly : Op α → Prop
  | .new _ | .copy _ | .addEmpty _ _ | .remove _ _ | .concat _ _ => True
  | _ => False

/-- Heap side, in *every* state (no invariant needed): `new_bins`, `copy_bins`, `add_empty_bins`, `remove_bins`
    and `concatenate_bins` only append cells and one handle; the other operations leave the handles alone. -/
theorem step_shape {s s' : State α} {op : Op α} (h : step v s op = some s') :
    (allocOnly op → ∃ h', Ext s s' h') ∧ (¬ allocOnly op → s'.handles = s.handles) := by
  cases op <;>
    simp only [step_new_eq, step_add_eq, step_copy_eq, step_sort_eq, step_addEmpty_eq, step_remove_eq,
      step_concat_eq, step_combine_eq, Option.bind_eq_some_iff, Option.ite_none_right_eq_some,
      Option.some.injEq] at h
  case new k =>
    subst h
    exact ⟨fun _ => ⟨_, alloc_fst_eq_sh s _ _ ▸ sh_ext s _ _ _⟩, fun n => absurd trivial n⟩
  case copy hi =>
    obtain ⟨a, _, rfl⟩ := h
    exact ⟨fun _ => ⟨_, alloc_fst_eq_sh s _ _ ▸ sh_ext s _ _ _⟩, fun n => absurd trivial n⟩
  case addEmpty hi n =>
    obtain ⟨a, _, rfl⟩ := h
    exact ⟨fun _ => ⟨_, sh_ext s _ _ _⟩, fun n => absurd trivial n⟩
  case remove hi n => obtain ⟨a, _, _, rfl⟩ := h; exact ⟨fun _ => ⟨_, rm_ext s a n⟩, fun n => absurd trivial n⟩
  case concat h1 h2 =>
    obtain ⟨a, _, c, _, rfl⟩ := h
    exact ⟨fun _ => ⟨_, sh_nil s _ _ ▸ sh_ext s [] _ _⟩, fun n => absurd trivial n⟩
  case add hi x i => obtain ⟨a, _, _, rfl⟩ := h; exact ⟨False.elim, fun _ => rfl⟩
  case sort hi => obtain ⟨a, _, rfl⟩ := h; exact ⟨False.elim, fun _ => rfl⟩
  case combine h1 i1 h2 i2 => obtain ⟨a, _, c, _, _, rfl⟩ := h; exact ⟨False.elim, fun _ => rfl⟩

/-- Handle objects are never changed or removed, only created. -/
theorem step_handles {s s' : State α} {op : Op α} (h : step v s op = some s') :
    ∃ x, s'.handles = s.handles ++ x := by
  by_cases ha : allocOnly op
  · obtain ⟨h', e⟩ := (step_shape v h).1 ha
    exact ⟨[h'], e.handles⟩
  · exact ⟨[], by rw [(step_shape v h).2 ha, List.append_nil]⟩

theorem run_handles_get {s s' : State α} (ops : List (Op α)) (h : run v s ops = some s') {k : Nat}
    {hd : Handle} (hk : s.handles[k]? = some hd) : s'.handles[k]? = some hd :=
  foldlM_some_inv (P := fun t => t.handles[k]? = some hd) ops
    (fun t _ _ _ ht hs => by
      obtain ⟨x, hx⟩ := step_handles v hs
      rw [hx, List.getElem?_append_left (List.getElem?_eq_some_iff.1 ht).1, ht])
    (run_eq_foldlM v s ops ▸ h) hk

/-- C16 (and C15 at the level of the bins-managers), independence.  From any state related to a pool, a
    discipline-respecting run in which no operation writes to (or hands over) the live array `k` leaves what
    handle `k` denotes unchanged, whatever happens to the other arrays — including arrays `k` was copied
    from / to, and arrays that read `k` as the second argument of `combine_bins`. -/
theorem unwritten_unchanged {s : State α} {p p' : PurePool α} (hinv : Inv s p) (ops : List (Op α))
    (hp : pureRun v p ops = some p') (k : Nat) (hd : Handle) (hl : Live p k)
    (hk : s.handles[k]? = some hd) (hw : ∀ op ∈ ops, ¬ writes op k) :
    ∃ s', run v s ops = some s' ∧ Inv s' p' ∧ s'.handles[k]? = some hd ∧ abs s' hd = abs s hd := by
  obtain ⟨s', hr, inv'⟩ := run_refines v hinv ops hp
  obtain ⟨b, hb⟩ := hl
  have hklt : k < p.length := (List.getElem?_eq_some_iff.1 hb).1
  have hb' : p'[k]? = some (some b) := by rw [pureRun_frame v ops hp k hklt hw, hb]
  have hk' := run_handles_get v ops hr hk
  exact ⟨s', hr, inv', hk', by rw [(inv'.good_at hb' hk').2, (hinv.good_at hb hk).2]⟩

/-- C16, copies are independent in both directions.  After `ops ++ [copy h]` the original `h` and the
    copy `c` (the last handle) denote the same value; in any continuation `ops'`, if no operation writes
    to the original then the original keeps its value whatever is done to the copy, and if no operation
    writes to the copy then the copy keeps its value whatever is done to the original. -/
theorem copy_independent (v : α → Nat) (ops ops' : List (Op α)) (h : Nat) (pool pool' : PurePool α)
    (h1 : pureRun v [] (ops ++ [.copy h]) = some pool) (h2 : pureRun v pool ops' = some pool') :
    ∃ s s' ho hc, run v State.init (ops ++ [.copy h]) = some s ∧
      run v State.init (ops ++ [.copy h] ++ ops') = some s' ∧
      h ≠ pool.length - 1 ∧
      s.handles[h]? = some ho ∧ s.handles[pool.length - 1]? = some hc ∧
      s'.handles[h]? = some ho ∧ s'.handles[pool.length - 1]? = some hc ∧
      abs s hc = abs s ho ∧
      ((∀ op ∈ ops', ¬ writes op h) → abs s' ho = abs s ho) ∧
      ((∀ op ∈ ops', ¬ writes op (pool.length - 1)) → abs s' hc = abs s hc) := by
  -- the pool just before the copy is `q`, just after it `q ++ [some b]` with `b` the value of `h`
  have h1' := h1
  rw [pureRun_append] at h1'
  obtain ⟨q, _, h1'⟩ := Option.bind_eq_some_iff.1 h1'
  obtain ⟨q1, hcpy, hq1⟩ := pureRun_cons v h1'
  cases hq1
  cases PStep_of_pureStep v hcpy with
  | copy _ b hb =>
    have hlt : h < q.length := (List.getElem?_eq_some_iff.1 hb).1
    have hc0 : (q ++ [some b]).length - 1 = q.length := by simp
    rw [hc0]
    have lh : (q ++ [some b])[h]? = some (some b) := by
      rw [List.getElem?_append_left hlt]; exact hb
    have lc : (q ++ [some b])[q.length]? = some (some b) := by simp
    obtain ⟨s, hr, inv⟩ := run_refines v inv_init _ h1
    obtain ⟨ho, o1, _, o3⟩ := inv.good h b lh
    obtain ⟨hc, c1, _, c3⟩ := inv.good q.length b lc
    obtain ⟨s', hr', inv'⟩ := run_refines v inv ops' h2
    have hfull : run v State.init (ops ++ [.copy h] ++ ops') = some s' := by
      rw [run_append, hr]; exact hr'
    refine ⟨s, s', ho, hc, hr, hfull, by omega, o1, c1, run_handles_get v ops' hr' o1,
      run_handles_get v ops' hr' c1, by rw [o3, c3], ?_, ?_⟩
    · intro hw
      obtain ⟨s'', hr'', _, _, e⟩ := unwritten_unchanged v inv ops' h2 h ho ⟨b, lh⟩ o1 hw
      rw [hr'] at hr''; cases hr''; exact e
    · intro hw
      obtain ⟨s'', hr'', _, _, e⟩ := unwritten_unchanged v inv ops' h2 q.length hc ⟨b, lc⟩ c1 hw
      rw [hr'] at hr''; cases hr''; exact e

/-- `copy_independent` applied to a concrete sequence: after the copy (handle 1) the original (handle 0) is sorted and
    handed over to `add_empty_bins`.  The two `rfl` show that both pure runs succeed (the pools `_ _` are computed), so
    the conclusion of `copy_independent` holds for these `ops`, `ops'`.  Its last conjunct stays an implication: the
    hypothesis is the next `example`, and `abs s' hc = abs s hc` for this sequence is not derived. -/
example :=
  copy_independent Prod.snd [.new 3, .add 0 (7, 3) 1] [.sort 0, .addEmpty 0 2, .add 2 (1, 1) 4] 0 _ _ rfl rfl

/-- No operation of the continuation `ops'` of the `example` above writes to the copy (handle 1, there
    `pool.length - 1`): the hypothesis of the last conjunct of `copy_independent`. -/
example : ∀ op ∈ ([.sort 0, .addEmpty 0 2, .add 2 (1, 1) 4] : List (Op (Nat × Nat))), ¬ writes op 1 := by
  simp [writes]

/-! ## The call itself never alters an argument documented as unmodified -/

/-- C16: arguments of the allocating calls are unmodified, in every state: whatever a handle with allocated
    ids denotes before `concatenate_bins` / `add_empty_bins` / `remove_bins` / `copy_bins` / `new_bins`, it
    denotes after the call (the call itself changes no argument; only *later* writes through the returned
    array can show through a handed-over argument). -/
theorem args_unmodified_alloc {s s' : State α} {op : Op α} (ha : allocOnly op) (h : step v s op = some s')
    (hd : Handle) (hv : Valid s hd) : abs s' hd = abs s hd := by
  obtain ⟨h', e⟩ := (step_shape v h).1 ha
  exact (e.keeps hv).abs_eq

/-- `op` mutates the array with handle `k` in place -/
def mutates : Op α → Nat → Prop
  | .add h _ _, k => h = k
  | .sort h, k => h = k
  | .combine h1 _ _ _, k => h1 = k
  | _, _ => False

/-- The three operations that are not `allocOnly` (`add`, `sort`, `combine`) write to the array they mutate in place
    and to no other: on them `writes` and `mutates` are the same proposition.  (An `allocOnly` operation mutates
    nothing, and `writes` the arrays it hands over.) -/
theorem writes_iff_mutates {op : Op α} (ha : ¬ allocOnly op) (k : Nat) : writes op k ↔ mutates op k := by
  cases op <;> first | exact absurd trivial ha | exact Iff.rfl

/-- C16 (and C15 at the level of the bins-managers): every call leaves its documented-unmodified arguments
    alone.  Under the invariant, for a call accepted by the discipline, every live array that the operation
    does not mutate in place (`add_item_to_bin` / `sort_by_ascending_sum` on it, or first argument of
    `combine_bins`) denotes the same value immediately after the call — in particular both arguments of
    `concatenate_bins`, the argument of `add_empty_bins`, `remove_bins`, `copy_bins`, and the second argument
    of `combine_bins`. -/
theorem args_unmodified {s s' : State α} {p p' : PurePool α} (hinv : Inv s p) (op : Op α)
    (hp : pureStep v p op = some p') (hs : step v s op = some s') (k : Nat) (hd : Handle)
    (hl : Live p k) (hk : s.handles[k]? = some hd) (hm : ¬ mutates op k) : abs s' hd = abs s hd := by
  by_cases ha : allocOnly op
  · obtain ⟨b, hb⟩ := hl
    exact args_unmodified_alloc v ha hs hd (hinv.good_at hb hk).1.toValid
  · -- an in-place operation is a run of length one that does not write `k`
    have hw : ¬ writes op k := mt (writes_iff_mutates ha k).1 hm
    obtain ⟨s'', hr, _, _, e⟩ := unwritten_unchanged v hinv [op] (p' := p') (by simp only [pureRun, hp]) k hd hl hk
      (fun o ho => List.mem_singleton.1 ho ▸ hw)
    simp only [run, hs, Option.some.injEq] at hr
    exact hr ▸ e

/-- C16: the second argument of `combine_bins` is unmodified (under the invariant, i.e. when the two arrays
    are distinct live arrays): the call writes only into cells owned by the first argument. -/
theorem args_unmodified_combine {s s' : State α} {p p' : PurePool α} (hinv : Inv s p) (h1 i1 h2 i2 : Nat)
    (hp : pureStep v p (.combine h1 i1 h2 i2) = some p') (hs : step v s (.combine h1 i1 h2 i2) = some s')
    (c : Handle) (hc : s.handles[h2]? = some c) : abs s' c = abs s c := by
  cases PStep_of_pureStep v hp with
  | combine _ _ _ _ b1 b2 hb1 hb2 ne hi => exact args_unmodified v hinv _ hp hs h2 c ⟨b2, hb2⟩ hc ne

/-- `args_unmodified_alloc` for `remove_bins` on a concrete heap -/
example : ∃ s s', run Prod.snd State.init [.new 2, .add 0 (7, 3) 1] = some s ∧
    step Prod.snd s (.remove 0 1) = some s' ∧ abs s' ⟨0, 2, 0⟩ = abs s ⟨0, 2, 0⟩ := by
  refine ⟨_, _, rfl, rfl, ?_⟩
  exact args_unmodified_alloc Prod.snd (op := .remove 0 1) trivial rfl _
    ⟨by decide, by decide, by decide⟩

/-- `args_unmodified_combine`: `combine_bins(a0, 0, a1, 1)` leaves `a1` alone -/
example : ∃ s s' c, run Prod.snd State.init [.new 2, .new 2, .add 1 (4, 4) 1] = some s ∧
    step Prod.snd s (.combine 0 0 1 1) = some s' ∧ s.handles[1]? = some c ∧ abs s' c = abs s c ∧
    (abs s' ⟨0, 2, 0⟩).sums = [4, 0] := by
  obtain ⟨s, hr, inv⟩ := run_refines Prod.snd inv_init
    ([.new 2, .new 2, .add 1 (4, 4) 1] : List (Op (Nat × Nat))) (p' := _) rfl
  obtain ⟨s', hs, _⟩ := step_refines Prod.snd inv (.combine 0 0 1 1) (p' := _) rfl
  obtain ⟨c, hc, _, _⟩ := inv.good 1 _ rfl
  refine ⟨s, s', c, hr, hs, hc, args_unmodified_combine Prod.snd inv 0 0 1 1 rfl hs c hc, ?_⟩
  cases hr; cases hs; rfl

/-! ## The sums-only manager: sums depend only on the values of the items -/

section Forget
variable {β : Type}

/-- substitute item names in an operation -/
def mapItem (f : α → β) : Op α → Op β
  | .new k => .new k
  | .add h x i => .add h (f x) i
  | .copy h => .copy h
  | .sort h => .sort h
  | .addEmpty h n => .addEmpty h n
  | .remove h n => .remove h n
  | .concat h1 h2 => .concat h1 h2
  | .combine h1 i1 h2 i2 => .combine h1 i1 h2 i2

def mapPool (f : α → β) (p : PurePool α) : PurePool β := p.map (Option.map (Bins.mapItems f))

theorem mapPool_get (f : α → β) {p : PurePool α} {h : Nat} {b : Bins α} (hb : p[h]? = some (some b)) :
    (mapPool f p)[h]? = some (some (b.mapItems f)) := by
  simp [mapPool, List.getElem?_map, hb]

theorem mapPool_append (f : α → β) (p : PurePool α) (b : Bins α) :
    mapPool f (p ++ [some b]) = mapPool f p ++ [some (b.mapItems f)] := by
  simp [mapPool]

theorem mapPool_set (f : α → β) (p : PurePool α) (h : Nat) (b : Bins α) :
    mapPool f (p.set h (some b)) = (mapPool f p).set h (some (b.mapItems f)) := by
  simp [mapPool, List.map_set]

theorem mapPool_kill (f : α → β) (p : PurePool α) (h : Nat) :
    mapPool f (kill p h) = kill (mapPool f p) h := by
  simp [mapPool, kill, List.map_set]

/-- The pure step commutes with renaming items by any value-preserving map. -/
theorem PStep_map (f : α → β) (w : β → Nat) (hw : ∀ x, w (f x) = v x) {p p' : PurePool α} {op : Op α}
    (hp : PStep v p op p') : PStep w (mapPool f p) (mapItem f op) (mapPool f p') := by
  cases hp with
  | new k =>
    rw [mapPool_append, BinsOps.mapItems_new]; exact .new k
  | add h x i b hb hi =>
    rw [mapPool_set, BinsOps.mapItems_add f v w hw b x i]
    exact .add h (f x) i _ (mapPool_get f hb) hi
  | copy h b hb => rw [mapPool_append]; exact .copy h _ (mapPool_get f hb)
  | sort h b hb =>
    rw [mapPool_set, BinsOps.mapItems_sortAsc]; exact .sort h _ (mapPool_get f hb)
  | addEmpty h n b hb =>
    rw [mapPool_append, mapPool_kill, BinsOps.mapItems_addEmpty]
    exact .addEmpty h n _ (mapPool_get f hb)
  | remove h n b hb hn =>
    rw [mapPool_append, mapPool_kill, BinsOps.mapItems_removeLast]
    exact .remove h n _ (mapPool_get f hb) hn
  | concat h1 h2 b1 b2 hb1 hb2 ne =>
    rw [mapPool_append, mapPool_kill, mapPool_kill, BinsOps.mapItems_concat]
    exact .concat h1 h2 _ _ (mapPool_get f hb1) (mapPool_get f hb2) ne
  | combine h1 i1 h2 i2 b1 b2 hb1 hb2 ne hi =>
    rw [mapPool_set, BinsOps.mapItems_combine]
    exact .combine h1 i1 h2 i2 _ _ (mapPool_get f hb1) (mapPool_get f hb2) ne hi

theorem pureRun_map (f : α → β) (w : β → Nat) (hw : ∀ x, w (f x) = v x) {p p' : PurePool α}
    (ops : List (Op α)) (hp : pureRun v p ops = some p') :
    pureRun w (mapPool f p) (ops.map (mapItem f)) = some (mapPool f p') := by
  induction ops generalizing p with
  | nil => cases hp; rfl
  | cons op ops ih =>
    obtain ⟨p1, hs, hp⟩ := pureRun_cons v hp
    have := pureStep_of_PStep w (PStep_map v f w hw (PStep_of_pureStep v hs))
    simp only [List.map_cons, pureRun, this]
    exact ih hp

end Forget

/-- C16, the sums do not depend on what the items are.  Replace every item by its value (`mapItem v`, value
    function `id`) and run the same heap: the run still succeeds and every live handle denotes the same bins-array
    with the items renamed, hence the same sums (the last conjunct is the `sums` component of the one before).
    This is naturality of the heap in the item type.  The sums-only manager `BinnerKeepingSums` is *modelled* as this
    projection (head comment of `Prtpy/Heap.lean`: the same heap with the lists ignored); there is no separate model
    of it that this theorem would compare with.  The effect of each operation on the sums alone is given by
    `BinsOps.forget_*`. -/
theorem sums_forget (v : α → Nat) (ops : List (Op α)) (pool : PurePool α)
    (h : pureRun v [] ops = some pool) :
    ∃ s t, run v State.init ops = some s ∧ run id State.init (ops.map (mapItem v)) = some t ∧
      s.handles.length = t.handles.length ∧
      ∀ i, Live pool i → ∃ hs ht, s.handles[i]? = some hs ∧ t.handles[i]? = some ht ∧
        abs t ht = (abs s hs).mapItems v ∧ (abs t ht).sums = (abs s hs).sums := by
  obtain ⟨s, hr, hl, hg⟩ := heap_refines_pure v ops pool h
  have h' := pureRun_map v v id (fun _ => rfl) ops h
  obtain ⟨t, hr', hl', hg'⟩ := heap_refines_pure id _ _ h'
  refine ⟨s, t, hr, hr', by rw [hl, hl']; simp [mapPool], ?_⟩
  intro i ⟨b, hb⟩
  obtain ⟨hs, s1, s2⟩ := hg i b hb
  obtain ⟨ht, t1, t2⟩ := hg' i _ (mapPool_get v hb)
  exact ⟨hs, ht, s1, t1, by rw [t2, s2], by rw [t2, s2]; rfl⟩

/-- `sums_forget` applied to `exOps`: the pure run succeeds (`rfl`; the pool `_` is computed), so the conclusion of
    `sums_forget` holds for this sequence. -/
example := sums_forget Prod.snd exOps _ rfl

end Prtpy.HeapRefine
