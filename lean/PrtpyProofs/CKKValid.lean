/-
  PrtpyProofs.CKKValid — validity (C01) of complete Karmarkar–Karp (`ckk`, the code before fix F11) and of its
  generator (`ckkGen`), strict improvement of the generator in improve-only mode (C11), for both bins managers, and
  the validity of `rnp` (numbins ≤ 5) relative to that of the 2-way search it calls (`rnp_isPartition_of`; here
  because it needs `ckkGen_valid` and `kkValid` of this file).

  The loop is `Iter.run` (`ckkRun_eq_search`), and `ckkRun_inv` is `Iter.run_inv`: the lemma that carries an invariant
  of one iteration to a run, here and in CKKOpt, CKKGenComplete, Total and RNPDict.
  One iteration of the search is described once, by `Step` (`searchStep_step`), read off the equations of
  `searchBody` — the loop with the list of combinations as a parameter, of which `ckkF` (the code after F11) is the
  other instance; the invariants of the loop, here and in CKKOpt, CKKGenComplete and Total, are proved by cases on
  `Step`.  `step_lossless` is the one among them that says the search loses nothing.  Validity needs only the weak
  consequence `StepRel` (`stepRel_inv`).  Contents manager: every heap on the stack holds exactly the items (`HInv`;
  `EOK`, `HInv` and what `hpush`, `pushAll` and a pop-pop-push step do to them — `hpush_inv`, `init_inv`, `hinv_push2` —
  are declared into this namespace in Part.lean, because `kk` shares them).
  Sums-only manager: every heap is the image, entry by entry, of such a heap (`Sim`, `SInvS`).

  The 2-way search that snp/rnp call is `ckkF`, whose validity is proved in PrtpyProofs/CKKF.lean, which imports this
  file: the unconditional `ckkValid`, `snp_isPartition'`, `rnp_isPartition` of this namespace stand in
  PrtpyProofs/CKKFSwitch.lean.
-/
import Mathlib.Data.List.Perm.Basic
import PrtpyProofs.Iter
import PrtpyProofs.Obj
import PrtpyProofs.Oracle
import PrtpyProofs.Runs
import PrtpyProofs.Part
import PrtpyProofs.SNP
import PrtpyProofs.CKK
import PrtpyProofs.RNPRound
import PrtpyProofs.AllComb
import PrtpyProofs.BinsOps

namespace Prtpy.CKKValid
open Prtpy
variable {α : Type}

/-- What one iteration of the search loop can do, as far as validity needs it (`Step` below is the exact description):
    the stack gains only children of its heaps (the two best tuples replaced by one of their combinations); the
    incumbent changes only to the tuple of a one-tuple heap that beats it.  The lemmas `*_cases` give `StepRel`, the
    lemmas `*_step` give `Step`. -/
def StepRel (nm : α → Nat) [BEq α] (contents gen isBest : Bool) (s s' : CkkState α) : Prop :=
    (∀ h' ∈ s'.stack, h' ∈ s.stack ∨
        ∃ h e1 h1 e2 h2 nb c, h ∈ s.stack ∧ hpop h = some (e1, h1) ∧ hpop h1 = some (e2, h2) ∧
          nb ∈ allComb nm contents e1.bins e2.bins ∧ h' = (hpush h2 c nb).1) ∧
    ((s'.best = s.best ∧ s'.yields = s.yields ∧ s'.bestP = s.bestP) ∨
     ∃ e, [e] ∈ s.stack ∧ EInt.lt s.best (.fin (-(e.diff : Int))) = true ∧
       s'.best = (if isBest || !gen then .fin (-(e.diff : Int)) else s.best) ∧
       s'.yields = e.bins :: s.yields ∧ s'.bestP = some e.bins)

/-! ### the search loop with the list of combinations as a parameter

  `ckkStep` (Model/KK.lean) and `ckkStepF` (Model/CKKF.lean, the code after fix F11) differ only in the bins-arrays they
  push for the two best tuples of a heap: all of `allComb`, or those that `dedupSums` keeps.  What does not depend on
  that list is stated for `searchStep`; `ckk`/`ckkGen` are the instance `combs = allComb nm contents`. -/

/-- the part of an iteration after the heap `h` has been popped off the stack and has survived the bound test -/
def searchBody (combs : Bins α → Bins α → List (Bins α)) (gen isBest : Bool) (h : Heap α) (s : CkkState α) :
    CkkState α :=
    if h.length == 1 then
      let d : Int := -((topDiffOf h : Nat) : Int)
      if EInt.lt s.best (.fin d) then
        let bp := (htop h).map (·.bins)
        let s := { s with best := if isBest || !gen then .fin d else s.best, bestP := bp,
                          yields := match bp with | some b => b :: s.yields | none => s.yields }
        if d == 0 && (isBest || !gen) then { s with done := true } else s
      else s
    else
      match hpop h with
      | none => s
      | some (e1, h1) =>
        match hpop h1 with
        | none => s
        | some (e2, h2) =>
          let r := (combs e1.bins e2.bins).foldl (fun (acc : List (Heap α) × Nat) nb =>
                      let p := hpush h2 acc.2 nb; (acc.1 ++ [p.1], p.2)) ([], s.cnt)
          let ext := sortDesc topDiffOf r.1
          { s with stack := ext.reverse ++ s.stack, cnt := r.2 }

def prunedB (k : Nat) (h : Heap α) (best : EInt) : Bool :=
  match ckkBound h k with
  | none => false
  | some lb => EInt.le (.fin lb) best

/-- the bound test reads the sums of the heap only: heaps with equal keys, for any notion of key from which the sums
    can be read (`s`), are cut off alike -/
theorem prunedB_keys {β κ : Type} {kα : HEntry α → κ} {kβ : HEntry β → κ} (s : κ → List Nat)
    (hα : ∀ e, s (kα e) = e.bins.sums) (hβ : ∀ e, s (kβ e) = e.bins.sums) {h : Heap α} {g : Heap β}
    (hk : h.map kα = g.map kβ) (k : Nat) (B : EInt) : prunedB k h B = prunedB k g B := by
  unfold prunedB ckkBound
  rw [Part.flatMap_sums_keys s hα hβ hk]

def searchStep (combs : Bins α → Bins α → List (Bins α)) (k : Nat) (gen isBest : Bool) (s : CkkState α) :
    CkkState α :=
  match s.stack with
  | [] => { s with done := true }
  | h :: stack =>
    if prunedB k h s.best then { s with stack := stack }
    else searchBody combs gen isBest h { s with stack := stack }

/-- the answer of `ckk` / `ckkF`, read off the final state of the loop -/
def resultOf (s : CkkState α) : Except Err (Bins α) :=
  if !s.done then .error .fuel else
  match s.bestP with
  | none => .error .indexError
  | some b => .ok b.sortAsc

theorem ckkStep_eq_search (nm : α → Nat) [BEq α] (k : Nat) (contents gen isBest : Bool) (s : CkkState α) :
    ckkStep nm k contents gen isBest s = searchStep (allComb nm contents) k gen isBest s := by
  unfold ckkStep searchStep searchBody prunedB
  rfl

theorem ckkRun_eq_search (nm : α → Nat) [BEq α] (k : Nat) (contents gen isBest : Bool) (fuel : Nat)
    (s : CkkState α) :
    ckkRun nm k contents gen isBest fuel s =
      Iter.run (·.done) (searchStep (allComb nm contents) k gen isBest) fuel s := by
  rw [Iter.ckkRun_eq, funext (ckkStep_eq_search nm k contents gen isBest)]

theorem ckk_eq_resultOf (v nm : α → Nat) [BEq α] (k : Nat) (contents : Bool) (items : List α) (fuel : Nat) :
    ckk v nm k contents items fuel = resultOf (ckkRun nm k contents false true fuel (ckkInit v k items .negInf)) :=
  rfl

theorem resultOf_ok {s : CkkState α} {b : Bins α} (h : resultOf s = .ok b) :
    s.done = true ∧ ∃ b0, s.bestP = some b0 ∧ b = b0.sortAsc := by
  unfold resultOf at h
  split at h
  · cases h
  · rename_i hd
    split at h
    · cases h
    · rename_i b0 hb0
      cases h
      exact ⟨by simpa using hd, b0, hb0, rfl⟩

theorem resultOf_sorted {s : CkkState α} {b : Bins α} (h : resultOf s = .ok b) : b.sums.Pairwise (· ≤ ·) := by
  obtain ⟨_, b0, _, rfl⟩ := resultOf_ok h
  exact Part.sortAsc_sums_sorted _

theorem resultOf_of_done {s : CkkState α} (hd : s.done = true) :
    resultOf s ≠ .error .fuel ∧ (s.bestP ≠ none → ∃ b, resultOf s = .ok b) := by
  simp only [resultOf, hd, Bool.not_true, Bool.false_eq_true, if_false]
  cases s.bestP with
  | none => exact ⟨by simp, fun h => absurd rfl h⟩
  | some b => exact ⟨by simp, fun _ => ⟨_, rfl⟩⟩

theorem topDiffOf_singleton (e : HEntry α) : topDiffOf [e] = e.diff := rfl

/-! `searchBody` by the shape of the popped heap: one tuple (a complete partition), or at least two; on the empty
    heap it is the identity by computation. -/

theorem searchBody_single (combs : Bins α → Bins α → List (Bins α)) (gen isBest : Bool) (e : HEntry α)
    (s : CkkState α) :
    searchBody combs gen isBest [e] s =
      if EInt.lt s.best (.fin (-(e.diff : Int))) then
        if -(e.diff : Int) == 0 && (isBest || !gen) then
          { s with best := if isBest || !gen then .fin (-(e.diff : Int)) else s.best,
                   bestP := some e.bins, yields := e.bins :: s.yields, done := true }
        else
          { s with best := if isBest || !gen then .fin (-(e.diff : Int)) else s.best,
                   bestP := some e.bins, yields := e.bins :: s.yields }
      else s := rfl

theorem searchBody_expand (combs : Bins α → Bins α → List (Bins α)) (gen isBest : Bool) {h h1 h2 : Heap α}
    {e1 e2 : HEntry α} (s : CkkState α) (hlen : h.length ≠ 1) (hp1 : hpop h = some (e1, h1))
    (hp2 : hpop h1 = some (e2, h2)) :
    searchBody combs gen isBest h s =
      let r := (combs e1.bins e2.bins).foldl (fun (acc : List (Heap α) × Nat) nb =>
                  let p := hpush h2 acc.2 nb; (acc.1 ++ [p.1], p.2)) ([], s.cnt)
      { s with stack := (sortDesc topDiffOf r.1).reverse ++ s.stack, cnt := r.2 } := by
  unfold searchBody
  rw [if_neg (by simpa using hlen)]
  simp only [hp1, hp2]

theorem heap_cases (h : Heap α) :
    h = [] ∨ (∃ e, h = [e]) ∨
      ∃ e1 h1 e2 h2, h.length ≠ 1 ∧ hpop h = some (e1, h1) ∧ hpop h1 = some (e2, h2) ∧ h.Perm (e1 :: e2 :: h2) := by
  match h with
  | [] => exact Or.inl rfl
  | [e] => exact Or.inr (Or.inl ⟨e, rfl⟩)
  | a :: b :: t =>
    obtain ⟨e1, h1, hp1, hperm1⟩ := Part.hpop_some (a :: b :: t) (List.cons_ne_nil _ _)
    have hne1 : h1 ≠ [] := by
      rintro rfl
      simpa using hperm1.length_eq
    obtain ⟨e2, h2, hp2, hperm2⟩ := Part.hpop_some h1 hne1
    exact Or.inr (Or.inr ⟨e1, h1, e2, h2, by simp, hp1, hp2, hperm1.trans (hperm2.cons e1)⟩)

/-! ### what one iteration does, exactly

  `clones` is the closed form of the `foldl` that pushes every combination on a clone of `h2`; `Step` lists the six
  things an iteration can do.  Every invariant of the loop is proved by cases on `Step` (`searchStep_step`). -/

/-- the clones of `h2`, one per combination, pushed with consecutive counters starting at `c` -/
def clones (h2 : Heap α) : Nat → List (Bins α) → List (Heap α)
  | _, [] => []
  | c, nb :: rest => (hpush h2 c nb).1 :: clones h2 (c + 1) rest

theorem foldl_push_eq (h2 : Heap α) (combs : List (Bins α)) (acc : List (Heap α) × Nat) :
    combs.foldl (fun (acc : List (Heap α) × Nat) nb => let p := hpush h2 acc.2 nb; (acc.1 ++ [p.1], p.2)) acc
      = (acc.1 ++ clones h2 acc.2 combs, acc.2 + combs.length) := by
  induction combs generalizing acc with
  | nil => simp [clones]
  | cons nb rest ih =>
    rw [List.foldl_cons, ih]
    simp only [clones, List.append_assoc, List.singleton_append, List.length_cons, hpush]
    rw [Nat.add_assoc, Nat.add_comm 1]

theorem mem_clones {h2 : Heap α} {c : Nat} {combs : List (Bins α)} {g : Heap α} (hg : g ∈ clones h2 c combs) :
    ∃ nb ∈ combs, ∃ c', c ≤ c' ∧ c' < c + combs.length ∧ g = (hpush h2 c' nb).1 := by
  induction combs generalizing c with
  | nil => cases hg
  | cons nb rest ih =>
    rcases List.mem_cons.1 hg with rfl | hg
    · exact ⟨nb, List.mem_cons_self, c, Nat.le_refl _, by simp, rfl⟩
    · obtain ⟨nb', hnb', c', h1, h2', hc'⟩ := ih hg
      exact ⟨nb', List.mem_cons_of_mem _ hnb', c', by omega, by simp only [List.length_cons]; omega, hc'⟩

theorem clones_complete (h2 : Heap α) (c : Nat) {combs : List (Bins α)} {nb : Bins α} (hnb : nb ∈ combs) :
    ∃ c', (hpush h2 c' nb).1 ∈ clones h2 c combs := by
  induction combs generalizing c with
  | nil => cases hnb
  | cons nb0 rest ih =>
    rcases List.mem_cons.1 hnb with rfl | hnb
    · exact ⟨c, List.mem_cons_self⟩
    · obtain ⟨c', hc'⟩ := ih (c + 1) hnb
      exact ⟨c', List.mem_cons_of_mem _ hc'⟩

/-- the children of a heap with two best tuples `e1`, `e2` and rest `h2`, in the order in which they go on the stack -/
def children (combs : List (Bins α)) (h2 : Heap α) (c : Nat) : List (Heap α) :=
  (sortDesc topDiffOf (clones h2 c combs)).reverse

theorem children_perm (combs : List (Bins α)) (h2 : Heap α) (c : Nat) :
    (children combs h2 c).Perm (clones h2 c combs) :=
  (List.reverse_perm _).trans (Part.sortDesc_perm _ _)

/-- One iteration of the loop, from the state `s`: the stack is empty (`stop`); the top heap `h` is cut off by the
    bound (`prune`); it is a complete partition that does not beat (`leafNo`) or beats (`leafYes`) the incumbent; it
    has two best tuples and is replaced by its children (`expand`).  `noHeap` (an empty heap on the stack) does not
    occur in a run on a non-empty input (the hypothesis `hnil` of `step_lossless`, met through `CKKOpt.HGood.ne`); on
    `items = []` the initial stack is `[[]]` and it is the only step besides `stop` (`stepRel_empty`). -/
inductive Step (combs : Bins α → Bins α → List (Bins α)) (k : Nat) (gen isBest : Bool) (s : CkkState α) :
    CkkState α → Prop
  | stop : s.stack = [] → Step combs k gen isBest s { s with done := true }
  | prune {h : Heap α} {st : List (Heap α)} : s.stack = h :: st → prunedB k h s.best = true →
      Step combs k gen isBest s { s with stack := st }
  | noHeap {st : List (Heap α)} : s.stack = [] :: st → Step combs k gen isBest s { s with stack := st }
  | leafNo {e : HEntry α} {st : List (Heap α)} : s.stack = [e] :: st → prunedB k [e] s.best = false →
      EInt.lt s.best (.fin (-(e.diff : Int))) = false → Step combs k gen isBest s { s with stack := st }
  | leafYes {e : HEntry α} {st : List (Heap α)} : s.stack = [e] :: st → prunedB k [e] s.best = false →
      EInt.lt s.best (.fin (-(e.diff : Int))) = true →
      Step combs k gen isBest s
        { s with stack := st, best := if isBest || !gen then .fin (-(e.diff : Int)) else s.best,
                 bestP := some e.bins, yields := e.bins :: s.yields,
                 done := (decide (e.diff = 0) && (isBest || !gen)) || s.done }
  | expand {h h1 h2 : Heap α} {e1 e2 : HEntry α} {st : List (Heap α)} : s.stack = h :: st →
      prunedB k h s.best = false → hpop h = some (e1, h1) → hpop h1 = some (e2, h2) → h.Perm (e1 :: e2 :: h2) →
      Step combs k gen isBest s
        { s with stack := children (combs e1.bins e2.bins) h2 s.cnt ++ st,
                 cnt := s.cnt + (combs e1.bins e2.bins).length }

theorem searchStep_step (combs : Bins α → Bins α → List (Bins α)) (k : Nat) (gen isBest : Bool) (s : CkkState α) :
    Step combs k gen isBest s (searchStep combs k gen isBest s) := by
  unfold searchStep
  split
  · exact .stop ‹_›
  · rename_i h st hst
    cases hpr : prunedB k h s.best
    swap
    · exact .prune hst hpr
    simp only [Bool.false_eq_true, if_false]
    rcases heap_cases h with rfl | ⟨e, rfl⟩ | ⟨e1, h1, e2, h2, hlen, hp1, hp2, hperm⟩
    · exact .noHeap hst
    · rw [searchBody_single]
      cases hlt : EInt.lt s.best (.fin (-(e.diff : Int)))
      · exact .leafNo hst hpr hlt
      · have h := Step.leafYes (combs := combs) (gen := gen) (isBest := isBest) hst hpr hlt
        rw [if_pos rfl]
        -- `simpa … using h` only brings the `done` field of `Step.leafYes` to the nested `if` of `searchBody_single`;
        -- `s.done = false` is not assumed, hence its `|| s.done`
        by_cases hz : e.diff = 0
        · by_cases hm : (isBest || !gen) = true <;> simpa [hz, hm] using h
        · have : (-(e.diff : Int) == 0) = false := by simpa using hz
          simpa [hz, this] using h
    · rw [searchBody_expand combs gen isBest _ hlen hp1 hp2, foldl_push_eq]
      exact .expand hst hpr hp1 hp2 hperm

theorem ckkStep_step (nm : α → Nat) [BEq α] (k : Nat) (contents gen isBest : Bool) (s : CkkState α) :
    Step (allComb nm contents) k gen isBest s (ckkStep nm k contents gen isBest s) :=
  ckkStep_eq_search nm k contents gen isBest s ▸ searchStep_step _ k gen isBest s

theorem mem_children_of_mem {combs : List (Bins α)} {nb : Bins α} (hnb : nb ∈ combs) (h2 : Heap α) (c : Nat) :
    ∃ c', (hpush h2 c' nb).1 ∈ children combs h2 c := by
  obtain ⟨c', hc'⟩ := clones_complete h2 c hnb
  exact ⟨c', (children_perm _ _ _).mem_iff.2 hc'⟩

/-- a target of the search (a sum-vector, a split) is settled (`S`, a property of the incumbent difference and of the
    yields) or still represented (`Rep`) by a heap on the stack -/
def Lossless (Rep : Heap α → Prop) (S : EInt → List (Bins α) → Prop) (s : CkkState α) : Prop :=
  S s.best s.yields ∨ ∃ h ∈ s.stack, Rep h

/-- **The search loses nothing**: an iteration keeps the target covered if the bound cuts off only heaps whose targets
    are settled, a complete partition settles its targets when it is compared with the incumbent, and what a heap
    represents is represented by one of its children. -/
theorem step_lossless {Rep : Heap α → Prop} {S : EInt → List (Bins α) → Prop}
    {combs : Bins α → Bins α → List (Bins α)} {k : Nat} {gen isBest : Bool} {s s' : CkkState α}
    (hstep : Step combs k gen isBest s s') (hnil : [] ∉ s.stack)
    (hprune : ∀ h ∈ s.stack, prunedB k h s.best = true → Rep h → S s.best s.yields)
    (hleafNo : ∀ e, [e] ∈ s.stack → EInt.lt s.best (.fin (-(e.diff : Int))) = false → Rep [e] →
      S s.best s.yields)
    (hleafYes : ∀ e, [e] ∈ s.stack → EInt.lt s.best (.fin (-(e.diff : Int))) = true →
      (Rep [e] ∨ S s.best s.yields) →
      S (if isBest || !gen then .fin (-(e.diff : Int)) else s.best) (e.bins :: s.yields))
    (hexp : ∀ h e1 e2 h2, h ∈ s.stack → h.Perm (e1 :: e2 :: h2) → Rep h →
      ∃ nb ∈ combs e1.bins e2.bins, ∀ c, Rep (hpush h2 c nb).1)
    (hc : Lossless Rep S s) : Lossless Rep S s' := by
  -- the heap `h` leaves the stack, the rest `st` stays: the target has to be covered only if `h` represented it
  have pop : ∀ {h : Heap α} {st : List (Heap α)} {s' : CkkState α}, s.stack = h :: st →
      (S s.best s.yields → S s'.best s'.yields) → (∀ g ∈ st, g ∈ s'.stack) →
      (Rep h → Lossless Rep S s') → Lossless Rep S s' := by
    intro h st s' hst hS hQ hR
    rcases hc with hs | ⟨g, hg, hr⟩
    · exact Or.inl (hS hs)
    · rcases List.mem_cons.1 (hst ▸ hg) with rfl | hg
      · exact hR hr
      · exact Or.inr ⟨g, hQ g hg, hr⟩
  cases hstep with
  | stop hst =>
    rcases hc with hs | ⟨g, hg, _⟩
    · exact Or.inl hs
    · rw [hst] at hg; cases hg
  | prune hst hpr => exact pop hst id (fun _ hg => hg) fun hr => Or.inl (hprune _ (hst ▸ List.mem_cons_self) hpr hr)
  | noHeap hst => exact absurd (hst ▸ List.mem_cons_self) hnil
  | leafNo hst _ hlt =>
    exact pop hst id (fun _ hg => hg) fun hr => Or.inl (hleafNo _ (hst ▸ List.mem_cons_self) hlt hr)
  | leafYes hst _ hlt =>
    have hm := hst ▸ List.mem_cons_self
    exact pop hst (fun hs => hleafYes _ hm hlt (Or.inr hs)) (fun _ hg => hg)
      fun hr => Or.inl (hleafYes _ hm hlt (Or.inl hr))
  | expand hst _ _ _ hperm =>
    refine pop hst id (fun _ hg => List.mem_append_right _ hg) fun hr => ?_
    obtain ⟨nb, hnb, hall⟩ := hexp _ _ _ _ (hst ▸ List.mem_cons_self) hperm hr
    obtain ⟨c, hc'⟩ := mem_children_of_mem hnb _ s.cnt
    exact Or.inr ⟨_, List.mem_append_left _ hc', hall c⟩

theorem stepRel_of_step {nm : α → Nat} [BEq α] {contents : Bool} {combs : Bins α → Bins α → List (Bins α)}
    (hsub : ∀ b1 b2, ∀ nb ∈ combs b1 b2, nb ∈ allComb nm contents b1 b2) {k : Nat} {gen isBest : Bool}
    {s s' : CkkState α} (hstep : Step combs k gen isBest s s') : StepRel nm contents gen isBest s s' := by
  have keep : ∀ {h : Heap α} {st : List (Heap α)}, s.stack = h :: st →
      StepRel nm contents gen isBest s { s with stack := st } := fun hst =>
    ⟨fun h' hh => Or.inl (hst ▸ List.mem_cons_of_mem _ hh), Or.inl ⟨rfl, rfl, rfl⟩⟩
  cases hstep with
  | stop _ => exact ⟨fun h' hh => Or.inl hh, Or.inl ⟨rfl, rfl, rfl⟩⟩
  | prune hst _ | noHeap hst | leafNo hst _ _ => exact keep hst
  | leafYes hst _ hlt =>
    exact ⟨fun h' hh => Or.inl (hst ▸ List.mem_cons_of_mem _ hh),
      Or.inr ⟨_, hst ▸ List.mem_cons_self, hlt, rfl, rfl, rfl⟩⟩
  | @expand h h1 h2 e1 e2 st hst _ hp1 hp2 _ =>
    refine ⟨fun h' hh => ?_, Or.inl ⟨rfl, rfl, rfl⟩⟩
    rcases List.mem_append.1 hh with hh | hh
    · obtain ⟨nb, hnb, c, _, _, hc⟩ := mem_clones ((children_perm _ _ _).mem_iff.1 hh)
      exact Or.inr ⟨h, e1, h1, e2, h2, nb, c, hst ▸ List.mem_cons_self, hp1, hp2, hsub _ _ nb hnb, hc⟩
    · exact Or.inl (hst ▸ List.mem_cons_of_mem _ hh)

theorem searchStep_cases {nm : α → Nat} [BEq α] {contents : Bool} {combs : Bins α → Bins α → List (Bins α)}
    (hsub : ∀ b1 b2, ∀ nb ∈ combs b1 b2, nb ∈ allComb nm contents b1 b2) (k : Nat) (gen isBest : Bool)
    (s : CkkState α) : StepRel nm contents gen isBest s (searchStep combs k gen isBest s) :=
  stepRel_of_step hsub (searchStep_step combs k gen isBest s)

theorem ckkStep_cases (nm : α → Nat) [BEq α] (k : Nat) (contents gen isBest : Bool) (s : CkkState α) :
    StepRel nm contents gen isBest s (ckkStep nm k contents gen isBest s) := by
  rw [ckkStep_eq_search]
  exact searchStep_cases (fun _ _ _ h => h) k gen isBest s

/-- Anything `StepRel` allows preserves a property `H` of the heaps on the stack together with a property `R` of
    the incumbent and of the yields, provided a one-tuple heap with `H` holds a tuple with `R`, and `H` survives
    an expansion. -/
theorem stepRel_inv {nm : α → Nat} [BEq α] {contents gen isBest : Bool} {s s' : CkkState α}
    {H : Heap α → Prop} {R : Bins α → Prop} (hrel : StepRel nm contents gen isBest s s')
    (hleaf : ∀ e, H [e] → R e.bins)
    (hexp : ∀ h e1 h1 e2 h2 nb c, H h → hpop h = some (e1, h1) → hpop h1 = some (e2, h2) →
      nb ∈ allComb nm contents e1.bins e2.bins → H (hpush h2 c nb).1)
    (hst : ∀ h ∈ s.stack, H h) (hb : ∀ b, s.bestP = some b → R b) (hy : ∀ b ∈ s.yields, R b) :
    (∀ h ∈ s'.stack, H h) ∧ (∀ b, s'.bestP = some b → R b) ∧ ∀ b ∈ s'.yields, R b := by
  obtain ⟨hstk, hres⟩ := hrel
  refine ⟨?_, ?_, ?_⟩
  · intro h' hh'
    rcases hstk h' hh' with hin | ⟨h, e1, h1, e2, h2, nb, c, hin, hp1, hp2, hnb, rfl⟩
    · exact hst h' hin
    · exact hexp h e1 h1 e2 h2 nb c (hst h hin) hp1 hp2 hnb
  · intro b hb'
    rcases hres with ⟨_, _, h3⟩ | ⟨e, he, _, _, _, h3⟩
    · exact hb b (h3 ▸ hb')
    · rw [h3] at hb'
      cases hb'
      exact hleaf e (hst _ he)
  · intro b hb'
    rcases hres with ⟨_, h2, _⟩ | ⟨e, he, _, _, h2, _⟩
    · exact hy b (h2 ▸ hb')
    · rw [h2] at hb'
      rcases List.mem_cons.1 hb' with rfl | hb'
      · exact hleaf e (hst _ he)
      · exact hy b hb'

/-- with only empty heaps on the stack nothing is popped and no incumbent appears -/
theorem stepRel_empty {nm : α → Nat} [BEq α] {contents gen isBest : Bool} {s s' : CkkState α}
    (hrel : StepRel nm contents gen isBest s s') (hs : (∀ h ∈ s.stack, h = []) ∧ s.bestP = none) :
    (∀ h ∈ s'.stack, h = []) ∧ s'.bestP = none := by
  obtain ⟨hstk, hres⟩ := hrel
  refine ⟨fun h' hh' => ?_, ?_⟩
  · rcases hstk h' hh' with hin | ⟨h, _, _, _, _, _, _, hin, hp1, _⟩
    · exact hs.1 h' hin
    · rw [hs.1 h hin] at hp1
      simp [hpop, hbest] at hp1
  · rcases hres with ⟨_, _, h3⟩ | ⟨e, he, _⟩
    · rw [h3]; exact hs.2
    · cases hs.1 _ he

theorem ckkInit_nil (v : α → Nat) (k : Nat) (best : EInt) :
    (∀ h ∈ (ckkInit v k [] best).stack, h = []) ∧ (ckkInit v k [] best).bestP = none :=
  ⟨by simp [ckkInit, sortDesc, pushAll], rfl⟩

/-! ## `all_combinations` (contents manager) preserves the invariant -/

/-- the canonical form `all_combinations` gives to a pairing -/
def canonC (nm : α → Nat) (b1 b2 : Bins α) (perm : List Nat) : Bins α :=
  (Bins.mk (pairBy b1 b2 perm).sums ((pairBy b1 b2 perm).lists.map (sortAsc nm))).sortAsc

/-- the same function as `AllComb.canonC`, whose lemmas (`AllComb.canonC_spec`, …) are the ones used -/
theorem canonC_eq (nm : α → Nat) (b1 b2 : Bins α) (perm : List Nat) :
    canonC nm b1 b2 perm = AllComb.canonC nm b1 b2 perm := rfl

theorem allCombContents_sound (nm : α → Nat) [BEq α] {b1 b2 nb : Bins α}
    (h : nb ∈ allCombContents nm b1 b2) :
    ∃ perm : List Nat, perm.Perm (List.range b1.sums.length) ∧ nb = canonC nm b1 b2 perm :=
  AllComb.allCombContents_sound nm rfl h

/-! ## The search-state invariant -/

/-- a valid partition whose sums are ascending -/
def POK (v : α → Nat) (k : Nat) (items : List α) (b : Bins α) : Prop :=
  IsPartition v items k b ∧ b.sums.Pairwise (· ≤ ·)

structure SInv (v : α → Nat) (k : Nat) (items : List α) (s : CkkState α) : Prop where
  stack : ∀ h ∈ s.stack, HInv v k items h
  bestP : ∀ b, s.bestP = some b → POK v k items b
  yields : ∀ b ∈ s.yields, POK v k items b

theorem hinv_singleton {v : α → Nat} {k : Nat} {items : List α} {e : HEntry α} (h : HInv v k items [e]) :
    POK v k items e.bins ∧ e.diff = spread e.bins.sums := by
  obtain ⟨h1, h2⟩ := h
  obtain ⟨l, c, s, d⟩ := h2 e List.mem_cons_self
  simp only [List.flatMap_cons, List.flatMap_nil, List.append_nil] at h1
  refine ⟨⟨⟨h1, l, c⟩, s⟩, ?_⟩
  rw [d, Obj.lastD_eq_maxL s, Obj.headD_eq_minL s]
  rfl

theorem hinv_combine {v : α → Nat} {k : Nat} {items : List α} {h h1 h2 : Heap α} {e1 e2 : HEntry α}
    (hh : HInv v k items h) (hp1 : hpop h = some (e1, h1)) (hp2 : hpop h1 = some (e2, h2)) (c : Nat)
    {nb : Bins α} (hl : nb.lists.length = k) (hc : nb.Consistent v)
    (hf : nb.lists.flatten.Perm (e1.bins.lists.flatten ++ e2.bins.lists.flatten)) :
    HInv v k items (hpush h2 c nb).1 :=
  hinv_push2 (hh.perm (Part.hpop2_perm hp1 hp2)) c hl hc hf

theorem hinv_pop2 {v : α → Nat} {k : Nat} {items : List α} {h h1 h2 : Heap α} {e1 e2 : HEntry α}
    (hh : HInv v k items h) (hp1 : hpop h = some (e1, h1)) (hp2 : hpop h1 = some (e2, h2)) :
    EOK v k e1 ∧ EOK v k e2 := by
  have hperm := Part.hpop2_perm hp1 hp2
  exact ⟨hh.2 e1 (hperm.mem_iff.2 (by simp)), hh.2 e2 (hperm.mem_iff.2 (by simp))⟩

theorem hinv_expand {v nm : α → Nat} [BEq α] {k : Nat} {items : List α} {h h1 h2 : Heap α} {e1 e2 : HEntry α}
    {nb : Bins α} (c : Nat) (hh : HInv v k items h) (hp1 : hpop h = some (e1, h1)) (hp2 : hpop h1 = some (e2, h2))
    (hnb : nb ∈ allComb nm true e1.bins e2.bins) : HInv v k items (hpush h2 c nb).1 := by
  obtain ⟨⟨l1, c1, _, _⟩, ⟨l2, c2, _, _⟩⟩ := hinv_pop2 hh hp1 hp2
  simp only [allComb, if_true] at hnb
  obtain ⟨perm, hperm, rfl⟩ := AllComb.allCombContents_sound nm rfl hnb
  rw [Part.consistent_length v c1, l1] at hperm
  obtain ⟨q2, _, q1, _, q4⟩ := AllComb.canonC_spec v nm c1 c2 l1 l2 hperm
  exact hinv_combine hh hp1 hp2 c q1 q2 q4

theorem sinv_of_stepRel {v nm : α → Nat} [BEq α] {k : Nat} {items : List α} {gen isBest : Bool} {s s' : CkkState α}
    (hrel : StepRel nm true gen isBest s s') (hs : SInv v k items s) : SInv v k items s' :=
  let ⟨h1, h2, h3⟩ := stepRel_inv hrel (fun _ he => (hinv_singleton he).1)
    (fun _ _ _ _ _ _ c hh hp1 hp2 hnb => hinv_expand c hh hp1 hp2 hnb) hs.stack hs.bestP hs.yields
  ⟨h1, h2, h3⟩

theorem ckkStep_sinv {v nm : α → Nat} [BEq α] {k : Nat} {items : List α} (gen isBest : Bool) {s : CkkState α}
    (hs : SInv v k items s) : SInv v k items (ckkStep nm k true gen isBest s) :=
  sinv_of_stepRel (ckkStep_cases nm k true gen isBest s) hs

theorem ckkRun_inv (nm : α → Nat) [BEq α] (k : Nat) (contents gen isBest : Bool) (P : CkkState α → Prop)
    (hstep : ∀ s, P s → P (ckkStep nm k contents gen isBest s)) (fuel : Nat) (s : CkkState α) (hs : P s) :
    P (ckkRun nm k contents gen isBest fuel s) := by
  rw [Iter.ckkRun_eq]; exact Iter.run_inv P hstep fuel s hs

theorem ckkInit_inv {v : α → Nat} {k : Nat} (hk : 0 < k) (items : List α) (best : EInt) :
    SInv v k items (ckkInit v k items best) := by
  refine ⟨?_, ?_, ?_⟩
  · intro h hh
    simp only [ckkInit, List.mem_singleton] at hh
    subst hh
    exact init_inv hk items
  · intro b hb; simp [ckkInit] at hb
  · intro b hb; simp [ckkInit] at hb

theorem ckkRun_sinv {v nm : α → Nat} [BEq α] {k : Nat} {items : List α} (hk : 0 < k) (gen isBest : Bool)
    (best : EInt) (fuel : Nat) : SInv v k items (ckkRun nm k true gen isBest fuel (ckkInit v k items best)) :=
  ckkRun_inv nm k true gen isBest (SInv v k items) (fun _ hs => ckkStep_sinv gen isBest hs) fuel _
    (ckkInit_inv hk items best)

theorem sortAsc_isPartition {v : α → Nat} {k : Nat} {items : List α} {b : Bins α} (h : IsPartition v items k b) :
    IsPartition v items k b.sortAsc :=
  Part.isPartition_sortAsc v h

/-! ## What a successful call says about the run -/

/-- a successful `ckk` has run to completion and answers its incumbent, sorted -/
theorem ckk_ok {v nm : α → Nat} [BEq α] {k : Nat} {contents : Bool} {items : List α} {fuel : Nat} {b : Bins α}
    (h : ckk v nm k contents items fuel = .ok b) :
    (ckkRun nm k contents false true fuel (ckkInit v k items .negInf)).done = true ∧
      ∃ b0, (ckkRun nm k contents false true fuel (ckkInit v k items .negInf)).bestP = some b0 ∧
        b = b0.sortAsc :=
  resultOf_ok h

/-- a successful `ckkGen` has run to completion and answers its yields, oldest first -/
theorem ckkGen_ok {v nm : α → Nat} [BEq α] {k : Nat} {contents : Bool} {items : List α} {bound : Option Nat}
    {fuel : Nat} {ys : List (Bins α)} (h : ckkGen v nm k contents items bound fuel = .ok ys) :
    ∃ best, ((bound = none → best = .negInf) ∧ ∀ d, bound = some d → best = .fin (-(d : Int))) ∧
      (ckkRun nm k contents true bound.isNone fuel (ckkInit v k items best)).done = true ∧
      ys = (ckkRun nm k contents true bound.isNone fuel (ckkInit v k items best)).yields.reverse := by
  unfold ckkGen at h
  cases bound <;>
  · simp only [] at h
    split at h
    · cases h
    · rename_i hd
      cases h
      exact ⟨_, ⟨fun hb => by cases hb <;> rfl, fun d hb => by cases hb <;> rfl⟩, by simpa using hd, rfl⟩

/-! ## Validity of CKK and of its generator (contents manager) -/

/-- C01 for complete Karmarkar–Karp (`optimal` before fix F11, contents manager).  `items ≠ []` is not needed: on an
    empty input the model returns an error. -/
theorem ckk_isPartition {v nm : α → Nat} [BEq α] {k : Nat} {items : List α} {fuel : Nat} {b : Bins α}
    (hk : 0 < k) (h : ckk v nm k true items fuel = .ok b) : IsPartition v items k b := by
  obtain ⟨_, b0, hb0, rfl⟩ := ckk_ok h
  exact sortAsc_isPartition ((ckkRun_sinv hk false true .negInf fuel).bestP b0 hb0).1

attribute [local instance] Prtpy.decEqBins

example : IsPartition id [4, 5, 6, 7, 8] 3 ⟨[8, 11, 11], [[8], [5, 6], [4, 7]]⟩ :=
  ckk_isPartition (by decide) Runs.ckk3_contents

/-- C11 (validity part): every partition yielded by the generator, for any initial bound, is valid and has
    ascending sums -/
theorem ckkGen_yields {v nm : α → Nat} [BEq α] {k : Nat} {items : List α} {bound : Option Nat} {fuel : Nat}
    {ys : List (Bins α)} (hk : 0 < k) (h : ckkGen v nm k true items bound fuel = .ok ys) :
    ∀ b ∈ ys, IsPartition v items k b ∧ b.sums.Pairwise (· ≤ ·) := by
  obtain ⟨best, _, _, rfl⟩ := ckkGen_ok h
  intro b hb
  exact (ckkRun_sinv hk true _ best fuel).yields b (List.mem_reverse.1 hb)

/-- C01 / C11: `ckkGen_yields` as the hypothesis `SNPProofs.CkkGenValid` of the proofs about `rnp` -/
theorem ckkGen_valid (v nm : α → Nat) [BEq α] : SNPProofs.CkkGenValid v nm :=
  fun _ _ _ _ _ hk _ h b hb => (ckkGen_yields hk h b hb).1

example : ∀ b ∈ [(⟨[14, 16], [[6, 8], [4, 5, 7]]⟩ : Bins Nat), ⟨[15, 15], [[4, 5, 6], [7, 8]]⟩],
    IsPartition id [4, 5, 6, 7, 8] 2 b :=
  fun b hb => (ckkGen_yields (by decide) Runs.ckkGen2_bound3 b hb).1

/-! ### improve-only mode: strictly decreasing differences -/

/-- the yields (most recent first) have strictly increasing spreads, and the incumbent difference (`-best`) is at
    most each of them -/
def Strict (s : CkkState α) : Prop :=
  s.yields.Pairwise (fun a b => spread a.sums < spread b.sums) ∧
    ∀ y ∈ s.yields, ∃ d : Int, s.best = .fin d ∧ -d ≤ (spread y.sums : Int)

theorem strict_step {nm : α → Nat} [BEq α] {contents : Bool} {s s' : CkkState α}
    (hrel : StepRel nm contents true true s s') (hdiff : ∀ e, [e] ∈ s.stack → e.diff = spread e.bins.sums)
    (hs : Strict s) : Strict s' := by
  obtain ⟨_, hy⟩ := hrel
  obtain ⟨hpw, hbest⟩ := hs
  rcases hy with ⟨h1, h2, _⟩ | ⟨e, he, hlt, h1, h2, _⟩
  · unfold Strict
    rw [h1, h2]
    exact ⟨hpw, hbest⟩
  · have hd := hdiff e he
    simp only [Bool.true_or, if_true] at h1
    have key : ∀ y ∈ s.yields, spread e.bins.sums < spread y.sums := by
      intro y hy
      obtain ⟨d, hd1, hd2⟩ := hbest y hy
      rw [hd1] at hlt
      have := CGOpt.elt_fin.1 hlt
      omega
    unfold Strict
    rw [h1, h2]
    refine ⟨List.pairwise_cons.2 ⟨key, hpw⟩, ?_⟩
    intro y hy
    refine ⟨_, rfl, ?_⟩
    rcases List.mem_cons.1 hy with rfl | hy
    · omega
    · have := key y hy; omega

/-- the generator in improve-only mode, either manager: the differences strictly decrease along the yields as
    soon as some invariant `I` of the run makes the key of a one-entry heap the spread of its tuple -/
theorem ckkGen_strict_of {v nm : α → Nat} [BEq α] {k : Nat} {contents : Bool} {items : List α} {fuel : Nat}
    {ys : List (Bins α)} (I : CkkState α → Prop) (hI : ∀ s, I s → I (ckkStep nm k contents true true s))
    (hdiff : ∀ s, I s → ∀ e, [e] ∈ s.stack → e.diff = spread e.bins.sums)
    (h0 : I (ckkInit v k items .negInf)) (h : ckkGen v nm k contents items none fuel = .ok ys) :
    ys.Pairwise (fun a b => spread b.sums < spread a.sums) := by
  obtain ⟨best, hbest, _, rfl⟩ := ckkGen_ok h
  obtain rfl := hbest.1 rfl
  have hinv := ckkRun_inv nm k contents true true (fun s => I s ∧ Strict s)
    (fun s hs => ⟨hI s hs.1, strict_step (ckkStep_cases nm k contents true true s) (hdiff s hs.1) hs.2⟩) fuel _
    ⟨h0, by simp [Strict, ckkInit]⟩
  exact List.pairwise_reverse.2 hinv.2.1

/-- C11 (strictness part): in improve-only mode (`bound = none`) the differences of the yielded partitions
    are strictly decreasing along the yield sequence -/
theorem ckkGen_strict {v nm : α → Nat} [BEq α] {k : Nat} {items : List α} {fuel : Nat}
    {ys : List (Bins α)} (hk : 0 < k) (h : ckkGen v nm k true items none fuel = .ok ys) :
    ys.Pairwise (fun a b => spread b.sums < spread a.sums) :=
  ckkGen_strict_of (SInv v k items) (fun _ hs => ckkStep_sinv true true hs)
    (fun _ hs _ he => (hinv_singleton (hs.stack _ he)).2) (ckkInit_inv hk items .negInf) h

/-- the same, phrased with the key the heap uses: last sum − first sum of the (ascending) tuple -/
theorem ckkGen_strict' {v nm : α → Nat} [BEq α] {k : Nat} {items : List α} {fuel : Nat}
    {ys : List (Bins α)} (hk : 0 < k) (h : ckkGen v nm k true items none fuel = .ok ys) :
    ys.Pairwise (fun a b => lastD b.sums 0 - b.sums.headD 0 < lastD a.sums 0 - a.sums.headD 0) := by
  have hs := ckkGen_yields hk h
  refine (ckkGen_strict hk h).imp_of_mem ?_
  intro a b ha hb hab
  rw [Obj.lastD_eq_maxL (hs a ha).2, Obj.headD_eq_minL (hs a ha).2, Obj.lastD_eq_maxL (hs b hb).2,
    Obj.headD_eq_minL (hs b hb).2]
  exact hab

example : [(⟨[14, 16], [[6, 8], [4, 5, 7]]⟩ : Bins Nat), ⟨[15, 15], [[4, 5, 6], [7, 8]]⟩].Pairwise
    (fun a b => spread b.sums < spread a.sums) :=
  ckkGen_strict (by decide) Runs.ckkGen2_all

/-- on an empty input `bins_heap.top()` raises (`IndexError`); `snp`, `rnp`, `rnpF` start with `kk` and fail with it -/
theorem kk_nil (v : α → Nat) (k : Nat) : kk v k [] = .error .indexError := rfl

theorem kkValid (v : α → Nat) : SNPProofs.KkValid v := by
  intro k items b hk hne h
  exact (Part.kk_ok_spec hk hne h).1

example : IsPartition id [4, 5, 6, 7, 8] 3 ⟨[8, 11, 11], [[8], [4, 7], [5, 6]]⟩ :=
  kkValid id 3 [4, 5, 6, 7, 8] _ (by decide) (by decide) (by decide +kernel)

/-! ## RNP, relative to the validity of the 2-way search it calls (`SNPProofs.CkkValid`) -/

theorem spread_singleton (x : Nat) : spread [x] = 0 := by
  simp [spread, maxL, minL]

theorem spread_one_bin {v : α → Nat} {items : List α} {b : Bins α} (h : IsPartition v items 1 b) :
    spread b.sums = 0 := by
  obtain ⟨_, hl1, hc⟩ := h
  rw [hc]
  match hbl : b.lists, hl1 with
  | [l], _ => exact spread_singleton _

theorem two_le_of_spread_ne_zero {v : α → Nat} {items : List α} {k : Nat} {b : Bins α} (hk : 0 < k)
    (hb : IsPartition v items k b) (hsp : spread b.sums ≠ 0) : 2 ≤ k := by
  rcases Nat.lt_or_ge k 2 with h1 | h1
  · obtain rfl : k = 1 := by omega
    exact absurd (spread_one_bin hb) hsp
  · exact h1

/-- with one bin `kk` is perfect (whatever the items: on `[]` it fails), so `snp`, `rnp`, `rnpF` do not reach their
    recursion -/
theorem kk_one_spread {v : α → Nat} {items : List α} {best : Bins α} (h : kk v 1 items = .ok best) :
    spread best.sums = 0 := by
  have hne : items ≠ [] := by
    rintro rfl
    rw [kk_nil] at h
    cases h
  exact spread_one_bin (kkValid v 1 items best (by decide) hne h)

/-- a successful `rnp`: Karmarkar–Karp's partition `best` is perfect and returned, or it is the incumbent of a
    recursive search over two to five bins with no prior bins (with one bin it is always perfect) -/
theorem rnp_cases {v nm : α → Nat} [BEq α] {k : Nat} {c : Bool} {items : List α} {fuel : Nat} {b : Bins α}
    (hk : 0 < k) (hne : items ≠ []) (h : rnp v nm k c items fuel = .ok b) :
    ∃ best, IsPartition v items k best ∧
      ((spread best.sums = 0 ∧ b = best) ∨
        (2 ≤ k ∧ k ≤ 5 ∧ rnpRec v nm c fuel (k + 1) k ⟨[], []⟩ best items = .ok b)) := by
  obtain ⟨best, hb, hcase⟩ := SNPProofs.rnp_ok h
  have hbest := kkValid v k items best hk hne hb
  exact ⟨best, hbest, hcase.imp id fun ⟨hsp, hk6, h⟩ => ⟨two_le_of_spread_ne_zero hk hbest hsp, by omega, h⟩⟩

/-- C01 for `rnp` (numbins ≤ 5), relative to the validity of the 2-way search -/
theorem rnp_isPartition_of {v nm : α → Nat} [BEq α] [LawfulBEq α] (hckk : SNPProofs.CkkValid v nm)
    {k : Nat} {items : List α} {fuel : Nat} {b : Bins α} (hk : 0 < k) (hk5 : k ≤ 5) (hne : items ≠ [])
    (h : rnp v nm k true items fuel = .ok b) : IsPartition v items k b := by
  obtain ⟨best, hbest, ⟨_, rfl⟩ | ⟨hk2, _, h⟩⟩ := rnp_cases hk hne h
  · exact hbest
  · exact (RNPRound.rounds_valid (p := true) (fun _ _ h2 => .of_partition (SNPProofs.ckk2_valid hckk h2))
      (ckkGen_valid v nm) (RNPRound.rnpRec_succ v nm true fuel) hk2 hk5 (.of_partition hbest) h).partition

/-! ## The sums-only manager (`contents = false`) -/

/-- what the heap discipline and the sums manager can see of an entry -/
def key (e : HEntry α) : Nat × Nat × List Nat := (e.diff, e.cnt, e.bins.sums)

/-- `g` is a ghost of `h`: same keys, counters and sums, entry by entry -/
def Sim (h g : Heap α) : Prop := h.map key = g.map key

variable {β : Type}

/-- same keys, counters and sums, entry by entry — across item types.  `Sim` (which `SInvS` mentions) is this at one
    type; the lemmas about popping and pushing are stated for `HSim`, and a `Sim` fact is passed to them as it is.
    `CKKF.keys h = CKKF.keys g` (CKKFAux.lean) unfolds to the same equation. -/
def HSim (h : Heap α) (g : Heap β) : Prop := h.map key = g.map key

theorem hsim_length {h : Heap α} {g : Heap β} (hs : HSim h g) : h.length = g.length := by
  have := congrArg List.length hs
  simpa using this

theorem key_eq {e : HEntry α} {e' : HEntry β} (h : key e = key e') :
    e.diff = e'.diff ∧ e.cnt = e'.cnt ∧ e.bins.sums = e'.bins.sums := by
  simp only [key, Prod.mk.injEq] at h
  exact h

theorem hinv_ne_nil {v : α → Nat} {k : Nat} {items : List α} {h : Heap α} (hne : items ≠ []) (hh : HInv v k items h) :
    h ≠ [] := by
  rintro rfl
  have := hh.1
  simp only [List.flatMap_nil] at this
  exact hne this.symm.eq_nil

theorem hinv_sums_length {v : α → Nat} {k : Nat} {items : List α} {h : Heap α} (hh : HInv v k items h) :
    ∀ e ∈ h, e.bins.sums.length = k := by
  intro e he
  obtain ⟨l, c, _, _⟩ := hh.2 e he
  rw [Part.consistent_length v c, l]

theorem sim_sums_length {v : α → Nat} {k : Nat} {items : List α} {h g : Heap α} (hg : HInv v k items g)
    (hs : Sim h g) : ∀ e ∈ h, e.bins.sums.length = k := by
  intro e he
  obtain ⟨e', he', hk⟩ := List.mem_map.1 (show key e ∈ g.map key from hs ▸ List.mem_map_of_mem he)
  rw [(key_eq hk.symm).2.2]
  exact hinv_sums_length hg e' he'

theorem before_key {e1 e2 : HEntry α} {e1' e2' : HEntry β} (h1 : key e1 = key e1') (h2 : key e2 = key e2') :
    e1.before e2 = e1'.before e2' := by
  obtain ⟨a1, a2, _⟩ := key_eq h1
  obtain ⟨b1, b2, _⟩ := key_eq h2
  simp only [HEntry.before, a1, a2, b1, b2]

theorem hsim_before {h : Heap α} {g : Heap β} (hs : HSim h g) :
    (h.zip g).Pairwise (fun p q => q.1.before p.1 = q.2.before p.2) :=
  List.pairwise_of_forall_mem_list fun p hp q hq =>
    before_key (Part.mem_zip_of_map_eq hs q hq) (Part.mem_zip_of_map_eq hs p hp)

theorem hpop_sim {h h' : Heap α} {g : Heap β} {e : HEntry α} (hs : HSim h g) (hp : hpop h = some (e, h')) :
    ∃ e' g', hpop g = some (e', g') ∧ key e = key e' ∧ HSim h' g' :=
  Part.hpop_keys_some hs (hsim_before hs) hp

theorem hpop_none_hsim {h : Heap α} {g : Heap β} (hs : HSim h g) (hp : hpop h = none) : hpop g = none := by
  rw [HSim, Part.hpop_none hp] at hs
  rw [List.map_eq_nil_iff.1 hs.symm]; rfl

theorem binsSortAsc_sums (b : Bins α) (h : b.sums.length = b.lists.length) :
    b.sortAsc.sums = sortAsc id b.sums :=
  BinsOps.forget_sortAsc b (Nat.le_of_eq h)

theorem hpush_sim {h : Heap α} {g : Heap β} (c : Nat) {b : Bins α} {b' : Bins β} (hs : HSim h g)
    (hb : b.sums = b'.sums) (hl : b.sums.length = b.lists.length) (hl' : b'.sums.length = b'.lists.length) :
    HSim (hpush h c b).1 (hpush g c b').1 := by
  unfold HSim at *
  simp only [hpush, List.map_append, hs, List.map_cons, List.map_nil, key, binsSortAsc_sums b hl,
    binsSortAsc_sums b' hl', hb]

/-- sums and lists have the same number of bins (so that `Bins.sortAsc` loses nothing) -/
def Bal (h : Heap α) : Prop := ∀ e ∈ h, e.bins.sums.length = e.bins.lists.length

/-- `b` has the sums of some valid partition `g` with ascending sums -/
def Shadow (v : α → Nat) (k : Nat) (items : List α) (b : Bins α) : Prop :=
  (∃ g, POK v k items g ∧ g.sums = b.sums) ∧ b.sums.length = b.lists.length

theorem binsSortAsc_bal (b : Bins α) : b.sortAsc.sums.length = b.sortAsc.lists.length := by
  simp [Bins.sortAsc]

theorem hpush_bal {h : Heap α} (c : Nat) (b : Bins α) (hh : Bal h) : Bal (hpush h c b).1 := by
  intro e he
  simp only [hpush, List.mem_append, List.mem_singleton] at he
  rcases he with he | rfl
  · exact hh e he
  · exact binsSortAsc_bal b

/-- the sums-only search state is shadowed by valid heaps / partitions with contents -/
structure SInvS (v : α → Nat) (k : Nat) (items : List α) (s : CkkState α) : Prop where
  stack : ∀ h ∈ s.stack, (∃ g, HInv v k items g ∧ Sim h g) ∧ Bal h
  bestP : ∀ b, s.bestP = some b → Shadow v k items b
  yields : ∀ b ∈ s.yields, Shadow v k items b

theorem sim_singleton {v : α → Nat} {k : Nat} {items : List α} {e : HEntry α} {g : Heap α}
    (hg : HInv v k items g) (hs : Sim [e] g) :
    (∃ p, POK v k items p ∧ p.sums = e.bins.sums) ∧ e.diff = spread e.bins.sums := by
  unfold Sim at hs
  obtain ⟨e', rfl⟩ : ∃ e', g = [e'] := by
    have := congrArg List.length hs
    simp only [List.length_map, List.length_cons, List.length_nil] at this
    match g, this with
    | [e'], _ => exact ⟨e', rfl⟩
  · simp only [List.map_cons, List.map_nil, List.cons.injEq, and_true] at hs
    obtain ⟨h1, _, h3⟩ := key_eq hs
    obtain ⟨q1, q2⟩ := hinv_singleton hg
    exact ⟨⟨e'.bins, q1, h3.symm⟩, by rw [h1, q2, h3]⟩

/-- a shadowed heap stays shadowed when it is expanded (sums-only manager): the shadow is expanded with the
    canonical form of the same pairing -/
theorem shadow_expand {v nm : α → Nat} [BEq α] {k : Nat} {items : List α} {h h1 h2 : Heap α} {e1 e2 : HEntry α}
    {nb : Bins α} (c : Nat) (hh : (∃ g, HInv v k items g ∧ Sim h g) ∧ Bal h) (hp1 : hpop h = some (e1, h1))
    (hp2 : hpop h1 = some (e2, h2)) (hnb : nb ∈ allComb nm false e1.bins e2.bins) :
    (∃ g, HInv v k items g ∧ Sim (hpush h2 c nb).1 g) ∧ Bal (hpush h2 c nb).1 := by
  obtain ⟨⟨g, hg, hsim⟩, hbal⟩ := hh
  have hbal2 : Bal h2 := fun e he => hbal e
    ((Part.hpop2_perm hp1 hp2).mem_iff.2 (by simp [he]))
  refine ⟨?_, hpush_bal c _ hbal2⟩
  obtain ⟨g1, gh1, hq1, hk1, hsim1⟩ := hpop_sim hsim hp1
  obtain ⟨g2, gh2, hq2, hk2, hsim2⟩ := hpop_sim hsim1 hp2
  obtain ⟨⟨l1, c1, _, _⟩, ⟨l2, c2, _, _⟩⟩ := hinv_pop2 hg hq1 hq2
  simp only [allComb, Bool.false_eq_true, if_false, List.mem_map] at hnb
  obtain ⟨ss, hss, rfl⟩ := hnb
  obtain ⟨perm, hperm, rfl⟩ := CKKProofs.allCombSums_sound (k := k)
    (by rw [(key_eq hk1).2.2, Part.consistent_length v c1, l1]) hss
  obtain ⟨q2, _, q1, _, q4⟩ := AllComb.canonC_spec v (fun _ => 0) c1 c2 l1 l2 hperm
  refine ⟨_, hinv_combine hg hq1 hq2 c q1 q2 q4, ?_⟩
  refine hpush_sim c hsim2 ?_ (by simp) (Part.consistent_length v q2)
  have hpc := AllComb.pairBy_consistent v c1 c2 perm
  unfold AllComb.canonC
  rw [binsSortAsc_sums _ (by simpa using Part.consistent_length v hpc)]
  simp only [pairBy, (key_eq hk1).2.2, (key_eq hk2).2.2]

theorem sinvS_of_stepRel {v nm : α → Nat} [BEq α] {k : Nat} {items : List α} {gen isBest : Bool}
    {s s' : CkkState α} (hrel : StepRel nm false gen isBest s s') (hs : SInvS v k items s) : SInvS v k items s' :=
  let ⟨h1, h2, h3⟩ := stepRel_inv hrel (fun e ⟨⟨_, hg, hsim⟩, hbal⟩ => ⟨(sim_singleton hg hsim).1, hbal e List.mem_cons_self⟩)
    (fun _ _ _ _ _ _ c hh hp1 hp2 hnb => shadow_expand c hh hp1 hp2 hnb) hs.stack hs.bestP hs.yields
  ⟨h1, h2, h3⟩

theorem ckkStep_invS {v nm : α → Nat} [BEq α] {k : Nat} {items : List α} (gen isBest : Bool) {s : CkkState α}
    (hs : SInvS v k items s) : SInvS v k items (ckkStep nm k false gen isBest s) :=
  sinvS_of_stepRel (ckkStep_cases nm k false gen isBest s) hs

theorem ckkInit_invS {v : α → Nat} {k : Nat} (hk : 0 < k) (items : List α) (best : EInt) :
    SInvS v k items (ckkInit v k items best) :=
  have h0 := ckkInit_inv (v := v) hk items best
  ⟨fun h hh => ⟨⟨h, h0.stack h hh, rfl⟩, fun e he => Part.consistent_length v ((h0.stack h hh).2 e he).2.1⟩,
    fun b hb => ⟨⟨b, h0.bestP b hb, rfl⟩, Part.consistent_length v (h0.bestP b hb).1.2.2⟩,
    fun b hb => ⟨⟨b, h0.yields b hb, rfl⟩, Part.consistent_length v (h0.yields b hb).1.2.2⟩⟩

theorem ckkRun_sinvS {v nm : α → Nat} [BEq α] {k : Nat} {items : List α} (hk : 0 < k) (gen isBest : Bool)
    (best : EInt) (fuel : Nat) : SInvS v k items (ckkRun nm k false gen isBest fuel (ckkInit v k items best)) :=
  ckkRun_inv nm k false gen isBest (SInvS v k items) (fun _ hs => ckkStep_invS gen isBest hs) fuel _
    (ckkInit_invS hk items best)

theorem shadow_assignment {v : α → Nat} {k : Nat} {items : List α} {b : Bins α} (h : Shadow v k items b) :
    (∃ asg, IsAssignment k items.length asg ∧ sumsOf k (items.map v) asg = b.sums) ∧
      b.sums.Pairwise (· ≤ ·) := by
  obtain ⟨⟨g, ⟨hg, hsorted⟩, hgs⟩, _⟩ := h
  obtain ⟨asg, h1, h2⟩ := Oracle.partition_sums_assignment v items g hg
  exact ⟨⟨asg, h1, h2.trans hgs⟩, hgs ▸ hsorted⟩

/-- C01 for the sums-only manager: the sums returned by `ckk` are the (ascending) sums of a partition of the
    items into `k` bins -/
theorem ckk_sums_valid {v nm : α → Nat} [BEq α] {k : Nat} {items : List α} {fuel : Nat} {b : Bins α}
    (hk : 0 < k) (h : ckk v nm k false items fuel = .ok b) :
    ∃ asg, IsAssignment k items.length asg ∧ sumsOf k (items.map v) asg = b.sums := by
  obtain ⟨_, b0, hb0, rfl⟩ := ckk_ok h
  have hsh := (ckkRun_sinvS hk false true .negInf fuel).bestP b0 hb0
  obtain ⟨hasg, hsorted⟩ := shadow_assignment hsh
  rw [binsSortAsc_sums b0 hsh.2, Part.sortAsc_eq_self hsorted]
  exact hasg

theorem ckk_sums_valid_perm {v nm : α → Nat} [BEq α] {k : Nat} {items : List α} {fuel : Nat} {b : Bins α}
    (hk : 0 < k) (h : ckk v nm k false items fuel = .ok b) :
    ∃ asg, IsAssignment k items.length asg ∧ (sumsOf k (items.map v) asg).Perm b.sums := by
  obtain ⟨asg, h1, h2⟩ := ckk_sums_valid hk h
  exact ⟨asg, h1, h2 ▸ List.Perm.refl _⟩

example : ∃ asg, IsAssignment 3 5 asg ∧ sumsOf 3 [4, 5, 6, 7, 8] asg = [8, 11, 11] :=
  ckk_sums_valid (by decide) Runs.ckk3_sums

/-- C06 / C11 for the sums-only manager: every yielded tuple of sums is the (ascending) sums of a partition -/
theorem ckkGen_sums_valid {v nm : α → Nat} [BEq α] {k : Nat} {items : List α} {bound : Option Nat} {fuel : Nat}
    {ys : List (Bins α)} (hk : 0 < k) (h : ckkGen v nm k false items bound fuel = .ok ys) :
    ∀ b ∈ ys, (∃ asg, IsAssignment k items.length asg ∧ sumsOf k (items.map v) asg = b.sums) ∧
      b.sums.Pairwise (· ≤ ·) := by
  obtain ⟨best, _, _, rfl⟩ := ckkGen_ok h
  intro b hb
  exact shadow_assignment ((ckkRun_sinvS hk true _ best fuel).yields b (List.mem_reverse.1 hb))

example : ∀ b ∈ [(⟨[14, 16], [[], []]⟩ : Bins Nat), ⟨[15, 15], [[], []]⟩],
    ∃ asg, IsAssignment 2 5 asg ∧ sumsOf 2 [4, 5, 6, 7, 8] asg = b.sums :=
  fun b hb => (ckkGen_sums_valid (by decide) Runs.ckkGen2_all_sums b hb).1

/-- C11 (strictness part) for the sums-only manager -/
theorem ckkGen_sums_strict {v nm : α → Nat} [BEq α] {k : Nat} {items : List α} {fuel : Nat}
    {ys : List (Bins α)} (hk : 0 < k) (h : ckkGen v nm k false items none fuel = .ok ys) :
    ys.Pairwise (fun a b => spread b.sums < spread a.sums) :=
  ckkGen_strict_of (SInvS v k items) (fun _ hs => ckkStep_invS true true hs)
    (fun _ hs _ he => let ⟨⟨_, hg, hsim⟩, _⟩ := hs.stack _ he; (sim_singleton hg hsim).2)
    (ckkInit_invS hk items .negInf) h

example : [(⟨[14, 16], [[], []]⟩ : Bins Nat), ⟨[15, 15], [[], []]⟩].Pairwise
    (fun a b => spread b.sums < spread a.sums) :=
  ckkGen_sums_strict (by decide) Runs.ckkGen2_all_sums

end Prtpy.CKKValid
