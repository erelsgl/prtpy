/-
  PrtpyProofs.Refuse — property C19: unsatisfiable or malformed requests are refused with an error, never answered:
  `cbldm`'s argument validation (`cbldmValidate`), the sums-only manager asked to count items (`numitems`), and an
  oversize item given to one of the five packers (the four fit heuristics and bin completion), wherever it stands,
  however often, whatever the item format (`packing_refuses_format/_named` for the four fit heuristics through the
  interface `Packer`; for bin completion on named items `BCNamed.bcNamed_error_iff_oversize`).
-/
import PrtpyProofs.BCProofs
import PrtpyProofs.Natural

namespace Prtpy.Refuse

/-! ### `cbldmValidate` -/

theorem minInt_cons_cons (x y : Int) (l : List Int) : minInt (x :: y :: l) = min x (minInt (y :: l)) := rfl

theorem minInt_neg_iff : ∀ {l : List Int}, l ≠ [] → (minInt l < 0 ↔ ∃ x ∈ l, x < 0)
  | [], h => absurd rfl h
  | [x], _ => by simp [minInt]
  | x :: y :: l, _ => by
    have ih := minInt_neg_iff (l := y :: l) (by simp)
    have hmin : min x (minInt (y :: l)) < 0 ↔ (x < 0 ∨ minInt (y :: l) < 0) := by omega
    rw [minInt_cons_cons, hmin, ih]
    constructor
    · rintro (h | ⟨z, hz, hlt⟩)
      · exact ⟨x, List.mem_cons_self, h⟩
      · exact ⟨z, List.mem_cons_of_mem _ hz, hlt⟩
    · rintro ⟨z, hz, hlt⟩
      rcases List.mem_cons.1 hz with rfl | hz
      · exact Or.inl hlt
      · exact Or.inr ⟨z, hz, hlt⟩

theorem pdBad_iff (p : PDiff) : p.bad = true ↔ (match p with | .int i => i < 1 | .nonInt _ => True) := by
  cases p <;> simp [PDiff.bad]

/-- the checks of `cbldm`, restated over propositions: every later theorem reads its cases off this equation -/
theorem cbldmValidate_eq (a : CbArgs) :
    cbldmValidate a =
      if a.numbins ≠ 2 ∨ a.timeLimitPositive = false ∨ a.pd.bad = true then Except.error Err.valueError
      else if a.items = [] then Except.error Err.indexError
      else if ∃ x ∈ a.items, x < 0 then Except.error Err.valueError else Except.ok () := by
  by_cases h1 : a.numbins ≠ 2
  · simp [cbldmValidate, h1]
  by_cases h2 : a.timeLimitPositive = false
  · simp [cbldmValidate, h1, h2]
  by_cases h3 : a.pd.bad = true
  · simp [cbldmValidate, h1, h2, h3]
  by_cases h4 : a.items = []
  · simp [cbldmValidate, h1, h2, h3, h4]
  · have h5 := minInt_neg_iff h4
    simp only [ne_eq, Decidable.not_not, Bool.not_eq_false, Bool.not_eq_true] at h1 h2 h3
    simp [cbldmValidate, h1, h2, h3, h4, h5]

/-- the first three checks do not even need a non-empty item list -/
theorem cbldmValidate_args_first (a : CbArgs)
    (h : a.numbins ≠ 2 ∨ a.timeLimitPositive = false ∨ a.pd.bad = true) :
    cbldmValidate a = .error .valueError := by
  rw [cbldmValidate_eq, if_pos h]

/-- C19 for `cbldm`: with at least one item, `cbldm` raises `ValueError` iff the number of bins is not 2, or the time limit
    is not positive, or `partition_difference` is not an `int ≥ 1`, or some item is negative -/
theorem cbldmValidate_iff {a : CbArgs} (hne : a.items ≠ []) :
    (cbldmValidate a = .error .valueError ↔
      (a.numbins ≠ 2 ∨ a.timeLimitPositive = false ∨ (match a.pd with | .int i => i < 1 | .nonInt _ => True) ∨
        ∃ x ∈ a.items, x < 0)) ∧
    (cbldmValidate a = .ok () ↔
      ¬ (a.numbins ≠ 2 ∨ a.timeLimitPositive = false ∨ (match a.pd with | .int i => i < 1 | .nonInt _ => True) ∨
        ∃ x ∈ a.items, x < 0)) := by
  have e : (a.numbins ≠ 2 ∨ a.timeLimitPositive = false ∨ a.pd.bad = true ∨ ∃ x ∈ a.items, x < 0) ↔
      ((a.numbins ≠ 2 ∨ a.timeLimitPositive = false ∨ a.pd.bad = true) ∨ ∃ x ∈ a.items, x < 0) := by
    rw [or_assoc, or_assoc]
  rw [cbldmValidate_eq, if_neg hne, ← pdBad_iff, e]
  by_cases hb : a.numbins ≠ 2 ∨ a.timeLimitPositive = false ∨ a.pd.bad = true
  · rw [if_pos hb]; simp [hb]
  · rw [if_neg hb]
    by_cases h4 : ∃ x ∈ a.items, x < 0
    · rw [if_pos h4]; simp [hb, h4]
    · rw [if_neg h4]; simp [hb, h4]

example : cbldmValidate ⟨2, true, .int 1, [4, 0, 7]⟩ = .ok () :=
  (cbldmValidate_iff (a := ⟨2, true, .int 1, [4, 0, 7]⟩) (by simp)).2.2 (by decide)
example : cbldmValidate ⟨2, true, .int 3, [4, -1, 7]⟩ = .error .valueError :=
  (cbldmValidate_iff (a := ⟨2, true, .int 3, [4, -1, 7]⟩) (by simp)).1.2 (by decide)

/-- C19: each invalid argument alone — whatever the other arguments are — is refused with `ValueError`
    (the item list being non-empty) -/
theorem cbldmValidate_single {a : CbArgs} (hne : a.items ≠ []) :
    (a.numbins ≠ 2 → cbldmValidate a = .error .valueError) ∧
    (a.timeLimitPositive = false → cbldmValidate a = .error .valueError) ∧
    ((∃ i, a.pd = .int i ∧ i < 1) → cbldmValidate a = .error .valueError) ∧
    ((∃ f, a.pd = .nonInt f) → cbldmValidate a = .error .valueError) ∧
    ((∃ x ∈ a.items, x < 0) → cbldmValidate a = .error .valueError) := by
  have H := (cbldmValidate_iff hne).1
  refine ⟨fun h => H.2 (Or.inl h), fun h => H.2 (Or.inr (Or.inl h)), ?_, ?_,
    fun h => H.2 (Or.inr (Or.inr (Or.inr h)))⟩
  · rintro ⟨i, hi, hlt⟩
    exact H.2 (Or.inr (Or.inr (Or.inl (by rw [hi]; exact hlt))))
  · rintro ⟨f, hf⟩
    exact H.2 (Or.inr (Or.inr (Or.inl (by rw [hf]; trivial))))

-- only one argument wrong at a time, all others valid
example : cbldmValidate ⟨3, true, .int 1, [4, 5]⟩ = .error .valueError :=
  (cbldmValidate_single (a := ⟨3, true, .int 1, [4, 5]⟩) (by simp)).1 (by decide)
example : cbldmValidate ⟨2, false, .int 1, [4, 5]⟩ = .error .valueError :=
  (cbldmValidate_single (a := ⟨2, false, .int 1, [4, 5]⟩) (by simp)).2.1 rfl
example : cbldmValidate ⟨2, true, .int 0, [4, 5]⟩ = .error .valueError :=
  (cbldmValidate_single (a := ⟨2, true, .int 0, [4, 5]⟩) (by simp)).2.2.1 ⟨0, rfl, by decide⟩
example : cbldmValidate ⟨2, true, .nonInt false, [4, 5]⟩ = .error .valueError :=
  (cbldmValidate_single (a := ⟨2, true, .nonInt false, [4, 5]⟩) (by simp)).2.2.2.1 ⟨false, rfl⟩
example : cbldmValidate ⟨2, true, .int 1, [4, 5, -2]⟩ = .error .valueError :=
  (cbldmValidate_single (a := ⟨2, true, .int 1, [4, 5, -2]⟩) (by simp)).2.2.2.2 ⟨-2, by simp, by decide⟩
example : cbldmValidate ⟨7, true, .int 1, []⟩ = .error .valueError :=
  cbldmValidate_args_first _ (Or.inl (by decide))

/-- the error is `ValueError`, or `IndexError` and then exactly for the empty list with valid arguments -/
theorem cbldmValidate_error_kind {a : CbArgs} {e : Err} (h : cbldmValidate a = .error e) :
    e = .valueError ∨ (e = .indexError ∧ a.items = [] ∧ a.numbins = 2 ∧ a.timeLimitPositive = true ∧
      a.pd.bad = false) := by
  rw [cbldmValidate_eq] at h
  split at h <;> rename_i hb
  · cases h; exact Or.inl rfl
  · simp only [not_or, ne_eq, Decidable.not_not, Bool.not_eq_false, Bool.not_eq_true] at hb
    split at h <;> rename_i hne
    · cases h; exact Or.inr ⟨rfl, hne, hb⟩
    · split at h
      · cases h; exact Or.inl rfl
      · cases h

/-- C19: with at least one item the only error `cbldm`'s validation can raise is `ValueError` -/
theorem cbldmValidate_never_other {a : CbArgs} (hne : a.items ≠ []) {e : Err}
    (h : cbldmValidate a = .error e) : e = .valueError :=
  (cbldmValidate_error_kind h).resolve_right fun h' => hne h'.2.1

-- the hypotheses of `cbldmValidate_never_other` can be met (the displayed equation itself is trivial)
example : (.valueError : Err) = .valueError :=
  cbldmValidate_never_other (a := ⟨2, true, .nonInt true, [1]⟩) (by simp) rfl

/-- without the hypothesis the statement is false: an otherwise valid request with no item dies with `IndexError` -/
example : cbldmValidate ⟨2, true, .int 1, []⟩ = .error .indexError := rfl

/-! ### `numitems` -/

/-- C19: the sums-only manager refuses to count the items of a bin, whatever the bins and the index -/
theorem sums_numitems_refuses {α : Type} (lists : List (List α)) (i : Nat) :
    numitems false lists i = .error .notImplemented := rfl

example : numitems false [[1, 2], [3]] 1 = .error .notImplemented := sums_numitems_refuses _ _

/-- C19, the contrast: the contents manager answers with the length of the bin -/
theorem contents_numitems {α : Type} {lists : List (List α)} {i : Nat} (h : i < lists.length) :
    numitems true lists i = .ok lists[i].length := by
  simp [numitems, List.getElem?_eq_getElem h]

example : numitems true [[1, 2], [3]] 0 = .ok 2 := contents_numitems (by decide)

theorem contents_numitems_out_of_range {α : Type} {lists : List (List α)} {i : Nat} (h : lists.length ≤ i) :
    numitems true lists i = .error .indexError := by
  simp [numitems, List.getElem?_eq_none h]

example : numitems true [[1, 2], [3]] 2 = .error .indexError := contents_numitems_out_of_range (by decide)

/-! ### the packers -/

/-- the four fit heuristics -/
inductive Packer where
  | ffOnline | ffDecreasing | bfOnline | bfDecreasing
  deriving Repr, DecidableEq

def Packer.run {α : Type} (p : Packer) (v : α → Nat) (B : Nat) (items : List α) : Except Err (Bins α) :=
  match p with
  | .ffOnline => Prtpy.ffOnline v B items
  | .ffDecreasing => Prtpy.ffDecreasing v B items
  | .bfOnline => Prtpy.bfOnline v B items
  | .bfDecreasing => Prtpy.bfDecreasing v B items

theorem Packer.error_iff {α : Type} (p : Packer) (v : α → Nat) (B : Nat) (items : List α) :
    (∃ e, p.run v B items = .error e) ↔ ∃ x ∈ items, B < v x := by
  cases p
  · exact Fit.ffOnline_error_iff
  · exact Fit.ffDecreasing_error_iff
  · exact Fit.bfOnline_error_iff
  · exact Fit.bfDecreasing_error_iff

theorem Packer.error_kind {α : Type} (p : Packer) {v : α → Nat} {B : Nat} {items : List α} {e : Err}
    (h : p.run v B items = .error e) : e = .valueError := by
  cases p
  · exact Fit.ffOnline_error_kind h
  · exact Fit.ffDecreasing_error_kind h
  · exact Fit.bfOnline_error_kind h
  · exact Fit.bfDecreasing_error_kind h

theorem Packer.valueError_iff {α : Type} (p : Packer) (v : α → Nat) (B : Nat) (items : List α) :
    p.run v B items = .error .valueError ↔ ∃ x ∈ items, B < v x := by
  constructor
  · intro h; exact (p.error_iff v B items).1 ⟨_, h⟩
  · intro h
    obtain ⟨e, he⟩ := (p.error_iff v B items).2 h
    rw [he, p.error_kind he]

theorem Packer.ok_iff {α : Type} (p : Packer) (v : α → Nat) (B : Nat) (items : List α) :
    (∃ b, p.run v B items = .ok b) ↔ ∀ x ∈ items, v x ≤ B := by
  constructor
  · rintro ⟨b, hb⟩ x hx
    apply Nat.le_of_not_lt
    intro hlt
    have := (p.valueError_iff v B items).2 ⟨x, hx, hlt⟩
    rw [hb] at this; cases this
  · intro h
    cases hr : p.run v B items with
    | ok b => exact ⟨b, rfl⟩
    | error e =>
      obtain ⟨x, hx, hlt⟩ := (p.error_iff v B items).1 ⟨e, hr⟩
      exact absurd (h x hx) (by omega)

theorem bc_valueError_iff (B : Nat) (items : List Nat) (fuel : Nat) :
    BC.binCompletion B items fuel = .error .valueError ↔ ∃ x ∈ items, B < x := by
  rw [BCProofs.bc_error_iff]
  exact ⟨fun h => h.2, fun h => ⟨rfl, h⟩⟩

/-- C19 for the five packers.  For first fit / best fit, online / decreasing, on any item type and value function,
    and for bin completion on numbers: the result is an error iff some item exceeds the bin size; the error is then
    `ValueError` and nothing else. -/
theorem packing_refuses :
    (∀ (p : Packer) {α : Type} (v : α → Nat) (B : Nat) (items : List α),
      ((∃ e, p.run v B items = .error e) ↔ ∃ x ∈ items, B < v x) ∧
      (p.run v B items = .error .valueError ↔ ∃ x ∈ items, B < v x) ∧
      (∀ e, p.run v B items = .error e → e = .valueError)) ∧
    (∀ (B : Nat) (items : List Nat) (fuel : Nat),
      ((∃ e, BC.binCompletion B items fuel = .error e) ↔ ∃ x ∈ items, B < x) ∧
      (BC.binCompletion B items fuel = .error .valueError ↔ ∃ x ∈ items, B < x) ∧
      (∀ e, BC.binCompletion B items fuel = .error e → e = .valueError)) := by
  refine ⟨fun p α v B items => ⟨p.error_iff v B items, p.valueError_iff v B items, fun e h => p.error_kind h⟩,
    fun B items fuel => ⟨⟨?_, fun h => ⟨_, (bc_valueError_iff B items fuel).2 h⟩⟩, bc_valueError_iff B items fuel,
      fun e h => (BCProofs.bc_error_iff.1 h).1⟩⟩
  rintro ⟨e, he⟩
  exact (BCProofs.bc_error_iff.1 he).2

example : Packer.bfDecreasing.run Prod.fst 10 [(3, 'a'), (11, 'b'), (2, 'c')] = .error .valueError :=
  ((packing_refuses.1 .bfDecreasing Prod.fst 10 _).2.1).2 ⟨(11, 'b'), by simp, by decide⟩
example : ∃ x ∈ [3, 11, 2], 10 < x :=
  ((packing_refuses.2 10 [3, 11, 2] 50).2.1).1 rfl
example : ¬ ∃ e, Packer.ffOnline.run id 10 [3, 10, 2] = .error e := by
  rw [(packing_refuses.1 .ffOnline id 10 [3, 10, 2]).1]; decide

/-- C19, position and multiplicity: one oversize item suffices, wherever it stands in the input
    and whatever surrounds it (including further copies of itself) -/
theorem packing_refuses_anywhere {α : Type} (p : Packer) (v : α → Nat) (B : Nat) (x : α) (hx : B < v x)
    (pre post : List α) : p.run v B (pre ++ [x] ++ post) = .error .valueError :=
  (p.valueError_iff v B _).2 ⟨x, by simp, hx⟩

theorem bc_refuses_anywhere (B : Nat) (x : Nat) (hx : B < x) (pre post : List Nat) (fuel : Nat) :
    BC.binCompletion B (pre ++ [x] ++ post) fuel = .error .valueError :=
  (bc_valueError_iff B _ fuel).2 ⟨x, by simp, hx⟩

/-- `n + 1` copies, spread over the input -/
theorem packing_refuses_copies {α : Type} (p : Packer) (v : α → Nat) (B : Nat) (x : α) (hx : B < v x)
    (n : Nat) (l₁ l₂ l₃ : List α) :
    p.run v B (l₁ ++ x :: l₂ ++ List.replicate n x ++ l₃) = .error .valueError :=
  (p.valueError_iff v B _).2 ⟨x, by simp, hx⟩

/-- refusal depends neither on the order of the input nor on which of the four heuristics runs -/
theorem packing_refuses_perm {α : Type} (p q : Packer) (v : α → Nat) (B : Nat) {l₁ l₂ : List α}
    (h : l₁.Perm l₂) : p.run v B l₁ = .error .valueError ↔ q.run v B l₂ = .error .valueError := by
  rw [p.valueError_iff, q.valueError_iff]
  exact ⟨fun ⟨x, hx, hlt⟩ => ⟨x, h.mem_iff.1 hx, hlt⟩, fun ⟨x, hx, hlt⟩ => ⟨x, h.mem_iff.2 hx, hlt⟩⟩

example : Packer.ffOnline.run id 10 ([3, 4] ++ [12] ++ [5, 12, 1]) = .error .valueError :=
  packing_refuses_anywhere .ffOnline id 10 12 (by decide) [3, 4] [5, 12, 1]
example : Packer.bfOnline.run id 10 ([] ++ [12] ++ []) = .error .valueError :=
  packing_refuses_anywhere .bfOnline id 10 12 (by decide) [] []
example : BC.binCompletion 10 ([3, 4, 5, 1] ++ [12] ++ []) 100 = .error .valueError :=
  bc_refuses_anywhere 10 12 (by decide) _ _ _

theorem Packer.natural {α β : Type} (p : Packer) (f : α → β) (vα : α → Nat) (vβ : β → Nat)
    (hf : ∀ a, vβ (f a) = vα a) (B : Nat) (items : List α) :
    p.run vβ B (items.map f) = (p.run vα B items).map (Bins.mapItems f) := by
  cases p
  · exact Natural.ffOnline_natural f vα vβ hf B items
  · exact Natural.ffDecreasing_natural f vα vβ hf B items
  · exact Natural.bfOnline_natural f vα vβ hf B items
  · exact Natural.bfDecreasing_natural f vα vβ hf B items

/-- C19, format independence: re-labelling the items (`f`, e.g. attaching names, with `vβ (f a) = vα a`) changes
    neither whether the request is refused nor the error: the two runs are related by `Except.map`, so one is
    `.error e` iff the other is. -/
theorem packing_refuses_format {α β : Type} (p : Packer) (f : α → β) (vα : α → Nat) (vβ : β → Nat)
    (hf : ∀ a, vβ (f a) = vα a) (B : Nat) (items : List α) :
    (∀ e, p.run vβ B (items.map f) = .error e ↔ p.run vα B items = .error e) ∧
    (p.run vβ B (items.map f) = .error .valueError ↔ ∃ a ∈ items, B < vα a) := by
  have hn := p.natural f vα vβ hf B items
  have h1 : ∀ e, p.run vβ B (items.map f) = .error e ↔ p.run vα B items = .error e := by
    intro e
    rw [hn]
    cases p.run vα B items with
    | ok b => exact ⟨fun h => (by cases h), fun h => (by cases h)⟩
    | error e' => exact ⟨fun h => (by cases h; rfl), fun h => (by cases h; rfl)⟩
  exact ⟨h1, (h1 _).trans (p.valueError_iff vα B items)⟩

/-- the same request given as bare numbers or as named items is refused alike -/
theorem packing_refuses_named {α : Type} (p : Packer) (v : α → Nat) (B : Nat) (items : List α) :
    p.run id B (items.map v) = .error .valueError ↔ p.run v B items = .error .valueError :=
  (packing_refuses_format p v v id (fun _ => rfl) B items).1 _

example : Packer.ffDecreasing.run Prod.fst 10 ([(3, "a"), (11, "b")]) = .error .valueError :=
  (packing_refuses_named .ffDecreasing Prod.fst 10 [(3, "a"), (11, "b")]).1 rfl
example : Packer.bfOnline.run (fun p : String × Nat => p.2) 10 ([5, 12, 1].map fun n => ("item", n))
    = .error .valueError :=
  (packing_refuses_format .bfOnline (fun n => ("item", n)) id _ (fun _ => rfl) 10 [5, 12, 1]).2.2
    ⟨12, by simp, by decide⟩

end Prtpy.Refuse
