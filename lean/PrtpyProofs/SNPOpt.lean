/-
  PrtpyProofs.SNPOpt — optimality (C02) of sequential number partitioning (`snp`, any number of bins), and what the
  optimality of recursive number partitioning (PrtpyProofs/RNPOpt.lean) shares with it.

  * The window argument of Korf / Schreiber / Moffitt: in any completion of the prior bins that beats the incumbent,
    the smallest of the `c` bins still to be formed has its sum inside the window `[(t − (c−1)·D)/c, t/c]`
    (`window_lemma`, `smallest_bin`, `out_of_window`), hence is reached by the inclusion/exclusion tree, whatever the
    moment at which the lower bound is read (`treeFold_reach`).  It is stated once, for a bound computed from any
    function `B` of the state: `treeFold_window` (SNP: the state's own spread; the odd round of RNP: the spread at
    creation, a constant: `RNPRound.oddLevel_eq_treeFold`).
  * With two bins left, the 2-way split of minimum difference minimises the combined spread with any fixed prior
    sums (`two_way_spread`); with four, the two outer and the two inner bins of a better partition form a split that
    the generator yields (`four_sorted`).
  * `SumsOnly.Real` (the sums of some partition of the items) and `SumsOnly.TwoOK` (what SNP and RNP use of the
    2-way complete Karmarkar–Karp search: the sums of a split of minimum difference), in their namespace.  `TwoOK`
    is a hypothesis of `SumsOnly.snpRec_opt`, `snp_optimal_of`; the 2-way search provides it with either manager
    (`SumsOnly.ckk2_twoOK`, PrtpyProofs/SumsOnly.lean), and so does the hypothesis `Ckk2Optimal`:
  * `Ckk2Optimal` (the 2-way search that `snp`/`rnp` call returns a partition of minimum difference) and
    `CkkGenComplete` (the 2-way generator `ckkGen … 2 … (some d)` yields every 2-way split of difference `< d`; used
    by `rnp` with four bins only) are the hypotheses of `SNPOpt.snp_optimal` (here) and `SNPOpt.rnp_optimal`
    (RNPOpt.lean); they are proved in PrtpyProofs/CKKFSwitch.lean, CKKGenComplete.lean.
  Last: `rnp_not_optimal_five`, the code before F10 on five bins.
  The middle part declares into `Prtpy.SumsOnly` (`Real`, `TwoOK`, `snpRec_opt`, `snp_optimal_of`): `snp_optimal` at the
  end rests on them; the rest of that namespace is in RNPOpt.lean and SumsOnly.lean.
-/
import Mathlib.Data.List.Perm.Basic
import PrtpyProofs.Oracle
import PrtpyProofs.SNP
import PrtpyProofs.Runs
import PrtpyProofs.CKKValid

namespace Prtpy.SNPOpt
open Prtpy
open Prtpy.SNPProofs (spread_perm value_minDiff)

variable {α : Type}

/-- Hypothesis: the 2-way complete Karmarkar–Karp search that snp/rnp call (`ckkF`, the code after fix F11) returns a
    partition, of minimum difference.  Discharged by `RNPF.ckk2Optimal` in PrtpyProofs/CKKFSwitch.lean; the validity
    half is part of the hypothesis because the validity of `ckkF` is proved in PrtpyProofs/CKKF.lean, which this file
    does not import. -/
def Ckk2Optimal (v nm : α → Nat) [BEq α] : Prop :=
  ∀ (items : List α) (fuel : Nat) (b : Bins α), items ≠ [] → ckkF v nm 2 true items fuel = .ok b →
    IsPartition v items 2 b ∧
      IsOptimalValue .minDiff 2 (items.map v) (Objective.minDiff.value b.sums false)

/-! ### arithmetic: sums, spread, the window lemma -/

/-- Window lemma (C02): a smallest element `s` of `c` numbers of total `t`, none above `s + D`, lies in the window
    `[(t − (c−1)·D)/c, t/c]` (stated without division). -/
theorem window_lemma {ns : List Nat} {s D : Nat} (hs : s ∈ ns) (hmin : ∀ x ∈ ns, s ≤ x)
    (hmax : ∀ x ∈ ns, x ≤ s + D) :
    ns.length * s ≤ sumL ns ∧ sumL ns ≤ ns.length * s + (ns.length - 1) * D := by
  refine ⟨Part.length_mul_le s ns hmin, ?_⟩
  -- every element is at most `s + D`, and `s` itself needs no `D`
  have h := Part.sumL_le_length_mul' ns s D hmax hs
  obtain ⟨m, hm⟩ : ∃ m, ns.length = m + 1 := ⟨ns.length - 1, by have := List.length_pos_of_mem hs; omega⟩
  rw [hm] at h ⊢
  simp only [Nat.add_sub_cancel, Nat.add_mul, Nat.one_mul] at h ⊢
  omega

/-- the window lemma with `D` the spread of the new sums `ns` together with fixed prior sums `P` -/
theorem window_spread {ns P : List Nat} {s : Nat} (hs : s ∈ ns) (hmin : ∀ x ∈ ns, s ≤ x) :
    ns.length * s ≤ sumL ns ∧ sumL ns ≤ ns.length * s + (ns.length - 1) * spread (ns ++ P) := by
  apply window_lemma hs hmin
  intro x hx
  have h1 : x ≤ maxL (ns ++ P) := Part.le_maxL (List.mem_append_left _ hx)
  have h2 : minL (ns ++ P) ≤ s := Part.minL_le (List.mem_append_left _ hs)
  unfold spread
  omega

theorem spread_pair (x y : Nat) : spread [x, y] = max x y - min x y := by
  show max x (max y 0) - min x y = _
  rw [Nat.max_zero]

theorem max_add_min (a b : Nat) : max a b + min a b = a + b := by omega

/-- of two pairs with the same total, the one of smaller difference lies inside the other -/
theorem pair_inside {a b a' b' : Nat} (ht : a + b = a' + b')
    (hd : spread [a, b] ≤ spread [a', b']) : min a' b' ≤ min a b ∧ max a b ≤ max a' b' := by
  rw [spread_pair, spread_pair] at hd
  have e := max_add_min a b
  have e' := max_add_min a' b'
  have l : min a b ≤ max a b := Nat.le_trans (Nat.min_le_left a b) (Nat.le_max_left a b)
  have l' : min a' b' ≤ max a' b' := Nat.le_trans (Nat.min_le_left a' b') (Nat.le_max_left a' b')
  -- as atoms: `omega` would split on every `max` and `min`
  generalize max a b = hi at *
  generalize max a' b' = hi' at *
  generalize min a b = lo at *
  generalize min a' b' = lo' at *
  omega

/-- an ascending pair is determined by its total and its difference -/
theorem sorted_pair_eq {x y x' y' : Nat} (p : x ≤ y) (p' : x' ≤ y') (hsum : x + y = x' + y')
    (hv : spread [x, y] = spread [x', y']) : [x, y] = [x', y'] := by
  rw [spread_pair, spread_pair, Nat.max_eq_right p, Nat.max_eq_right p', Nat.min_eq_left p, Nat.min_eq_left p'] at hv
  have : x = x' ∧ y = y' := by omega
  rw [this.1, this.2]

/-- Two-way lemma (C02).  For a fixed total, a smaller 2-way difference gives a smaller combined spread with any
    fixed prior sums. -/
theorem two_way_spread {a b a' b' : Nat} (P : List Nat) (ht : a + b = a' + b')
    (hd : spread [a, b] ≤ spread [a', b']) : spread ([a, b] ++ P) ≤ spread ([a', b'] ++ P) := by
  cases P with
  | nil => simpa using hd
  | cons p ps =>
    obtain ⟨h2, h1⟩ := pair_inside ht hd
    have e : ∀ x y : Nat, spread ([x, y] ++ p :: ps) =
        max (max x y) (maxL (p :: ps)) - min (min x y) (minL (p :: ps)) := fun x y => by
      show max x (max y (maxL (p :: ps))) - min x (min y (minL (p :: ps))) = _
      rw [Nat.max_assoc, Nat.min_assoc]
    rw [e, e]
    have hM : max (max a b) (maxL (p :: ps)) ≤ max (max a' b') (maxL (p :: ps)) :=
      Nat.max_le.2 ⟨Nat.le_trans h1 (Nat.le_max_left _ _), Nat.le_max_right _ _⟩
    have hm : min (min a' b') (minL (p :: ps)) ≤ min (min a b) (minL (p :: ps)) :=
      Nat.le_min.2 ⟨Nat.le_trans (Nat.min_le_left _ _) h2, Nat.min_le_right _ _⟩
    exact Nat.le_trans (Nat.sub_le_sub_right hM _) (Nat.sub_le_sub_left hm _)

example : spread ([5, 6] ++ [9, 4]) ≤ spread ([3, 8] ++ [9, 4]) := two_way_spread _ rfl (by decide)

/-- the window lemma on three sums: the smallest is `4`, none exceeds `4 + 3` -/
example : 3 * 4 ≤ sumL [6, 4, 7] ∧ sumL [6, 4, 7] ≤ 3 * 4 + 2 * 3 :=
  window_lemma (ns := [6, 4, 7]) (s := 4) (D := 3) (by decide) (by decide) (by decide)

/-! ### the moving-bound tree reaches every sub-collection that matters -/

/-- If `P` is stable under `body`, holds after `body` has been run on the target `cur ++ s`, and holds in every
    state whose window excludes the target, then `P` holds at the end of the traversal. -/
theorem treeFold_reach {σ : Type} (P : σ → Prop) (v : α → Nat) (den : Nat) (ub : Int) (lbOf : σ → Int)
    (body : σ → List α → Except Err σ) (target : List α)
    (hmono : ∀ st x st', P st → body st x = .ok st' → P st')
    (hhit : ∀ st st', body st target = .ok st' → P st')
    (hprune : ∀ st, SNPProofs.inWin v den (lbOf st) ub target = false → P st) :
    ∀ (rest cur s : List α) (st st' : σ), s.Sublist rest → target = cur ++ s →
      treeFold v den ub lbOf body st cur rest = .ok st' → P st' := by
  intro rest
  induction rest with
  | nil =>
    intro cur s st st' hs ht h
    have : s = [] := by simpa using hs
    subst this
    rw [List.append_nil] at ht
    subst ht
    rcases SNPProofs.treeFold_nil_ok.1 h with ⟨hp, rfl⟩ | ⟨_, hb⟩
    · apply hprune
      rw [SNPProofs.inexPrune_nil] at hp
      simpa using hp
    · exact hhit st st' hb
  | cons x xs ih =>
    intro cur s st st' hs ht h
    rcases SNPProofs.treeFold_cons_ok.1 h with ⟨hp, rfl⟩ | ⟨_, s1, hL, h⟩
    · apply hprune
      rw [ht]
      exact SNPProofs.inexPrune_sound v den _ ub cur (x :: xs) s hp hs
    · rcases List.sublist_cons_iff.1 hs with hs' | ⟨r, rfl, hr⟩
      · exact ih cur s s1 st' hs' ht h
      · have h1 : P s1 := ih (cur ++ [x]) r st s1 hr (by simpa using ht) hL
        exact SNPProofs.treeFold_inv P v den ub lbOf body cur xs
          (fun st0 _ st0' h0 _ hb => hmono st0 _ st0' h0 hb) s1 st' h1 h

theorem lists_isPartition (v : α → Nat) {items : List α} {L : List (List α)} {k : Nat} (hl : L.length = k)
    (hp : L.flatten.Perm items) : IsPartition v items k ⟨L.map (binSum v), L⟩ :=
  ⟨hp, hl, rfl⟩

/-! ### the smallest new bin of a completion -/

theorem exists_min_bin (v : α → Nat) {L : List (List α)} (hne : L ≠ []) :
    ∃ l A B, L = A ++ l :: B ∧ ∀ x ∈ L, binSum v l ≤ binSum v x := by
  obtain ⟨l, hmem, heq⟩ := Part.exists_mem_minL_map (binSum v) hne
  obtain ⟨A, B, hAB⟩ := List.append_of_mem hmem
  refine ⟨l, A, B, hAB, ?_⟩
  intro x hx
  rw [heq]
  exact Part.minL_le (List.mem_map_of_mem hx)

/-- Given a completion `L` (`c + 1` bins holding exactly `rem`) of fixed prior sums `P`, its smallest bin has a
    copy `sub` among the sorted items; the other bins complete `P ++ [sum sub]` with the same overall spread;
    and `sub` satisfies the window inequalities for that spread. -/
theorem smallest_bin [BEq α] [LawfulBEq α] (v : α → Nat) {rem : List α} {L : List (List α)} {c : Nat}
    (P : List Nat) (hl : L.length = c + 1) (hp : L.flatten.Perm rem) :
    ∃ (sub : List α) (L' : List (List α)), sub.Sublist (sortDesc v rem) ∧ L'.length = c ∧
      L'.flatten.Perm (findDiff rem sub) ∧
      spread (L'.map (binSum v) ++ (P ++ [binSum v sub])) = spread (L.map (binSum v) ++ P) ∧
      (c + 1) * binSum v sub ≤ binSum v rem ∧
      binSum v rem ≤ (c + 1) * binSum v sub + c * spread (L.map (binSum v) ++ P) := by
  obtain ⟨lmin, A, B, rfl, hmin⟩ := exists_min_bin v (L := L) (by intro e; simp [e] at hl)
  have hwin := window_spread (P := P) (List.mem_map_of_mem (f := binSum v) (List.mem_append_right A List.mem_cons_self))
    (fun x hx => by obtain ⟨l, hl, rfl⟩ := List.mem_map.1 hx; exact hmin l hl)
  rw [Part.sumL_map_binSum, Part.binSum_perm v hp, List.length_map, hl] at hwin
  have hflat : (A ++ lmin :: B).flatten.Perm (lmin ++ (A ++ B).flatten) := by
    simp only [List.flatten_append, List.flatten_cons]
    exact (List.perm_append_comm_assoc _ _ _)
  have hsubperm : lmin.Subperm (sortDesc v rem) := by
    have h1 : lmin.Subperm (lmin ++ (A ++ B).flatten) := (List.sublist_append_left _ _).subperm
    exact h1.trans (hflat.symm.trans (hp.trans (Part.sortDesc_perm v rem).symm)).subperm
  obtain ⟨sub, hsubp, hsubl⟩ := hsubperm
  have hbs : binSum v sub = binSum v lmin := Part.binSum_perm v hsubp
  refine ⟨sub, A ++ B, hsubl, ?_, ?_, ?_, ?_, ?_⟩
  · simp only [List.length_append, List.length_cons] at hl ⊢
    omega
  · have h1 := SNPProofs.findDiff_perm hsubl (Part.sortDesc_perm v rem)
    have h2 : (sub ++ (A ++ B).flatten).Perm (sub ++ findDiff rem sub) :=
      ((hsubp.append_right _).trans (hflat.symm.trans hp)).trans h1.symm
    exact (List.perm_append_left_iff sub).1 h2
  · apply spread_perm
    rw [hbs]
    simp only [List.map_append, List.map_cons, List.append_assoc]
    refine List.Perm.append_left _ ?_
    rw [← List.append_assoc]
    exact List.perm_append_singleton _ _
  · rw [hbs]; exact hwin.1
  · rw [hbs]
    simpa using hwin.2

/-- a sub-collection that satisfies the window inequalities for the spread `D'` of some completion is outside
    the window computed from the spread `Dst` only if `Dst < D'` -/
theorem out_of_window {v : α → Nat} {c : Nat} {t : Nat} {sub : List α} {Dst D' : Nat}
    (h1 : (c + 1) * binSum v sub ≤ t) (h2 : t ≤ (c + 1) * binSum v sub + c * D')
    (hw : SNPProofs.inWin v (c + 1) ((t : Int) - (((c + 1 : Nat) : Int) - 1) * (Dst : Nat)) (t : Int) sub = false) :
    Dst < D' := by
  simp only [SNPProofs.inWin, Bool.and_eq_false_iff, decide_eq_false_iff_not] at hw
  generalize binSum v sub = s at *
  have hcast : ((c + 1 : Nat) : Int) - 1 = ((c : Nat) : Int) := by omega
  rw [hcast] at hw
  have e1 : (s : Int) * ((c + 1 : Nat) : Int) = (((c + 1) * s : Nat) : Int) := by
    rw [Nat.mul_comm]; exact (Int.natCast_mul _ _).symm
  have e2 : ((c : Nat) : Int) * (Dst : Int) = ((c * Dst : Nat) : Int) := (Int.natCast_mul _ _).symm
  rw [e1, e2] at hw
  apply Nat.lt_of_mul_lt_mul_left (a := c)
  -- `sub` is outside the window of `Dst`: `(c+1)·s < t − c·Dst` (the other bound, `t < (c+1)·s`, contradicts `h1`);
  -- with `h2 : t ≤ (c+1)·s + c·D'` that is `c·Dst < c·D'`
  rcases hw with hw | hw
  · omega
  · omega

/-! ### the window argument -/

/-- **The window argument, once.**  A traversal of the in/ex tree for `c + 1` bins whose lower bound is computed
    from a number `B st`; `body` never makes the state worse and, run on `sub`, makes it at least as good as every
    completion of `P ++ [sum sub]` by `c` bins.  Then the final state is at least as good as a completion `L` of `P`
    by `c + 1` bins, provided a state whose `B` is below the spread of `L` is already that good (`hB`: trivial when
    `B` is the state's own spread as in SNP; vacuous when `B` is a constant above the spread of `L` as in RNP). -/
theorem treeFold_window [BEq α] [LawfulBEq α] {v : α → Nat} {c : Nat} {rem : List α} (P : List Nat)
    (B : Bins α → Nat) (body : Bins α → List α → Except Err (Bins α))
    (hmono : ∀ st x st', body st x = .ok st' → spread st'.sums ≤ spread st.sums)
    (hhit : ∀ st sub st', body st sub = .ok st' → ∀ L' : List (List α), L'.length = c →
      L'.flatten.Perm (findDiff rem sub) → spread st'.sums ≤ spread (L'.map (binSum v) ++ (P ++ [binSum v sub])))
    {L : List (List α)} (hl : L.length = c + 1) (hp : L.flatten.Perm rem)
    (hB : ∀ st, B st < spread (L.map (binSum v) ++ P) → spread st.sums ≤ spread (L.map (binSum v) ++ P))
    {best r : Bins α}
    (h : treeFold v (c + 1) ((binSum v rem : Nat) : Int)
      (fun st => ((binSum v rem : Nat) : Int) - (((c + 1 : Nat) : Int) - 1) * ((B st : Nat) : Int)) body best []
      (sortDesc v rem) = .ok r) :
    spread r.sums ≤ spread (L.map (binSum v) ++ P) := by
  obtain ⟨sub, L', hsubl, hlen, hrest, hsp, hw1, hw2⟩ := smallest_bin v P hl hp
  refine treeFold_reach (fun st : Bins α => spread st.sums ≤ spread (L.map (binSum v) ++ P))
    v _ _ _ _ sub (fun st x st' hst hb => Nat.le_trans (hmono _ _ _ hb) hst) ?_ ?_
    (sortDesc v rem) [] sub best r hsubl rfl h
  · intro st st' hb
    have := hhit _ _ _ hb L' hlen hrest
    rwa [hsp] at this
  · intro st hw
    exact hB st (out_of_window hw1 hw2 hw)

/-! ## for RNP (recursive number partitioning): the generator's completeness; four bins, sorted -/

/-- Hypothesis: the 2-way CKK generator started with the bound `d` yields (up to the order of the items inside a
    bin and the order of the two bins) every 2-way split whose difference is below `d`. -/
def CkkGenComplete (v nm : α → Nat) [BEq α] : Prop :=
  ∀ (items : List α) (d fuel : Nat) (tops : List (Bins α)), items ≠ [] →
    ckkGen v nm 2 true items (some d) fuel = .ok tops →
    ∀ X Y : List α, (X ++ Y).Perm items → spread [binSum v X, binSum v Y] < d →
      ∃ top ∈ tops, ∃ X' Y', top.lists = [X', Y'] ∧ ((X'.Perm X ∧ Y'.Perm Y) ∨ (X'.Perm Y ∧ Y'.Perm X))

/-! ### four bins, sorted -/

theorem exists_max_bin (v : α → Nat) {L : List (List α)} (hne : L ≠ []) :
    ∃ l A B, L = A ++ l :: B ∧ ∀ x ∈ L, binSum v x ≤ binSum v l := by
  obtain ⟨l, hmem, heq⟩ := Part.exists_mem_maxL_map (binSum v) hne
  obtain ⟨A, B, hAB⟩ := List.append_of_mem hmem
  refine ⟨l, A, B, hAB, ?_⟩
  intro x hx
  rw [heq]
  exact Part.le_maxL (List.mem_map_of_mem hx)

/-- four bins, reordered as smallest, largest, and the two others -/
theorem four_sorted (v : α → Nat) {L : List (List α)} (hl : L.length = 4) :
    ∃ l1 l4 p q, L.Perm [l1, l4, p, q] ∧ binSum v l1 ≤ binSum v l4 ∧
      (binSum v l1 ≤ binSum v p ∧ binSum v p ≤ binSum v l4) ∧
      (binSum v l1 ≤ binSum v q ∧ binSum v q ≤ binSum v l4) := by
  obtain ⟨l1, A, B, rfl, hmin⟩ := exists_min_bin v (L := L) (by intro e; simp [e] at hl)
  have hl3 : (A ++ B).length = 3 := by
    simp only [List.length_append, List.length_cons] at hl ⊢
    omega
  obtain ⟨l4, A', B', hAB, hmax⟩ := exists_max_bin v (L := A ++ B) (by intro e; simp [e] at hl3)
  have hl2 : (A' ++ B').length = 2 := by
    rw [hAB] at hl3
    simp only [List.length_append, List.length_cons] at hl3 ⊢
    omega
  match hpq : A' ++ B', hl2 with
  | [p, q], _ =>
    have hp2 : (A ++ B).Perm [l4, p, q] := by
      rw [hAB, ← hpq]
      exact List.perm_middle
    have hp1 : (A ++ l1 :: B).Perm [l1, l4, p, q] := List.perm_middle.trans (hp2.cons l1)
    have hin : ∀ x ∈ [l4, p, q], binSum v l1 ≤ binSum v x ∧ binSum v x ≤ binSum v l4 := by
      intro x hx
      refine ⟨hmin x (hp1.mem_iff.2 (List.mem_cons_of_mem _ hx)), hmax x (hp2.mem_iff.2 hx)⟩
    exact ⟨l1, l4, p, q, hp1, (hin l4 (by simp)).1, hin p (by simp), hin q (by simp)⟩

end Prtpy.SNPOpt

/-! ## Realisable sums, what is used of the 2-way search (`TwoOK`), and SNP relative to it -/

namespace Prtpy.SumsOnly
open Prtpy
open Prtpy.SNPProofs (spread_perm value_minDiff)

variable {α : Type}

/-- `sums` are the sums of some partition of `items` into `k` bins -/
def Real (v : α → Nat) (items : List α) (k : Nat) (sums : List Nat) : Prop :=
  ∃ L : List (List α), L.length = k ∧ L.flatten.Perm items ∧ L.map (binSum v) = sums

theorem real_of_partition {v : α → Nat} {items : List α} {k : Nat} {b : Bins α} (h : IsPartition v items k b) :
    Real v items k b.sums :=
  ⟨b.lists, h.2.1, h.1, h.2.2.symm⟩

/-- `Real` is `SNPProofs.Answer` without contents -/
theorem real_iff_answer {v : α → Nat} {items : List α} {k : Nat} {b : Bins α} :
    Real v items k b.sums ↔ SNPProofs.Answer v false items k b :=
  ⟨fun ⟨L, l, p, e⟩ => ⟨L, l, p, e.symm, fun h => nomatch h⟩, fun ⟨L, l, p, e, _⟩ => ⟨L, l, p, e.symm⟩⟩

theorem real_perm_items {v : α → Nat} {items items' : List α} {k : Nat} {s : List Nat} (hp : items.Perm items')
    (h : Real v items k s) : Real v items' k s := by
  obtain ⟨L, l, p, e⟩ := h
  exact ⟨L, l, p.trans hp, e⟩

theorem real_assignment {v : α → Nat} {items : List α} {k : Nat} {sums : List Nat} (h : Real v items k sums) :
    ∃ asg, IsAssignment k items.length asg ∧ sumsOf k (items.map v) asg = sums := by
  obtain ⟨L, rfl, p, rfl⟩ := h
  exact Oracle.lists_sums_assignment v items L p

theorem real_of_assignment {v : α → Nat} {items : List α} {k : Nat} {sums asg : List Nat}
    (h : IsAssignment k items.length asg) (hs : sumsOf k (items.map v) asg = sums) : Real v items k sums := by
  obtain ⟨L, l, p, e⟩ := Oracle.assignment_lists v items h
  exact ⟨L, l, p, e.trans hs⟩

/-- the bridge to the oracle's `IsOptimalValue`: realisable sums whose spread is at most that of every list of `k`
    bins holding the items are optimal -/
theorem optimal_of_le {v : α → Nat} {items : List α} {k : Nat} {sums : List Nat} (hreal : Real v items k sums)
    (hle : ∀ L : List (List α), L.length = k → L.flatten.Perm items → spread sums ≤ spread (L.map (binSum v))) :
    IsOptimalValue .minDiff k (items.map v) (Objective.minDiff.value sums false) := by
  refine Oracle.isOptimalValue_of_sums (real_assignment hreal) fun asg hasg => ?_
  obtain ⟨L, hl, hp, hs⟩ := Oracle.assignment_lists v items hasg
  rw [value_minDiff, value_minDiff, ← hs]
  exact_mod_cast hle L hl hp

/-- … and conversely -/
theorem le_of_optimal {v : α → Nat} {items : List α} {k : Nat} {sums : List Nat}
    (hopt : IsOptimalValue .minDiff k (items.map v) (Objective.minDiff.value sums false))
    {L : List (List α)} (hl : L.length = k) (hp : L.flatten.Perm items) :
    spread sums ≤ spread (L.map (binSum v)) := by
  have h := Oracle.optimal_le_partition hopt (SNPOpt.lists_isPartition v hl hp)
  rw [value_minDiff, value_minDiff] at h
  exact_mod_cast h

/-- what SNP and RNP use of the 2-way search: the two sums returned are those of a split of the items, and no
    split has a smaller difference -/
def TwoOK (v : α → Nat) (items : List α) (two : Bins α) : Prop :=
  Real v items 2 two.sums ∧
    ∀ L : List (List α), L.length = 2 → L.flatten.Perm items → spread two.sums ≤ spread (L.map (binSum v))

theorem two_sums {v : α → Nat} {items : List α} {s : List Nat} (h : Real v items 2 s) :
    ∃ a b, s = [a, b] ∧ a + b = binSum v items := by
  obtain ⟨L, hl, hp, rfl⟩ := h
  match L, hl with
  | [X, Y], _ =>
    refine ⟨binSum v X, binSum v Y, rfl, ?_⟩
    rw [← Part.binSum_perm v hp]
    simp [Part.binSum_append]

/-- what an optimal 2-way split of `Z` knows about any other split `l, l'` of `Z` -/
theorem two_pair {v : α → Nat} {Z l l' : List α} {two : Bins α} (h : TwoOK v Z two) (hp : (l ++ l').Perm Z) :
    ∃ a b, two.sums = [a, b] ∧ a + b = binSum v l + binSum v l' ∧
      spread [a, b] ≤ spread [binSum v l, binSum v l'] := by
  obtain ⟨a, b, hab, hsum⟩ := two_sums h.1
  refine ⟨a, b, hab, ?_, ?_⟩
  · rw [hsum, ← Part.binSum_perm v hp, Part.binSum_append]
  · have := h.2 [l, l'] rfl (by simpa using hp)
    rw [hab] at this
    exact this

/-- the optimal 2-way split of the remaining items is the best completion of any fixed prior sums -/
theorem two_le {v : α → Nat} {rem : List α} {two : Bins α} (h : TwoOK v rem two) (P : List Nat)
    (L : List (List α)) (hl : L.length = 2) (hp : L.flatten.Perm rem) :
    spread (two.sums ++ P) ≤ spread (L.map (binSum v) ++ P) := by
  match L, hl with
  | [l, l'], _ =>
    obtain ⟨a, b, hab, hsum, hsp⟩ := two_pair (l := l) (l' := l') h (by simpa using hp)
    rw [hab]
    exact SNPOpt.two_way_spread P hsum hsp

/-- an optimal 2-way split of `l ++ l'` has both sums between the bounds of the sums of `l` and `l'` -/
theorem two_bounds {v : α → Nat} {Z l l' : List α} {two : Bins α} (h : TwoOK v Z two) (hp : (l ++ l').Perm Z)
    {lo hi : Nat} (h1 : lo ≤ binSum v l) (h2 : lo ≤ binSum v l') (h3 : binSum v l ≤ hi) (h4 : binSum v l' ≤ hi) :
    two.sums ≠ [] ∧ ∀ x ∈ two.sums, lo ≤ x ∧ x ≤ hi := by
  obtain ⟨a, b, hab, hsum, hsp⟩ := two_pair h hp
  obtain ⟨p, q⟩ := SNPOpt.pair_inside hsum hsp
  have p' := Nat.le_trans (Nat.le_min.2 ⟨h1, h2⟩) p
  have q' := Nat.le_trans q (Nat.max_le.2 ⟨h3, h4⟩)
  rw [hab]
  refine ⟨List.cons_ne_nil _ _, fun x hx => ?_⟩
  simp only [List.mem_cons, List.not_mem_nil, or_false] at hx
  rcases hx with rfl | rfl
  · exact ⟨Nat.le_trans p' (Nat.min_le_left _ _), Nat.le_trans (Nat.le_max_left _ _) q'⟩
  · exact ⟨Nat.le_trans p' (Nat.min_le_right _ _), Nat.le_trans (Nat.le_max_right _ _) q'⟩

/-- the sorted sums of a 2-way split of minimum difference are unique -/
theorem twoOK_sums_eq {v : α → Nat} {items : List α} {two two' : Bins α} (h : TwoOK v items two)
    (hs : two.sums.Pairwise (· ≤ ·)) (h' : TwoOK v items two') (hs' : two'.sums.Pairwise (· ≤ ·)) :
    two.sums = two'.sums := by
  obtain ⟨L, hl, hp, hL⟩ := h.1
  obtain ⟨L', hl', hp', hL'⟩ := h'.1
  have e1 := h.2 L' hl' hp'
  have e2 := h'.2 L hl hp
  rw [hL'] at e1
  rw [hL] at e2
  obtain ⟨a, b, hab, hsum⟩ := two_sums h.1
  obtain ⟨a', b', hab', hsum'⟩ := two_sums h'.1
  rw [hab] at hs e1 e2 ⊢
  rw [hab'] at hs' e1 e2 ⊢
  exact SNPOpt.sorted_pair_eq (by simpa using hs) (by simpa using hs') (hsum.trans hsum'.symm) (Nat.le_antisymm e1 e2)

/-! ### SNP, for any 2-way search that satisfies `TwoOK` -/

/-- Invariant of `rec_generate_sets` (the recursion of SNP), given of the 2-way search what `TwoOK` says (`htwo`):
    with `cur ≥ 2` bins to form, the returned sums are at least as good as the incumbent's and as those of every
    completion of the prior bins by a partition of the remaining items into `cur` bins. -/
theorem snpRec_opt {v nm : α → Nat} [BEq α] [LawfulBEq α] {c : Bool} {fuel : Nat}
    (htwo : ∀ its two, ckk2 v nm c its fuel = .ok two → TwoOK v its two) (cur : Nat) (prior best : Bins α)
    (rem : List α) : ∀ (r : Bins α), 2 ≤ cur →
      snpRec v nm c fuel cur prior best rem = .ok r →
      spread r.sums ≤ spread best.sums ∧
      ∀ L : List (List α), L.length = cur → L.flatten.Perm rem →
        spread r.sums ≤ spread (L.map (binSum v) ++ prior.sums) := by
  induction cur, prior, best, rem using snpRec.induct v nm c fuel with
  | case1 | case2 => intro _ hc; omega
  | case3 prior best rem e he => intro r _ h; simp only [snpRec, he] at h; cases h
  | case4 prior best rem two ht hlt =>
    intro r _ h
    simp only [snpRec, ht, if_pos hlt] at h
    cases h
    exact ⟨Nat.le_of_lt hlt, fun L hl hp => two_le (htwo _ _ ht) prior.sums L hl hp⟩
  | case5 prior best rem two ht hlt =>
    intro r _ h
    simp only [snpRec, ht, if_neg hlt] at h
    cases h
    exact ⟨Nat.le_refl _, fun L hl hp => Nat.le_trans (Nat.not_lt.1 hlt) (two_le (htwo _ _ ht) prior.sums L hl hp)⟩
  | case6 n prior best rem ih =>
    intro r _ h
    rw [snpRec] at h
    have ih' := fun st sub st' hb => ih st sub st' (Nat.le_add_left 2 n) hb
    refine ⟨?_, ?_⟩
    · exact SNPProofs.treeFold_inv (fun st : Bins α => spread st.sums ≤ spread best.sums) _ _ _ _ _ []
        (sortDesc v rem) (fun st s st' hst _ hb => Nat.le_trans (ih' _ _ _ hb).1 hst) best r (Nat.le_refl _) h
    · intro L hl hp
      exact SNPOpt.treeFold_window (c := n + 2) prior.sums (fun st => spread st.sums) _
        (fun st x st' hb => (ih' _ _ _ hb).1) (fun st sub st' hb L' hlen hrest => (ih' _ _ _ hb).2 L' hlen hrest)
        hl hp (fun st hlt => Nat.le_of_lt hlt) h

/-- C01 + C02 for SNP, given of the 2-way search what `TwoOK` says: the sums returned are the sums of a partition of
    the items into `k` bins, and the difference between the largest and the smallest of them is the optimum. -/
theorem snp_optimal_of {v nm : α → Nat} [BEq α] [LawfulBEq α] {c : Bool} {fuel : Nat}
    (htwo : ∀ its two, ckk2 v nm c its fuel = .ok two → TwoOK v its two) {k : Nat} {items : List α}
    {b : Bins α} (hk : 0 < k) (hne : items ≠ []) (h : snp v nm k c items fuel = .ok b) :
    Real v items k b.sums ∧
      IsOptimalValue .minDiff k (items.map v) (Objective.minDiff.value b.sums false) := by
  obtain ⟨best, hb, hcase⟩ := SNPProofs.snp_ok h
  have hbest := CKKValid.kkValid v k items best hk hne hb
  rcases hcase with ⟨h0, rfl⟩ | ⟨hsp, h⟩
  · exact ⟨real_of_partition hbest, optimal_of_le (real_of_partition hbest) (fun L _ _ => by omega)⟩
  · have hreal : Real v items k b.sums :=
      real_iff_answer.2 (SNPProofs.snpRec_valid (fun _ _ h2 => real_iff_answer.1 (htwo _ _ h2).1) items k k
        ⟨[], []⟩ best items b (.of_partition hbest) (by simp) rfl (by simp) h)
    refine ⟨hreal, optimal_of_le hreal fun L hl hp => ?_⟩
    have := (snpRec_opt htwo k _ _ _ _ (CKKValid.two_le_of_spread_ne_zero hk hbest hsp) h).2 L hl hp
    simpa using this

end Prtpy.SumsOnly

namespace Prtpy.SNPOpt
open Prtpy

variable {α : Type}

attribute [local instance] Prtpy.decEqBins

/-! ### the main theorem for SNP -/

/-- `Ckk2Optimal` gives what SNP and RNP use of the 2-way search -/
theorem Ckk2Optimal.twoOK {v nm : α → Nat} [BEq α] (hckk : Ckk2Optimal v nm) {items : List α} {fuel : Nat}
    {two : Bins α} (h : ckk2 v nm true items fuel = .ok two) : SumsOnly.TwoOK v items two := by
  obtain ⟨hp, ho⟩ := hckk items fuel two (SNPProofs.ckk2_ok h).1 (SNPProofs.ckk2_ok h).2
  exact ⟨SumsOnly.real_of_partition hp, fun L hl hp' => SumsOnly.le_of_optimal ho hl hp'⟩

/-- **C02 for SNP**: sequential number partitioning returns a partition of minimum difference, provided its 2-way
    sub-routine does. -/
theorem snp_optimal {v nm : α → Nat} [BEq α] [LawfulBEq α] (hckk : Ckk2Optimal v nm) {k : Nat} {items : List α}
    {fuel : Nat} {b : Bins α} (hk : 0 < k) (hne : items ≠ []) (h : snp v nm k true items fuel = .ok b) :
    IsOptimalValue .minDiff k (items.map v) (Objective.minDiff.value b.sums false) :=
  (SumsOnly.snp_optimal_of (fun _ _ h => hckk.twoOK h) hk hne h).2

/-- six items, three bins: KK's first answer `[5, 5, 7]` has difference 2, the search improves it to
    `[6, 6, 5]`, so `1` is the optimal difference (given the optimality of 2-way CKK, which is the theorem
    `RNPF.ckk2Optimal`; the example without the hypothesis is under `RNPF.snp_optimal'` in CKKFSwitch.lean) -/
example (hckk : Ckk2Optimal (id : Nat → Nat) id) : IsOptimalValue .minDiff 3 ([5, 3, 3, 2, 2, 2].map id) 1 :=
  snp_optimal hckk (k := 3) (fuel := 100) (b := ⟨[6, 6, 5], [[2, 2, 2], [3, 3], [5]]⟩) (by decide) (by decide)
    Runs.snp_three

/-! ### RNP before fix F10 is not optimal for five bins

  (`rnp` is the code before F10; the repaired code is `rnpF`, Prtpy/Model/RNP.lean.)  For five bins the odd case
  splits one sub-collection off and calls the even case on the rest with four bins; that call returns the 4-way
  partition whose *own* spread is smallest (the first one found, in case of ties), not the
  one that is best in combination with the bin split off.  Concretely, for the items `[11, 9, 9, 6, 6, 4, 4, 4]`
  KK's first answer `[9, 10, 10, 11, 13]` (difference 4) is never improved although `[12, 12, 9, 11, 9]`
  (difference 3) exists: after splitting off `{9}`, both `(10, 10, 11, 13)` and `(9, 11, 12, 12)` have spread 3
  on their own, the first is found first, and with the `9` it gives difference 4 again. -/

/-- **Counterexample to C02** (finding F10): `rnp` with five bins does not return an optimal partition. -/
theorem rnp_not_optimal_five :
    ∃ b : Bins Nat, rnp id id 5 true [11, 9, 9, 6, 6, 4, 4, 4] 1000 = .ok b ∧
      Objective.minDiff.value b.sums false = 4 ∧
      ¬ IsOptimalValue .minDiff 5 ([11, 9, 9, 6, 6, 4, 4, 4].map id) (Objective.minDiff.value b.sums false) := by
  refine ⟨⟨[9, 10, 10, 11, 13], [[9], [6, 4], [6, 4], [11], [4, 9]]⟩, by decide +kernel, by decide, ?_⟩
  intro hopt
  have h := hopt.2 [3, 2, 4, 1, 1, 0, 0, 0] ⟨rfl, by decide⟩
  revert h
  decide

/-- ... while `snp` does (as `snp_optimal` says it must): it returns sums `[12, 12, 9, 11, 9]` -/
example : (snp id id 5 true [11, 9, 9, 6, 6, 4, 4, 4] 1000).toOption.map (·.sums) = some [12, 12, 9, 11, 9] := by
  rw [Runs.snp_five]; rfl

end Prtpy.SNPOpt
