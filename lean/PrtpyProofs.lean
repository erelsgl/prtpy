import PrtpyProofs.Fit
import PrtpyProofs.Cover
import PrtpyProofs.Oracle
import PrtpyProofs.Obj
import PrtpyProofs.Basic
import PrtpyProofs.Iter
import PrtpyProofs.Part
import PrtpyProofs.Checkers
import PrtpyProofs.CGValid
import PrtpyProofs.CBLDM
import PrtpyProofs.CKK
import PrtpyProofs.SNP
import PrtpyProofs.BinsOps
import PrtpyProofs.CBLDMOpt
import PrtpyProofs.Textbook
import PrtpyProofs.Sim
import PrtpyProofs.Natural
import PrtpyProofs.SpecSym
import PrtpyProofs.Scale
import PrtpyProofs.CGOpt
import PrtpyProofs.CKKValid
import PrtpyProofs.BCProofs
import PrtpyProofs.HeapRefine
import PrtpyProofs.Refuse
import PrtpyProofs.ExactSym
import PrtpyProofs.CKKOpt
import PrtpyProofs.ILPProofs
import PrtpyProofs.LPT43
import PrtpyProofs.Feasible
import PrtpyProofs.SNPOpt
import PrtpyProofs.RNPRound
import PrtpyProofs.RNPOpt
import PrtpyProofs.AllComb
import PrtpyProofs.Cover23
import PrtpyProofs.Anytime2
import PrtpyProofs.Natural2
import PrtpyProofs.Runs
import PrtpyProofs.CKKGenComplete
import PrtpyProofs.RNPF
import PrtpyProofs.FF17
import PrtpyProofs.Total
import PrtpyProofs.MaxMin
import PrtpyProofs.MultiFit
import PrtpyProofs.FFD
import PrtpyProofs.KK43
import PrtpyProofs.Cover34
import PrtpyProofs.SumsOnly
import PrtpyProofs.FFD119
import PrtpyProofs.Gaps
import PrtpyProofs.MaxMin3
import PrtpyProofs.CKKF
import PrtpyProofs.CKKFSwitch
import PrtpyProofs.ValueSim
import PrtpyProofs.CKKDedupe
import PrtpyProofs.ListDict
import PrtpyProofs.RNPDict
import PrtpyProofs.PermSums
import PrtpyProofs.Traces
import PrtpyProofs.MaxMin4
import PrtpyProofs.MaxMin5
import PrtpyProofs.FFD119Gap
import PrtpyProofs.FF17Abs
import PrtpyProofs.MultiFit122
import PrtpyProofs.BCNamed
import PrtpyProofs.FF17AbsB
import PrtpyProofs.FFD119GapB
import PrtpyProofs.MultiFit122B
import PrtpyProofs.FF17AbsC
import PrtpyProofs.MultiFit122C
import PrtpyProofs.FFD119GapC
